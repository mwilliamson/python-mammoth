/-
  C10, the whole output forest: ids and hrefs through `strip_empty` and `collapse`.
-/
import Proofs.C10_Global
import Proofs.Strip
import Proofs.Collapse
namespace Mammoth

/-! ### strip_empty = prune -/

mutual
/-- a node without content in which every element with an id has content carries no id at all -/
theorem c10_ids_noContent (n : Node) (h : hasContent n = false) (hi : c10_idContent n = true) :
    valsOf S!"id" n = [] := by
  match n with
  | .text s => simp [valsOf]
  | .forceWrite => simp [valsOf]
  | .elem t cs =>
    simp only [c10_idContent, Bool.and_eq_true, Bool.or_eq_true, h, Bool.false_eq_true, or_false,
      List.isEmpty_iff] at hi
    simp only [hasContent, Bool.or_eq_false_iff] at h
    simp [valsOf, hi.1, c10_ids_noContentL cs h.2 hi.2]
theorem c10_ids_noContentL (ns : List Node) (h : anyContent ns = false) (hi : c10_idContentL ns = true) :
    valsOfL S!"id" ns = [] := by
  match ns with
  | [] => simp [valsOfL]
  | c :: cs =>
    simp only [anyContent, Bool.or_eq_false_iff] at h
    simp only [c10_idContentL, Bool.and_eq_true] at hi
    simp [valsOfL, c10_ids_noContent c h.1 hi.1, c10_ids_noContentL cs h.2 hi.2]
end

mutual
theorem c10_ids_pruneNode (n : Node) (hi : c10_idContent n = true) :
    valsOf S!"id" (pruneNode n) = valsOf S!"id" n := by
  match n with
  | .text s => simp [pruneNode]
  | .forceWrite => simp [pruneNode]
  | .elem t cs =>
    simp only [c10_idContent, Bool.and_eq_true] at hi
    simp [pruneNode, valsOf, c10_ids_prune cs hi.2]
theorem c10_ids_prune (ns : List Node) (hi : c10_idContentL ns = true) :
    valsOfL S!"id" (prune ns) = valsOfL S!"id" ns := by
  match ns with
  | [] => simp [prune]
  | c :: cs =>
    simp only [c10_idContentL, Bool.and_eq_true] at hi
    unfold prune
    by_cases hc : hasContent c = true
    · simp [hc, valsOfL, c10_ids_pruneNode c hi.1, c10_ids_prune cs hi.2]
    · simp only [Bool.not_eq_true] at hc
      simp [hc, valsOfL, c10_ids_noContent c hc hi.1, c10_ids_prune cs hi.2]
end

mutual
theorem c10_vals_pruneNode (k : Str) (n : Node) : (valsOf k (pruneNode n)).Sublist (valsOf k n) := by
  match n with
  | .text s => simp [pruneNode]
  | .forceWrite => simp [pruneNode]
  | .elem t cs =>
    simp only [pruneNode, valsOf]
    exact List.Sublist.append (List.Sublist.refl _) (c10_vals_prune k cs)
theorem c10_vals_prune (k : Str) (ns : List Node) : (valsOfL k (prune ns)).Sublist (valsOfL k ns) := by
  match ns with
  | [] => simp [prune]
  | c :: cs =>
    unfold prune
    by_cases hc : hasContent c = true
    · simp only [hc, if_true, valsOfL]
      exact List.Sublist.append (c10_vals_pruneNode k c) (c10_vals_prune k cs)
    · simp only [hc, valsOfL]
      exact (c10_vals_prune k cs).trans (List.sublist_append_right _ _)
end

/-- `strip_empty` keeps every id (when id-carrying elements have content) … -/
theorem c10_ids_stripEmpty (ns : List Node) (hi : c10_idContentL ns = true) :
    idsOf (stripEmpty ns) = idsOf ns := by
  unfold stripEmpty idsOf
  rw [stripList_eq]
  exact c10_ids_prune ns hi

/-- … and never invents an attribute value -/
theorem c10_vals_stripEmpty (k : Str) (ns : List Node) : (valsOfL k (stripEmpty ns)).Sublist (valsOfL k ns) := by
  unfold stripEmpty
  rw [stripList_eq]
  exact c10_vals_prune k ns

/-! ### collapse: attribute values can only lose duplicates -/

/-- `a` is `b` with some repeated occurrences removed -/
def c10_sq (a b : List Str) : Prop := a.Sublist b ∧ ∀ x ∈ b, x ∈ a

theorem c10_sq_refl (a : List Str) : c10_sq a a := ⟨List.Sublist.refl _, fun _ h => h⟩
theorem c10_sq_trans {a b c : List Str} (h1 : c10_sq a b) (h2 : c10_sq b c) : c10_sq a c :=
  ⟨h1.1.trans h2.1, fun x hx => h1.2 x (h2.2 x hx)⟩
theorem c10_sq_append {a b a' b' : List Str} (h1 : c10_sq a b) (h2 : c10_sq a' b') :
    c10_sq (a ++ a') (b ++ b') :=
  ⟨List.Sublist.append h1.1 h2.1, fun x hx => by
    rw [List.mem_append] at hx ⊢
    exact hx.elim (fun h => Or.inl (h1.2 x h)) (fun h => Or.inr (h2.2 x h))⟩

theorem c10_sq_eq_of_nodup : ∀ {a b : List Str}, c10_sq a b → b.Nodup → a = b := by
  intro a b h
  obtain ⟨hs, hsub⟩ := h
  induction hs with
  | slnil => intro _; rfl
  | @cons l1 l2 x hs ih =>
    intro hn
    rw [List.nodup_cons] at hn
    exact absurd (hs.subset (hsub x (List.mem_cons_self ..))) hn.1
  | @cons_cons l1 l2 x hs ih =>
    intro hn
    rw [List.nodup_cons] at hn
    have : ∀ y ∈ l2, y ∈ l1 := by
      intro y hy
      have := hsub y (List.mem_cons_of_mem _ hy)
      rw [List.mem_cons] at this
      rcases this with e | h
      · subst e; exact absurd hy hn.1
      · exact h
    rw [ih this hn.2]

theorem c10_sq_dup (a : List Str) {x b c : List Str} (h : c10_sq x (b ++ c)) :
    c10_sq (a ++ x) (a ++ (b ++ (a ++ c))) := by
  refine ⟨.append (.refl a) (h.1.trans (.append (.refl b) (List.sublist_append_right a c))), fun y hy => ?_⟩
  have := h.2 y
  simp only [List.mem_append] at hy this ⊢
  rcases hy with h | h | h | h
  · exact .inl h
  · exact .inr (this (.inl h))
  · exact .inl h
  · exact .inr (this (.inr h))

theorem c10_tagVals_match (k : Str) (lt t : Tag) (h : isMatch lt t = true) : c10_tagVals k lt = c10_tagVals k t := by
  simp only [isMatch, Bool.and_eq_true, beq_iff_eq] at h
  simp [c10_tagVals, h.2]

theorem c10_addAllC_sq (k : Str) (acc ns : List Node) :
    c10_sq (valsOfL k (addAllC acc ns)) (valsOfL k acc ++ valsOfL k ns) := by
  refine addAllC_induct (M := fun acc ns out => c10_sq (valsOfL k out) (valsOfL k acc ++ valsOfL k ns))
    (fun _ => by simpa [valsOfL] using c10_sq_refl _) ?_ ?_ acc ns
  · intro acc n ns out _ ih
    simpa [valsOfL_append, valsOfL] using ih
  · intro init lt lcs t cs ns out _ hm ihc ih
    have hsep : valsOfL k (sepText t) = [] := by
      rcases sepText_cases t with h | ⟨s, _, h⟩ <;> simp [h, valsOfL, valsOf]
    rw [valsOfL_append, hsep, List.append_nil] at ihc
    refine c10_sq_trans ih ?_
    -- the merged element lists the values of its tag once, the two elements it came from list them twice
    simp only [valsOfL_append, valsOfL, valsOf, List.append_nil, c10_tagVals_match k lt t hm, List.append_assoc]
    exact c10_sq_append (c10_sq_refl _)
      (c10_sq_dup _ (by simpa using c10_sq_append ihc (c10_sq_refl (valsOfL k ns))))

theorem c10_addC_sq (k : Str) (acc : List Node) (n : Node) :
    c10_sq (valsOfL k (addC acc n)) (valsOfL k acc ++ valsOf k n) := by
  simpa [valsOfL] using c10_addAllC_sq k acc [n]

mutual
theorem c10_collapseNode_sq (k : Str) (n : Node) : c10_sq (valsOf k (collapseNode n)) (valsOf k n) := by
  match n with
  | .text s => simp only [collapseNode]; exact c10_sq_refl _
  | .forceWrite => simp only [collapseNode]; exact c10_sq_refl _
  | .elem t cs =>
    simp only [collapseNode, valsOf]
    have := c10_collapseFrom_sq k [] cs
    simp only [valsOfL, List.nil_append] at this
    exact c10_sq_append (c10_sq_refl _) this
theorem c10_collapseFrom_sq (k : Str) (acc ns : List Node) :
    c10_sq (valsOfL k (collapseFrom acc ns)) (valsOfL k acc ++ valsOfL k ns) := by
  match ns with
  | [] => simp only [collapseFrom, valsOfL, List.append_nil]; exact c10_sq_refl _
  | c :: cs =>
    unfold collapseFrom
    simp only [valsOfL]
    rw [← List.append_assoc]
    refine c10_sq_trans (c10_collapseFrom_sq k _ cs) (c10_sq_append ?_ (c10_sq_refl _))
    exact c10_sq_trans (c10_addC_sq k acc (collapseNode c)) (c10_sq_append (c10_sq_refl _) (c10_collapseNode_sq k c))
end

/-- `collapse` keeps every value of every attribute, possibly dropping repeated occurrences (when two
    adjacent elements with equal attributes are merged) -/
theorem c10_collapse_sq (k : Str) (ns : List Node) : c10_sq (valsOfL k (collapse ns)) (valsOfL k ns) := by
  have := c10_collapseFrom_sq k [] ns
  simpa [collapse, valsOfL] using this

/-! ### the rendered forest -/

/-- the ids of `collapse (strip_empty ns)`: the same values, in the same order, repeated ones possibly fewer -/
theorem c10_render_ids (ns : List Node) (hi : c10_idContentL ns = true) :
    c10_sq (idsOf (collapse (stripEmpty ns))) (idsOf ns) := by
  have := c10_collapse_sq S!"id" (stripEmpty ns)
  have e := c10_ids_stripEmpty ns hi
  unfold idsOf at *
  rw [← e]
  exact this

/-- distinct ids survive exactly -/
theorem c10_render_ids_nodup (ns : List Node) (hi : c10_idContentL ns = true) (hn : (idsOf ns).Nodup) :
    idsOf (collapse (stripEmpty ns)) = idsOf ns :=
  c10_sq_eq_of_nodup (c10_render_ids ns hi) hn

/-- no attribute value is invented -/
theorem c10_render_vals (k : Str) (ns : List Node) :
    (valsOfL k (collapse (stripEmpty ns))).Sublist (valsOfL k ns) :=
  (c10_collapse_sq k (stripEmpty ns)).1.trans (c10_vals_stripEmpty k ns)

end Mammoth
