/-
  C14 — SPECIFICATION of what the converter emits for a document element, as far as `strip_empty` is
  concerned: nothing at all (`none`), nodes that `strip_empty` removes completely (`hollow`), or nodes of
  which something survives (`full`).  The specification walks the *document* tree; it shares with the
  model only the style lookup (`c01_path`, `c01_runPaths`, `findPath`).
-/
import Proofs.Strip
import Proofs.C01_Refine
import Proofs.C14_Collapse
namespace Mammoth

/-- the three possible fates of a forest under `strip_empty` -/
inductive Weight where
  | none      -- the empty forest
  | hollow    -- a non-empty forest without content: `strip_empty` returns `[]`
  | full      -- a forest with content: `strip_empty` returns a non-empty forest
deriving DecidableEq, Repr, Inhabited

/-- concatenation of forests -/
def Weight.add : Weight → Weight → Weight
  | .full, _ => .full
  | _, .full => .full
  | .hollow, _ => .hollow
  | _, .hollow => .hollow
  | .none, .none => .none

/-- the weight of a forest of HTML nodes -/
def weightOf (ns : List Node) : Weight :=
  if anyContent ns then .full else if ns.isEmpty then .none else .hollow

def voidTag (t : Tag) : Bool := voidNames.contains t.name

/-- one element around a forest: it has content iff the forest has, or there is no forest at all and the
    element is void (`br`, `hr`, `img`, `input`) -/
def Weight.wrap1 (t : Tag) : Weight → Weight
  | .full => .full
  | .hollow => .hollow
  | .none => if voidTag t then .full else .hollow

/-- a path (outermost element first) around a forest -/
def Weight.wrap : List Tag → Weight → Weight
  | [], w => w
  | t :: ts, w => (w.wrap ts).wrap1 t

/-- the paths of a run, innermost first; `!` discards what is inside it -/
def Weight.wrapAll : List HtmlPath → Weight → Weight
  | [], w => w
  | .elements es :: ps, w => Weight.wrapAll ps (w.wrap es)
  | .ignore :: ps, _ => Weight.wrapAll ps .none

/-! ### weights of forests -/

@[simp] theorem weightOf_nil : weightOf [] = .none := by simp [weightOf, anyContent]

theorem weightOf_append (a b : List Node) : weightOf (a ++ b) = (weightOf a).add (weightOf b) := by
  unfold weightOf
  rw [anyContent_append]
  cases ha : anyContent a <;> cases hb : anyContent b <;> cases a <;> cases b <;> simp [Weight.add]

theorem weightOf_single_elem (t : Tag) (cs : List Node) :
    weightOf [.elem t cs] = (weightOf cs).wrap1 t := by
  unfold weightOf
  cases hc : anyContent cs
  · cases cs with
    | nil => by_cases hv : voidTag t = true <;> simp_all [anyContent, hasContent, isVoid, Weight.wrap1, voidTag]
    | cons c cs => simp_all [anyContent, hasContent, isVoid, Weight.wrap1]
  · simp [anyContent, hasContent, hc, Weight.wrap1]

theorem weightOf_wrapElems (es : List Tag) (ns : List Node) :
    weightOf (wrapElems es ns) = (weightOf ns).wrap es := by
  induction es with
  | nil => rfl
  | cons t ts ih => simp only [wrapElems, Weight.wrap, weightOf_single_elem, ih]

theorem weightOf_wrapAll (paths : List HtmlPath) (ns : List Node) :
    weightOf (wrapAll paths ns) = (weightOf ns).wrapAll paths := by
  induction paths generalizing ns with
  | nil => rfl
  | cons p ps ih =>
    cases p with
    | ignore => simp only [wrapAll, Weight.wrapAll, ih, weightOf_nil]
    | elements es => simp only [wrapAll, Weight.wrapAll, ih, weightOf_wrapElems]

theorem weightOf_cons_fw (ns : List Node) : weightOf (.forceWrite :: ns) = .full := by
  simp [weightOf, anyContent, hasContent]

@[simp] theorem Weight.wrap_full (es : List Tag) : Weight.full.wrap es = .full := by
  induction es with
  | nil => rfl
  | cons t ts ih => simp [Weight.wrap, ih, Weight.wrap1]

theorem Weight.wrap_hollow (es : List Tag) : Weight.hollow.wrap es = .hollow := by
  induction es with
  | nil => rfl
  | cons t ts ih => simp [Weight.wrap, ih, Weight.wrap1]

/-- is the innermost element of the path void? -/
def endsVoid : List Tag → Bool
  | [] => false
  | [t] => voidTag t
  | _ :: t :: ts => endsVoid (t :: ts)

/-- closed form: nothing, wrapped in a non-empty path, has content iff the innermost element is void -/
theorem Weight.wrap_none (es : List Tag) :
    Weight.none.wrap es = if es.isEmpty then .none else if endsVoid es then .full else .hollow := by
  induction es with
  | nil => rfl
  | cons t ts ih =>
    cases ts with
    | nil => by_cases h : voidTag t = true <;> simp [Weight.wrap, Weight.wrap1, endsVoid, h]
    | cons u us =>
      simp only [Weight.wrap] at ih ⊢
      rw [ih]
      by_cases h : endsVoid (u :: us) = true <;> simp [h, endsVoid, Weight.wrap1]

/-- `strip_empty` returns the empty forest exactly for the forests that are not `full` -/
theorem stripEmpty_eq_nil_iff (ns : List Node) : stripEmpty ns = [] ↔ weightOf ns ≠ .full := by
  rw [← List.isEmpty_iff, stripEmpty, stripList_isEmpty, weightOf]
  cases anyContent ns <;> cases ns <;> simp

/-! ### the specification -/

/-- can the image be read?  (an embedded image missing from the archive is an error, not an empty
    result; a linked image is asked from the outside world) -/
def c14_readable (cfg : Cfg) : ImageSrc → Bool
  | .embedded _ => true
  | .linked uri =>
    if isAbsoluteUri uri then (cfg.world uri).isSome
    else match cfg.base with
      | some b => (cfg.world (osPathJoin b uri)).isSome
      | none => false

/-- does the image yield an `img` element (otherwise: a warning and nothing) -/
def c14_imageShown (cfg : Cfg) (i : ImageProps) : Bool :=
  match cfg.imageConv with
  | .dataUri => c14_readable cfg i.src
  | .fixed _ opens => !opens || c14_readable cfg i.src

mutual
/-- the weight of what is emitted for one document element (when the conversion succeeds) -/
def c14_weight (cfg : Cfg) : Elem → Weight
  | .paragraph p cs =>
    match c01_path cfg (.paragraph p) (.elements [pathElem S!"p" true]) with
    | .ignore => .none
    | .elements es =>
      -- `ignore_empty_paragraphs=False`: a force-write marker is put inside the innermost element
      (if cfg.ignoreEmpty then c14_weightL cfg cs else .full).wrap es
  | .run r cs => (c14_weightL cfg cs).wrapAll (c01_runPaths cfg r)
  | .text s => if s.isEmpty then .hollow else .full
  | .hyperlink _ cs => if c14_weightL cfg cs = .full then .full else .hollow   -- `a` is not void
  | .checkbox _ => .full                                                        -- `input` is void
  | .table sid sname _ =>
    match c01_path cfg (.table sid sname) (.elements [pathElem S!"table" true]) with
    | .ignore => .none
    | .elements _ => .full                                                      -- force-write
  | .row _ _ => .full                                                           -- force-write
  | .cell _ _ _ _ => .full                                                      -- force-write
  | .brk ty =>
    match findPath cfg (.brk ty) with
    | some (.elements es) => Weight.none.wrap es
    | some .ignore => .none
    | none => if ty = S!"line" then .full else .none                            -- `br` is void
  | .tab => .full
  | .image i => if c14_imageShown cfg i then .full else .none                   -- `img` is void
  | .bookmark _ => .full                                                        -- force-write
  | .noteRef _ _ => .full                                                       -- `[n]`
  | .commentRef _ =>
    match findPath cfg .commentReference with
    | some (.elements _) => .full                                               -- `[XYn]`
    | _ => .none
def c14_weightL (cfg : Cfg) : List Elem → Weight
  | [] => .none
  | e :: es => (c14_weight cfg e).add (c14_weightL cfg es)
end

/-! ### the converter refines it -/

/-- every successful result of the computation satisfies `P` -/
def c14_ret {α} (m : ConvM α) (P : α → Prop) : Prop := ∀ st a st', m st = .ok (a, st') → P a

theorem c14_ret_pure {α} {P : α → Prop} {a : α} (h : P a) : c14_ret (pure a) P := by
  intro st a' st' hr
  cases hr
  exact h

theorem c14_ret_throw {α} (e : Err) (P : α → Prop) : c14_ret (throw e) P := fun _ _ _ h => nomatch h

theorem c14_ret_bind_of {α β} {x : ConvM α} {f : α → ConvM β} {P : α → Prop} {Q : β → Prop}
    (hx : c14_ret x P) (h : ∀ a, P a → c14_ret (f a) Q) : c14_ret (x >>= f) Q := by
  intro st b st' hr
  rw [app_bind] at hr
  cases hs : x st with
  | error e => simp [hs] at hr
  | ok p =>
    obtain ⟨a, s⟩ := p
    simp only [hs] at hr
    exact h a (hx st a s hs) s b st' hr

theorem c14_ret_bind {α β} (x : ConvM α) (f : α → ConvM β) (P : β → Prop) (h : ∀ a, c14_ret (f a) P) :
    c14_ret (x >>= f) P :=
  c14_ret_bind_of (P := fun _ => True) (fun _ _ _ _ => trivial) fun a _ => h a

/-- every successful result of the computation has weight `w` -/
def c14_hasW (m : ConvM (List Node)) (w : Weight) : Prop :=
  ∀ st ns st', m st = .ok (ns, st') → weightOf ns = w

theorem c14_hasW_pure (ns : List Node) (w : Weight) (h : weightOf ns = w) : c14_hasW (pure ns) w :=
  c14_ret_pure h

theorem c14_hasW_bind {α} (x : ConvM α) (f : α → ConvM (List Node)) (w : Weight)
    (h : ∀ a, c14_hasW (f a) w) : c14_hasW (x >>= f) w :=
  c14_ret_bind x f _ h

theorem c14_hasW_map (x : ConvM (List Node)) (f : List Node → List Node) (g : Weight → Weight) (w : Weight)
    (hx : c14_hasW x w) (hf : ∀ ns, weightOf (f ns) = g (weightOf ns)) :
    c14_hasW (x >>= fun ns => pure (f ns)) (g w) :=
  c14_ret_bind_of hx fun ns h => c14_ret_pure (by rw [hf, h])

theorem c14_hasW_append (x y : ConvM (List Node)) (w v : Weight)
    (hx : c14_hasW x w) (hy : c14_hasW y v) :
    c14_hasW (x >>= fun a => y >>= fun b => pure (a ++ b)) (w.add v) :=
  c14_ret_bind_of hx fun a ha => c14_ret_bind_of hy fun b hb =>
    c14_ret_pure (by rw [weightOf_append, ha, hb])

theorem c14_weightOf_img (attrs : List (Str × Str)) : weightOf [el S!"img" attrs []] = .full := by
  simp only [el, weightOf_single_elem, weightOf_nil, Weight.wrap1, voidTag]
  rfl

def c14_isOk : Except Str Bytes → Bool
  | .ok _ => true
  | .error _ => false

/-- `Image.open()`: an `.ok` answer exactly for readable sources -/
theorem c14_openImage (cfg : Cfg) (src : ImageSrc) :
    c14_ret (openImage cfg src) (fun r => c14_isOk r = c14_readable cfg src) := by
  unfold openImage c14_readable
  cases src with
  | embedded name =>
    simp only []
    cases lookupLast name cfg.archive with
    | none => exact c14_ret_throw _ _
    | some b => exact c14_ret_pure rfl
  | linked uri =>
    simp only []
    by_cases ha : isAbsoluteUri uri = true
    · simp only [ha, if_true]
      refine c14_ret_bind _ _ _ fun _ => ?_
      cases cfg.world uri <;> exact c14_ret_pure rfl
    · simp only [ha, Bool.false_eq_true, if_false]
      cases cfg.base with
      | none => exact c14_ret_pure rfl
      | some b =>
        simp only []
        refine c14_ret_bind _ _ _ fun _ => ?_
        cases cfg.world (osPathJoin b uri) <;> exact c14_ret_pure rfl

end Mammoth
