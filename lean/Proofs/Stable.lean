/-
  Stability of collapsed forests and idempotence of `collapse`.
-/
import Proofs.Collapse
namespace Mammoth

mutual
def stable : Node → Bool
  | .elem _ cs => stableL cs
  | _ => true
/-- all nodes stable and no adjacent pair mergeable -/
def stableL : List Node → Bool
  | [] => true
  | c :: cs => stable c && headOk c cs && stableL cs
/-- the first of `cs` (if any) cannot merge into `c` -/
def headOk (c : Node) : List Node → Bool
  | [] => true
  | d :: _ => !mergeable c d
end

theorem stableL_cons_eq (c : Node) (cs : List Node) :
    stableL (c :: cs) = (stable c && headOk c cs && stableL cs) := by simp [stableL]

theorem stableL_append (xs ys : List Node) :
    stableL (xs ++ ys) = (stableL xs && stableL ys &&
      (match xs.getLast?, ys.head? with | some l, some y => !mergeable l y | _, _ => true)) := by
  induction xs with
  | nil => simp [stableL]
  | cons a as ih =>
    cases as with
    | nil => cases ys <;> simp [stableL, headOk, Bool.and_comm, Bool.and_left_comm, Bool.and_assoc]
    | cons b bs =>
      rw [List.cons_append, stableL_cons_eq, ih, stableL_cons_eq a, List.getLast?_cons_cons]
      simp only [List.cons_append, headOk, Bool.and_assoc]

theorem stableL_append_single (xs : List Node) (y : Node) :
    stableL (xs ++ [y]) = (stableL xs && stable y &&
      (match xs.getLast? with | some l => !mergeable l y | none => true)) := by
  rw [stableL_append]
  cases xs.getLast? <;> simp [stableL, headOk]

theorem mergeable_congr_left (lt : Tag) (a b : List Node) (n : Node) :
    mergeable (.elem lt a) n = mergeable (.elem lt b) n := by
  cases n <;> simp [mergeable]

theorem mergeable_congr_right (l : Node) (t : Tag) (a b : List Node) :
    mergeable l (.elem t a) = mergeable l (.elem t b) := by
  cases l <;> simp [mergeable]

theorem stableL_replace_last (init : List Node) (lt : Tag) (a b : List Node)
    (h : stableL (init ++ [.elem lt a]) = true) (hb : stableL b = true) :
    stableL (init ++ [.elem lt b]) = true := by
  rw [stableL_append_single] at h ⊢
  simp only [Bool.and_eq_true] at h ⊢
  refine ⟨⟨h.1.1, by simpa [stable] using hb⟩, ?_⟩
  cases hl : init.getLast? with
  | none => simp
  | some l =>
    have := h.2
    rw [hl] at this
    simp only at this ⊢
    rw [mergeable_congr_right l lt b a]
    exact this

theorem getLast?_append_single {α} (xs : List α) (y : α) : (xs ++ [y]).getLast? = some y := by
  simp

theorem stableL_sepText (lcs : List Node) (t : Tag) (h : stableL lcs = true) :
    stableL (lcs ++ sepText t) = true := by
  rcases sepText_cases t with e | ⟨s, _, e⟩
  · simpa [e] using h
  · -- a text node merges into nothing
    rw [e, stableL_append_single]
    cases lcs.getLast? with
    | none => simp [h, stable]
    | some l => cases l <;> simp [h, stable, mergeable]

theorem stableL_addAllC (acc ns : List Node) (ha : stableL acc = true) (h : stableL ns = true) :
    stableL (addAllC acc ns) = true := by
  refine addAllC_induct (M := fun acc ns out => stableL acc = true → stableL ns = true → stableL out = true)
    (fun _ ha _ => ha) ?_ ?_ acc ns ha h
  · intro acc n ns out hm ih ha h
    simp only [stableL, Bool.and_eq_true] at h
    refine ih ?_ h.2
    rw [stableL_append_single]
    cases hl : acc.getLast? with
    | none => simp [ha, h.1.1]
    | some l => simp [ha, h.1.1, hm l hl]
  · intro init lt lcs t cs ns out _ _ ihc ih ha h
    simp only [stableL, stable, Bool.and_eq_true] at h
    have hlcs : stableL lcs = true := by
      rw [stableL_append_single] at ha
      simp only [Bool.and_eq_true] at ha
      simpa [stable] using ha.1.2
    exact ih (stableL_replace_last _ lt lcs _ ha (ihc (stableL_sepText lcs t hlcs) h.1.1)) h.2

theorem stableL_addC (acc : List Node) (n : Node) (ha : stableL acc = true) (hn : stable n = true) :
    stableL (addC acc n) = true :=
  stableL_addAllC acc [n] ha (by simpa [stableL, headOk] using hn)

mutual
theorem stable_collapseNode (n : Node) : stable (collapseNode n) = true := by
  match n with
  | .text s => simp [collapseNode, stable]
  | .forceWrite => simp [collapseNode, stable]
  | .elem t cs =>
    simp only [collapseNode, stable]
    exact stableL_collapseFrom [] cs (by simp [stableL])
theorem stableL_collapseFrom (acc ns : List Node) (ha : stableL acc = true) :
    stableL (collapseFrom acc ns) = true := by
  match ns with
  | [] => simpa [collapseFrom] using ha
  | c :: cs =>
    unfold collapseFrom
    exact stableL_collapseFrom _ cs (stableL_addC acc _ ha (stable_collapseNode c))
end

theorem stable_collapse (ns : List Node) : stableL (collapse ns) = true :=
  stableL_collapseFrom [] ns (by simp [stableL])

theorem stableL_append_split (xs ys : List Node) (h : stableL (xs ++ ys) = true) :
    stableL xs = true ∧ stableL ys = true ∧
      (∀ l y, xs.getLast? = some l → ys.head? = some y → mergeable l y = false) := by
  rw [stableL_append] at h
  simp only [Bool.and_eq_true] at h
  refine ⟨h.1.1, h.1.2, fun l y hl hy => ?_⟩
  simpa [hl, hy] using h.2

/-! ### a stable forest is a fixed point -/
mutual
theorem collapseNode_of_stable (n : Node) (h : stable n = true) : collapseNode n = n := by
  match n with
  | .text s => simp [collapseNode]
  | .forceWrite => simp [collapseNode]
  | .elem t cs =>
    have hcs : stableL cs = true := by simpa [stable] using h
    simp only [collapseNode]
    have := collapseFrom_of_stable [] cs (by simpa using hcs)
    simpa using congrArg (Node.elem t) this
theorem collapseFrom_of_stable (acc ns : List Node) (h : stableL (acc ++ ns) = true) :
    collapseFrom acc ns = acc ++ ns := by
  match ns with
  | [] => simp [collapseFrom]
  | c :: cs =>
    unfold collapseFrom
    have h1 : acc ++ c :: cs = (acc ++ [c]) ++ cs := by simp
    have hc : stable c = true ∧ (∀ l, acc.getLast? = some l → mergeable l c = false) := by
      have sp := stableL_append_split acc (c :: cs) h
      have hcs := sp.2.1
      rw [stableL_cons_eq] at hcs
      simp only [Bool.and_eq_true] at hcs
      exact ⟨hcs.1.1, fun l hl => sp.2.2 l c hl (by simp)⟩
    rw [collapseNode_of_stable c hc.1, addC_of_not_mergeable acc c hc.2, h1]
    exact collapseFrom_of_stable (acc ++ [c]) cs (by rw [← h1]; exact h)
end

theorem collapse_of_stable (ns : List Node) (h : stableL ns = true) : collapse ns = ns := by
  simpa [collapse] using collapseFrom_of_stable [] ns (by simpa using h)

theorem collapse_idem (ns : List Node) : collapse (collapse ns) = collapse ns :=
  collapse_of_stable _ (stable_collapse ns)

end Mammoth
