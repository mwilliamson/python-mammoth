/-
  C08 — blocks: the innermost (fresh) element of a wrapped path is never merged away.
-/
import Proofs.Collapse
import MammothModel.Doc
namespace Mammoth

/-- the single node that `wrapElems (t :: ts) inner` consists of -/
def c08_chain (t : Tag) (ts : List Tag) (inner : List Node) : Node := .elem t (wrapElems ts inner)

theorem c08_chain_cons (t t' : Tag) (ts : List Tag) (inner : List Node) :
    c08_chain t (t' :: ts) inner = .elem t [c08_chain t' ts inner] := rfl

theorem c08_addC_nil (n : Node) : addC [] n = [n] := by
  cases n <;> simp [addC]

/-- follow the last child `k` times, then read the last element -/
def c08_descend : Nat → List Node → Option (Tag × List Node)
  | 0, ns => match ns.getLast? with
    | some (.elem t cs) => some (t, cs)
    | _ => none
  | k+1, ns => match ns.getLast? with
    | some (.elem _ cs) => c08_descend k cs
    | _ => none

theorem c08_descend_snoc_zero (xs : List Node) (t : Tag) (cs : List Node) :
    c08_descend 0 (xs ++ [.elem t cs]) = some (t, cs) := by
  simp [c08_descend]

theorem c08_descend_snoc_succ (k : Nat) (xs : List Node) (t : Tag) (cs : List Node) :
    c08_descend (k+1) (xs ++ [.elem t cs]) = c08_descend k cs := by
  simp [c08_descend]

/-- the last tag of a non-empty path -/
def c08_lastTag : Tag → List Tag → Tag
  | t, [] => t
  | _, t' :: ts => c08_lastTag t' ts

theorem c08_lastTag_eq (t : Tag) (ts : List Tag) : some (c08_lastTag t ts) = (t :: ts).getLast? := by
  induction ts generalizing t with
  | nil => simp [c08_lastTag]
  | cons t' ts ih => rw [c08_lastTag, ih t', List.getLast?_cons_cons]

/-! ### the fresh elements of a forest, in document (pre-)order -/
mutual
def c08_freshTags : Node → List Tag
  | .elem t cs => (if t.collapsible then [] else [t]) ++ c08_freshTagsL cs
  | _ => []
def c08_freshTagsL : List Node → List Tag
  | [] => []
  | c :: cs => c08_freshTags c ++ c08_freshTagsL cs
end

@[simp] theorem c08_freshTagsL_nil : c08_freshTagsL [] = [] := by simp [c08_freshTagsL]
@[simp] theorem c08_freshTagsL_cons (c : Node) (cs : List Node) :
    c08_freshTagsL (c :: cs) = c08_freshTags c ++ c08_freshTagsL cs := by simp [c08_freshTagsL]
@[simp] theorem c08_freshTags_text (s : Str) : c08_freshTags (.text s) = [] := by simp [c08_freshTags]
@[simp] theorem c08_freshTags_fw : c08_freshTags .forceWrite = [] := by simp [c08_freshTags]
@[simp] theorem c08_freshTags_elem (t : Tag) (cs : List Node) :
    c08_freshTags (.elem t cs) = (if t.collapsible then [] else [t]) ++ c08_freshTagsL cs := by
  simp [c08_freshTags]

@[simp] theorem c08_freshTagsL_append (a b : List Node) :
    c08_freshTagsL (a ++ b) = c08_freshTagsL a ++ c08_freshTagsL b := by
  induction a with
  | nil => simp
  | cons x xs ih => simp [ih]

theorem c08_freshTags_addAllC (acc ns : List Node) :
    c08_freshTagsL (addAllC acc ns) = c08_freshTagsL acc ++ c08_freshTagsL ns := by
  refine addAllC_induct (M := fun acc ns out => c08_freshTagsL out = c08_freshTagsL acc ++ c08_freshTagsL ns)
    (fun _ => by simp) ?_ ?_ acc ns
  · intro acc n ns out _ ih
    simpa using ih
  · intro init lt lcs t cs ns out hc _ ihc ih
    -- a merged-in element is collapsible, and a separator is text
    have hsep : c08_freshTagsL (sepText t) = [] := by
      rcases sepText_cases t with h | ⟨s, _, h⟩ <;> simp [h]
    simpa [ihc, hsep, hc] using ih

theorem c08_freshTags_addC (acc : List Node) (n : Node) :
    c08_freshTagsL (addC acc n) = c08_freshTagsL acc ++ c08_freshTags n := by
  simpa using c08_freshTags_addAllC acc [n]

mutual
theorem c08_freshTags_collapseNode (n : Node) : c08_freshTags (collapseNode n) = c08_freshTags n := by
  match n with
  | .text s => simp [collapseNode]
  | .forceWrite => simp [collapseNode]
  | .elem t cs =>
    simp only [collapseNode, c08_freshTags_elem]
    rw [c08_freshTags_collapseFrom [] cs]
    simp
theorem c08_freshTags_collapseFrom (acc ns : List Node) :
    c08_freshTagsL (collapseFrom acc ns) = c08_freshTagsL acc ++ c08_freshTagsL ns := by
  match ns with
  | [] => simp [collapseFrom]
  | c :: cs =>
    unfold collapseFrom
    rw [c08_freshTags_collapseFrom _ cs, c08_freshTags_addC, c08_freshTags_collapseNode c]
    simp [List.append_assoc]
end

/-- merging never removes, duplicates or reorders a fresh element -/
theorem c08_freshTags_collapse (ns : List Node) : c08_freshTagsL (collapse ns) = c08_freshTagsL ns := by
  simpa [collapse] using c08_freshTags_collapseFrom [] ns

theorem c08_freshTagsL_wrapElems (es : List Tag) (inner : List Node) :
    c08_freshTagsL (wrapElems es inner) = es.filter (fun t => !t.collapsible) ++ c08_freshTagsL inner := by
  induction es with
  | nil => simp [wrapElems]
  | cons t ts ih =>
    simp only [wrapElems, c08_freshTagsL_cons, c08_freshTags_elem, c08_freshTagsL_nil, List.append_nil, ih,
      List.filter_cons]
    cases t.collapsible <;> simp

/-! ### strip_empty on a wrapped path -/

theorem c08_stripList_append (a b : List Node) : stripList (a ++ b) = stripList a ++ stripList b := by
  induction a with
  | nil => simp [stripList]
  | cons x xs ih => simp [stripList, ih, List.append_assoc]

/-- no tag of the path has a void name (`br`, `hr`, `img`, `input`) -/
def c08_noVoid (es : List Tag) : Bool := es.all fun t => !voidNames.contains t.name

theorem c08_stripList_wrapElems (es : List Tag) (inner : List Node) (hv : c08_noVoid es = true) :
    stripList (wrapElems es inner) =
      if (stripList inner).isEmpty then [] else wrapElems es (stripList inner) := by
  induction es with
  | nil =>
    simp only [wrapElems]
    split
    · rename_i h; exact List.isEmpty_iff.mp h
    · rfl
  | cons t ts ih =>
    have hv' : voidNames.contains t.name = false ∧ c08_noVoid ts = true := by
      simpa [c08_noVoid] using hv
    have hnv : isVoid t (wrapElems ts inner) = false := by
      simp only [isVoid, hv'.1, Bool.and_false]
    simp only [wrapElems, stripList, stripNode, List.append_nil, ih hv'.2, hnv]
    by_cases he : (stripList inner).isEmpty = true
    · simp [he]
    · have hne : stripList inner ≠ [] := fun h => he (by simp [h])
      simp only [he]
      cases ts with
      | nil => simp [wrapElems, hne]
      | cons t' ts' => simp [wrapElems]

/-! ### a whole document: one wrapped path per paragraph -/

/-- the nodes the converter produces for a sequence of paragraphs: path `p.1` around content `p.2` -/
def c08_docNodes (paras : List (List Tag × List Node)) : List Node :=
  paras.flatMap fun p => wrapElems p.1 p.2

/-- the path has exactly one fresh tag, its last one (true of every default paragraph path) -/
def c08_oneBlock (es : List Tag) : Bool :=
  match es.getLast? with
  | some t => !t.collapsible && es.dropLast.all (fun t => t.collapsible)
  | none => false

theorem c08_oneBlock_filter (es : List Tag) (h : c08_oneBlock es = true) :
    ∃ t, es.getLast? = some t ∧ es.filter (fun t => !t.collapsible) = [t] := by
  unfold c08_oneBlock at h
  cases hl : es.getLast? with
  | none => simp [hl] at h
  | some t =>
    simp only [hl, Bool.and_eq_true, Bool.not_eq_true', List.all_eq_true] at h
    refine ⟨t, rfl, ?_⟩
    have hes := getLast?_eq_some_append es t hl
    rw [hes, List.filter_append]
    have : es.dropLast.filter (fun t => !t.collapsible) = [] := by
      rw [List.filter_eq_nil_iff]
      intro a ha
      simp [h.2 a ha]
    simp [this, h.1]

end Mammoth
