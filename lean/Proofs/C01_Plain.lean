/-
  C01 — a state-free reading of the specification for documents without references and images,
  under a style map that ignores nothing: the output text is the concatenation of the text and tab
  leaves (= the raw text without the paragraph separators).
-/
import Proofs.C01_Spec
import Proofs.C01_Raw
import Proofs.VisitPost
namespace Mammoth

/-- no style mapping is `!` -/
def c01_noIgnoreMap (cfg : Cfg) : Bool := cfg.styleMap.all fun s => !s.path.isIgnore

mutual
/-- no note reference, comment reference or image anywhere inside -/
def c01_plain : Elem → Bool
  | .paragraph _ cs => c01_plainL cs
  | .run _ cs => c01_plainL cs
  | .hyperlink _ cs => c01_plainL cs
  | .table _ _ cs => c01_plainL cs
  | .row _ cs => c01_plainL cs
  | .cell _ _ _ cs => c01_plainL cs
  | .image _ => false
  | .noteRef _ _ => false
  | .commentRef _ => false
  | _ => true
def c01_plainL : List Elem → Bool
  | [] => true
  | e :: es => c01_plain e && c01_plainL es
end

mutual
/-- the text and tab leaves, in order -/
def c01_bodyText : Elem → Str
  | .text s => s
  | .tab => ['\t']
  | .paragraph _ cs => c01_bodyTextL cs
  | .run _ cs => c01_bodyTextL cs
  | .hyperlink _ cs => c01_bodyTextL cs
  | .table _ _ cs => c01_bodyTextL cs
  | .row _ cs => c01_bodyTextL cs
  | .cell _ _ _ cs => c01_bodyTextL cs
  | _ => []
def c01_bodyTextL : List Elem → Str
  | [] => []
  | e :: es => c01_bodyText e ++ c01_bodyTextL es
end

/-- `st` with more warnings -/
def c01_addMsgs (st : ConvState) (ms : List Str) : ConvState := { st with messages := st.messages ++ ms }

theorem c01_addMsgs_nil (st : ConvState) : c01_addMsgs st [] = st := by
  cases st; simp [c01_addMsgs]

theorem c01_addMsgs_add (st : ConvState) (a b : List Str) :
    c01_addMsgs (c01_addMsgs st a) b = c01_addMsgs st (a ++ b) := by
  simp [c01_addMsgs, List.append_assoc]

theorem c01_warnState_msgs (cfg : Cfg) (t : Target) (kind : Str) (sid sname : Option Str) (st : ConvState) :
    ∃ ms, c01_warnState cfg t kind sid sname st = c01_addMsgs st ms := by
  unfold c01_warnState
  split
  · exact ⟨[_], rfl⟩
  · exact ⟨[], (c01_addMsgs_nil st).symm⟩

theorem c01_noIgnore_findPath (cfg : Cfg) (hm : c01_noIgnoreMap cfg = true) (t : Target) (p : HtmlPath)
    (h : findPath cfg t = some p) : p.isIgnore = false := by
  obtain ⟨s, hs, rfl⟩ := findPath_mem h
  simpa using List.all_eq_true.mp hm s hs

theorem c01_noIgnore_path (cfg : Cfg) (hm : c01_noIgnoreMap cfg = true) (t : Target) (es : List Tag) :
    (c01_path cfg t (.elements es)).isIgnore = false := by
  unfold c01_path
  cases h : findPath cfg t with
  | none => rfl
  | some p => simpa using c01_noIgnore_findPath cfg hm t p h

theorem c01_noIgnore_runPaths (cfg : Cfg) (hm : c01_noIgnoreMap cfg = true) (r : RunProps) :
    (c01_runPaths cfg r).any HtmlPath.isIgnore = false := by
  unfold c01_runPaths
  rw [List.any_append, Bool.or_eq_false_iff]
  refine ⟨List.any_eq_false.mpr ?_, by simp [c01_noIgnore_path cfg hm]⟩
  intro p hp
  rw [runPropPaths_cases (Q := fun p => p.isIgnore = false) (c01_noIgnore_findPath cfg hm _ _) (fun _ => rfl) rfl
    r p hp]
  exact Bool.false_ne_true

mutual
theorem c01_plain_elemText (cfg : Cfg) (hm : c01_noIgnoreMap cfg = true) (e : Elem)
    (hp : c01_plain e = true) (st : ConvState) :
    ∃ ms, c01_elemText cfg st e = .ok (c01_bodyText e, c01_addMsgs st ms) := by
  match e with
  | .paragraph p cs =>
    simp only [c01_plain] at hp
    simp only [c01_elemText, c01_bodyText, c01_noIgnore_path cfg hm, Bool.false_eq_true, if_false]
    obtain ⟨m1, h1⟩ := c01_warnState_msgs cfg (.paragraph p) S!"paragraph" p.styleId p.styleName st
    obtain ⟨m2, h2⟩ := c01_plain_elemsText cfg hm cs hp (c01_addMsgs st m1)
    exact ⟨m1 ++ m2, by rw [h1, h2, c01_addMsgs_add]⟩
  | .run r cs =>
    simp only [c01_plain] at hp
    simp only [c01_elemText, c01_bodyText, c01_noIgnore_runPaths cfg hm, Bool.false_eq_true, if_false]
    obtain ⟨m1, h1⟩ := c01_warnState_msgs cfg (.run r.styleId r.styleName) S!"run" r.styleId r.styleName st
    obtain ⟨m2, h2⟩ := c01_plain_elemsText cfg hm cs hp (c01_addMsgs st m1)
    exact ⟨m1 ++ m2, by rw [h1, h2, c01_addMsgs_add]⟩
  | .hyperlink _ cs | .row _ cs | .cell _ _ _ cs =>
    simp only [c01_plain] at hp
    simp only [c01_elemText, c01_bodyText]
    exact c01_plain_elemsText cfg hm cs hp st
  | .table sid sname cs =>
    simp only [c01_plain] at hp
    simp only [c01_elemText, c01_bodyText, c01_noIgnore_path cfg hm, Bool.false_eq_true, if_false]
    exact c01_plain_elemsText cfg hm cs hp st
  | .text _ | .checkbox _ | .brk _ | .tab | .bookmark _ =>
    exact ⟨[], by simp [c01_elemText, c01_bodyText, c01_addMsgs_nil]⟩
  | .image _ | .noteRef _ _ | .commentRef _ => simp [c01_plain] at hp
theorem c01_plain_elemsText (cfg : Cfg) (hm : c01_noIgnoreMap cfg = true) (es : List Elem)
    (hp : c01_plainL es = true) (st : ConvState) :
    ∃ ms, c01_elemsText cfg st es = .ok (c01_bodyTextL es, c01_addMsgs st ms) := by
  match es with
  | [] => exact ⟨[], by simp [c01_elemsText, c01_bodyTextL, c01_addMsgs_nil]⟩
  | e :: es =>
    simp only [c01_plainL, Bool.and_eq_true] at hp
    obtain ⟨m1, h1⟩ := c01_plain_elemText cfg hm e hp.1 st
    obtain ⟨m2, h2⟩ := c01_plain_elemsText cfg hm es hp.2 (c01_addMsgs st m1)
    exact ⟨m1 ++ m2, by simp only [c01_elemsText, c01_bodyTextL, h1, h2, c01_addMsgs_add]⟩
end

/-! ### relation to the raw text: the same leaves; the raw text adds "\n\n" after each paragraph -/
mutual
theorem c01_raw_eq_bodyText (e : Elem) (h : c01_paraCount e = 0) : rawText e = c01_bodyText e := by
  match e with
  | .paragraph _ cs => simp [c01_paraCount] at h
  | .run _ cs | .hyperlink _ cs | .table _ _ cs | .row _ cs | .cell _ _ _ cs =>
    simp only [c01_paraCount] at h
    simp only [rawText, c01_bodyText, c01_raw_eq_bodyTextL cs h]
  | .text _ | .tab | .checkbox _ | .brk _ | .image _ | .bookmark _ | .noteRef _ _ | .commentRef _ =>
    simp [rawText, c01_bodyText]
theorem c01_raw_eq_bodyTextL (es : List Elem) (h : c01_paraCountL es = 0) : rawTextL es = c01_bodyTextL es := by
  match es with
  | [] => simp [c01_bodyTextL]
  | e :: es =>
    simp only [c01_paraCountL] at h
    simp only [c01_rawTextL_cons, c01_bodyTextL, c01_raw_eq_bodyText e (by omega), c01_raw_eq_bodyTextL es (by omega)]
end

end Mammoth
