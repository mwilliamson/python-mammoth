import Proofs.Basics
import Proofs.C01_Doc
import Proofs.C01_Image
import Proofs.C01_NoSep
import Proofs.C01_Plain
import Proofs.C01_Raw
import Proofs.C01_ReadAtoms
import Proofs.C01_ReadCompose
import Proofs.C01_ReadDefer
import Proofs.C01_ReadLeaves
import Proofs.C01_Refine
import Proofs.C01_Spec
import Proofs.C01_Sweep
import Proofs.C01_XmlDefer
import Proofs.C01_XmlSpec
import Proofs.C02_AllTags
import Proofs.C02_ConvertNames
import Proofs.C02_DocSubst
import Proofs.C02_DocSubstVisit
import Proofs.C02_Escape
import Proofs.C02_Lexer
import Proofs.C02_Shape
import Proofs.C02_Sound
import Proofs.C02_Subst
import Proofs.C02_SubstLocal
import Proofs.C02_Tokens
import Proofs.C03_Lemmas
import Proofs.C04_Chains
import Proofs.C04_Literal
import Proofs.C04_Text
import Proofs.C04_Top
import Proofs.C05_Api
import Proofs.C05_ApiTotal
import Proofs.C05_Balanced
import Proofs.C05_Convert
import Proofs.C05_ConvertTotal
import Proofs.C05_Example
import Proofs.C05_ExampleEval
import Proofs.C16_ExampleEval
import Proofs.C05_Fuel
import Proofs.C05_FuelEnough
import Proofs.C05_Links
import Proofs.C05_Package
import Proofs.C05_RDepth
import Proofs.C05_ReadBody
import Proofs.ReaderObs
import Proofs.C05_ReadSpec
import Proofs.C05_Refs
import Proofs.C05_RefsRead
import Proofs.C05_Static
import Proofs.C05_View
import Proofs.C05_ViewNec
import Proofs.C06_Chain
import Proofs.C06_Escape
import Proofs.C06_Ext7
import Proofs.C06_Lex
import Proofs.C06_Meaning
import Proofs.C06_Num
import Proofs.C06_Parse
import Proofs.C06_Syntax
import Proofs.C06_Tokenise
import Proofs.C07_Lexer
import Proofs.C07_Parser
import Proofs.C07_Regex
import Proofs.C07_RegexDet
import Proofs.C07_RegexIdent
import Proofs.C07_RegexParse
import Proofs.C07_RegexParseCost
import Proofs.C07_RegexParseTok
import Proofs.C07_StyleMap
import Proofs.C08_Blocks
import Proofs.C08_Convert
import Proofs.C08_DefaultMap
import Proofs.C08_Lists
import Proofs.C08_Numbering
import Proofs.C08_Paths
import Proofs.C08_Xml
import Proofs.C08_XmlNumbering
import Proofs.C09_Convert
import Proofs.C09_DocGrid
import Proofs.C09_Ext7
import Proofs.C09_General
import Proofs.C09_Grid
import Proofs.C09_Layout
import Proofs.C09_LayoutProof
import Proofs.C09_Rebuild
import Proofs.C09_Sweep
import Proofs.C09_SweepRows
import Proofs.C09_Xml
import Proofs.C09_XmlGrid
import Proofs.C10_Convert
import Proofs.C10_Fields
import Proofs.C10_Global
import Proofs.C10_GlobalDoc
import Proofs.C10_GlobalExact
import Proofs.C10_GlobalLabels
import Proofs.C10_GlobalMain
import Proofs.C10_GlobalPost
import Proofs.C10_GlobalProps
import Proofs.C10_GlobalUnique
import Proofs.C10_GlobalVisit
import Proofs.C10_Instr
import Proofs.C10_InstrRegex
import Proofs.C10_InstrRegexAgree
import Proofs.C10_InstrRegexShape
import Proofs.C11_Lemmas
import Proofs.C11_Xml
import Proofs.C11_XmlNoField
import Proofs.C11_Ext7
import Proofs.C12_Archive
import Proofs.C12_Codecs
import Proofs.C12_Embed
import Proofs.C12_Utf8
import Proofs.C12_Xml
import Proofs.C12_ConvXml
import Proofs.C12_ConvRels
import Proofs.C12_ConvRead
import Proofs.C12_ConvReadAll
import Proofs.C12_ConvVisit
import Proofs.C12_Convert
import Proofs.C12_ConvPackage
import Proofs.C12_ConvMain
import Proofs.C12_ConvRefine
import Proofs.C12_ConvExample
import Proofs.C13_Container
import Proofs.C13_Dom
import Proofs.C13_Reader
import Proofs.C14_Collapse
import Proofs.C14_Doc
import Proofs.C14_Para
import Proofs.C14_Sites
import Proofs.C14_Table
import Proofs.C14_Visit
import Proofs.C14_Weight
import Proofs.C15_Dict
import Proofs.C16_Api
import Proofs.C16_ApiSpec
import Proofs.C16_Clean
import Proofs.C16_ConvSpec
import Proofs.C16_Example
import Proofs.C16_Image
import Proofs.C16_Mono
import Proofs.C16_PkgSpec
import Proofs.C16_ReadLeaf
import Proofs.C16_ReadSpec
import Proofs.C16_Unique
import Proofs.C16_XmlAnomaly
import Proofs.C16_XmlClean
import Proofs.C16_XmlSpec
import Proofs.C17_Base64
import Proofs.C17_Compose
import Proofs.C17_ElemImages
import Proofs.C17_Ext7
import Proofs.C17_Example
import Proofs.C17_Images
import Proofs.C17_Package
import Proofs.C17_ReadAtoms
import Proofs.C17_ReadImages
import Proofs.C17_Render
import Proofs.C17_RenderVisit
import Proofs.C17_Visit
import Proofs.C17_VisitDoc
import Proofs.C17_XmlPlain
import Proofs.C17_XmlSpec
import Proofs.C18_Doc
import Proofs.C18_Ext7
import Proofs.C18_Image
import Proofs.C18_Io
import Proofs.C18_Sim
import Proofs.C18_SimDoc
import Proofs.C18_SimVisit
import Proofs.C18_Visit
import Proofs.C19_Transforms
import Proofs.C19_Ext7
import Proofs.C20_Cli
import Proofs.C20_EndToEnd
import Proofs.C20_Warnings
import Proofs.Collapse
import Proofs.HtmlText
import Proofs.Stable
import Proofs.Strip
import Proofs.VisitPost
import Proofs.VisitState
import Proofs.Pins
import Proofs.Eval
