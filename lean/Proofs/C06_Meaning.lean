/-
  C06_Meaning — what the denoted matcher matches, and what the attribute dictionary of an element is.
-/
import Proofs.C06_Syntax
import Proofs.Basics
namespace Mammoth

/-- what a style-id condition asks of an element -/
def c06_idSpec : Option Str → Option Str → Prop
  | none, _ => True
  | some v, e => e = some v

/-- what a style-name condition asks of an element: equality, or being a prefix, after `upper` -/
def c06_nameSpec (upper : Str → Str) : Option StrMatch → Option Str → Prop
  | none, _ => True
  | some _, none => False
  | some (.equalTo v), some n => upper v = upper n
  | some (.startsWith v), some n => ∃ t, upper n = upper v ++ t

/-- what a list condition `:ordered-list(n)` asks of a paragraph -/
def c06_numSpec : Option c06_Level → Option NumLevel → Prop
  | none, _ => True
  | some l, e => e = some ⟨natToStr (l.n - 1), l.ordered⟩

theorem c06_optEqOrNone_iff (m e : Option Str) : optEqOrNone m e = true ↔ c06_idSpec m e := by
  cases m <;> simp [optEqOrNone, c06_idSpec]

theorem c06_nameMatches_iff (upper : Str → Str) (m : Option StrMatch) (e : Option Str) :
    nameMatches upper m e = true ↔ c06_nameSpec upper m e := by
  cases m with
  | none => simp [nameMatches, c06_nameSpec]
  | some sm =>
    cases e with
    | none => simp [nameMatches, c06_nameSpec]
    | some n =>
      cases sm with
      | equalTo v => simp [nameMatches, c06_nameSpec, StrMatch.matches]
      | startsWith v => simp [nameMatches, c06_nameSpec, StrMatch.matches, startsWith_iff]

/-- what the written matcher asks of an element (complete description) -/
def c06_matchSpec (upper : Str → Str) : c06_Matcher → Target → Prop
  | .paragraph sid sn num, .paragraph p =>
      c06_idSpec sid p.styleId ∧ c06_nameSpec upper sn p.styleName ∧ c06_numSpec num p.numbering
  | .run sid sn, .run esid esn => c06_idSpec sid esid ∧ c06_nameSpec upper sn esn
  | .table sid sn, .table esid esn => c06_idSpec sid esid ∧ c06_nameSpec upper sn esn
  | .bold, .bold => True
  | .italic, .italic => True
  | .underline, .underline => True
  | .strikethrough, .strikethrough => True
  | .allCaps, .allCaps => True
  | .smallCaps, .smallCaps => True
  | .commentReference, .commentReference => True
  | .highlight c, .highlight ec => ∀ v, c = some v → v = ec
  | .brk ty, .brk ety => ety = ty.str
  | _, _ => False

theorem c06_matches_paragraph (upper : Str → Str) (sid : Option Str) (sn : Option StrMatch)
    (num : Option c06_Level) (p : ParaProps) :
    matcherMatches upper (c06_denoteMatcher (.paragraph sid sn num)) (.paragraph p) = true ↔
      c06_idSpec sid p.styleId ∧ c06_nameSpec upper sn p.styleName ∧ c06_numSpec num p.numbering := by
  simp only [c06_denoteMatcher, matcherMatches, Bool.and_eq_true, c06_optEqOrNone_iff, c06_nameMatches_iff,
    and_assoc]
  cases num <;> simp [c06_numSpec, c06_denoteLevel]

theorem c06_matches_spec (upper : Str → Str) (m : c06_Matcher) (t : Target) :
    matcherMatches upper (c06_denoteMatcher m) t = true ↔ c06_matchSpec upper m t := by
  cases m with
  | paragraph sid sn num =>
    cases t with
    | paragraph p => exact c06_matches_paragraph upper sid sn num p
    | _ => simp [c06_denoteMatcher, matcherMatches, c06_matchSpec]
  | run sid sn =>
    cases t with
    | run a b => simp [c06_denoteMatcher, matcherMatches, c06_matchSpec, c06_optEqOrNone_iff, c06_nameMatches_iff]
    | _ => simp [c06_denoteMatcher, matcherMatches, c06_matchSpec]
  | table sid sn =>
    cases t with
    | table a b => simp [c06_denoteMatcher, matcherMatches, c06_matchSpec, c06_optEqOrNone_iff, c06_nameMatches_iff]
    | _ => simp [c06_denoteMatcher, matcherMatches, c06_matchSpec]
  | highlight c =>
    cases t with
    | highlight ec => cases c <;> simp [c06_denoteMatcher, matcherMatches, c06_matchSpec]
    | _ => simp [c06_denoteMatcher, matcherMatches, c06_matchSpec]
  | brk ty =>
    cases t with
    | brk ety =>
      simp only [c06_denoteMatcher, matcherMatches, c06_matchSpec, beq_iff_eq]
      exact eq_comm
    | _ => simp [c06_denoteMatcher, matcherMatches, c06_matchSpec]
  | _ => cases t <;> simp [c06_denoteMatcher, matcherMatches, c06_matchSpec]

/-- the value of attribute `k` after the listed classes/attributes, as a left-to-right scan:
    an attribute sets its key (last wins); a class appends to a non-empty `class` value with a
    blank, and sets it otherwise -/
def c06_attrSpec (k : Str) : Option Str → List AttrOrClass → Option Str
  | cur, [] => cur
  | cur, .attr n v :: r => c06_attrSpec k (if k = n then some v else cur) r
  | cur, .cls c :: r =>
    c06_attrSpec k
      (if k = S!"class" then
        (match cur with
         | some old => if old.isEmpty then some c else some (old ++ [' '] ++ c)
         | none => some c)
       else cur) r

theorem c06_buildAttrs_get (k : Str) (evs : List AttrOrClass) : ∀ (d : Dict Str),
    Dict.get? k (buildAttrs d evs) = c06_attrSpec k (Dict.get? k d) evs := by
  induction evs with
  | nil => intro d; simp [buildAttrs, c06_attrSpec]
  | cons e evs ih =>
    intro d
    cases e with
    | attr n v => simp only [buildAttrs, c06_attrSpec, ih, Dict.get?_insert]
    | cls c =>
      simp only [buildAttrs, c06_attrSpec]
      by_cases hk : k = S!"class"
      · subst hk
        cases hcur : Dict.get? S!"class" d with
        | none => simp [ih, Dict.get?_insert]
        | some old => by_cases ho : old.isEmpty = true <;> simp [ho, ih, Dict.get?_insert]
      · cases hcur : Dict.get? S!"class" d with
        | none => simp [ih, Dict.get?_insert, hk]
        | some old => by_cases ho : old.isEmpty = true <;> simp [ho, ih, Dict.get?_insert, hk]

/-- blank-separated concatenation -/
def c06_spaced : List Str → Str
  | [] => []
  | c :: cs => [' '] ++ c ++ c06_spaced cs

theorem c06_joinWith_cons (x : Str) (cs : List Str) : joinWith [' '] (x :: cs) = x ++ c06_spaced cs := by
  induction cs generalizing x with
  | nil => simp [joinWith, c06_spaced]
  | cons c cs ih => simp [joinWith, c06_spaced, ih]

theorem c06_classes_acc (cs : List Str) : ∀ (acc : Str), acc ≠ [] →
    buildAttrs [(S!"class", acc)] (cs.map .cls) = [(S!"class", acc ++ c06_spaced cs)] := by
  induction cs with
  | nil => intro acc _; simp [buildAttrs, c06_spaced]
  | cons c cs ih =>
    intro acc h
    have he : acc.isEmpty = false := by cases acc <;> simp_all
    have := ih (acc ++ [' '] ++ c) (by simp)
    simp only [List.append_assoc, List.cons_append, List.nil_append] at this
    simp [buildAttrs, Dict.get?, Dict.insert, he, this, c06_spaced]

end Mammoth
