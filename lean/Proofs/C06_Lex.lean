/-
  C06_Lex — the lexer on printed identifiers, strings, numbers and symbols followed by arbitrary text.
-/
import Proofs.C06_Num
namespace Mammoth

theorem c06_identStart_not_space (c : Char) (h : isIdentStart c = true) : isSpace c = false := by
  by_cases e1 : c = '-'
  · subst e1; decide
  by_cases e2 : c = '_'
  · subst e2; decide
  simp only [isIdentStart, Char.isAlpha, Char.isUpper, Char.isLower, Bool.or_eq_true, Bool.and_eq_true,
    decide_eq_true_eq, beq_iff_eq, e1, e2, or_false] at h
  have h1 : c.val.toNat = c.toNat := rfl
  simp only [ge_iff_le, UInt32.le_iff_toNat_le, h1] at h
  simp [isSpace]
  simp at h
  omega

theorem c06_digit_facts (c : Char) (h : isDigit c = true) : isSpace c = false ∧ isIdentStart c = false := by
  have e1 : c ≠ '-' := by intro e; subst e; revert h; decide
  have e2 : c ≠ '_' := by intro e; subst e; revert h; decide
  simp only [isDigit, Bool.and_eq_true, decide_eq_true_eq] at h
  have h0 : '0'.toNat = 48 := rfl
  have h9 : '9'.toNat = 57 := rfl
  rw [h0, h9] at h
  have h1 : c.val.toNat = c.toNat := rfl
  constructor
  · simp [isSpace]; omega
  · simp [isIdentStart, Char.isAlpha, Char.isUpper, Char.isLower, UInt32.le_iff_toNat_le, h1, e1, e2]
    omega

/-- a character that cannot continue an identifier -/
def c06_stopChar (c : Char) : Bool := !(isIdentStart c || isDigit c || c == '\\')

/-- the text does not start with an identifier-continuation character or a backslash -/
def c06_stop : Str → Bool
  | [] => true
  | c :: _ => c06_stopChar c

theorem c06_lexIdentRest_raw (c : Char) (X m r : Str) (h : (isIdentStart c || isDigit c) = true)
    (hX : lexIdentRest X = (m, r)) : lexIdentRest (c :: X) = (c :: m, r) := by
  have hc : c ≠ '\\' := by rintro rfl; revert h; decide
  rw [lexIdentRest.eq_2 c X (fun _ _ e _ => hc e), if_pos h, hX]

theorem c06_lexIdentRest_bs (c : Char) (X m r : Str) (h : isDot c = true)
    (hX : lexIdentRest X = (m, r)) : lexIdentRest ('\\' :: c :: X) = ('\\' :: c :: m, r) := by
  rw [lexIdentRest]; simp [h, hX]

theorem c06_lexIdentRest_stop (rest : Str) (h : c06_stop rest = true) : lexIdentRest rest = ([], rest) := by
  cases rest with
  | nil => rfl
  | cons c cs =>
    simp only [c06_stop, c06_stopChar, Bool.not_eq_true', Bool.or_eq_false_iff, beq_eq_false_iff_ne] at h
    rw [lexIdentRest.eq_2 c cs (fun _ _ e _ => h.2 e), if_neg (by simp [h.1.1, h.1.2])]

theorem c06_lexIdentRest_escChar (c : Char) (X m r : Str) (hX : lexIdentRest X = (m, r)) :
    lexIdentRest (c06_escChar c ++ X) = (c06_escChar c ++ m, r) := by
  unfold c06_escChar
  by_cases h1 : c = '\n'
  · subst h1; simpa using c06_lexIdentRest_bs 'n' X m r (by decide) hX
  by_cases h2 : c = '\r'
  · subst h2; simpa using c06_lexIdentRest_bs 'r' X m r (by decide) hX
  by_cases h3 : c = '\t'
  · subst h3; simpa using c06_lexIdentRest_bs 't' X m r (by decide) hX
  simp only [beq_iff_eq, h1, h2, h3, if_false]
  by_cases h4 : (isIdentStart c || isDigit c) = true
  · rw [if_pos h4]; exact c06_lexIdentRest_raw c X m r h4 hX
  · rw [if_neg h4]; exact c06_lexIdentRest_bs c X m r (by simp [isDot, h1]) hX

theorem c06_lexIdentRest_escRest (s rest : Str) (h : c06_stop rest = true) :
    lexIdentRest (c06_escRest s ++ rest) = (c06_escRest s, rest) := by
  induction s with
  | nil => simpa [c06_escRest] using c06_lexIdentRest_stop rest h
  | cons c cs ih =>
    simp only [c06_escRest, List.append_assoc]
    exact c06_lexIdentRest_escChar c _ _ _ ih

theorem c06_lexIdent_raw (c : Char) (X m r : Str) (h : isIdentStart c = true)
    (hX : lexIdentRest X = (m, r)) : lexIdent (c :: X) = some (c :: m, r) := by
  have hc : c ≠ '\\' := by rintro rfl; revert h; decide
  rw [lexIdent.eq_2 c X (fun _ _ e _ => hc e), if_pos h, hX]

theorem c06_lexIdent_bs (c : Char) (X m r : Str) (h : isDot c = true)
    (hX : lexIdentRest X = (m, r)) : lexIdent ('\\' :: c :: X) = some ('\\' :: c :: m, r) := by
  rw [lexIdent]; simp [h, hX]

theorem c06_lexIdent_escFirst (c : Char) (X m r : Str) (hX : lexIdentRest X = (m, r)) :
    lexIdent (c06_escFirst c ++ X) = some (c06_escFirst c ++ m, r) := by
  unfold c06_escFirst
  by_cases hd : isDigit c = true
  · rw [if_pos hd]
    have : c ≠ '\n' := by intro e; subst e; revert hd; decide
    exact c06_lexIdent_bs c X m r (by simp [isDot, this]) hX
  rw [if_neg hd]
  unfold c06_escChar
  by_cases h1 : c = '\n'
  · subst h1; simpa using c06_lexIdent_bs 'n' X m r (by decide) hX
  by_cases h2 : c = '\r'
  · subst h2; simpa using c06_lexIdent_bs 'r' X m r (by decide) hX
  by_cases h3 : c = '\t'
  · subst h3; simpa using c06_lexIdent_bs 't' X m r (by decide) hX
  simp only [beq_iff_eq, h1, h2, h3, if_false]
  by_cases h4 : (isIdentStart c || isDigit c) = true
  · rw [if_pos h4]
    have : isIdentStart c = true := by simpa [hd] using h4
    exact c06_lexIdent_raw c X m r this hX
  · rw [if_neg h4]; exact c06_lexIdent_bs c X m r (by simp [isDot, h1]) hX

/-- a printed non-empty identifier, followed by text that cannot continue it, is one IDENTIFIER match -/
theorem c06_lexIdent_print (s rest : Str) (hs : s ≠ []) (h : c06_stop rest = true) :
    lexIdent (c06_printIdent s ++ rest) = some (c06_printIdent s, rest) := by
  cases s with
  | nil => exact absurd rfl hs
  | cons c cs =>
    simp only [c06_printIdent, List.append_assoc]
    exact c06_lexIdent_escFirst c _ _ _ (c06_lexIdentRest_escRest cs rest h)

/-- the first character of a printed non-empty identifier is not white space, a quote, a digit or
    a symbol character: it is a backslash or a letter, `-`, `_` -/
theorem c06_printIdent_head (s : Str) (hs : s ≠ []) :
    ∃ c t, c06_printIdent s = c :: t ∧ (c = '\\' ∨ isIdentStart c = true) := by
  cases s with
  | nil => exact absurd rfl hs
  | cons c cs =>
    simp only [c06_printIdent, c06_escFirst, c06_escChar]
    by_cases hd : isDigit c = true
    · simp [hd]
    by_cases h1 : c = '\n'
    · subst h1; simp [hd]
    by_cases h2 : c = '\r'
    · subst h2; simp [hd]
    by_cases h3 : c = '\t'
    · subst h3; simp [hd]
    by_cases h4 : isIdentStart c = true
    · simp [hd, h1, h2, h3, h4]
    · simp [hd, h1, h2, h3, h4]

theorem c06_lexStringBody_raw (c : Char) (X m r : Str) (h1 : c ≠ '\'') (h2 : c ≠ '\\')
    (hX : lexStringBody X = (m, r)) : lexStringBody (c :: X) = (c :: m, r) := by
  rw [lexStringBody.eq_2 c X (fun _ _ e _ => h2 e), if_pos (by simp [h1, h2]), hX]

theorem c06_lexStringBody_bs (c : Char) (X m r : Str) (h : isDot c = true)
    (hX : lexStringBody X = (m, r)) : lexStringBody ('\\' :: c :: X) = ('\\' :: c :: m, r) := by
  rw [lexStringBody]; simp [h, hX]

theorem c06_lexStringBody_strChar (c : Char) (X m r : Str) (hX : lexStringBody X = (m, r)) :
    lexStringBody (c06_strChar c ++ X) = (c06_strChar c ++ m, r) := by
  unfold c06_strChar
  by_cases h1 : c = '\''
  · subst h1; simpa using c06_lexStringBody_bs '\'' X m r (by decide) hX
  by_cases h2 : c = '\\'
  · subst h2; simpa using c06_lexStringBody_bs '\\' X m r (by decide) hX
  by_cases h3 : c = '\n'
  · subst h3; simpa using c06_lexStringBody_bs 'n' X m r (by decide) hX
  by_cases h4 : c = '\r'
  · subst h4; simpa using c06_lexStringBody_bs 'r' X m r (by decide) hX
  by_cases h5 : c = '\t'
  · subst h5; simpa using c06_lexStringBody_bs 't' X m r (by decide) hX
  simp only [beq_iff_eq, h1, h2, h3, h4, h5, if_false]
  exact c06_lexStringBody_raw c X m r h1 h2 hX

theorem c06_lexStringBody_quote (rest : Str) : lexStringBody ('\'' :: rest) = ([], '\'' :: rest) := by
  rw [lexStringBody.eq_def]; simp

theorem c06_lexStringBody_print (s rest : Str) :
    lexStringBody (c06_stringBody s ++ '\'' :: rest) = (c06_stringBody s, '\'' :: rest) := by
  induction s with
  | nil => simpa [c06_stringBody] using c06_lexStringBody_quote rest
  | cons c cs ih =>
    simp only [c06_stringBody, List.append_assoc]
    exact c06_lexStringBody_strChar c _ _ _ ih

/-- a printed string, followed by ANY text, is one STRING match: the closing quote ends it -/
theorem c06_lexString_print (s rest : Str) :
    lexString (c06_printString s ++ rest) = some (.string, c06_printString s, rest) := by
  simp [c06_printString, lexString, c06_lexStringBody_print]

theorem c06_spanP_all (p : Char → Bool) (ds rest : Str) (hd : ∀ c ∈ ds, p c = true)
    (hr : ∀ c t, rest = c :: t → p c = false) : spanP p (ds ++ rest) = (ds, rest) := by
  induction ds with
  | nil =>
    cases rest with
    | nil => simp [spanP]
    | cons c t => simp [spanP, hr c t rfl]
  | cons d ds ih =>
    have := ih (fun c hc => hd c (List.mem_cons_of_mem _ hc))
    simp [spanP, hd d (List.mem_cons_self), this]

/-- a non-empty run of digits followed by a non-digit is one INTEGER match -/
theorem c06_lexInt_digits (ds rest : Str) (hne : ds ≠ []) (hd : ∀ c ∈ ds, isDigit c = true)
    (hr : ∀ c t, rest = c :: t → isDigit c = false) : lexInt (ds ++ rest) = some (ds, rest) := by
  unfold lexInt
  rw [c06_spanP_all isDigit ds rest hd hr]
  cases ds with
  | nil => exact absurd rfl hne
  | cons d ds => rfl

theorem c06_lexWs_blank (rest : Str) (hr : ∀ c t, rest = c :: t → isSpace c = false) :
    lexWs (' ' :: rest) = some ([' '], rest) := by
  have := c06_spanP_all isSpace [' '] rest (by decide) hr
  unfold lexWs
  simp only [List.cons_append, List.nil_append] at this
  rw [this]

end Mammoth
