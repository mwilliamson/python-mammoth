/-
  C09 — the HTML table layout of what `calculateRowSpans` returns reproduces the document grid.
-/
import Proofs.C09_Layout
namespace Mammoth

/-- where the document says the non-continuation cells of row `y` lie -/
def c09_docPlaced (y : Nat) (below : List c09_Row) : c09_Row → Nat → Nat → List c09_Seg
  | [], _, _ => []
  | c :: cs, ci, i =>
    if c.isCont then c09_docPlaced y below cs (ci + c.span) i
    else ⟨ci, c.span, 1 + c09_chain below ci, (y, i)⟩ :: c09_docPlaced y below cs (ci + c.span) (i + 1)

theorem c09_filter_map_filter {α} (p q : α → Bool) (f : α → α) (hp : ∀ e, p (f e) = p e) (l : List α) :
    ((l.filter q).map f).filter p = ((l.filter p).filter q).map f := by
  induction l with
  | nil => rfl
  | cons e es ih =>
    by_cases h1 : q e = true <;> by_cases h2 : p e = true <;> simp [h1, h2, hp, ih]

/-- column `x` lies in a continuation cell -/
def c09_contAt (cells : c09_Row) (ci i x : Nat) : Bool :=
  match c09_cellAt cells ci i x with
  | some (_, _, d) => d.isCont
  | none => false

theorem c09_contAt_lt (c : c09_Cell) (cs : c09_Row) (ci i x : Nat) (h : x < ci + c.span) :
    c09_contAt (c :: cs) ci i x = c.isCont := by simp [c09_contAt, c09_cellAt, h]

theorem c09_contAt_ge (c : c09_Cell) (cs : c09_Row) (ci i x : Nat) (h : ¬ x < ci + c.span) :
    c09_contAt (c :: cs) ci i x = c09_contAt cs (ci + c.span) (if c.isCont then i else i + 1) x := by
  simp [c09_contAt, c09_cellAt, h]

theorem c09_docRow_some {prevOwn : Nat → Option c09_Id} {y : Nat} {row : c09_Row} {x s i : Nat} {c : c09_Cell}
    (hc : c09_cellAt row 0 0 x = some (s, i, c)) :
    c09_docRow prevOwn y row x = if c.isCont then prevOwn x else some (y, i) := by
  simp only [c09_docRow, hc]

theorem c09_docRow_none {prevOwn : Nat → Option c09_Id} {y : Nat} {row : c09_Row} {x : Nat}
    (hc : c09_cellAt row 0 0 x = none) : c09_docRow prevOwn y row x = none := by
  simp only [c09_docRow, hc]

/-- the HTML placement puts every kept cell at its document start column, provided the occupied columns
    of the row are exactly the columns of its continuation cells -/
theorem c09_placeRow_eq (carry : List c09_Seg) (y : Nat) (below : List c09_Row) (prev cells : c09_Row) :
    ∀ (ci i x : Nat), c09_rowOkFrom prev cells ci = true → x ≤ ci →
      (∀ c, x ≤ c → c < ci → c09_occ carry c = true) →
      (∀ c, ci ≤ c → c09_occ carry c = c09_contAt cells ci i c) →
      c09_placeRow carry y (c09_specSpans below cells ci) i x = c09_docPlaced y below cells ci i := by
  induction cells with
  | nil => intro ci i x _ _ _ _; rfl
  | cons d ds ih =>
    intro ci i x hok hx hocc hrest
    obtain ⟨hspan, hok'⟩ := c09_rowOk_span prev d ds ci hok
    have hci : ci < ci + d.span := Nat.lt_add_of_pos_right hspan
    have hrest' : ∀ c, ci + d.span ≤ c → c09_occ carry c =
        c09_contAt ds (ci + d.span) (if d.isCont then i else i + 1) c := fun c hc => by
      rw [hrest c (Nat.le_trans (Nat.le_add_right _ _) hc), c09_contAt_ge d ds ci i c (Nat.not_lt.mpr hc)]
    by_cases hd : d.isCont = true
    · rw [c09_specSpans, c09_docPlaced, if_pos hd, if_pos hd]
      apply ih (ci + d.span) i x hok' (Nat.le_trans hx (Nat.le_add_right _ _))
      · intro c h1 h2
        by_cases hc : c < ci
        · exact hocc c h1 hc
        · rw [hrest c (Nat.le_of_not_lt hc), c09_contAt_lt d ds ci i c h2, hd]
      · intro c hc
        rw [hrest' c hc, if_pos hd]
    · rw [c09_specSpans, c09_docPlaced, if_neg hd, if_neg hd, c09_placeRow]
      have hfree : c09_occ carry ci = false := by
        rw [hrest ci (Nat.le_refl _), c09_contAt_lt d ds ci i ci hci]; exact Bool.eq_false_iff.mpr hd
      -- the fuel suffices: the column before `ci`, if any, is occupied, hence below the bound
      have hfuel : ci - x ≤ c09_bound carry - x := by
        cases Nat.eq_or_lt_of_le hx with
        | inl h => rw [h, Nat.sub_self]; exact Nat.zero_le _
        | inr h =>
          cases ci with
          | zero => exact absurd h (Nat.not_lt_zero _)
          | succ k =>
            exact Nat.sub_le_sub_right
              (c09_occ_lt_bound carry k (hocc k (Nat.le_of_lt_succ h) (Nat.lt_succ_self k))) x
      rw [c09_nextFree_eq (c09_occ carry) ci _ x hx hocc hfree hfuel]
      congr 1
      apply ih (ci + d.span) (i + 1) (ci + d.span) hok' (Nat.le_refl _)
      · intro c h1 h2; exact absurd h2 (Nat.not_lt.mpr h1)
      · intro c hc
        rw [hrest' c hc, if_neg hd]

theorem c09_docPlaced_filter_lt (y : Nat) (below : List c09_Row) (cells : c09_Row) :
    ∀ (ci i x : Nat), x < ci → (c09_docPlaced y below cells ci i).filter (·.covers x) = [] := by
  induction cells with
  | nil => intro ci i x _; rfl
  | cons d ds ih =>
    intro ci i x hx
    by_cases hd : d.isCont = true
    · rw [c09_docPlaced, if_pos hd]; exact ih _ _ x (Nat.lt_add_right _ hx)
    · rw [c09_docPlaced, if_neg hd, List.filter_cons]
      have : (c09_Seg.covers ⟨ci, d.span, 1 + c09_chain below ci, (y, i)⟩ x) = false := by
        rw [c09_Seg.covers, decide_eq_false (Nat.not_le.mpr hx), Bool.false_and]
      rw [this]; exact ih _ _ x (Nat.lt_add_right _ hx)

theorem c09_docPlaced_filter (y : Nat) (below : List c09_Row) (cells : c09_Row) :
    ∀ (ci i x : Nat), ci ≤ x →
      (c09_docPlaced y below cells ci i).filter (·.covers x) =
        match c09_cellAt cells ci i x with
        | some (s, j, c) => if c.isCont then [] else [⟨s, c.span, 1 + c09_chain below s, (y, j)⟩]
        | none => [] := by
  induction cells with
  | nil => intro ci i x _; rfl
  | cons d ds ih =>
    intro ci i x hx
    by_cases hlt : x < ci + d.span
    · rw [c09_cellAt_lt ci i x d ds hlt]
      by_cases hd : d.isCont = true
      · rw [c09_docPlaced, if_pos hd]
        simp only [hd, if_true]
        exact c09_docPlaced_filter_lt y below ds _ _ x hlt
      · rw [c09_docPlaced, if_neg hd, List.filter_cons]
        simp only [hd, Bool.false_eq_true, if_false]
        have : (c09_Seg.covers ⟨ci, d.span, 1 + c09_chain below ci, (y, i)⟩ x) = true := by
          rw [c09_Seg.covers, decide_eq_true hx, decide_eq_true hlt]; rfl
        rw [this, if_pos rfl, c09_docPlaced_filter_lt y below ds _ _ x hlt]
    · rw [c09_cellAt_ge d ds ci i x hlt]
      by_cases hd : d.isCont = true
      · rw [c09_docPlaced, if_pos hd]
        simp only [hd, if_true]
        exact ih _ _ x (Nat.le_of_not_lt hlt)
      · rw [c09_docPlaced, if_neg hd, List.filter_cons]
        simp only [hd, Bool.false_eq_true, if_false]
        have : (c09_Seg.covers ⟨ci, d.span, 1 + c09_chain below ci, (y, i)⟩ x) = false := by
          rw [c09_Seg.covers, decide_eq_false hlt, Bool.and_false]
        rw [this]
        exact ih _ _ x (Nat.le_of_not_lt hlt)

theorem c09_carryNext_filter (segs : List c09_Seg) (x : Nat) :
    (c09_carryNext segs).filter (·.covers x) =
      ((segs.filter (·.covers x)).filter fun e => decide (1 < e.rem)).map fun e => { e with rem := e.rem - 1 } := by
  unfold c09_carryNext
  exact c09_filter_map_filter (fun e : c09_Seg => e.covers x) (fun e => decide (1 < e.rem))
    (fun e => { e with rem := e.rem - 1 }) (fun e => rfl) segs

/-! ### the invariant -/

/-- the cells growing down into `row` lie exactly on its continuation cells: on the columns of a continuation
    cell starting at `s` there is exactly one, with the same start and width, coming from the owner of
    these columns in the row above, and it still has `1 + chain rest s` rows to cover; nothing lies on the
    other columns -/
structure c09_CarryOk (carry : List c09_Seg) (prevOwn : Nat → Option c09_Id) (row : c09_Row)
    (rest : List c09_Row) : Prop where
  cont : ∀ x s i c, c09_cellAt row 0 0 x = some (s, i, c) → c.isCont = true →
    ∃ id, prevOwn x = some id ∧ carry.filter (·.covers x) = [⟨s, c.span, 1 + c09_chain rest s, id⟩]
  other : ∀ x s i c, c09_cellAt row 0 0 x = some (s, i, c) → c.isCont = false → carry.filter (·.covers x) = []
  out : ∀ x, c09_cellAt row 0 0 x = none → carry.filter (·.covers x) = []

theorem c09_CarryOk.occ {carry prevOwn row rest} (h : c09_CarryOk carry prevOwn row rest) (x : Nat) :
    c09_occ carry x = c09_contAt row 0 0 x := by
  simp only [c09_occ, c09_any_eq_filter]
  cases hc : c09_cellAt row 0 0 x with
  | none => rw [c09_contAt, hc, h.out x hc]; rfl
  | some p =>
    obtain ⟨s, i, c⟩ := p
    simp only [c09_contAt, hc]
    cases hd : c.isCont with
    | true => obtain ⟨id, _, hf⟩ := h.cont x s i c hc hd; rw [hf]; rfl
    | false => rw [h.other x s i c hc hd]; rfl

/-- all the cells lying on column `x` of the row -/
theorem c09_segs_filter_some {carry prevOwn row rest} (h : c09_CarryOk carry prevOwn row rest) (y x s i : Nat)
    (c : c09_Cell) (hc : c09_cellAt row 0 0 x = some (s, i, c)) :
    ∃ o, c09_docRow prevOwn y row x = some o ∧
      (carry ++ c09_docPlaced y rest row 0 0).filter (·.covers x) = [⟨s, c.span, 1 + c09_chain rest s, o⟩] := by
  rw [List.filter_append, c09_docPlaced_filter y rest row 0 0 x (Nat.zero_le _), hc, c09_docRow_some hc]
  cases hd : c.isCont with
  | true =>
    obtain ⟨id, hid, hf⟩ := h.cont x s i c hc hd
    exact ⟨id, by simp [hid], by simp [hf, hd]⟩
  | false =>
    exact ⟨(y, i), by simp, by simp [h.other x s i c hc hd, hd]⟩

theorem c09_segs_filter_none {carry prevOwn row rest} (h : c09_CarryOk carry prevOwn row rest) (y x : Nat)
    (hc : c09_cellAt row 0 0 x = none) :
    c09_docRow prevOwn y row x = none ∧
      (carry ++ c09_docPlaced y rest row 0 0).filter (·.covers x) = [] := by
  rw [List.filter_append, c09_docPlaced_filter y rest row 0 0 x (Nat.zero_le _), hc]
  exact ⟨c09_docRow_none hc, by simp [h.out x hc]⟩

theorem c09_slot_segs {carry prevOwn row rest} (h : c09_CarryOk carry prevOwn row rest) (y x : Nat) :
    c09_slot (carry ++ c09_docPlaced y rest row 0 0) x = (c09_docRow prevOwn y row x).toList := by
  unfold c09_slot
  cases hc : c09_cellAt row 0 0 x with
  | none => obtain ⟨h1, h2⟩ := c09_segs_filter_none h y x hc; rw [h1, h2]; rfl
  | some p =>
    obtain ⟨s, i, c⟩ := p
    obtain ⟨o, h1, h2⟩ := c09_segs_filter_some h y x s i c hc
    rw [h1, h2]; rfl

/-! ### from one row to the next -/

theorem c09_hasContAt_iff (row : c09_Row) (s : Nat) :
    c09_hasContAt row s = true ↔ ∃ d, c09_findStart row 0 s = some d ∧ d.isCont = true := by
  simp only [c09_hasContAt, c09_hasContAtFrom]
  cases c09_findStart row 0 s with
  | none => simp
  | some d => simp

/-- a merge chain continues below a cell: the continuation covers the same columns -/
theorem c09_cont_below (prev row row' : c09_Row) (x s i : Nat) (c : c09_Cell)
    (hok : c09_rowOkFrom prev row 0 = true) (hok' : c09_rowOkFrom row row' 0 = true)
    (hc : c09_cellAt row 0 0 x = some (s, i, c)) (hcont : c09_hasContAt row' s = true) :
    ∃ j d, c09_cellAt row' 0 0 x = some (s, j, d) ∧ d.isCont = true ∧ d.span = c.span := by
  obtain ⟨d, hd, hdc⟩ := (c09_hasContAt_iff row' s).mp hcont
  obtain ⟨p, hp, hps, _⟩ := c09_rowOk_above row row' 0 s d hok' hd hdc
  obtain ⟨hfc, h1, h2⟩ := c09_cellAt_findStart prev row 0 0 x s i c hok (Nat.zero_le _) hc
  rw [hfc] at hp
  obtain rfl := Option.some.inj hp
  obtain ⟨j, hj⟩ := c09_findStart_cellAt row row' 0 0 x s d hok' hd h1 (by omega)
  exact ⟨j, d, hj, hdc, hps.symm⟩

/-- a continuation cell lies under a cell with the same columns -/
theorem c09_cont_above (prev row row' : c09_Row) (x s' i' : Nat) (c' : c09_Cell)
    (hok : c09_rowOkFrom prev row 0 = true) (hok' : c09_rowOkFrom row row' 0 = true)
    (hc : c09_cellAt row' 0 0 x = some (s', i', c')) (hcont : c'.isCont = true) :
    ∃ i c, c09_cellAt row 0 0 x = some (s', i, c) ∧ c.span = c'.span ∧ c09_hasContAt row' s' = true := by
  obtain ⟨hfc, h1, h2⟩ := c09_cellAt_findStart row row' 0 0 x s' i' c' hok' (Nat.zero_le _) hc
  obtain ⟨p, hp, hps, _⟩ := c09_rowOk_above row row' 0 s' c' hok' hfc hcont
  obtain ⟨j, hj⟩ := c09_findStart_cellAt prev row 0 0 x s' p hok hp h1 (by omega)
  exact ⟨j, p, hj, hps, (c09_hasContAt_iff row' s').mpr ⟨c', hfc, hcont⟩⟩

theorem c09_CarryOk.next {carry prevOwn} {prev row row' : c09_Row} {rest : List c09_Row} (y : Nat)
    (hok : c09_rowOkFrom prev row 0 = true) (hok' : c09_rowOkFrom row row' 0 = true)
    (h : c09_CarryOk carry prevOwn row (row' :: rest)) :
    c09_CarryOk (c09_carryNext (carry ++ c09_docPlaced y (row' :: rest) row 0 0))
      (c09_docRow prevOwn y row) row' rest := by
  -- nothing continues on column `x` unless `row'` has a continuation cell there
  have hnone : ∀ x, (∀ s j d, c09_cellAt row' 0 0 x = some (s, j, d) → d.isCont = false) →
      (c09_carryNext (carry ++ c09_docPlaced y (row' :: rest) row 0 0)).filter (·.covers x) = [] := by
    intro x hx
    rw [c09_carryNext_filter]
    cases hc : c09_cellAt row 0 0 x with
    | none => rw [(c09_segs_filter_none h y x hc).2]; rfl
    | some p =>
      obtain ⟨s, i, c⟩ := p
      obtain ⟨o, _, hf⟩ := c09_segs_filter_some h y x s i c hc
      rw [hf]
      have hnc : c09_hasContAt row' s = false := by
        cases hh : c09_hasContAt row' s with
        | false => rfl
        | true =>
          obtain ⟨j, d, hd, hdc, _⟩ := c09_cont_below prev row row' x s i c hok hok' hc hh
          rw [hx s j d hd] at hdc; simp at hdc
      simp [c09_chain, hnc]
  refine ⟨?_, ?_, ?_⟩
  · intro x s' i' c' hc hcont
    obtain ⟨i, c, hrow, hspan, hhas⟩ := c09_cont_above prev row row' x s' i' c' hok hok' hc hcont
    obtain ⟨o, ho, hf⟩ := c09_segs_filter_some h y x s' i c hrow
    refine ⟨o, ho, ?_⟩
    rw [c09_carryNext_filter, hf]
    have hch : c09_chain (row' :: rest) s' = 1 + c09_chain rest s' := by simp [c09_chain, hhas]
    rw [hch, hspan]
    have hlt : decide (1 < 1 + (1 + c09_chain rest s')) = true := decide_eq_true (by omega)
    simp only [List.filter_cons, hlt, if_true, List.filter_nil, List.map_cons, List.map_nil]
    rw [Nat.add_sub_cancel_left]
  · intro x s' i' c' hc hcont
    apply hnone x
    intro s j d hd; rw [hc] at hd
    simp only [Option.some.injEq, Prod.mk.injEq] at hd
    rw [← hd.2.2]; exact hcont
  · intro x hc
    apply hnone x
    intro s j d hd; rw [hc] at hd; simp at hd

theorem c09_layout_main (rest : List c09_Row) :
    ∀ (prev : c09_Row) (prevOwn : Nat → Option c09_Id) (carry : List c09_Seg) (y : Nat),
      c09_validFrom prev rest = true →
      (∀ row rest', rest = row :: rest' → c09_CarryOk carry prevOwn row rest') →
      ∀ j x, c09_slotAt (c09_htmlRows carry y (c09_specCells rest)) j x
        = (c09_ownAt (c09_docRows prevOwn y rest) j x).toList := by
  induction rest with
  | nil => intro prev prevOwn carry y _ _ j x; simp [c09_specCells, c09_htmlRows, c09_docRows, c09_slotAt, c09_ownAt]
  | cons row rest ih =>
    intro prev prevOwn carry y hv hcarry j x
    simp only [c09_validFrom, Bool.and_eq_true] at hv
    have hC := hcarry row rest rfl
    have hplace : c09_placeRow carry y (c09_specSpans rest row 0) 0 0 = c09_docPlaced y rest row 0 0 :=
      c09_placeRow_eq carry y rest prev row 0 0 0 hv.1 (Nat.le_refl _) (fun c h1 h2 => by omega)
        (fun c _ => hC.occ c)
    simp only [c09_specCells, c09_htmlRows, c09_docRows, hplace]
    cases j with
    | zero =>
      simp only [c09_slotAt, c09_ownAt, List.getElem?_cons_zero]
      exact c09_slot_segs hC y x
    | succ j =>
      simp only [c09_slotAt, c09_ownAt, List.getElem?_cons_succ]
      have := ih row (c09_docRow prevOwn y row) (c09_carryNext (carry ++ c09_docPlaced y rest row 0 0)) (y + 1)
        hv.2 (by
          intro row' rest' hr; subst hr
          simp only [c09_validFrom, Bool.and_eq_true] at hv
          exact hC.next y hv.1 hv.2.1) j x
      simpa [c09_slotAt, c09_ownAt] using this

theorem c09_CarryOk_init (row : c09_Row) (rest : List c09_Row) (hok : c09_rowOkFrom [] row 0 = true) :
    c09_CarryOk [] (fun _ => none) row rest := by
  refine ⟨?_, fun _ _ _ _ _ _ => rfl, fun _ _ => rfl⟩
  intro x s i c hc hcont
  obtain ⟨hfc, _, _⟩ := c09_cellAt_findStart [] row 0 0 x s i c hok (Nat.zero_le _) hc
  obtain ⟨p, hp, _⟩ := c09_rowOk_above [] row 0 s c hok hfc hcont
  simp [c09_findStart] at hp

theorem c09_layout_eq_spec (rows : List c09_Row) (hv : c09_validFrom [] rows = true) (y x : Nat) :
    c09_htmlLayout (c09_specCells rows) y x = (c09_docGrid rows y x).toList := by
  unfold c09_htmlLayout c09_docGrid
  apply c09_layout_main rows [] (fun _ => none) [] 0 hv
  intro row rest hr; subst hr
  simp only [c09_validFrom, Bool.and_eq_true] at hv
  exact c09_CarryOk_init row rest hv.1

end Mammoth
