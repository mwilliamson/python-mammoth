/-
  C10, the whole output forest: the events of the output of `convertDoc`, `c10_DocOK` from a successful conversion,
  and the labels of the note references.
-/
import Proofs.C10_GlobalExact
import Proofs.C10_GlobalPost
import Proofs.C10_GlobalLabels
namespace Mammoth

/-- the events of the output of `convertDoc cfg d` -/
def c10_outEvents (cfg : Cfg) (d : Document) : List c10_Ev := c10_docEvents (c10_docCfg cfg d) d

theorem c10_evIds_docCfg (cfg : Cfg) (d : Document) (evs : List c10_Ev) :
    c10_evIds (c10_docCfg cfg d) evs = c10_evIds cfg evs := rfl
theorem c10_evHrefs_docCfg (cfg : Cfg) (d : Document) (evs : List c10_Ev) :
    c10_evHrefs (c10_docCfg cfg d) evs = c10_evHrefs cfg evs := rfl

theorem c10_DocOK_of_convert (cfg : Cfg) (hc : c10_cleanCfg cfg = true) (d : Document) (r : ConvResult)
    (h : convertDoc cfg d = .ok r) : c10_DocOK (c10_docCfg cfg d) d := by
  obtain ⟨_, _, _, _, _, hn, hf, _⟩ := c10_convertDoc_events cfg hc d r h
  exact ⟨c10_resolve_all d.notes _ _ hn, hf⟩

/-- the suffixes the converter generates itself (reference ids `type-ref-id`, referent ids `type-id`) -/
def c10_generated (evs : List c10_Ev) : List Str :=
  (c10_evKeys evs).map c10_refSfx ++ (c10_evItems evs).map c10_itemSfx

/-- statement (6) of `Properties/C10.lean` -/
theorem c10_labels (cfg : Cfg) (hc : c10_cleanCfg cfg = true) (d : Document) (r : ConvResult)
    (h : convertDoc cfg d = .ok r) (hnc : (c10_evCRefs (c10_outEvents cfg d)).isEmpty = true) :
    (anchorsOf r.nodes).map (·.2.2) = (List.range' 1 r.noteRefs.length).map c10_label ∧
    (anchorsOf r.nodes).map (·.2.1) = r.noteRefs.map (fun ref => ['#'] ++ referentId cfg ref.1 ref.2) ∧
    (anchorsOf r.nodes).map (·.1) = r.noteRefs.map (fun ref => referenceId cfg ref.1 ref.2) ∧
    ∃ body items cnodes, r.nodes = body ++ [el S!"ol" [] items, el S!"dl" [] cnodes] ∧
      items.length ≤ r.noteRefs.length ∧
      items.map c10_nodeId = (r.noteRefs.take items.length).map (fun ref => some (referentId cfg ref.1 ref.2)) := by
  obtain ⟨_, _, ea, _, er, _, _, body, items, cnodes, hshape, hitems⟩ := c10_convertDoc_events cfg hc d r h
  rw [List.isEmpty_iff] at hnc
  have ea' : anchorsOf r.nodes = c10_noteAnchors cfg 0 r.noteRefs := by
    rw [ea, er]
    exact c10_evAnchors_notes (c10_docCfg cfg d) _ hnc 0 0
  refine ⟨?_, ?_, ?_, body, items, cnodes, hshape, ?_⟩
  · rw [ea', c10_noteAnchors_text]
  · rw [ea', c10_noteAnchors_href]
  · rw [ea', c10_noteAnchors_id]
  · have hlen : items.length = (c10_evRefs (c10_evsL (c10_docCfg cfg d) d.children)).length := by
      have := congrArg List.length hitems
      simpa using this
    have er' : r.noteRefs = c10_evRefs (c10_evsL (c10_docCfg cfg d) d.children) ++
        c10_evRefs (c10_E1 (c10_docCfg cfg d) d ++ c10_E2 (c10_docCfg cfg d) d) := by
      rw [er, c10_docEvents_eq, List.append_assoc, c10_evRefs_append]
      rfl
    constructor
    · rw [er', List.length_append, hlen]; omega
    · rw [hitems, er', hlen, List.take_left']
      rfl

/-- A successful run with a decidable property of its result, as one Boolean evaluation (for test vectors). -/
theorem c10_ok_and {ε α} {x : Except ε α} {P : α → Prop} [∀ r, Decidable (P r)]
    (h : (match x with | .ok r => decide (P r) | .error _ => false) = true) : ∃ r, x = .ok r ∧ P r := by
  cases x with
  | ok r => exact ⟨r, rfl, of_decide_eq_true h⟩
  | error _ => cases h

end Mammoth
