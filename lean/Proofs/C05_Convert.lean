/-
  C05 — the converter fails with a `KeyError` or not at all (`c05_keyOnly m`).
-/
import MammothModel.Convert
namespace Mammoth

structure c05_keyOnly {α} (m : ConvM α) : Prop where
  h : ∀ st e, m.run st = .error e → ∃ w, e = Err.key w

theorem c05_keyOnly_pure {α} (a : α) : c05_keyOnly (pure a : ConvM α) := by
  constructor; intro st e h; simp [pure, StateT.pure, StateT.run, Except.pure] at h

theorem c05_keyOnly_bind {α β} {m : ConvM α} {f : α → ConvM β}
    (hm : c05_keyOnly m) (hf : ∀ a, c05_keyOnly (f a)) : c05_keyOnly (m >>= f) := by
  constructor; intro st e h
  rw [StateT.run_bind] at h
  cases hr : m.run st with
  | error e' =>
    rw [hr] at h
    simp [bind, Except.bind] at h
    subst h
    exact hm.h st _ hr
  | ok p =>
    rw [hr] at h
    simp [bind, Except.bind] at h
    exact (hf _).h _ _ h

theorem c05_keyOnly_map {α β} {m : ConvM α} (hm : c05_keyOnly m) (g : α → β) :
    c05_keyOnly (do let a ← m; pure (g a)) :=
  c05_keyOnly_bind hm fun _ => c05_keyOnly_pure _

theorem c05_keyOnly_modify (g : ConvState → ConvState) : c05_keyOnly (modify g : ConvM Unit) := by
  constructor; intro st e h
  simp [modify, modifyGet, MonadStateOf.modifyGet, StateT.modifyGet, StateT.run, pure, Except.pure] at h

theorem c05_keyOnly_get : c05_keyOnly (get : ConvM ConvState) := by
  constructor; intro st e h
  simp [get, getThe, MonadStateOf.get, StateT.get, StateT.run, pure, Except.pure] at h

theorem c05_keyOnly_throw {α} (w : Str) : c05_keyOnly (throw (Err.key w) : ConvM α) := by
  constructor; intro st e h
  simp [throw, throwThe, MonadExceptOf.throw, StateT.run, StateT.lift, bind, Except.bind] at h
  exact ⟨w, h.symm⟩

theorem c05_warn_keyOnly (m : Str) : c05_keyOnly (warn m) :=
  c05_keyOnly_modify _

theorem c05_openImage_keyOnly (cfg : Cfg) (src : ImageSrc) : c05_keyOnly (openImage cfg src) := by
  unfold openImage
  cases src with
  | embedded name =>
    dsimp only
    split
    · exact c05_keyOnly_pure _
    · exact c05_keyOnly_throw _
  | linked uri =>
    dsimp only
    split
    · refine c05_keyOnly_bind (c05_keyOnly_modify _) fun _ => ?_
      split <;> exact c05_keyOnly_pure _
    · split
      · refine c05_keyOnly_bind (c05_keyOnly_modify _) fun _ => ?_
        split <;> exact c05_keyOnly_pure _
      · exact c05_keyOnly_pure _

theorem c05_openImage_bind_keyOnly (cfg : Cfg) (src : ImageSrc) (f : Bytes → List Node) :
    c05_keyOnly (do
      match ← openImage cfg src with
      | .ok bytes => pure (f bytes)
      | .error msg => do warn msg; pure []) := by
  refine c05_keyOnly_bind (c05_openImage_keyOnly cfg src) fun r => ?_
  cases r with
  | ok bytes => exact c05_keyOnly_pure _
  | error msg => exact c05_keyOnly_map (c05_warn_keyOnly msg) _

theorem c05_convertImage_keyOnly (cfg : Cfg) (i : ImageProps) : c05_keyOnly (convertImage cfg i) := by
  unfold convertImage
  refine c05_keyOnly_bind (c05_keyOnly_modify _) fun _ => ?_
  dsimp only
  split
  · exact c05_openImage_bind_keyOnly cfg i.src _
  · split
    · exact c05_openImage_bind_keyOnly cfg i.src _
    · exact c05_keyOnly_pure _

theorem c05_findPathWarn_keyOnly (cfg : Cfg) (t k a b d) : c05_keyOnly (findPathWarn cfg t k a b d) := by
  unfold findPathWarn
  split
  · exact c05_keyOnly_pure _
  · dsimp only
    split
    · exact c05_keyOnly_map (c05_warn_keyOnly _) _
    · exact c05_keyOnly_pure _

mutual
theorem c05_visit_keyOnly (cfg : Cfg) (hdr : Bool) (e : Elem) : c05_keyOnly (visit cfg hdr e) := by
  match e with
  | .paragraph p cs =>
    rw [visit]
    refine c05_keyOnly_bind (c05_findPathWarn_keyOnly ..) fun path => ?_
    cases path with
    | ignore => exact c05_keyOnly_pure _
    | elements es => exact c05_keyOnly_map (c05_visitAll_keyOnly cfg hdr cs) _
  | .run r cs =>
    rw [visit]
    refine c05_keyOnly_bind (c05_findPathWarn_keyOnly ..) fun sp => ?_
    dsimp only
    split
    · exact c05_keyOnly_pure _
    · exact c05_keyOnly_map (c05_visitAll_keyOnly cfg hdr cs) _
  | .text s => rw [visit]; exact c05_keyOnly_pure _
  | .hyperlink h cs =>
    rw [visit]
    exact c05_keyOnly_map (c05_visitAll_keyOnly cfg hdr cs) _
  | .checkbox c => rw [visit]; exact c05_keyOnly_pure _
  | .table sid sname rows =>
    rw [visit]
    dsimp only
    split
    · exact c05_keyOnly_pure _
    · exact c05_keyOnly_bind (c05_visitRows_keyOnly cfg true rows) fun (_, _) => c05_keyOnly_pure _
  | .row _ cells =>
    rw [visit]
    exact c05_keyOnly_map (c05_visitAll_keyOnly cfg hdr cells) _
  | .cell _ _ _ cs =>
    rw [visit]
    exact c05_keyOnly_map (c05_visitAll_keyOnly cfg hdr cs) _
  | .brk ty =>
    rw [visit]
    split
    · exact c05_keyOnly_pure _
    · exact c05_keyOnly_pure _
    · split <;> exact c05_keyOnly_pure _
  | .tab => rw [visit]; exact c05_keyOnly_pure _
  | .image i => rw [visit]; exact c05_convertImage_keyOnly cfg i
  | .bookmark name => rw [visit]; exact c05_keyOnly_pure _
  | .noteRef ty id =>
    rw [visit]
    exact c05_keyOnly_bind (c05_keyOnly_modify _) fun _ => c05_keyOnly_bind c05_keyOnly_get fun _ =>
      c05_keyOnly_pure _
  | .commentRef id =>
    rw [visit]
    split
    · exact c05_keyOnly_pure _
    · exact c05_keyOnly_pure _
    · split
      · exact c05_keyOnly_throw _
      · exact c05_keyOnly_bind c05_keyOnly_get fun _ => c05_keyOnly_bind (c05_keyOnly_modify _) fun _ =>
          c05_keyOnly_pure _
theorem c05_visitAll_keyOnly (cfg : Cfg) (hdr : Bool) (es : List Elem) : c05_keyOnly (visitAll cfg hdr es) := by
  match es with
  | [] => rw [visitAll]; exact c05_keyOnly_pure _
  | e :: es =>
    rw [visitAll]
    exact c05_keyOnly_bind (c05_visit_keyOnly cfg hdr e) fun _ =>
      c05_keyOnly_map (c05_visitAll_keyOnly cfg hdr es) _
theorem c05_visitRows_keyOnly (cfg : Cfg) (inHead : Bool) (es : List Elem) : c05_keyOnly (visitRows cfg inHead es) := by
  match es with
  | [] => rw [visitRows]; exact c05_keyOnly_pure _
  | e :: es =>
    rw [visitRows]
    split
    · exact c05_keyOnly_bind (c05_visit_keyOnly cfg true e) fun _ =>
        c05_keyOnly_bind (c05_visitRows_keyOnly cfg true es) fun (_, _) => c05_keyOnly_pure _
    · exact c05_keyOnly_bind (c05_visit_keyOnly cfg false e) fun _ =>
        c05_keyOnly_bind (c05_visitRows_keyOnly cfg false es) fun (_, _) => c05_keyOnly_pure _
end

theorem c05_keyOnly_throwE {α} (e : Err) (he : ∃ w, e = Err.key w) : c05_keyOnly (throw e : ConvM α) := by
  obtain ⟨w, rfl⟩ := he; exact c05_keyOnly_throw w

theorem c05_mapMConcat_keyOnly {α} (f : α → ConvM (List Node)) (hf : ∀ a, c05_keyOnly (f a)) (xs : List α) :
    c05_keyOnly (mapMConcat f xs) := by
  induction xs with
  | nil => exact c05_keyOnly_pure _
  | cons x xs ih => exact c05_keyOnly_bind (hf x) fun _ => c05_keyOnly_map ih _

theorem c05_visitNote_keyOnly (cfg : Cfg) (n : Note) : c05_keyOnly (visitNote cfg n) :=
  c05_keyOnly_map (c05_visitAll_keyOnly cfg false n.body) _

theorem c05_visitComment_keyOnly (cfg : Cfg) (lc : Str × Comment) : c05_keyOnly (visitComment cfg lc) :=
  c05_keyOnly_map (c05_visitAll_keyOnly cfg false lc.2.body) _

theorem c05_resolveNote_err (notes : List Note) (r : Str × Str) (e : Err)
    (h : resolveNote notes r = .error e) : ∃ w, e = Err.key w := by
  unfold resolveNote at h
  split at h
  · cases h
  · injection h with h; exact ⟨_, h.symm⟩

theorem c05_mapM_resolve_err (notes : List Note) (refs : List (Str × Str)) (e : Err)
    (h : refs.mapM (resolveNote notes) = .error e) : ∃ w, e = Err.key w := by
  induction refs generalizing e with
  | nil => simp [pure, Except.pure] at h
  | cons r rs ih =>
    rw [List.mapM_cons] at h
    cases hr : resolveNote notes r with
    | error e' =>
      rw [hr] at h; simp [bind, Except.bind] at h; subst h
      exact c05_resolveNote_err _ _ _ hr
    | ok n =>
      rw [hr] at h
      cases hrs : rs.mapM (resolveNote notes) with
      | error e' =>
        rw [hrs] at h; simp [bind, Except.bind] at h; subst h
        exact ih _ hrs
      | ok ns => rw [hrs] at h; simp [bind, Except.bind, pure, Except.pure] at h

theorem c05_visitDocument_keyOnly (cfg : Cfg) (d : Document) : c05_keyOnly (visitDocument cfg d) := by
  unfold visitDocument
  refine c05_keyOnly_bind (c05_visitAll_keyOnly cfg false d.children) fun nodes =>
    c05_keyOnly_bind c05_keyOnly_get fun s => ?_
  have tail (notes : List Note) :=
    c05_keyOnly_bind (c05_mapMConcat_keyOnly _ (c05_visitNote_keyOnly cfg) notes) fun noteNodes =>
    c05_keyOnly_bind c05_keyOnly_get fun s' =>
    c05_keyOnly_bind (c05_mapMConcat_keyOnly _ (c05_visitComment_keyOnly cfg) s'.refComments) fun commentNodes =>
    c05_keyOnly_pure (nodes ++ [el S!"ol" [] noteNodes, el S!"dl" [] commentNodes])
  dsimp only
  split
  · exact c05_keyOnly_bind (c05_keyOnly_pure _) tail
  · exact c05_keyOnly_bind (c05_keyOnly_throwE _ (c05_mapM_resolve_err _ _ _ ‹_›)) tail

end Mammoth
