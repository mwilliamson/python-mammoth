/-
  C01, reader half — two facts about the specifications themselves:
  (1) conservation: deferring the content of paragraphs with a deleted mark moves leaves, it never loses
      or duplicates one — what `c01_xmlLiveD` emits plus what it leaves in the buffer is a permutation of
      what came in the buffer plus the leaves of `c01_xmlLive` (which ignores the marks);
  (2) the state-free text of the converter half (`c01_bodyTextL`) is the text of the leaves.
-/
import Proofs.C01_ReadDefer
import Proofs.C01_Plain
namespace Mammoth

/-! ### conservation -/

def c01_liveAll (l : c01_Live) : List c01_Leaf := l.inline ++ l.extra

def c01_bufAll : c01_Buf → List c01_Leaf
  | [] => []
  | l :: b => c01_liveAll l ++ c01_bufAll b

def c01_cnt (x : c01_Leaf) (l : c01_Live) : Nat := l.inline.count x + l.extra.count x

def c01_bufCnt (x : c01_Leaf) : c01_Buf → Nat
  | [] => 0
  | l :: b => c01_cnt x l + c01_bufCnt x b

theorem c01_cnt_empty (x : c01_Leaf) : c01_cnt x {} = 0 := rfl
theorem c01_cnt_append (x : c01_Leaf) (a b : c01_Live) : c01_cnt x (a.append b) = c01_cnt x a + c01_cnt x b := by
  simp only [c01_cnt, c01_Live.append, List.count_append]; omega

theorem c01_bufCnt_split (x : c01_Leaf) (b : c01_Buf) :
    c01_bufCnt x b = c01_cnt x (c01_bufHead b) + c01_bufCnt x (c01_bufTail b) := by
  cases b with
  | nil => rfl
  | cons l b => rfl

theorem c01_bufCnt_cons (x : c01_Leaf) (l : c01_Live) (b : c01_Buf) :
    c01_bufCnt x (c01_bufCons l b) = c01_cnt x l + c01_bufCnt x b := by
  unfold c01_bufCons
  split
  · rename_i h
    simp [c01_bufCnt, c01_cnt, h.1, h.2.1, h.2.2]
  · rfl

mutual
theorem c01_conserve (x : c01_Leaf) (b : c01_Buf) (n : XmlNode) :
    c01_cnt x (c01_xmlLiveD b n).live + c01_bufCnt x (c01_xmlLiveD b n).buf =
      c01_bufCnt x b + c01_cnt x (c01_xmlLive n) := by
  match n with
  | .text s => simp [c01_cnt_empty]
  | .elem name as cs =>
    by_cases hleaf : c01_leafKind (c01_kindOf name) = true
    · rw [c01_xmlLiveD_leaf _ as cs hleaf]; dsimp only; omega
    · cases hk : c01_kindOf name with
      | through =>
        rw [c01_xmlLiveD_through _ as cs hk, c01_xmlLive_through as cs hk]
        exact c01_conserveL x b cs
      | paragraph =>
        have ih := c01_conserveL x (c01_bufTail b) cs
        have hb := c01_bufCnt_split x b
        rw [c01_xmlLiveD_paragraph _ as cs hk, c01_xmlLive_paragraph as cs hk]
        split
        · simp only [c01_bufCnt_cons, c01_cnt_append, c01_cnt_empty]
          simp only [c01_cnt, List.count_append, List.count_nil] at ih hb ⊢
          omega
        · simp only [c01_cnt, c01_Live.append, List.count_append, List.count_nil] at ih hb ⊢
          omega
      | pict =>
        have ih := c01_conserveL x b cs
        rw [c01_xmlLiveD_pict _ as cs hk, c01_xmlLive_pict as cs hk]
        simp only [c01_cnt, List.count_append, List.count_nil] at ih ⊢
        omega
      | alt =>
        simp only [c01_xmlLiveD, c01_xmlLive, hk]
        exact c01_conserveIn x _ b cs
      | sdt =>
        simp only [c01_xmlLiveD, c01_xmlLive, hk]
        split
        · simp [c01_cnt_empty]
        · exact c01_conserveIn x _ b cs
      | _ => rw [hk] at hleaf; exact absurd rfl hleaf
theorem c01_conserveL (x : c01_Leaf) (b : c01_Buf) (ns : List XmlNode) :
    c01_cnt x (c01_xmlLiveDL b ns).live + c01_bufCnt x (c01_xmlLiveDL b ns).buf =
      c01_bufCnt x b + c01_cnt x (c01_xmlLiveL ns) := by
  match ns with
  | [] => simp [c01_cnt_empty]
  | n :: ns =>
    have h1 := c01_conserve x b n
    have h2 := c01_conserveL x (c01_xmlLiveD b n).buf ns
    rw [c01_xmlLiveDL_cons, c01_xmlLiveL_cons]
    simp only [c01_cnt_append]
    omega
theorem c01_conserveIn (x : c01_Leaf) (child : Str) (b : c01_Buf) (ns : List XmlNode) :
    c01_cnt x (c01_xmlLiveDIn child b ns).live + c01_bufCnt x (c01_xmlLiveDIn child b ns).buf =
      c01_bufCnt x b + c01_cnt x (c01_xmlLiveIn child ns) := by
  match ns with
  | [] => simp [c01_xmlLiveDIn, c01_xmlLiveIn, c01_cnt_empty]
  | .text s :: rest =>
    simp only [c01_xmlLiveDIn, c01_xmlLiveIn]
    exact c01_conserveIn x child b rest
  | .elem n as cs :: rest =>
    simp only [c01_xmlLiveDIn, c01_xmlLiveIn]
    split
    · exact c01_conserveL x b cs
    · exact c01_conserveIn x child b rest
end

theorem c01_count_liveAll (x : c01_Leaf) (l : c01_Live) : (c01_liveAll l).count x = c01_cnt x l := by
  simp [c01_liveAll, c01_cnt, List.count_append]

theorem c01_count_bufAll (x : c01_Leaf) (b : c01_Buf) : (c01_bufAll b).count x = c01_bufCnt x b := by
  induction b with
  | nil => rfl
  | cons l b ih => simp [c01_bufAll, c01_bufCnt, List.count_append, c01_count_liveAll, ih]

/-- nothing lost, nothing duplicated by the deferral: emitted leaves and deferred leaves together are a
    permutation of the leaves that came in the buffer and the leaves of the nodes -/
theorem c01_conserve_perm (b : c01_Buf) (ns : List XmlNode) :
    (c01_liveAll (c01_xmlLiveDL b ns).live ++ c01_bufAll (c01_xmlLiveDL b ns).buf).Perm
      (c01_bufAll b ++ c01_liveAll (c01_xmlLiveL ns)) := by
  rw [List.perm_iff_count]
  intro x
  simp only [List.count_append, c01_count_liveAll, c01_count_bufAll]
  exact c01_conserveL x b ns

/-! ### the text of the leaves -/

mutual
theorem c01_bodyText_leaves (e : Elem) : c01_bodyText e = c01_leavesText (c01_elemLeaves e) := by
  match e with
  | .paragraph _ cs | .run _ cs | .hyperlink _ cs | .table _ _ cs | .row _ cs | .cell _ _ _ cs =>
    simp only [c01_bodyText, c01_elemLeaves]
    exact c01_bodyTextL_leaves cs
  | .text _ | .tab | .noteRef _ _ | .commentRef _ =>
    simp [c01_bodyText, c01_elemLeaves, c01_leavesText, c01_leafText]
  | .checkbox _ | .brk _ | .image _ | .bookmark _ => simp [c01_bodyText, c01_elemLeaves, c01_leavesText]
theorem c01_bodyTextL_leaves (es : List Elem) : c01_bodyTextL es = c01_leavesText (c01_elemLeavesL es) := by
  match es with
  | [] => simp [c01_bodyTextL, c01_leavesText]
  | e :: es =>
    simp only [c01_bodyTextL, c01_elemLeavesL_cons, c01_leavesText_append, c01_bodyText_leaves e,
      c01_bodyTextL_leaves es]
end

end Mammoth
