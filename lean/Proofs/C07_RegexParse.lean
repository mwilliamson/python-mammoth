/-
  C07 — the tokeniser's rules as PARSED FROM THE SOURCE (`MammothModel/RegexParse.lean`):
  the white-space table of `\s` is `isSpace`; what the backtracking matcher computes, and at what
  cost, for the rules that had no hand-written counterpart yet: SYMBOL (no repetition: constant
  cost), WHITESPACE `\s+`, INTEGER `[0-9]+`, and the catch-all `.`.
-/
import MammothModel.RegexParse
import Proofs.C07_RegexIdent
namespace Mammoth

/-- the ranges of `\s` are the set `isSpace` (`Py_UNICODE_ISSPACE`) of Basic.lean -/
theorem c07_wsRanges_isSpace (c : Char) : c07_inRanges c07_wsRanges c = isSpace c := by
  simp only [c07_wsRanges, isSpace, c07_inRanges_cons, c07_inRanges_nil, Char.reduceToNat, Bool.or_false]
  generalize c.toNat = n
  -- range by range the two tables agree; `isSpace` spells `[0x2028, 0x2029]` as two points
  rw [c07_range_two 8232]
  simp only [c07_range_one, Bool.or_assoc]

theorem c07_test_space : c07_ccSpace.test = isSpace := by
  funext c; exact c07_wsRanges_isSpace c

theorem c07_test_digit' : c07_ccDigit.test = isDigit := by
  funext c; exact c07_test_digit c

theorem c07_exec_k0 (r : C07Regex) (s : Str) : r.exec s = r.run s c07_k0 := rfl

/-! ### a rule without repetition costs a constant -/

def c07_starFree : C07Regex → Bool
  | .eps => true
  | .chr _ => true
  | .seq a b => c07_starFree a && c07_starFree b
  | .alt a b => c07_starFree a && c07_starFree b
  | .star _ => false

/-- bound on the steps of a repetition-free expression when the continuation costs at most `M` -/
def c07_flatBound : C07Regex → Nat → Nat
  | .eps, M => M
  | .chr _, M => M + 1
  | .seq a b, M => c07_flatBound a (c07_flatBound b M)
  | .alt a b, M => c07_flatBound a M + c07_flatBound b M + 1
  | .star _, _ => 0

theorem c07_flat_cost (r : C07Regex) (h : c07_starFree r = true) :
    ∀ (s : Str) (k : Str → C07Res) (M : Nat), (∀ s', (k s').1 ≤ M) →
      (r.run s k).1 ≤ c07_flatBound r M := by
  induction r with
  | eps => intro s k M hk; exact hk s
  | chr p =>
    intro s k M hk
    cases s with
    | nil => rw [c07_run_chr_nil]; simp [c07_flatBound]
    | cons c cs =>
      rw [c07_run_chr_cons]
      have := hk cs
      split <;> simp [c07_flatBound] <;> omega
  | seq a b iha ihb =>
    intro s k M hk
    simp only [c07_starFree, Bool.and_eq_true] at h
    rw [c07_run_seq]
    exact iha h.1 s _ _ (fun s' => ihb h.2 s' k M hk)
  | alt a b iha ihb =>
    intro s k M hk
    simp only [c07_starFree, Bool.and_eq_true] at h
    rw [c07_run_alt]
    have h1 := iha h.1 s k M hk
    have h2 := ihb h.2 s k M hk
    have h3 := c07_orElse_fst_le (a.run s k) (b.run s k)
    simp only [c07_tick_fst, c07_flatBound]
    omega
  | star a _ => simp [c07_starFree] at h

theorem c07_flat_steps (r : C07Regex) (h : c07_starFree r = true) (s : Str) :
    r.steps s ≤ c07_flatBound r 0 :=
  c07_flat_cost r h s _ 0 (fun _ => Nat.le_refl _)

/-! ### `p*` and `p+` for a single class `p` : exactly `spanP` -/

theorem c07_starChr_k0 (p : C07Class) (s : Str) :
    (C07Regex.star (.chr p)).run s c07_k0 =
      (2 * (spanP p.test s).1.length + 2, some (spanP p.test s).2) := by
  induction s with
  | nil =>
    rw [c07_star_unfold, c07_run_chr_nil]
    simp [spanP, c07_k0, C07Res.orElse, C07Res.tick]
  | cons c cs ih =>
    rw [c07_star_unfold, c07_run_chr_cons]
    by_cases h : p.test c = true
    · simp [h, spanP, ih, C07Res.orElse, C07Res.tick]
      omega
    · have h' : p.test c = false := by simpa using h
      simp [h', spanP, c07_k0, C07Res.orElse, C07Res.tick]

theorem c07_plusChr_exec (p : C07Class) (s : Str) :
    (C07Regex.plus (.chr p)).exec s =
      if (spanP p.test s).1 = [] then (1, none)
      else (2 * (spanP p.test s).1.length + 1, some (spanP p.test s).2) := by
  rw [c07_exec_k0, C07Regex.plus, c07_run_seq]
  cases s with
  | nil => rw [c07_run_chr_nil]; simp [spanP]
  | cons c cs =>
    rw [c07_run_chr_cons]
    by_cases h : p.test c = true
    · simp [h, spanP, c07_starChr_k0, C07Res.tick]
      omega
    · have h' : p.test c = false := by simpa using h
      simp [h', spanP]

/-- the `match` of `lexWs` / `lexInt` as an `if` -/
theorem c07_spanOpt_eq (p : Char → Bool) (s : Str) :
    (match spanP p s with | ([], _) => none | (m, r) => some (m, r)) =
      if (spanP p s).1 = [] then none else some (spanP p s) := by
  split
  · rename_i h; simp [h]
  · rename_i m r hne h
    have : m ≠ [] := by
      intro e; subst e; exact hne rfl
    simp [h, this]

theorem c07_lexWs_eq (s : Str) :
    lexWs s = if (spanP isSpace s).1 = [] then none else some (spanP isSpace s) :=
  c07_spanOpt_eq isSpace s

theorem c07_lexInt_eq (s : Str) :
    lexInt s = if (spanP isDigit s).1 = [] then none else some (spanP isDigit s) :=
  c07_spanOpt_eq isDigit s

theorem c07_unknownRule_exec (s : Str) :
    c07_unknownRule.exec s =
      match s with
      | c :: cs => if isDot c then (1, some cs) else (1, none)
      | [] => (1, none) := by
  cases s with
  | nil => rfl
  | cons c cs =>
    rw [c07_exec_k0, c07_unknownRule, c07_run_chr_cons, c07_test_any]
    simp only [isDot]
    by_cases h : (c != '\n') = true
    · simp only [h, if_true]; rfl
    · simp only [h]; rfl

theorem c07_test_lit (a c : Char) : (C07Class.lit a).test c = (c == a) := rfl

theorem c07_beq_false_of_head (a c : Char) (cs : Str) (h : ∀ cs', c :: cs = a :: cs' → False) :
    (c == a) = false := by
  cases hb : c == a with
  | false => rfl
  | true => simp at hb; subst hb; exact absurd rfl (h cs)

theorem c07_symbolRule_starFree : c07_starFree c07_symbolRule = true := by decide
theorem c07_symbolRule_bound : c07_flatBound c07_symbolRule 0 = 25 := by decide

theorem c07_symbol_steps (s : Str) : c07_symbolRule.steps s ≤ 25 := by
  have := c07_flat_steps c07_symbolRule c07_symbolRule_starFree s
  rwa [c07_symbolRule_bound] at this

/-- the ordered alternation `:|>|=>|\^=|=|\(|\)|\[|\]|\||!|\.` leaves what `lexSymbol` leaves -/
theorem c07_symbol_result (s : Str) : (c07_symbolRule.exec s).2 = (lexSymbol s).map (·.2) := by
  fun_cases lexSymbol s
  case case5 cs hx =>
    cases cs with
    | nil => rfl
    | cons d ds =>
      have hd : (d == '>') = false := c07_beq_false_of_head '>' d ds hx
      simp [c07_symbolRule, c07_exec_k0, c07_run_alt, c07_run_seq, c07_run_chr_cons, c07_test_lit,
        c07_k0, hd, C07Res.orElse, C07Res.tick]
  case case13 h1 h2 h3 h4 h5 h6 h7 h8 h9 h10 h11 h12 =>
    cases s with
    | nil => rfl
    | cons c cs =>
      have e1 := c07_beq_false_of_head _ c cs h1
      have e2 := c07_beq_false_of_head _ c cs h2
      have e5 := c07_beq_false_of_head _ c cs h5
      have e6 := c07_beq_false_of_head _ c cs h6
      have e7 := c07_beq_false_of_head _ c cs h7
      have e8 := c07_beq_false_of_head _ c cs h8
      have e9 := c07_beq_false_of_head _ c cs h9
      have e10 := c07_beq_false_of_head _ c cs h10
      have e11 := c07_beq_false_of_head _ c cs h11
      have e12 := c07_beq_false_of_head _ c cs h12
      by_cases hc : c = '^'
      · subst hc
        cases cs with
        | nil => rfl
        | cons d ds =>
          have hd : (d == '=') = false := c07_beq_false_of_head '=' d ds (fun cs' e => h4 cs' (by rw [e]))
          simp [c07_symbolRule, c07_exec_k0, c07_run_alt, c07_run_seq, c07_run_chr_cons, c07_test_lit,
            hd, C07Res.orElse, C07Res.tick]
      · have e4 : (c == '^') = false := by simpa using hc
        simp [c07_symbolRule, c07_exec_k0, c07_run_alt, c07_run_seq, c07_run_chr_cons, c07_test_lit,
          e1, e2, e4, e5, e6, e7, e8, e9, e10, e11, e12, C07Res.orElse, C07Res.tick]
  -- a string that starts with one of the other symbols: both sides compute
  all_goals rfl

end Mammoth
