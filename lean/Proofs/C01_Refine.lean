/-
  C01 — the converter's visitor (`conversion.py`, `_DocumentConverter.visit_*`): its run equation per
  element kind (`c01_visit_*`), postconditions on `ConvM` (`c01_post*`), the text projection of a result
  (`c01_proj_*`), and `c01_text_visit`: the visitor's output has the text `c01_elemText` specifies.
-/
import Proofs.C01_Spec
import Proofs.C03_Lemmas
namespace Mammoth

/-! ### wrapping adds no text -/

@[simp] theorem c01_text_wrapElems (es : List Tag) (ns : List Node) :
    textOfL (wrapElems es ns) = textOfL ns := by
  induction es with
  | nil => simp [wrapElems]
  | cons t ts ih => simp [wrapElems, ih]

/-- a forest without text stays without text, whatever it is wrapped in -/
theorem c01_text_wrapAll_textless (paths : List HtmlPath) (ns : List Node) (h : textOfL ns = []) :
    textOfL (wrapAll paths ns) = [] := by
  induction paths generalizing ns with
  | nil => simpa [wrapAll] using h
  | cons p ps ih =>
    cases p with
    | ignore => simpa [wrapAll] using ih [] (by simp)
    | elements es => simpa [wrapAll] using ih (wrapElems es ns) (by simpa using h)

@[simp] theorem c01_text_wrapAll_nil (paths : List HtmlPath) : textOfL (wrapAll paths []) = [] :=
  c01_text_wrapAll_textless paths [] (by simp)

theorem c01_text_wrapAll (paths : List HtmlPath) (ns : List Node)
    (h : paths.any HtmlPath.isIgnore = false) : textOfL (wrapAll paths ns) = textOfL ns := by
  induction paths generalizing ns with
  | nil => simp [wrapAll]
  | cons p ps ih =>
    cases p with
    | ignore => simp [HtmlPath.isIgnore] at h
    | elements es =>
      have h' : ps.any HtmlPath.isIgnore = false := by
        simpa [HtmlPath.isIgnore] using h
      simp [wrapAll, ih _ h']

attribute [simp] app_pure app_modify app_get app_throw

theorem c01_findPathWarn_run (cfg : Cfg) (t : Target) (kind : Str) (sid sname : Option Str)
    (dflt : HtmlPath) (st : ConvState) :
    findPathWarn cfg t kind sid sname dflt st
      = .ok (c01_path cfg t dflt, c01_warnState cfg t kind sid sname st) :=
  c03_findPathWarn_run cfg t kind sid sname dflt st

def c01_linkAttrs (cfg : Cfg) (h : LinkProps) : List (Str × Str) :=
  [(S!"href", match h.anchor with
      | none => pyOpt h.href
      | some a => ['#'] ++ htmlId cfg a)] ++
    (match h.targetFrame with | some t => [(S!"target", t)] | none => [])

section
variable (cfg : Cfg) (hdr : Bool) (st : ConvState)

theorem c01_visit_paragraph (p : ParaProps) (cs : List Elem) :
    visit cfg hdr (.paragraph p cs) st =
      match c01_path cfg (.paragraph p) (.elements [pathElem S!"p" true]) with
      | .ignore => .ok ([], c01_warnState cfg (.paragraph p) S!"paragraph" p.styleId p.styleName st)
      | .elements es =>
        (visitAll cfg hdr cs (c01_warnState cfg (.paragraph p) S!"paragraph" p.styleId p.styleName st)).map
          fun r => (wrapElems es (if cfg.ignoreEmpty then r.1 else .forceWrite :: r.1), r.2) := by
  simp only [visit]
  rw [app_bind, c01_findPathWarn_run]
  cases c01_path cfg (.paragraph p) (.elements [pathElem S!"p" true]) with
  | ignore => rfl
  | elements es => exact app_map _ _ _

theorem c01_visit_run (r : RunProps) (cs : List Elem) :
    visit cfg hdr (.run r cs) st =
      if (c01_runPaths cfg r).any HtmlPath.isIgnore then
        .ok (wrapAll (c01_runPaths cfg r) [],
             c01_warnState cfg (.run r.styleId r.styleName) S!"run" r.styleId r.styleName st)
      else
        (visitAll cfg hdr cs (c01_warnState cfg (.run r.styleId r.styleName) S!"run" r.styleId r.styleName st)).map
          fun p => (wrapAll (c01_runPaths cfg r) p.1, p.2) := by
  simp only [visit]
  rw [app_bind, c01_findPathWarn_run]
  simp only []
  rw [← c01_runPaths]
  split
  · rfl
  · exact app_map _ _ _

theorem c01_visit_text (s : Str) : visit cfg hdr (.text s) st = .ok ([.text s], st) := rfl

theorem c01_visit_hyperlink (h : LinkProps) (cs : List Elem) :
    visit cfg hdr (.hyperlink h cs) st =
      (visitAll cfg hdr cs st).map fun p => ([cel S!"a" (c01_linkAttrs cfg h) p.1], p.2) := by
  simp only [visit]
  exact app_map _ _ _

theorem c01_visit_checkbox (c : Bool) :
    visit cfg hdr (.checkbox c) st =
      .ok ([el S!"input" ([(S!"type", S!"checkbox")] ++ (if c then [(S!"checked", S!"checked")] else [])) []], st) :=
  rfl

theorem c01_visit_table (sid sname : Option Str) (rows : List Elem) :
    visit cfg hdr (.table sid sname rows) st =
      match c01_path cfg (.table sid sname) (.elements [pathElem S!"table" true]) with
      | .ignore => .ok ([], st)
      | .elements es =>
        (visitRows cfg true rows st).map fun r =>
          (wrapElems es (.forceWrite ::
            if bodyIndex rows == 0 then r.1.2 else [el S!"thead" [] r.1.1, el S!"tbody" [] r.1.2]), r.2) := by
  simp only [visit]
  rw [← c01_path]
  cases c01_path cfg (.table sid sname) (.elements [pathElem S!"table" true]) with
  | ignore => rfl
  | elements es =>
    simp only []
    rw [app_bind]
    cases visitRows cfg true rows st with
    | error e => rfl
    | ok r => rfl

theorem c01_visit_row (h : Bool) (cells : List Elem) :
    visit cfg hdr (.row h cells) st =
      (visitAll cfg hdr cells st).map fun p => ([el S!"tr" [] (.forceWrite :: p.1)], p.2) := by
  simp only [visit]
  exact app_map _ _ _

theorem c01_visit_cell (c r : Nat) (v : Bool) (cs : List Elem) :
    visit cfg hdr (.cell c r v cs) st =
      (visitAll cfg hdr cs st).map fun p =>
        ([el (if hdr then S!"th" else S!"td") (cellAttrs c r) (.forceWrite :: p.1)], p.2) := by
  simp only [visit]
  exact app_map _ _ _

theorem c01_visit_brk (ty : Str) :
    visit cfg hdr (.brk ty) st =
      .ok (match findPath cfg (.brk ty) with
        | some (.elements es) => wrapElems es []
        | some .ignore => []
        | none => if ty == S!"line" then [.elem (pathElem S!"br" true) []] else [], st) := by
  simp only [visit]
  cases findPath cfg (.brk ty) with
  | none => simp only []; split <;> rfl
  | some p => cases p <;> rfl

theorem c01_visit_tab : visit cfg hdr .tab st = .ok ([.text ['\t']], st) := rfl

theorem c01_visit_image (i : ImageProps) : visit cfg hdr (.image i) = convertImage cfg i := by
  simp only [visit]

theorem c01_visit_bookmark (n : Option Str) :
    visit cfg hdr (.bookmark n) st = .ok ([cel S!"a" [(S!"id", htmlId cfg (pyOpt n))] [.forceWrite]], st) := rfl

theorem c01_visit_noteRef (ty id : Str) :
    visit cfg hdr (.noteRef ty id) st =
      .ok ([el S!"sup" [] [el S!"a" [(S!"href", ['#'] ++ referentId cfg ty id), (S!"id", referenceId cfg ty id)]
              [.text (c01_noteMarker st)]]],
           { st with noteRefs := st.noteRefs ++ [(ty, id)] }) := by
  simp only [visit]
  rw [app_bind, app_modify]
  simp only []
  rw [app_bind, app_get]
  simp [c01_noteMarker]

theorem c01_visit_commentRef (id : Str) :
    visit cfg hdr (.commentRef id) st =
      match findPath cfg .commentReference with
      | none => .ok ([], st)
      | some .ignore => .ok ([], st)
      | some (.elements es) =>
        match lookupLast id (cfg.comments.map fun c => (c.id, c)) with
        | none => .error (.key id)
        | some c =>
          .ok (wrapElems es [el S!"a" [(S!"href", ['#'] ++ referentId cfg S!"comment" id),
                                       (S!"id", referenceId cfg S!"comment" id)] [.text (c01_commentLabel st c)]],
               { st with refComments := st.refComments ++ [(c01_commentLabel st c, c)] }) := by
  simp only [visit]
  cases findPath cfg .commentReference with
  | none => rfl
  | some p =>
    cases p with
    | ignore => rfl
    | elements es =>
      simp only []
      cases lookupLast id (cfg.comments.map fun c => (c.id, c)) with
      | none => rfl
      | some c => rfl
end

/-- every successful result of the computation satisfies `P` -/
def c01_post {α} (P : α → Prop) (m : ConvM α) : Prop :=
  ∀ st a st', m st = .ok (a, st') → P a

theorem c01_post_bind {α β} (P : α → Prop) (Q : β → Prop) (x : ConvM α) (f : α → ConvM β)
    (hx : c01_post P x) (h : ∀ a, P a → c01_post Q (f a)) : c01_post Q (x >>= f) := by
  intro st b st' hr
  rw [app_bind] at hr
  cases hxs : x st with
  | error e => simp [hxs] at hr
  | ok p =>
    obtain ⟨a, s⟩ := p
    simp only [hxs] at hr
    exact h a (hx st a s hxs) s b st' hr

theorem c01_post_true {α} (x : ConvM α) : c01_post (fun _ => True) x := fun _ _ _ _ => trivial

theorem c01_post_bind_any {α β} (Q : β → Prop) (x : ConvM α) (f : α → ConvM β)
    (h : ∀ a, c01_post Q (f a)) : c01_post Q (x >>= f) :=
  c01_post_bind (fun _ => True) Q x f (c01_post_true x) (fun a _ => h a)

theorem c01_post_pure {α} (P : α → Prop) (a : α) (h : P a) : c01_post P (pure a) := by
  intro st a' st' hr
  cases hr
  exact h

theorem c01_post_convertImage (cfg : Cfg) (i : ImageProps) (P : List Node → Prop)
    (himg : ∀ a, P [el S!"img" a []]) (hnil : P []) : c01_post P (convertImage cfg i) := by
  unfold convertImage
  refine c01_post_bind_any _ _ _ ?_; intro _
  extract_lets altAttr
  split
  · refine c01_post_bind_any _ _ _ ?_; intro r
    split
    · exact c01_post_pure _ _ (himg _)
    · refine c01_post_bind_any _ _ _ ?_; intro _
      exact c01_post_pure _ _ hnil
  · split
    · refine c01_post_bind_any _ _ _ ?_; intro r
      split
      · exact c01_post_pure _ _ (himg _)
      · refine c01_post_bind_any _ _ _ ?_; intro _
        exact c01_post_pure _ _ hnil
    · exact c01_post_pure _ _ (himg _)

theorem c01_proj_eq_ok {x : Except Err (List Node × ConvState)} {t : Str} {s : ConvState}
    (h : c01_proj x = .ok (t, s)) : ∃ ns, x = .ok (ns, s) ∧ textOfL ns = t := by
  cases x with
  | error e => cases h
  | ok p =>
    obtain ⟨ns, s'⟩ := p
    simp only [c01_proj_ok, Except.ok.injEq, Prod.mk.injEq] at h
    exact ⟨ns, by rw [h.2], h.1⟩

theorem c01_proj_map (r : Except Err (List Node × ConvState)) (f : List Node → List Node)
    (hf : ∀ ns, textOfL (f ns) = textOfL ns) : c01_proj (r.map fun p => (f p.1, p.2)) = c01_proj r := by
  cases r with
  | error e => rfl
  | ok p => obtain ⟨a, s⟩ := p; simp [Except.map, hf]

theorem c01_proj_append (x y : ConvM (List Node)) (st : ConvState) :
    c01_proj ((x >>= fun a => y >>= fun b => pure (a ++ b)) st) =
      match c01_proj (x st) with
      | .error e => .error e
      | .ok (ta, st1) =>
        match c01_proj (y st1) with
        | .error e => .error e
        | .ok (tb, st2) => .ok (ta ++ tb, st2) := by
  rw [app_bind]
  cases x st with
  | error e => rfl
  | ok p =>
    obtain ⟨a, st1⟩ := p
    simp only [c01_proj_ok]
    rw [app_bind]
    cases y st1 with
    | error e => rfl
    | ok q => obtain ⟨b, st2⟩ := q; simp

/-- both branches of `visitRows` are one computation in the flag `inHead && isHeaderRow r` -/
theorem c01_visitRows_cons (cfg : Cfg) (inHead : Bool) (r : Elem) (rs : List Elem) :
    visitRows cfg inHead (r :: rs) = (do
      let a ← visit cfg (inHead && isHeaderRow r) r
      let (h, b) ← visitRows cfg (inHead && isHeaderRow r) rs
      pure (if inHead && isHeaderRow r then (a ++ h, b) else (h, a ++ b))) := by
  rw [visitRows]
  cases inHead && isHeaderRow r <;> rfl

theorem c01_visitRows_false_head (cfg : Cfg) :
    ∀ (rs : List Elem) (st : ConvState) (h b : List Node) (st' : ConvState),
      visitRows cfg false rs st = .ok ((h, b), st') → h = []
  | [], st, h, b, st', hr => by
    simp only [visitRows, app_pure, Except.ok.injEq, Prod.mk.injEq] at hr
    exact hr.1.1.symm
  | r :: rs, st, h, b, st', hr => by
    simp only [visitRows, Bool.false_and, Bool.false_eq_true, if_false] at hr
    rw [app_bind] at hr
    cases h1 : visit cfg false r st with
    | error e => simp [h1] at hr
    | ok p =>
      obtain ⟨a, st1⟩ := p
      simp only [h1] at hr
      rw [app_bind] at hr
      cases h2 : visitRows cfg false rs st1 with
      | error e => simp [h2] at hr
      | ok q =>
        obtain ⟨⟨h', b'⟩, st2⟩ := q
        have ih := c01_visitRows_false_head cfg rs st1 h' b' st2 h2
        simp only [h2, app_pure, Except.ok.injEq, Prod.mk.injEq] at hr
        rw [← hr.1.1, ih]

theorem c01_visitRows_head_nil (cfg : Cfg) (rows : List Elem) (hb : bodyIndex rows = 0)
    (st : ConvState) (h b : List Node) (st' : ConvState)
    (hr : visitRows cfg true rows st = .ok ((h, b), st')) : h = [] := by
  cases rows with
  | nil => 
    simp only [visitRows, app_pure, Except.ok.injEq, Prod.mk.injEq] at hr
    exact hr.1.1.symm
  | cons r rs =>
    have hh : isHeaderRow r = false := by
      unfold bodyIndex at hb
      cases hx : isHeaderRow r with
      | false => rfl
      | true => simp [hx] at hb
    have : visitRows cfg true (r :: rs) = visitRows cfg false (r :: rs) := by
      simp [visitRows, hh]
    rw [this] at hr
    exact c01_visitRows_false_head cfg _ st h b st' hr
mutual
theorem c01_text_visit (cfg : Cfg) (hdr : Bool) (e : Elem) (st : ConvState) :
    c01_proj (visit cfg hdr e st) = c01_elemText cfg st e := by
  match e with
  | .paragraph p cs =>
    rw [c01_visit_paragraph]
    simp only [c01_elemText]
    cases c01_path cfg (.paragraph p) (.elements [pathElem S!"p" true]) with
    | ignore => rfl
    | elements es =>
      simp only [HtmlPath.isIgnore, Bool.false_eq_true, if_false]
      rw [c01_proj_map _ (fun ns => wrapElems es (if cfg.ignoreEmpty then ns else .forceWrite :: ns))
        (by intro ns; split <;> simp)]
      exact c01_text_visitAll cfg hdr cs _
  | .run r cs =>
    rw [c01_visit_run]
    simp only [c01_elemText]
    split
    · simp
    · rename_i h
      rw [c01_proj_map _ (wrapAll (c01_runPaths cfg r)) (fun ns => c01_text_wrapAll _ ns (by simpa using h))]
      exact c01_text_visitAll cfg hdr cs _
  | .text s => simp [c01_visit_text, c01_elemText]
  | .hyperlink h cs =>
    rw [c01_visit_hyperlink, c01_proj_map _ (fun ns => [cel S!"a" _ ns]) (by intro ns; simp [cel])]
    simp only [c01_elemText]
    exact c01_text_visitAll cfg hdr cs _
  | .checkbox c => simp [c01_visit_checkbox, c01_elemText, el]
  | .table sid sname rows =>
    rw [c01_visit_table]
    simp only [c01_elemText]
    cases c01_path cfg (.table sid sname) (.elements [pathElem S!"table" true]) with
    | ignore => rfl
    | elements es =>
      simp only [HtmlPath.isIgnore, Bool.false_eq_true, if_false]
      have ih := c01_text_visitRows cfg true rows st
      cases hv : visitRows cfg true rows st with
      | error err => rw [hv] at ih; exact ih
      | ok q =>
        obtain ⟨⟨h, b⟩, st1⟩ := q
        rw [hv] at ih
        rw [← ih]
        simp only [Except.map, c01_projRows_ok, c01_proj_ok, c01_text_wrapElems, textOfL_cons, textOf_fw,
          List.nil_append]
        split
        · rename_i hb
          have : h = [] := c01_visitRows_head_nil cfg rows (by simpa using hb) st h b st1 hv
          simp [this]
        · simp [el]
  | .row h cells =>
    rw [c01_visit_row, c01_proj_map _ (fun ns => [el S!"tr" [] (.forceWrite :: ns)]) (by intro ns; simp [el])]
    simp only [c01_elemText]
    exact c01_text_visitAll cfg hdr cells _
  | .cell a b c cs =>
    rw [c01_visit_cell, c01_proj_map _ (fun ns => [el _ _ (.forceWrite :: ns)]) (by intro ns; simp [el])]
    simp only [c01_elemText]
    exact c01_text_visitAll cfg hdr cs _
  | .brk ty =>
    rw [c01_visit_brk]
    simp only [c01_elemText, c01_proj_ok]
    cases findPath cfg (.brk ty) with
    | none => simp only []; split <;> simp
    | some p => cases p <;> simp
  | .tab => simp [c01_visit_tab, c01_elemText]
  | .image i =>
    simp only [c01_visit_image, c01_elemText]
    cases h : convertImage cfg i st with
    | error err => simp
    | ok p =>
      obtain ⟨ns, st1⟩ := p
      simp [c01_post_convertImage cfg i (fun ns => textOfL ns = []) (by simp [el]) rfl st ns st1 h]
  | .bookmark n => simp [c01_visit_bookmark, c01_elemText, cel]
  | .noteRef ty id => simp [c01_visit_noteRef, c01_elemText, el]
  | .commentRef id =>
    rw [c01_visit_commentRef]
    simp only [c01_elemText]
    cases findPath cfg .commentReference with
    | none => rfl
    | some p =>
      cases p with
      | ignore => rfl
      | elements es =>
        simp only []
        cases lookupLast id (List.map (fun c => (c.id, c)) cfg.comments) with
        | none => rfl
        | some c => simp [el]
theorem c01_text_visitAll (cfg : Cfg) (hdr : Bool) (es : List Elem) (st : ConvState) :
    c01_proj (visitAll cfg hdr es st) = c01_elemsText cfg st es := by
  match es with
  | [] => simp [visitAll, c01_elemsText]
  | e :: es =>
    simp only [visitAll, c01_elemsText]
    rw [c01_proj_append, c01_text_visit cfg hdr e st]
    cases c01_elemText cfg st e with
    | error err => rfl
    | ok p =>
      obtain ⟨a, st1⟩ := p
      simp only []
      rw [c01_text_visitAll cfg hdr es st1]
      rfl
theorem c01_text_visitRows (cfg : Cfg) (inHead : Bool) (rs : List Elem) (st : ConvState) :
    c01_projRows (visitRows cfg inHead rs st) = c01_elemsText cfg st rs := by
  match rs with
  | [] => simp [visitRows, c01_elemsText]
  | r :: rs =>
    rw [c01_visitRows_cons, c01_elemsText, app_bind]
    generalize (inHead && isHeaderRow r) = d
    have ih1 := c01_text_visit cfg d r st
    cases h1 : visit cfg d r st with
    | error err => rw [h1] at ih1; simp [← ih1]
    | ok p =>
      obtain ⟨a, st1⟩ := p
      rw [h1] at ih1
      simp only [c01_proj_ok] at ih1
      simp only [← ih1]
      rw [app_bind]
      have ih2 := c01_text_visitRows cfg d rs st1
      cases h2 : visitRows cfg d rs st1 with
      | error err => rw [h2] at ih2; simp [← ih2]
      | ok q =>
        obtain ⟨⟨h, b⟩, st2⟩ := q
        rw [h2] at ih2
        simp only [c01_projRows_ok] at ih2
        cases d with
        | true => simp [← ih2]
        | false =>
          have : h = [] := c01_visitRows_false_head cfg rs st1 h b st2 h2
          subst this
          simp [← ih2]
end
end Mammoth
