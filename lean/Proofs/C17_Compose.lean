/-
  C17 — for the composition from the XML of a story to the `<img … />` tags of the HTML text.
-/
import Proofs.C17_ReadImages
import Proofs.C17_VisitDoc
import Proofs.C01_Plain
namespace Mammoth

/-! ### without `!` mappings every image is visible -/

mutual
theorem c17_visImages_noIgnore (cfg : Cfg) (hm : c01_noIgnoreMap cfg = true) (e : Elem) :
    c17_visImages cfg e = c17_elemImages e := by
  match e with
  | .paragraph p cs =>
    simp only [c17_visImages, c17_elemImages, c01_noIgnore_path cfg hm, Bool.false_eq_true, if_false]
    exact c17_visImagesL_noIgnore cfg hm cs
  | .run r cs =>
    simp only [c17_visImages, c17_elemImages, c01_noIgnore_runPaths cfg hm, Bool.false_eq_true, if_false]
    exact c17_visImagesL_noIgnore cfg hm cs
  | .table sid sname rows =>
    simp only [c17_visImages, c17_elemImages, c01_noIgnore_path cfg hm, Bool.false_eq_true, if_false]
    exact c17_visImagesL_noIgnore cfg hm rows
  | .hyperlink _ cs => simp only [c17_visImages, c17_elemImages]; exact c17_visImagesL_noIgnore cfg hm cs
  | .row _ cs => simp only [c17_visImages, c17_elemImages]; exact c17_visImagesL_noIgnore cfg hm cs
  | .cell _ _ _ cs => simp only [c17_visImages, c17_elemImages]; exact c17_visImagesL_noIgnore cfg hm cs
  | .image i => simp [c17_visImages, c17_elemImages]
  | .text _ => simp [c17_visImages, c17_elemImages]
  | .tab => simp [c17_visImages, c17_elemImages]
  | .noteRef _ _ => simp [c17_visImages, c17_elemImages]
  | .commentRef _ => simp [c17_visImages, c17_elemImages]
  | .checkbox _ => simp [c17_visImages, c17_elemImages]
  | .brk _ => simp [c17_visImages, c17_elemImages]
  | .bookmark _ => simp [c17_visImages, c17_elemImages]
theorem c17_visImagesL_noIgnore (cfg : Cfg) (hm : c01_noIgnoreMap cfg = true) (es : List Elem) :
    c17_visImagesL cfg es = c17_elemImagesL es := by
  match es with
  | [] => simp [c17_visImagesL]
  | e :: es =>
    simp only [c17_visImagesL, c17_elemImagesL_cons, c17_visImages_noIgnore cfg hm e,
      c17_visImagesL_noIgnore cfg hm es]
end

/-- all images of a document in output order: body, rendered notes, rendered comments -/
def c17_docAllImages (cfg : Cfg) (d : Document) : List ImageProps :=
  c17_elemImagesL d.children ++
  (c10_docNotes cfg d).flatMap (fun n => c17_elemImagesL n.body) ++
  (c10_docComments cfg d).flatMap (fun c => c17_elemImagesL c.body)

theorem c17_docImages_noIgnore (cfg : Cfg) (hm : c01_noIgnoreMap cfg = true) (d : Document) :
    c17_docImages cfg d = c17_docAllImages cfg d := by
  unfold c17_docImages c17_docAllImages
  simp only [c17_visImagesL_noIgnore cfg hm]

/-! ### what the reader of the HTML sees of an `img` -/

/-- the `src` and `alt` attributes of a tag -/
def c17_srcAltOf (attrs : List (Str × Str)) : Option Str × Option Str :=
  (Dict.get? S!"src" attrs, Dict.get? S!"alt" attrs)

/-- the alt text that reaches the output: an empty one is left out -/
def c17_altOut (i : ImageProps) : Option Str :=
  match i.altText with
  | some a => if a.isEmpty then none else some a
  | none => none

/-- what the default converter must produce for an image whose bytes can be read: `src` = the data URI
    of exactly those bytes under the image's content type, `alt` = its alt text -/
def c17_expected (cfg : Cfg) (i : ImageProps) : Option (Option Str × Option Str) :=
  (c17_opened cfg i.src).map fun bytes => (some (c17_dataUri i bytes), c17_altOut i)

theorem c17_srcAlt_dataUri (i : ImageProps) (src : Str) :
    c17_srcAltOf (c17_imgTag (c17_altAttr i ++ [(S!"src", src)])).attrs = (some src, c17_altOut i) := by
  unfold c17_srcAltOf c17_imgTag c17_altOut
  simp only [Dict.get?_ofList, lookupLast_append]
  refine Prod.ext ?_ ?_
  · simp [lookupLast]
  · unfold c17_altAttr
    cases i.altText with
    | none => simp [lookupLast]
    | some a => by_cases ha : a.isEmpty <;> simp [lookupLast, ha]

theorem c17_imgOf_dataUri (cfg : Cfg) (hc : cfg.imageConv = .dataUri) (i : ImageProps) :
    (c17_imgOf cfg i).map (fun t => c17_srcAltOf t.attrs) = (c17_expected cfg i).toList := by
  unfold c17_imgOf c17_expected
  simp only [hc]
  cases c17_opened cfg i.src with
  | none => rfl
  | some b => simp [c17_srcAlt_dataUri]

theorem c17_imgsOf_dataUri (cfg : Cfg) (hc : cfg.imageConv = .dataUri) (is : List ImageProps) :
    (is.flatMap (c17_imgOf cfg)).map (fun t => c17_srcAltOf t.attrs) = is.filterMap (c17_expected cfg) := by
  induction is with
  | nil => rfl
  | cons i is ih =>
    simp only [List.flatMap_cons, List.map_append, ih, c17_imgOf_dataUri cfg hc i, List.filterMap_cons]
    cases c17_expected cfg i <;> simp

/-- every image can be read: embedded ones are in the archive, linked ones exist in the outside world -/
def c17_allPresent (cfg : Cfg) (is : List ImageProps) : Bool := is.all fun i => (c17_opened cfg i.src).isSome

end Mammoth
