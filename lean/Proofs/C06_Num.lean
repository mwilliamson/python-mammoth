/-
  C06_Num — the decimal printer `c06_printNat` and the model's `digitsToNat`.
-/
import Proofs.C06_Syntax
namespace Mammoth

theorem c06_digitChar_val : ∀ d, d < 10 → (c06_digitChar d).toNat - '0'.toNat = d := by decide

theorem c06_digitChar_isDigit : ∀ d, d < 10 → isDigit (c06_digitChar d) = true := by decide

theorem c06_digitsToNat_snoc (s : Str) (c : Char) :
    digitsToNat (s ++ [c]) = digitsToNat s * 10 + (c.toNat - '0'.toNat) := by
  simp [digitsToNat, List.foldl_append]

theorem c06_digitsToNat_printNatF : ∀ (f n : Nat), n < f → digitsToNat (c06_printNatF f n) = n := by
  intro f
  induction f with
  | zero => intro n h; omega
  | succ f ih =>
    intro n h
    unfold c06_printNatF
    by_cases h10 : n < 10
    · rw [if_pos h10]
      have := c06_digitsToNat_snoc [] (c06_digitChar n)
      simp only [List.nil_append] at this
      rw [this, c06_digitChar_val n h10]; simp [digitsToNat]
    · rw [if_neg h10, c06_digitsToNat_snoc, ih (n / 10) (by omega), c06_digitChar_val _ (by omega)]
      omega

theorem c06_digitsToNat_printNat (n : Nat) : digitsToNat (c06_printNat n) = n :=
  c06_digitsToNat_printNatF (n + 1) n (by omega)

theorem c06_printNatF_digits : ∀ (f n : Nat), ∀ c ∈ c06_printNatF f n, isDigit c = true := by
  intro f
  induction f with
  | zero => intro n c h; simp [c06_printNatF] at h; subst h; decide
  | succ f ih =>
    intro n c h
    unfold c06_printNatF at h
    by_cases h10 : n < 10
    · rw [if_pos h10] at h; simp at h; subst h; exact c06_digitChar_isDigit n h10
    · rw [if_neg h10] at h; simp at h
      rcases h with h | h
      · exact ih _ _ h
      · subst h; exact c06_digitChar_isDigit _ (by omega)

theorem c06_printNat_digits (n : Nat) : ∀ c ∈ c06_printNat n, isDigit c = true :=
  c06_printNatF_digits (n + 1) n

theorem c06_printNatF_ne_nil : ∀ (f n : Nat), c06_printNatF f n ≠ [] := by
  intro f n
  cases f with
  | zero => simp [c06_printNatF]
  | succ f => unfold c06_printNatF; split <;> simp

theorem c06_printNat_ne_nil (n : Nat) : c06_printNat n ≠ [] := c06_printNatF_ne_nil _ _

/-- the level index the model computes from the written number `n ≥ 1` is `str(n - 1)` -/
theorem c06_levelIndexOf_printNat (n : Nat) (h : 1 ≤ n) :
    levelIndexOf (c06_printNat n) = natToStr (n - 1) := by
  unfold levelIndexOf
  simp only [c06_digitsToNat_printNat]
  have : (n == 0) = false := by simp; omega
  simp [this]

end Mammoth
