/-
  C11 — first-occurrence reading of toggles, unmapped properties add nothing under
  arbitrary other mappings, adjacent runs are wrapped one by one.
-/
import Proofs.C11_Lemmas
namespace Mammoth

/-- no child ELEMENT of the list has that name (text nodes never count) -/
def c11e_noChild (name : Str) : List XmlNode → Bool
  | [] => true
  | .elem n _ _ :: rest => !(n == name) && c11e_noChild name rest
  | .text _ :: rest => c11e_noChild name rest

theorem c11e_findChild_skip (name : Str) (pre rest : List XmlNode) (h : c11e_noChild name pre = true) :
    findChild name (pre ++ rest) = findChild name rest := by
  induction pre with
  | nil => rfl
  | cons p pre ih =>
    cases p with
    | text s => simpa [findChild, c11e_noChild] using ih (by simpa [c11e_noChild] using h)
    | elem n a c =>
      simp only [c11e_noChild, Bool.and_eq_true, Bool.not_eq_true'] at h
      simp only [List.cons_append, findChild, h.1, Bool.false_eq_true, if_false]
      exact ih h.2

/-- the run properties with underline, all caps, small caps and highlight cleared -/
def c11e_clear (r : RunProps) : RunProps :=
  { r with underline := false, allCaps := false, smallCaps := false, highlight := none }

theorem c11e_propPath_unmapped (cfg : Cfg) (t : Target) (h : findStyle cfg.upper cfg.styleMap t = none) :
    propPath cfg t none = .elements [] := by
  simp [propPath, findPath, h]

theorem c11e_any_if1 (b : Bool) (p : HtmlPath) :
    (if b = true then [p] else []).any HtmlPath.isIgnore = (b && p.isIgnore) := by
  cases b <;> simp

theorem c11e_unmapped (cfg : Cfg) (r : RunProps)
    (hu : findStyle cfg.upper cfg.styleMap .underline = none)
    (hc : findStyle cfg.upper cfg.styleMap .allCaps = none)
    (hsc : findStyle cfg.upper cfg.styleMap .smallCaps = none)
    (hh : c11_highlightSpec cfg r.highlight = []) :
    ∀ ns, wrapAll (runPropPaths cfg r) ns = wrapAll (runPropPaths cfg (c11e_clear r)) ns := by
  intro ns
  -- each unmapped toggle contributes the empty path, which wraps nothing; so does the highlight, by `hh`
  have hf : ∀ c, r.highlight = some c → findPath cfg (.highlight c) = none := by
    intro c hr
    rw [hr, c11_highlightSpec] at hh
    cases hs : findStyle cfg.upper cfg.styleMap (.highlight c) with
    | none => rw [findPath, hs, Option.map_none]
    | some s => rw [hs] at hh; cases hh
  cases hr : r.highlight with
  | none =>
    simp only [runPropPaths, c11e_clear, hr, c11e_propPath_unmapped cfg _ hu, c11e_propPath_unmapped cfg _ hc,
      c11e_propPath_unmapped cfg _ hsc, c03_wrapAll_append, c11_wrapAll_if_empty, Bool.false_eq_true,
      if_false, wrapAll]
    rfl
  | some c =>
    simp only [runPropPaths, c11e_clear, hr, hf c hr, c11e_propPath_unmapped cfg _ hu,
      c11e_propPath_unmapped cfg _ hc, c11e_propPath_unmapped cfg _ hsc, c03_wrapAll_append,
      c11_wrapAll_if_empty, Bool.false_eq_true, if_false, wrapAll]
    rfl

/-! adjacent runs -/

theorem c11e_wrapAll_ignored (ps : List HtmlPath) (ns : List Node) (h : ps.any HtmlPath.isIgnore = true) :
    wrapAll ps ns = wrapAll ps [] := by
  induction ps generalizing ns with
  | nil => simp at h
  | cons p ps ih =>
    cases p with
    | ignore => rfl
    | elements es =>
      have h' : ps.any HtmlPath.isIgnore = true := by simpa [HtmlPath.isIgnore] using h
      simp only [wrapAll]
      rw [ih _ h', ih (wrapElems es []) h']

/-- all paths of a run, innermost first: the formatting paths, then the run-style path -/
def c11e_allPaths (cfg : Cfg) (r : RunProps) : List HtmlPath :=
  runPropPaths cfg r ++ [(findPath cfg (.run r.styleId r.styleName)).getD (.elements [])]

/-- the nodes of ONE run with text `s`: that text inside the run's own paths -/
def c11e_runNodes (cfg : Cfg) (p : RunProps × Str) : List Node :=
  wrapAll (c11e_allPaths cfg p.1) [.text p.2]

def c11e_runWarn (cfg : Cfg) (st : ConvState) (p : RunProps × Str) : ConvState :=
  c03_warnState cfg (.run p.1.styleId p.1.styleName) S!"run" p.1.styleId p.1.styleName st

theorem c11e_visit_textRun (cfg : Cfg) (hdr : Bool) (p : RunProps × Str) (st : ConvState) :
    (visit cfg hdr (.run p.1 [.text p.2])).run st = .ok (c11e_runNodes cfg p, c11e_runWarn cfg st p) := by
  rw [c03_visit_run, c11e_runNodes, c11e_runWarn, c11e_allPaths]
  split
  · rename_i h
    rw [c11e_wrapAll_ignored _ [.text p.2] h]
  · rfl

end Mammoth
