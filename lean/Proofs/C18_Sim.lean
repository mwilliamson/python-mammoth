/-
  C18 — whether the conversion raises (and with which error), the note references and the referenced
  comments do not depend on the outside world (`Cfg.world`) nor on the input's directory (`Cfg.base`):
  a simulation between the runs of the converter under two configurations that differ only there.
-/
import Proofs.C18_Image
namespace Mammoth

/-- `cfg` with another directory and another outside world -/
@[reducible] def c18_reworld (cfg : Cfg) (b : Option Str) (w : Str → Option Bytes) : Cfg :=
  { cfg with base := b, world := w }

/-- the part of the state that steers the control flow -/
def c18_rel (s s' : ConvState) : Prop :=
  s.noteRefs = s'.noteRefs ∧ s.refComments = s'.refComments

def c18_simR {α : Type} (R : α → α → Prop) :
    Except Err (α × ConvState) → Except Err (α × ConvState) → Prop
  | .ok (a, s), .ok (a', s') => R a a' ∧ c18_rel s s'
  | .error e, .error e' => e = e'
  | _, _ => False

/-- from related states, `m` and `m'` either raise the same error or both succeed with `R`-related
    results and related states -/
def c18_sim {α : Type} (R : α → α → Prop) (m m' : ConvM α) : Prop :=
  ∀ st st', c18_rel st st' → c18_simR R (m.run st) (m'.run st')

/-- `m` never raises and leaves note references / referenced comments alone -/
def c18_quiet {α : Type} (m : ConvM α) : Prop :=
  ∀ st, ∃ a s, m.run st = .ok (a, s) ∧ s.noteRefs = st.noteRefs ∧ s.refComments = st.refComments

abbrev c18_any {α : Type} : α → α → Prop := fun _ _ => True

theorem c18_sim_of_quiet {α : Type} {m m' : ConvM α} (h : c18_quiet m) (h' : c18_quiet m') :
    c18_sim c18_any m m' := by
  intro st st' hr
  obtain ⟨a, s, e, n1, n2⟩ := h st
  obtain ⟨a', s', e', n1', n2'⟩ := h' st'
  rw [e, e']
  exact ⟨trivial, by rw [n1, n1']; exact hr.1, by rw [n2, n2']; exact hr.2⟩

theorem c18_sim_pure {α : Type} {R : α → α → Prop} {a a' : α} (h : R a a') :
    c18_sim R (pure a : ConvM α) (pure a') := by
  intro st st' hr
  exact ⟨h, hr⟩

theorem c18_sim_throw {α : Type} (R : α → α → Prop) (e : Err) :
    c18_sim R (throw e : ConvM α) (throw e) := by
  intro st st' hr
  exact rfl

theorem c18_sim_bind {α β : Type} {R : α → α → Prop} {Q : β → β → Prop} {m m' : ConvM α}
    {f f' : α → ConvM β} (hm : c18_sim R m m')
    (hf : ∀ a a', R a a' → c18_sim Q (f a) (f' a')) : c18_sim Q (m >>= f) (m' >>= f') := by
  intro st st' hr
  rw [StateT.run_bind, StateT.run_bind]
  match m.run st, m'.run st', hm st st' hr with
  | .ok (a, s), .ok (a', s'), h => exact hf a a' h.1 s s' h.2
  | .error _, .error _, h => exact h
  | .ok _, .error _, h => exact h.elim
  | .error _, .ok _, h => exact h.elim

theorem c18_sim_weaken {α : Type} {R Q : α → α → Prop} {m m' : ConvM α}
    (h : c18_sim R m m') (hq : ∀ a a', R a a' → Q a a') : c18_sim Q m m' := by
  have := c18_sim_bind h (fun a a' r => c18_sim_pure (hq a a' r))
  rwa [bind_pure, bind_pure] at this

theorem c18_sim_modify (f f' : ConvState → ConvState)
    (h : ∀ s s', c18_rel s s' → c18_rel (f s) (f' s')) :
    c18_sim c18_any (modify f : ConvM PUnit) (modify f') := by
  intro st st' hr
  exact ⟨trivial, h _ _ hr⟩

theorem c18_sim_get : c18_sim c18_rel (get : ConvM ConvState) get := by
  intro st st' hr
  exact ⟨hr, hr⟩

/-! ### quiet computations -/

theorem c18_quiet_pure {α : Type} (a : α) : c18_quiet (pure a : ConvM α) :=
  fun st => ⟨a, st, rfl, rfl, rfl⟩

theorem c18_quiet_modify (f : ConvState → ConvState) (h1 : ∀ s, (f s).noteRefs = s.noteRefs)
    (h2 : ∀ s, (f s).refComments = s.refComments) : c18_quiet (modify f : ConvM PUnit) :=
  fun st => ⟨⟨⟩, f st, rfl, h1 st, h2 st⟩

theorem c18_quiet_bind {α β : Type} {m : ConvM α} {f : α → ConvM β} (hm : c18_quiet m)
    (hf : ∀ a, c18_quiet (f a)) : c18_quiet (m >>= f) := by
  intro st
  obtain ⟨a, s, e, n1, n2⟩ := hm st
  obtain ⟨b, s2, e2, m1, m2⟩ := hf a s
  refine ⟨b, s2, ?_, m1.trans n1, m2.trans n2⟩
  rw [StateT.run_bind, e]
  exact e2

theorem c18_quiet_warn (m : Str) : c18_quiet (warn m) :=
  c18_quiet_modify _ (fun _ => rfl) (fun _ => rfl)

theorem c18_quiet_findPathWarn (cfg : Cfg) (t : Target) (kind : Str) (sid sname : Option Str)
    (dflt : HtmlPath) : c18_quiet (findPathWarn cfg t kind sid sname dflt) :=
  fun st => ⟨_, _, c03_findPathWarn_run cfg t kind sid sname dflt st,
    (c03_warnState_fields ..).1, (c03_warnState_fields ..).2.1⟩

theorem c18_quiet_openImage_linked (cfg : Cfg) (uri : Str) :
    c18_quiet (openImage cfg (.linked uri)) := by
  intro st
  cases habs : isAbsoluteUri uri with
  | true => exact ⟨_, _, c18_openImage_abs cfg uri st habs, rfl, rfl⟩
  | false =>
    cases hb : cfg.base with
    | none => exact ⟨_, _, c18_openImage_noname cfg uri st habs hb, rfl, rfl⟩
    | some b => exact ⟨_, _, c18_openImage_rel cfg uri b st habs hb, rfl, rfl⟩

theorem c18_sim_findPathWarn (cfg : Cfg) (b : Option Str) (w : Str → Option Bytes) (t : Target)
    (kind : Str) (sid sname : Option Str) (dflt : HtmlPath) :
    c18_sim Eq (findPathWarn cfg t kind sid sname dflt)
      (findPathWarn (c18_reworld cfg b w) t kind sid sname dflt) := by
  intro st st' hr
  rw [c03_findPathWarn_run, c03_findPathWarn_run]
  obtain ⟨n, c, _⟩ := c03_warnState_fields cfg t kind sid sname st
  obtain ⟨n', c', _⟩ := c03_warnState_fields (c18_reworld cfg b w) t kind sid sname st'
  exact ⟨rfl, n.trans (hr.1.trans n'.symm), c.trans (hr.2.trans c'.symm)⟩

theorem c18_sim_openImage (cfg : Cfg) (b : Option Str) (w : Str → Option Bytes) (src : ImageSrc) :
    c18_sim c18_any (openImage cfg src) (openImage (c18_reworld cfg b w) src) := by
  cases src with
  | linked uri =>
    exact c18_sim_of_quiet (c18_quiet_openImage_linked _ _) (c18_quiet_openImage_linked _ _)
  | embedded name =>
    simp only [openImage]
    split
    · exact c18_sim_pure trivial
    · exact c18_sim_throw _ _

theorem c18_quiet_imgResult (f : Bytes → List Node) (r : Except Str Bytes) :
    c18_quiet (match r with
      | .ok bytes => (pure (f bytes) : ConvM (List Node))
      | .error msg => do warn msg; pure []) := by
  cases r with
  | ok bs => exact c18_quiet_pure _
  | error m => exact c18_quiet_bind (c18_quiet_warn _) (fun _ => c18_quiet_pure _)

theorem c18_sim_convertImage (cfg : Cfg) (b : Option Str) (w : Str → Option Bytes) (i : ImageProps) :
    c18_sim c18_any (convertImage cfg i) (convertImage (c18_reworld cfg b w) i) := by
  obtain ⟨ok, no, e⟩ := c18_convertImage_shape cfg i
  obtain ⟨ok', no', e'⟩ := c18_convertImage_shape (c18_reworld cfg b w) i
  rw [e, e']
  refine c18_sim_bind (c18_sim_modify _ _ (fun s s' h => h)) ?_
  intro _ _ _
  -- `c18_opens` looks at the image converter only, which `c18_reworld` leaves alone
  show c18_sim c18_any (if c18_opens cfg = true then _ else _) (if c18_opens cfg = true then _ else _)
  split
  · refine c18_sim_bind (c18_sim_openImage cfg b w i.src) ?_
    intro r r' _
    exact c18_sim_of_quiet (c18_quiet_imgResult _ r) (c18_quiet_imgResult _ r')
  · exact c18_sim_pure trivial

end Mammoth
