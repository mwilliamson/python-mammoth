/-
  C08, from the XML — the numbering definitions as `readNumberingXml` reads them from numbering.xml: every level of an
  abstract numbering is filed under its own `w:ilvl`, and is ordered iff its `w:numFmt` is not `bullet`.
-/
import Proofs.C11_Xml
namespace Mammoth

theorem c08x_findChildren (name : Str) (ns : List XmlNode) : findChildren name ns = c11x_named name ns := by
  induction ns with
  | nil => rfl
  | cons n ns ih =>
    cases n with
    | text s => simpa [findChildren, c11x_named] using ih
    | elem m as cs =>
      by_cases h : m = name
      · simp [findChildren, c11x_named, h] at ih ⊢; exact ih
      · simp [findChildren, c11x_named, h] at ih ⊢; exact ih

/-- the level `l` filed under `key` comes from a `w:lvl` element with `w:ilvl` = `key`; it is ordered iff that
    element's `w:numFmt/@w:val` is not `bullet`; its paragraph style is that element's `w:pStyle/@w:val` -/
def c08x_levelFrom (lvls : List (Attrs × List XmlNode)) (key : Str) (l : AbsLevel) : Prop :=
  l.levelIndex = key ∧
  ∃ p ∈ lvls, c11x_attr S!"w:ilvl" p.1 = some key ∧
    l.isOrdered = decide ((c11x_propVal S!"w:numFmt" p.2).join ≠ some S!"bullet") ∧
    l.pStyle = (c11x_propVal S!"w:pStyle" p.2).join

theorem c08x_readAbsLevel (las : Attrs) (lcs : List XmlNode) (l : AbsLevel) (h : readAbsLevel las lcs = .ok l) :
    c11x_attr S!"w:ilvl" las = some l.levelIndex ∧
    l.isOrdered = decide ((c11x_propVal S!"w:numFmt" lcs).join ≠ some S!"bullet") ∧
    l.pStyle = (c11x_propVal S!"w:pStyle" lcs).join := by
  unfold readAbsLevel at h
  rw [c11x_attr_eq, c11x_childAttr, c11x_childAttr] at h
  cases hi : c11x_attr S!"w:ilvl" las with
  | none => rw [hi] at h; cases h
  | some ilvl =>
    rw [hi] at h
    cases h
    refine ⟨rfl, ?_, rfl⟩
    cases (c11x_propVal S!"w:numFmt" lcs).join with
    | none => rfl
    | some v => by_cases hv : v = S!"bullet" <;> simp [hv]

/-- NUMBERING DEFINITIONS FROM numbering.xml.  If `readNumberingXml` succeeds with `n`, every abstract numbering of `n`
    comes from a `w:abstractNum` child of the root with that `w:abstractNumId`, carries that element's
    `w:numStyleLink`, and each of its levels comes from one of that element's `w:lvl` children (`c08x_levelFrom`);
    every num comes from a `w:num` child with that `w:numId` whose `w:abstractNumId/@w:val` is the abstract id. -/
theorem c08x_readNumberingXml (root : List XmlNode) (styles : Styles) (n : Numbering)
    (h : readNumberingXml root styles = .ok n) :
    n.styles = styles ∧
    (∀ e ∈ n.abstractNums, ∃ p ∈ c11x_named S!"w:abstractNum" root,
        e.1 = c11x_attr S!"w:abstractNumId" p.1 ∧
        e.2.numStyleLink = (c11x_propVal S!"w:numStyleLink" p.2).join ∧
        ∀ q ∈ e.2.levels, c08x_levelFrom (c11x_named S!"w:lvl" p.2) q.1 q.2) ∧
    (∀ e ∈ n.nums, ∃ p ∈ c11x_named S!"w:num" root,
        e.1 = c11x_attr S!"w:numId" p.1 ∧ (c11x_propVal S!"w:abstractNumId" p.2).join = some e.2) := by
  unfold readNumberingXml at h
  obtain ⟨abs, habs, h⟩ := bind_ok h
  obtain ⟨nums, hnums, h⟩ := bind_ok h
  simp only [pure, Except.pure, Except.ok.injEq] at h
  subst h
  refine ⟨rfl, ?_, ?_⟩
  · intro e he
    obtain ⟨p, hp, hf⟩ := mapM_mem _ habs e he
    obtain ⟨as, cs⟩ := p
    rw [c08x_findChildren] at hp
    refine ⟨(as, cs), hp, ?_⟩
    dsimp only at hf
    obtain ⟨lvls, hlvls, hf⟩ := bind_ok hf
    simp only [pure, Except.pure, Except.ok.injEq] at hf
    subst hf
    refine ⟨c11x_attr_eq _ _, c11x_childAttr _ _, ?_⟩
    intro q hq
    simp only [List.mem_map] at hq
    obtain ⟨l, hl, rfl⟩ := hq
    obtain ⟨lp, hlp, hlf⟩ := mapM_mem _ hlvls l hl
    obtain ⟨las, lcs⟩ := lp
    rw [c08x_findChildren] at hlp
    obtain ⟨h1, h2, h3⟩ := c08x_readAbsLevel las lcs l hlf
    exact ⟨rfl, (las, lcs), hlp, h1, h2, h3⟩
  · intro e he
    obtain ⟨p, hp, hf⟩ := mapM_mem _ hnums e he
    obtain ⟨as, cs⟩ := p
    rw [c08x_findChildren] at hp
    refine ⟨(as, cs), hp, ?_⟩
    dsimp only at hf
    rw [c11x_childAttr] at hf
    cases hv : (c11x_propVal S!"w:abstractNumId" cs).join with
    | none => rw [hv] at hf; cases hf
    | some a =>
      rw [hv] at hf
      simp only [pure, Except.pure, Except.ok.injEq] at hf
      subst hf
      exact ⟨c11x_attr_eq _ _, rfl⟩

end Mammoth
