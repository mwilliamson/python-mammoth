/-
  C12 (conversion) — the body reader under two environments that differ only in the relationships
  (answers for the id `rMammothStyleMap`) and in the content types (answer for the path
  `mammoth/style-map`): on XML that does not use either, the two runs are equal.

  `c12_elemOk chk env` is the per-element condition, by handler, exactly where the reader consults the
  relationships / content types: `w:hyperlink/@r:id`, `a:blip/@r:embed|@r:link` below `wp:inline`/`wp:anchor`,
  `v:imagedata/@r:id`.  `chk` says whether the relationships of this part are the ones the embed rewrote.
-/
import Proofs.C12_ConvRels
import Proofs.C05_ReadSpec
namespace Mammoth

/-- the relationship id is not the one the embed (re)defines — only relevant (`chk`) for a part whose
    relationships part is `word/_rels/document.xml.rels` -/
def c12_ridOk (chk : Bool) (rid : Str) : Bool := !(chk && rid == c12_smId)

/-- an embedded image: the id is fine and the zip entry it names is not `mammoth/style-map` -/
def c12_embedOk (chk : Bool) (env : REnv) (rid : Str) : Bool :=
  c12_ridOk chk rid &&
  match env.rels.targetById rid with
  | .ok t => uriToZipEntryName S!"word" t != styleMapPath
  | .error _ => true

/-- a linked image: the id is fine and the path whose content type is looked up is not `mammoth/style-map` -/
def c12_linkOk (chk : Bool) (env : REnv) (rid : Str) : Bool :=
  c12_ridOk chk rid &&
  match env.rels.targetById rid with
  | .ok t => t != styleMapPath
  | .error _ => true

def c12_blipOk (chk : Bool) (env : REnv) (as : Attrs) : Bool :=
  match attr? S!"r:embed" as with
  | some rid => c12_embedOk chk env rid
  | none =>
    match attr? S!"r:link" as with
    | some rid => c12_linkOk chk env rid
    | none => true

/-- the local, per-element condition (by handler of the element name) -/
def c12_elemOk (chk : Bool) (env : REnv) (name : Str) (as : Attrs) (cs : List XmlNode) : Bool :=
  match handlerOf name with
  | none => true
  | some h =>
    if h == S!"hyperlink" then
      (match attr? S!"r:id" as with | none => true | some rid => c12_ridOk chk rid)
    else if h == S!"inline" then (c05_blips cs).all fun b => c12_blipOk chk env b.1
    else if h == S!"read_imagedata" then
      (match attr? S!"r:id" as with | none => true | some rid => c12_embedOk chk env rid)
    else true

mutual
/-- every element of the tree satisfies `c12_elemOk` -/
def c12_useOk (chk : Bool) (env : REnv) : XmlNode → Bool
  | .text _ => true
  | .elem name as cs => c12_elemOk chk env name as cs && c12_useOkL chk env cs
def c12_useOkL (chk : Bool) (env : REnv) : List XmlNode → Bool
  | [] => true
  | c :: cs => c12_useOk chk env c && c12_useOkL chk env cs
end

theorem c12_useOkL_append (chk : Bool) (env : REnv) (xs ys : List XmlNode) :
    c12_useOkL chk env (xs ++ ys) = (c12_useOkL chk env xs && c12_useOkL chk env ys) :=
  andL_append rfl (fun _ _ => rfl) xs ys

theorem c12_useOkL_findChild (chk : Bool) (env : REnv) (name : Str) (cs : List XmlNode)
    (h : c12_useOkL chk env cs = true) : c12_useOkL chk env (findChildOrNull name cs).2 = true :=
  andL_findChild (fun _ _ => rfl) (fun _ _ _ => rfl) name cs h

/-! ### the two environments -/

/-- `env` with other relationships and content types -/
@[reducible] def c12_reenv (env : REnv) (rels' : Rels) (ct' : ContentTypes) : REnv :=
  { env with rels := rels', contentTypes := ct' }

structure c12_EnvSim (chk : Bool) (env : REnv) (rels' : Rels) (ct' : ContentTypes) : Prop where
  byId : ∀ rid, c12_ridOk chk rid = true → rels'.targetById rid = env.rels.targetById rid
  ct : c12_CtSim env.contentTypes ct'

section
variable {chk : Bool} {env : REnv} {rels' : Rels} {ct' : ContentTypes}

/-- both image readers look up `rid` and pass a path computed from its target to `readImage`, which asks
    for the content type of that path -/
theorem c12_readTarget_eq (hs : c12_EnvSim chk env rels' ct') (rid : Str) (alt : Option Str)
    (path : Str → Str) (src : Str → ImageSrc)
    (h : (c12_ridOk chk rid &&
      match env.rels.targetById rid with
      | .ok t => path t != styleMapPath
      | .error _ => true) = true) :
    (rels'.targetById rid >>= fun t => pure (readImage (c12_reenv env rels' ct') (path t) (src (path t)) alt)) =
    (env.rels.targetById rid >>= fun t => pure (readImage env (path t) (src (path t)) alt)) := by
  rw [Bool.and_eq_true] at h
  rw [hs.byId rid h.1]
  cases ht : env.rels.targetById rid with
  | error e => rfl
  | ok t =>
    rw [ht] at h
    unfold readImage
    dsimp only [bind, Except.bind, pure, Except.pure]
    rw [hs.ct (path t) (by simpa using h.2)]

theorem c12_readEmbeddedImage_eq (hs : c12_EnvSim chk env rels' ct') (rid : Str) (alt : Option Str)
    (h : c12_embedOk chk env rid = true) :
    readEmbeddedImage (c12_reenv env rels' ct') rid alt = readEmbeddedImage env rid alt :=
  c12_readTarget_eq hs rid alt (uriToZipEntryName S!"word") .embedded h

theorem c12_readBlip_eq (hs : c12_EnvSim chk env rels' ct') (as : Attrs) (alt : Option Str)
    (h : c12_blipOk chk env as = true) :
    readBlip (c12_reenv env rels' ct') as alt = readBlip env as alt := by
  unfold c12_blipOk at h
  unfold readBlip
  cases he : attr? S!"r:embed" as with
  | some rid => rw [he] at h; exact c12_readEmbeddedImage_eq hs rid alt h
  | none =>
    rw [he] at h
    cases hl : attr? S!"r:link" as with
    | none => rfl
    | some rid => rw [hl] at h; exact c12_readTarget_eq hs rid alt id .linked h

theorem c12_mapM_congr {α β} (f g : α → Except Err β) (l : List α) (h : ∀ a ∈ l, f a = g a) :
    l.mapM f = l.mapM g := by
  induction l with
  | nil => rfl
  | cons a l ih =>
    rw [List.mapM_cons, List.mapM_cons, h a List.mem_cons_self,
      ih (fun b hb => h b (List.mem_cons_of_mem _ hb))]

theorem c12_readInline_eq (hs : c12_EnvSim chk env rels' ct') (cs : List XmlNode)
    (h : ((c05_blips cs).all fun b => c12_blipOk chk env b.1) = true) :
    readInline (c12_reenv env rels' ct') cs = readInline env cs := by
  unfold readInline
  dsimp only
  rw [List.all_eq_true] at h
  congr 1
  exact c12_mapM_congr _ _ _ (fun b hb => c12_readBlip_eq hs b.1 _ (h b hb))

theorem c12_readNumberingProps_eq (sid : Option Str) (numPr : List XmlNode) :
    readNumberingProps (c12_reenv env rels' ct') sid numPr = readNumberingProps env sid numPr := rfl

end

/-! ### agreement of two runs -/

/-- the two runs are equal, and a normal result leaves a state satisfying `I` -/
def c12_ag (I : RState → Prop) (x' x : Except Err (ReadResult × RState)) : Prop :=
  x' = x ∧ ∀ a, x = .ok a → I a.2

theorem c12_ag_ok {I : RState → Prop} (a : ReadResult × RState) (h : I a.2) : c12_ag I (.ok a) (.ok a) :=
  ⟨rfl, fun _ ha => by cases ha; exact h⟩

theorem c12_ag_err {I : RState → Prop} (e : Err) : c12_ag I (.error e) (.error e) :=
  ⟨rfl, fun _ ha => by cases ha⟩

theorem c12_ag_ite {I : RState → Prop} (c : Prop) [Decidable c] {a' a b' b : Except Err (ReadResult × RState)}
    (h1 : c → c12_ag I a' a) (h2 : ¬ c → c12_ag I b' b) :
    c12_ag I (if c then a' else b') (if c then a else b) := by
  by_cases hc : c
  · rw [if_pos hc, if_pos hc]; exact h1 hc
  · rw [if_neg hc, if_neg hc]; exact h2 hc

theorem c12_ag_bind {I : RState → Prop} {x' x : Except Err (ReadResult × RState)}
    {f' f : ReadResult × RState → Except Err (ReadResult × RState)}
    (hx : c12_ag I x' x) (hf : ∀ a, I a.2 → c12_ag I (f' a) (f a)) : c12_ag I (x' >>= f') (x >>= f) := by
  obtain ⟨rfl, hI⟩ := hx
  cases hxx : x' with
  | error e => exact c12_ag_err e
  | ok a => exact hf a (hI a hxx)

/-- a step whose result type is not a reader result: equal on both sides -/
theorem c12_ag_bind_eq {I : RState → Prop} {β} {y' y : Except Err β}
    {f' f : β → Except Err (ReadResult × RState)}
    (hy : y' = y) (hf : ∀ b, c12_ag I (f' b) (f b)) : c12_ag I (y' >>= f') (y >>= f) := by
  subst hy
  cases y' with
  | error e => exact c12_ag_err e
  | ok b => exact hf b

theorem c12_ag_map {I : RState → Prop} {y' y : Except Err ReadResult} (st : RState) (hy : y' = y) (h : I st) :
    c12_ag I (y'.map (·, st)) (y.map (·, st)) := by
  subst hy
  cases y' with
  | error e => exact c12_ag_err e
  | ok b => exact c12_ag_ok _ h

theorem c12_ag_same {I : RState → Prop} (x : Except Err (ReadResult × RState)) (h : ∀ a, x = .ok a → I a.2) :
    c12_ag I x x := ⟨rfl, h⟩

/-! ### the reader -/

abbrev c12_I (chk : Bool) (env : REnv) : RState → Prop := fun st => c12_useOkL chk env st.deleted = true

def c12_elemOkH (chk : Bool) (env : REnv) (as : Attrs) (cs : List XmlNode) : Handler → Bool
  | .hyperlink => (match attr? S!"r:id" as with | none => true | some rid => c12_ridOk chk rid)
  | .inline => (c05_blips cs).all fun b => c12_blipOk chk env b.1
  | .imagedata => (match attr? S!"r:id" as with | none => true | some rid => c12_embedOk chk env rid)
  | _ => true

theorem c12_elemOk_handler {chk : Bool} {env : REnv} {name : Str} {as : Attrs} {cs : List XmlNode} {k : Handler}
    (hg : handlerOf name = some k.name) : c12_elemOk chk env name as cs = c12_elemOkH chk env as cs k := by
  unfold c12_elemOk; rw [hg]
  -- per handler, the match compares two closed strings: the kernel evaluates that much faster than `rfl`
  cases k <;> c05_kernel_rfl

/-- Only `hyperlink`, `inline` and `read_imagedata` look at the relationships or content types; every other
    handler is literally the same term under both environments, up to the recursive call. -/
theorem c12_readHandler_ag {chk : Bool} {env : REnv} {rels' : Rels} {ct' : ContentTypes}
    (hs : c12_EnvSim chk env rels' ct') (ra' ra : c05_RdAll)
    (ih : ∀ st ns, c12_useOkL chk env ns = true → c12_useOkL chk env st.deleted = true →
      c12_ag (c12_I chk env) (ra' st ns) (ra st ns))
    (st : RState) (as : Attrs) (cs : List XmlNode) (k : Handler)
    (hel : c12_elemOkH chk env as cs k = true) (hcs : c12_useOkL chk env cs = true)
    (hdel : c12_useOkL chk env st.deleted = true) :
    c12_ag (c12_I chk env) (readHandler (c12_reenv env rels' ct') ra' st as cs k)
      (readHandler env ra st as cs k) := by
  cases k with
  | text | tab | noBreakHyphen | softHyphen | break_ | instrText => exact c12_ag_ok _ hdel
  | symbol => exact c12_ag_map st rfl hdel
  | fldChar =>
    exact c12_ag_same _ fun a ha =>
      (congrArg (c12_useOkL chk env) ((c05_readFldChar_spec st as cs).ok a ha)).trans hdel
  | bookmarkStart => exact c12_ag_ite _ (fun _ => c12_ag_ok _ hdel) (fun _ => c12_ag_ok _ hdel)
  | footnoteRef | endnoteRef | commentRef =>
    dsimp only [readHandler, readNoteRef]
    split
    · exact c12_ag_err _
    · exact c12_ag_ok _ hdel
  | run | table | tableRow | pict => exact c12_ag_bind (ih _ _ hcs hdel) fun _ h => c12_ag_ok _ h
  | childElements => exact ih _ _ hcs hdel
  | alternateContent => exact ih _ _ (c12_useOkL_findChild chk env _ cs hcs) hdel
  | paragraph =>
    have hall : c12_useOkL chk env (st.deleted ++ cs) = true := by rw [c12_useOkL_append, hdel, hcs]; rfl
    dsimp only [readHandler]
    split
    · exact c12_ag_ok _ hall
    · exact c12_ag_bind (ih _ _ hall rfl) fun _ h => c12_ag_bind_eq rfl fun _ => c12_ag_ok _ h
  | tableCell =>
    rw [readHandler_tableCell, readHandler_tableCell]
    exact c12_ag_bind_eq rfl fun _ => c12_ag_bind (ih _ _ hcs hdel) fun _ h => c12_ag_ok _ h
  | hyperlink =>
    refine c12_ag_bind (ih _ _ hcs hdel) fun _ h => ?_
    dsimp only
    split
    · rename_i rid hrid
      rw [c12_elemOkH, hrid] at hel
      exact c12_ag_bind_eq (hs.byId rid hel) fun _ => c12_ag_ok _ h
    · split <;> exact c12_ag_ok _ h
  | inline => exact c12_ag_map st (c12_readInline_eq hs cs hel) hdel
  | imagedata =>
    dsimp only [readHandler]
    split
    · exact c12_ag_ok _ hdel
    · rename_i rid hrid
      rw [c12_elemOkH, hrid] at hel
      exact c12_ag_map st (c12_readEmbeddedImage_eq hs rid _ hel) hdel
  | sdt =>
    dsimp only [readHandler]
    split
    · exact c12_ag_ok _ hdel
    · exact ih _ _ (c12_useOkL_findChild chk env _ cs hcs) hdel

end Mammoth
