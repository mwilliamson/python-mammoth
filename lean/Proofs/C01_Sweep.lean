/-
  C01, reader half — what `calculate_row_spans` does to the leaves of a table.

  The reader applies `calculateRowSpans` to the rows of every table it builds; the sweep removes the
  cells it recognises as vertical-merge continuations, content included (property C09 says which).
  `c01_spans` applies that sweep to every table of a tree, innermost first — exactly where the reader
  applies it.  The sweep can only remove leaves (`c01_spans_sublist`), and removes none when no cell
  is marked as a continuation (`c01_spans_leaves`).  All of it is proved for any kind of leaf that containers
  pass up from their children (`c01_LeafHom`): text leaves here, images in `Proofs/C17_ElemImages.lean`.
-/
import Proofs.C01_XmlSpec
import Proofs.Basics
namespace Mammoth

mutual
/-- `calculate_row_spans` applied to every table of the tree, inner tables first -/
def c01_spans : Elem → Elem
  | .paragraph p cs => .paragraph p (c01_spansL cs)
  | .run r cs => .run r (c01_spansL cs)
  | .hyperlink h cs => .hyperlink h (c01_spansL cs)
  | .table a b rows => .table a b (calculateRowSpans (c01_spansL rows)).1
  | .row h cs => .row h (c01_spansL cs)
  | .cell c r v cs => .cell c r v (c01_spansL cs)
  | .text s => .text s
  | .tab => .tab
  | .noteRef ty id => .noteRef ty id
  | .commentRef id => .commentRef id
  | .checkbox b => .checkbox b
  | .brk ty => .brk ty
  | .image i => .image i
  | .bookmark n => .bookmark n
def c01_spansL : List Elem → List Elem
  | [] => []
  | e :: es => c01_spans e :: c01_spansL es
end

mutual
/-- no cell anywhere in the tree is marked as a vertical-merge continuation -/
def c01_noVm : Elem → Bool
  | .paragraph _ cs => c01_noVmL cs
  | .run _ cs => c01_noVmL cs
  | .hyperlink _ cs => c01_noVmL cs
  | .table _ _ rows => c01_noVmL rows
  | .row _ cs => c01_noVmL cs
  | .cell _ _ v cs => !v && c01_noVmL cs
  | .text _ => true
  | .tab => true
  | .noteRef _ _ => true
  | .commentRef _ => true
  | .checkbox _ => true
  | .brk _ => true
  | .image _ => true
  | .bookmark _ => true
def c01_noVmL : List Elem → Bool
  | [] => true
  | e :: es => c01_noVm e && c01_noVmL es
end

@[simp] theorem c01_spansL_nil : c01_spansL [] = [] := by simp [c01_spansL]
@[simp] theorem c01_spansL_cons (e : Elem) (es : List Elem) :
    c01_spansL (e :: es) = c01_spans e :: c01_spansL es := by simp [c01_spansL]
theorem c01_spansL_append (a b : List Elem) : c01_spansL (a ++ b) = c01_spansL a ++ c01_spansL b := by
  induction a with
  | nil => simp
  | cons x xs ih => simp [ih]

@[simp] theorem c01_noVmL_nil : c01_noVmL [] = true := by simp [c01_noVmL]
@[simp] theorem c01_noVmL_cons (e : Elem) (es : List Elem) :
    c01_noVmL (e :: es) = (c01_noVm e && c01_noVmL es) := by simp [c01_noVmL]
theorem c01_noVmL_append (a b : List Elem) : c01_noVmL (a ++ b) = (c01_noVmL a && c01_noVmL b) :=
  andL_append rfl (fun _ _ => rfl) a b

theorem c01_sweepCells_drops (r : Nat) (cells : List Elem) (pos ci : Nat) (sw : Sweep)
    (hn : c01_noVmL cells = true) (hd : sw.drops = []) : (sweepCells r cells pos ci sw).drops = [] := by
  induction cells generalizing pos ci sw with
  | nil => exact hd
  | cons c cs ih =>
    simp only [c01_noVmL_cons, Bool.and_eq_true] at hn
    by_cases hc : ∃ colspan rowspan vm ch, c = .cell colspan rowspan vm ch
    · obtain ⟨colspan, rowspan, vm, ch, rfl⟩ := hc
      simp only [c01_noVm, Bool.and_eq_true, Bool.not_eq_true'] at hn
      rw [sweepCells, hn.1.1]
      exact ih _ _ _ hn.2 hd
    · rw [sweepCells.eq_3 _ _ _ _ _ _ (fun a b v d h => hc ⟨a, b, v, d, h⟩)]
      exact ih _ _ _ hn.2 hd

theorem c01_sweepRows_drops (rows : List Elem) (r : Nat) (sw : Sweep)
    (hn : c01_noVmL rows = true) (hd : sw.drops = []) : (sweepRows rows r sw).drops = [] := by
  induction rows generalizing r sw with
  | nil => exact hd
  | cons c cs ih =>
    simp only [c01_noVmL_cons, Bool.and_eq_true] at hn
    by_cases hc : ∃ h cells, c = .row h cells
    · obtain ⟨h, cells, rfl⟩ := hc
      rw [sweepRows]
      exact ih _ _ hn.2 (c01_sweepCells_drops r cells 0 0 sw hn.1 hd)
    · rw [sweepRows.eq_3 _ _ _ _ (fun a b h => hc ⟨a, b, h⟩)]
      exact ih _ _ hn.2 hd

structure c01_LeafHom {α : Type} (lv : Elem → List α) (lvL : List Elem → List α) : Prop where
  nil : lvL [] = []
  cons : ∀ e es, lvL (e :: es) = lv e ++ lvL es
  paragraph : ∀ p cs, lv (.paragraph p cs) = lvL cs
  run : ∀ p cs, lv (.run p cs) = lvL cs
  hyperlink : ∀ p cs, lv (.hyperlink p cs) = lvL cs
  table : ∀ a b cs, lv (.table a b cs) = lvL cs
  row : ∀ h cs, lv (.row h cs) = lvL cs
  cell : ∀ c r v cs, lv (.cell c r v cs) = lvL cs

theorem c01_leafHom : c01_LeafHom c01_elemLeaves c01_elemLeavesL :=
  ⟨rfl, fun _ _ => rfl, fun _ _ => rfl, fun _ _ => rfl, fun _ _ => rfl, fun _ _ _ => rfl, fun _ _ => rfl,
    fun _ _ _ _ => rfl⟩

/-- `es` is the row-span sweep of some tree `pe` whose leaves are exactly `ls`; when `nv` holds,
    `pe` has no continuation mark (so the sweep removed nothing) -/
def c01_PreOf {α : Type} (lvL : List Elem → List α) (nv : Bool) (es : List Elem) (ls : List α) : Prop :=
  ∃ pe, c01_spansL pe = es ∧ lvL pe = ls ∧ (nv = true → c01_noVmL pe = true)

theorem c01_PreOf_mono {α : Type} {lvL : List Elem → List α} {nv nv' : Bool} {es : List Elem} {ls : List α}
    (hm : nv' = true → nv = true) (h : c01_PreOf lvL nv es ls) : c01_PreOf lvL nv' es ls := by
  obtain ⟨pe, h1, h2, h3⟩ := h
  exact ⟨pe, h1, h2, fun h' => h3 (hm h')⟩

/-- an element without children -/
def c01_atom : Elem → Bool
  | .text _ => true
  | .tab => true
  | .noteRef _ _ => true
  | .commentRef _ => true
  | .checkbox _ => true
  | .brk _ => true
  | .image _ => true
  | .bookmark _ => true
  | _ => false

theorem c01_atom_spans (e : Elem) (h : c01_atom e = true) : c01_spans e = e ∧ c01_noVm e = true := by
  cases e with
  | paragraph | run | hyperlink | table | row | cell => cases h
  | _ => exact ⟨rfl, rfl⟩

theorem c01_atoms_spans (es : List Elem) (h : es.all c01_atom = true) :
    c01_spansL es = es ∧ c01_noVmL es = true := by
  induction es with
  | nil => simp
  | cons e es ih =>
    simp only [List.all_cons, Bool.and_eq_true] at h
    simp [c01_atom_spans e h.1, ih h.2]

theorem c01_PreOf_atoms {α : Type} (lvL : List Elem → List α) (nv : Bool) (es : List Elem)
    (h : es.all c01_atom = true) : c01_PreOf lvL nv es (lvL es) :=
  ⟨es, (c01_atoms_spans es h).1, rfl, fun _ => (c01_atoms_spans es h).2⟩

section
variable {α : Type} {lv : Elem → List α} {lvL : List Elem → List α} (H : c01_LeafHom lv lvL)
include H

theorem c01_LeafHom.append (a b : List Elem) : lvL (a ++ b) = lvL a ++ lvL b := by
  induction a with
  | nil => simp [H.nil]
  | cons x xs ih => simp [H.cons, ih]

theorem c01_rebuildCells_both (sw : Sweep) (r : Nat) (cells : List Elem) (pos : Nat) :
    (lvL (rebuildCells sw r cells pos)).Sublist (lvL cells) ∧
    (sw.drops = [] → c01_noVmL cells = true →
      lvL (rebuildCells sw r cells pos) = lvL cells ∧ c01_noVmL (rebuildCells sw r cells pos) = true) := by
  induction cells generalizing pos with
  | nil => exact ⟨.refl _, fun _ h => ⟨rfl, h⟩⟩
  | cons c cs ih =>
    obtain ⟨ihs, ihe⟩ := ih (pos + 1)
    by_cases hc : ∃ colspan rowspan vm ch, c = .cell colspan rowspan vm ch
    · obtain ⟨colspan, rowspan, vm, ch, rfl⟩ := hc
      rw [rebuildCells]
      split
      · rename_i hdrop
        refine ⟨H.cons .. ▸ ihs.trans (List.sublist_append_right _ _), fun hd => ?_⟩
        rw [hd] at hdrop; cases hdrop
      · simp only [H.cons, H.cell, c01_noVmL_cons, c01_noVm, Bool.and_eq_true]
        exact ⟨.append (.refl _) ihs, fun hd hn => ⟨by rw [(ihe hd hn.2).1], ⟨rfl, hn.1.2⟩, (ihe hd hn.2).2⟩⟩
    · rw [rebuildCells.eq_3 _ _ _ _ _ (fun a b v d h => hc ⟨a, b, v, d, h⟩)]
      simp only [H.cons, c01_noVmL_cons, Bool.and_eq_true]
      exact ⟨.append (.refl _) ihs, fun hd hn => ⟨by rw [(ihe hd hn.2).1], hn.1, (ihe hd hn.2).2⟩⟩

theorem c01_rebuildRows_both (sw : Sweep) (rows : List Elem) (r : Nat) :
    (lvL (rebuildRows sw rows r)).Sublist (lvL rows) ∧
    (sw.drops = [] → c01_noVmL rows = true →
      lvL (rebuildRows sw rows r) = lvL rows ∧ c01_noVmL (rebuildRows sw rows r) = true) := by
  induction rows generalizing r with
  | nil => exact ⟨.refl _, fun _ h => ⟨rfl, h⟩⟩
  | cons c cs ih =>
    obtain ⟨ihs, ihe⟩ := ih (r + 1)
    by_cases hc : ∃ h cells, c = .row h cells
    · obtain ⟨h, cells, rfl⟩ := hc
      obtain ⟨hs, he⟩ := c01_rebuildCells_both H sw r cells 0
      simp only [rebuildRows, H.cons, H.row, c01_noVmL_cons, c01_noVm, Bool.and_eq_true]
      exact ⟨.append hs ihs, fun hd hn =>
        ⟨by rw [(he hd hn.1).1, (ihe hd hn.2).1], (he hd hn.1).2, (ihe hd hn.2).2⟩⟩
    · rw [rebuildRows.eq_3 _ _ _ _ (fun a b h => hc ⟨a, b, h⟩)]
      simp only [H.cons, c01_noVmL_cons, Bool.and_eq_true]
      exact ⟨.append (.refl _) ihs, fun hd hn => ⟨by rw [(ihe hd hn.2).1], hn.1, (ihe hd hn.2).2⟩⟩

theorem c01_calculate_both (rows : List Elem) :
    (lvL (calculateRowSpans rows).1).Sublist (lvL rows) ∧
    (c01_noVmL rows = true →
      lvL (calculateRowSpans rows).1 = lvL rows ∧ c01_noVmL (calculateRowSpans rows).1 = true) := by
  unfold calculateRowSpans
  split
  · exact ⟨.refl _, fun hn => ⟨rfl, hn⟩⟩
  · split
    · exact ⟨.refl _, fun hn => ⟨rfl, hn⟩⟩
    · obtain ⟨hs, he⟩ := c01_rebuildRows_both H (sweepRows rows 0 {}) rows 0
      exact ⟨hs, fun hn => he (c01_sweepRows_drops rows 0 {} hn rfl) hn⟩

mutual
theorem c01_spans_both (e : Elem) :
    (lv (c01_spans e)).Sublist (lv e) ∧
    (c01_noVm e = true → lv (c01_spans e) = lv e ∧ c01_noVm (c01_spans e) = true) := by
  match e with
  | .paragraph _ cs | .run _ cs | .hyperlink _ cs | .row _ cs =>
    simp only [c01_spans, c01_noVm, H.paragraph, H.run, H.hyperlink, H.row]
    exact c01_spansL_both cs
  | .cell c r v cs =>
    obtain ⟨hs, he⟩ := c01_spansL_both cs
    simp only [c01_spans, c01_noVm, H.cell, Bool.and_eq_true]
    exact ⟨hs, fun hn => ⟨(he hn.2).1, hn.1, (he hn.2).2⟩⟩
  | .table a b rows =>
    obtain ⟨hs, he⟩ := c01_spansL_both rows
    obtain ⟨cs, ce⟩ := c01_calculate_both H (c01_spansL rows)
    simp only [c01_spans, c01_noVm, H.table]
    exact ⟨cs.trans hs, fun hn => ⟨(ce (he hn).2).1.trans (he hn).1, (ce (he hn).2).2⟩⟩
  | .text _ | .tab | .noteRef _ _ | .commentRef _ | .checkbox _ | .brk _ | .image _ | .bookmark _ =>
    exact ⟨.refl _, fun h => ⟨rfl, h⟩⟩
theorem c01_spansL_both (es : List Elem) :
    (lvL (c01_spansL es)).Sublist (lvL es) ∧
    (c01_noVmL es = true → lvL (c01_spansL es) = lvL es ∧ c01_noVmL (c01_spansL es) = true) := by
  match es with
  | [] => exact ⟨.refl _, fun h => ⟨rfl, h⟩⟩
  | e :: es =>
    obtain ⟨hs, he⟩ := c01_spans_both e
    obtain ⟨ls, le⟩ := c01_spansL_both es
    simp only [c01_spansL_cons, H.cons, c01_noVmL_cons, Bool.and_eq_true]
    exact ⟨.append hs ls, fun hn => ⟨by rw [(he hn.1).1, (le hn.2).1], (he hn.1).2, (le hn.2).2⟩⟩
end

theorem c01_PreOf_sublist {nv : Bool} {es : List Elem} {ls : List α} (h : c01_PreOf lvL nv es ls) :
    (lvL es).Sublist ls := by
  obtain ⟨pe, h1, h2, _⟩ := h
  rw [← h1, ← h2]; exact (c01_spansL_both H pe).1

theorem c01_PreOf_eq {es : List Elem} {ls : List α} (h : c01_PreOf lvL true es ls) : lvL es = ls := by
  obtain ⟨pe, h1, h2, h3⟩ := h
  rw [← h1, ← h2]; exact ((c01_spansL_both H pe).2 (h3 rfl)).1

theorem c01_PreOf_nil (nv : Bool) : c01_PreOf lvL nv [] [] := ⟨[], rfl, H.nil, fun _ => rfl⟩

theorem c01_PreOf_append {nv : Bool} {a b : List Elem} {la lb : List α}
    (ha : c01_PreOf lvL nv a la) (hb : c01_PreOf lvL nv b lb) : c01_PreOf lvL nv (a ++ b) (la ++ lb) := by
  obtain ⟨pa, a1, a2, a3⟩ := ha
  obtain ⟨pb, b1, b2, b3⟩ := hb
  refine ⟨pa ++ pb, ?_, ?_, fun h => ?_⟩
  · rw [c01_spansL_append, a1, b1]
  · rw [H.append, a2, b2]
  · rw [c01_noVmL_append, a3 h, b3 h]; rfl

theorem c01_PreOf_wrap {nv : Bool} {es : List Elem} {ls : List α} (f g : List Elem → Elem)
    (hs : ∀ pe, c01_spans (f pe) = g (c01_spansL pe)) (hi : ∀ pe, lv (f pe) = lvL pe)
    (hv : nv = true → ∀ pe, c01_noVmL pe = true → c01_noVm (f pe) = true)
    (h : c01_PreOf lvL nv es ls) : c01_PreOf lvL nv [g es] ls := by
  obtain ⟨pe, h1, h2, h3⟩ := h
  exact ⟨[f pe], by simp [hs, h1], by simp [H.cons, H.nil, hi, h2], fun hn => by simp [hv hn pe (h3 hn)]⟩

end

theorem c01_spans_sublist (e : Elem) : (c01_elemLeaves (c01_spans e)).Sublist (c01_elemLeaves e) :=
  (c01_spans_both c01_leafHom e).1

theorem c01_spansL_sublist (es : List Elem) :
    (c01_elemLeavesL (c01_spansL es)).Sublist (c01_elemLeavesL es) :=
  (c01_spansL_both c01_leafHom es).1

theorem c01_spans_leaves (e : Elem) (hn : c01_noVm e = true) :
    c01_elemLeaves (c01_spans e) = c01_elemLeaves e ∧ c01_noVm (c01_spans e) = true :=
  (c01_spans_both c01_leafHom e).2 hn

theorem c01_spansL_leaves (es : List Elem) (hn : c01_noVmL es = true) :
    c01_elemLeavesL (c01_spansL es) = c01_elemLeavesL es ∧ c01_noVmL (c01_spansL es) = true :=
  (c01_spansL_both c01_leafHom es).2 hn

def c01_Pre (nv : Bool) (es : List Elem) (ls : List c01_Leaf) : Prop := c01_PreOf c01_elemLeavesL nv es ls

theorem c01_Pre_sublist {nv : Bool} {es : List Elem} {ls : List c01_Leaf} (h : c01_Pre nv es ls) :
    (c01_elemLeavesL es).Sublist ls :=
  c01_PreOf_sublist c01_leafHom h

theorem c01_Pre_eq {es : List Elem} {ls : List c01_Leaf} (h : c01_Pre true es ls) : c01_elemLeavesL es = ls :=
  c01_PreOf_eq c01_leafHom h

theorem c01_Pre_mono {nv nv' : Bool} {es : List Elem} {ls : List c01_Leaf} (hm : nv' = true → nv = true)
    (h : c01_Pre nv es ls) : c01_Pre nv' es ls :=
  c01_PreOf_mono hm h

theorem c01_Pre_nil (nv : Bool) : c01_Pre nv [] [] := c01_PreOf_nil c01_leafHom nv

theorem c01_Pre_append {nv : Bool} {a b : List Elem} {la lb : List c01_Leaf}
    (ha : c01_Pre nv a la) (hb : c01_Pre nv b lb) : c01_Pre nv (a ++ b) (la ++ lb) :=
  c01_PreOf_append c01_leafHom ha hb

theorem c01_Pre_atoms (nv : Bool) (es : List Elem) (h : es.all c01_atom = true) :
    c01_Pre nv es (c01_elemLeavesL es) :=
  c01_PreOf_atoms _ nv es h

theorem c01_Pre_atom (nv : Bool) (e : Elem) (h : c01_atom e = true) : c01_Pre nv [e] (c01_elemLeaves e) := by
  have := c01_Pre_atoms nv [e] (by simp [h])
  simpa using this

theorem c01_Pre_run {nv : Bool} {es : List Elem} {ls : List c01_Leaf} (p : RunProps) (h : c01_Pre nv es ls) :
    c01_Pre nv [.run p es] ls :=
  c01_PreOf_wrap c01_leafHom (.run p) (.run p) (fun _ => rfl) (fun _ => rfl) (fun _ _ h => h) h

theorem c01_Pre_hyperlink {nv : Bool} {es : List Elem} {ls : List c01_Leaf} (p : LinkProps) (h : c01_Pre nv es ls) :
    c01_Pre nv [.hyperlink p es] ls :=
  c01_PreOf_wrap c01_leafHom (.hyperlink p) (.hyperlink p) (fun _ => rfl) (fun _ => rfl) (fun _ _ h => h) h

theorem c01_Pre_paragraph {nv : Bool} {es : List Elem} {ls : List c01_Leaf} (p : ParaProps) (h : c01_Pre nv es ls) :
    c01_Pre nv [.paragraph p es] ls :=
  c01_PreOf_wrap c01_leafHom (.paragraph p) (.paragraph p) (fun _ => rfl) (fun _ => rfl) (fun _ _ h => h) h

theorem c01_Pre_row {nv : Bool} {es : List Elem} {ls : List c01_Leaf} (b : Bool) (h : c01_Pre nv es ls) :
    c01_Pre nv [.row b es] ls :=
  c01_PreOf_wrap c01_leafHom (.row b) (.row b) (fun _ => rfl) (fun _ => rfl) (fun _ _ h => h) h

theorem c01_Pre_cell {nv : Bool} {es : List Elem} {ls : List c01_Leaf} (c r : Nat) (v : Bool)
    (hv : nv = true → v = false) (h : c01_Pre nv es ls) : c01_Pre nv [.cell c r v es] ls :=
  c01_PreOf_wrap c01_leafHom (.cell c r v) (.cell c r v) (fun _ => rfl) (fun _ => rfl) (fun hn _ h => by simp [c01_noVm, hv hn, h]) h

theorem c01_Pre_table {nv : Bool} {es : List Elem} {ls : List c01_Leaf} (a b : Option Str) (h : c01_Pre nv es ls) :
    c01_Pre nv [.table a b (calculateRowSpans es).1] ls :=
  c01_PreOf_wrap c01_leafHom (.table a b) (fun es => .table a b (calculateRowSpans es).1) (fun _ => rfl) (fun _ => rfl) (fun _ _ h => h) h

end Mammoth
