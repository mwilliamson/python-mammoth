/-
  C18 — exact external reads of one image conversion, the success case of
  `Files.open`, and the shape of the resolved target `os.path.join(base, uri)`.
-/
import Proofs.C18_Image
namespace Mammoth

/-- Specification: the external reads one call of the image converter performs for an image with
    source `src`, given only the input's directory `base` and whether the converter opens the image.
    Written from the property text: nothing unless the converter opens; nothing for embedded images;
    `urlopen` of an absolute uri; the uri resolved against the directory for a relative one; nothing
    for a relative uri when the input has no name. -/
def c18_imageOps (base : Option Str) (opens : Bool) (src : ImageSrc) : List IoOp :=
  match opens, src with
  | false, _ => []
  | true, .embedded _ => []
  | true, .linked uri =>
    match isAbsoluteUri uri, base with
    | true, _ => [.urlopen uri]
    | false, some b => [.openFile (osPathJoin b uri)]
    | false, none => []

/-- `openImage` changes nothing of the state but the trace, which grows by exactly the allowed reads -/
theorem c18_openImage_trace (cfg : Cfg) (src : ImageSrc) (s s' : ConvState) (x : Except Str Bytes)
    (h : (openImage cfg src).run s = .ok (x, s')) :
    s' = { s with ioTrace := s.ioTrace ++ c18_imageOps cfg.base true src } := by
  cases src with
  | embedded name =>
    simp only [openImage] at h
    cases hl : lookupLast name cfg.archive with
    | none => rw [hl] at h; cases h
    | some b =>
      rw [hl] at h
      cases h
      simp [c18_imageOps]
  | linked uri =>
    cases habs : isAbsoluteUri uri with
    | true =>
      rw [c18_openImage_abs cfg uri s habs] at h
      cases h
      simp [c18_imageOps, habs]
    | false =>
      cases hb : cfg.base with
      | none =>
        rw [c18_openImage_noname cfg uri s habs hb] at h
        cases h
        simp [c18_imageOps, habs]
      | some b =>
        rw [c18_openImage_rel cfg uri b s habs hb] at h
        cases h
        simp [c18_imageOps, habs]

/-- the trace after one successful `convertImage` is the old trace plus exactly `c18_imageOps` -/
theorem c18_convertImage_trace (cfg : Cfg) (i : ImageProps) (st st' : ConvState) (ns : List Node)
    (h : (convertImage cfg i).run st = .ok (ns, st')) :
    st'.ioTrace = st.ioTrace ++ c18_imageOps cfg.base (c18_opens cfg) i.src ∧
    st'.imageCalls = st.imageCalls ++ [i] := by
  obtain ⟨ok, no, e⟩ := c18_convertImage_shape cfg i
  rw [e] at h
  obtain ⟨a, s1, h1, h2⟩ := run_bind_ok.mp h
  rw [StateT.run_modify] at h1
  cases h1
  cases ho : c18_opens cfg with
  | false =>
    rw [ho] at h2
    cases h2
    simp [c18_imageOps]
  | true =>
    rw [ho, if_pos rfl] at h2
    obtain ⟨x, s2, h3, h4⟩ := run_bind_ok.mp h2
    have := c18_openImage_trace cfg i.src _ s2 x h3
    subst this
    cases x with
    | ok bytes => cases h4; simp
    | error msg =>
      cases h4
      simp

/-- success case with the default converter: the open yields `bytes` -/
theorem c18_convertImage_dataUri_ok (cfg : Cfg) (i : ImageProps) (st s : ConvState) (bytes : Bytes)
    (hc : cfg.imageConv = .dataUri)
    (h : (openImage cfg i.src).run { st with imageCalls := st.imageCalls ++ [i] }
          = .ok (.ok bytes, s)) :
    (convertImage cfg i).run st =
      .ok ([el S!"img" ((match i.altText with
                          | some a => if a.isEmpty then [] else [(S!"alt", a)]
                          | none => []) ++
              [(S!"src", S!"data:" ++ pyOpt i.contentType ++ S!";base64," ++ b64encode bytes)]) []],
           s) := by
  unfold convertImage
  rw [StateT.run_bind, StateT.run_modify]
  simp only [hc, pure_bind]
  show (openImage cfg i.src >>= _).run _ = _
  rw [StateT.run_bind, h]
  rfl

/-- `os.path.join(b, uri)` for a uri that does not start with `/`: `b`, at most one `/`, then `uri` -/
theorem c18_join_rel (b uri : Str) (h : startsWith uri ['/'] = false) :
    osPathJoin b uri = b ++ uri ∨ osPathJoin b uri = b ++ ['/'] ++ uri := by
  unfold osPathJoin
  rw [h]
  simp only [Bool.false_eq_true, if_false]
  split
  · exact .inl rfl
  · exact .inr rfl

end Mammoth
