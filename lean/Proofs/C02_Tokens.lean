/-
  C02 — the token model of the HTML writer's output grammar: tokens of a forest (defined by
  recursion on the forest), the stack discipline check, coalescing of adjacent text, and the
  projections (attribute values, text) used by the round-trip corollaries.
-/
import MammothModel.Html
import Proofs.HtmlText
namespace Mammoth

inductive c02_Tok where
  | start (name : Str) (attrs : List (Str × Str))
  | «end» (name : Str)
  | selfClose (name : Str) (attrs : List (Str × Str))
  | text (s : Str)
deriving DecidableEq, Repr, Inhabited

/-! ### tokens of a forest -/
mutual
def c02_tokensN : Node → List c02_Tok
  | .text s => [.text s]
  | .forceWrite => []
  | .elem t cs =>
    if isVoid t cs then [.selfClose t.name t.attrs]
    else [.start t.name t.attrs] ++ c02_tokens cs ++ [.end t.name]
def c02_tokens : List Node → List c02_Tok
  | [] => []
  | c :: cs => c02_tokensN c ++ c02_tokens cs
end

@[simp] theorem c02_tokens_nil : c02_tokens [] = [] := by simp [c02_tokens]
@[simp] theorem c02_tokens_cons (c : Node) (cs : List Node) :
    c02_tokens (c :: cs) = c02_tokensN c ++ c02_tokens cs := by simp [c02_tokens]
@[simp] theorem c02_tokensN_text (s : Str) : c02_tokensN (.text s) = [.text s] := by simp [c02_tokensN]
@[simp] theorem c02_tokensN_fw : c02_tokensN .forceWrite = [] := by simp [c02_tokensN]
theorem c02_tokensN_elem (t : Tag) (cs : List Node) :
    c02_tokensN (.elem t cs) =
      if isVoid t cs then [.selfClose t.name t.attrs]
      else [.start t.name t.attrs] ++ c02_tokens cs ++ [.end t.name] := by simp [c02_tokensN]

theorem c02_tokens_append (a b : List Node) : c02_tokens (a ++ b) = c02_tokens a ++ c02_tokens b := by
  induction a with
  | nil => simp
  | cons x xs ih => simp [ih]

/-! ### stack discipline -/

/-- one step of the balance check: the stack holds the names of the open elements, innermost first;
    `none` = a mismatched or unexpected end tag was seen -/
def c02_balStep : Option (List Str) → c02_Tok → Option (List Str)
  | none, _ => none
  | some st, .start n _ => some (n :: st)
  | some [], .end _ => none
  | some (m :: st), .end n => if n = m then some st else none
  | some st, .selfClose _ _ => some st
  | some st, .text _ => some st

def c02_balRun (st : Option (List Str)) (ts : List c02_Tok) : Option (List Str) := ts.foldl c02_balStep st

/-- start and end tags balance and nest: every end tag closes the innermost open element, of the
    same name, and nothing is left open at the end -/
def c02_balanced (ts : List c02_Tok) : Bool := c02_balRun (some []) ts == some []

theorem c02_balRun_append (st : Option (List Str)) (a b : List c02_Tok) :
    c02_balRun st (a ++ b) = c02_balRun (c02_balRun st a) b := by simp [c02_balRun]

@[simp] theorem c02_balRun_nil (st : Option (List Str)) : c02_balRun st [] = st := rfl
@[simp] theorem c02_balRun_cons (st : Option (List Str)) (t : c02_Tok) (ts : List c02_Tok) :
    c02_balRun st (t :: ts) = c02_balRun (c02_balStep st t) ts := rfl

mutual
theorem c02_balRun_tokensN (n : Node) (st : List Str) : c02_balRun (some st) (c02_tokensN n) = some st := by
  match n with
  | .text s => simp [c02_balStep]
  | .forceWrite => simp
  | .elem t cs =>
    rw [c02_tokensN_elem]
    by_cases h : isVoid t cs = true
    · simp [h, c02_balStep]
    · simp only [h, if_false, Bool.false_eq_true]
      rw [c02_balRun_append, c02_balRun_append]
      simp only [c02_balRun_cons, c02_balRun_nil, c02_balStep]
      rw [c02_balRun_tokens cs (t.name :: st)]
      simp
theorem c02_balRun_tokens (ns : List Node) (st : List Str) : c02_balRun (some st) (c02_tokens ns) = some st := by
  match ns with
  | [] => simp
  | c :: cs =>
    rw [c02_tokens_cons, c02_balRun_append, c02_balRun_tokensN c st, c02_balRun_tokens cs st]
end

/-! ### coalescing adjacent text -/

/-- pending text becomes a token only when it is non-empty -/
def c02_flush (acc : Str) : List c02_Tok := if acc.isEmpty then [] else [.text acc]

/-- feed one token to (tokens emitted so far, pending text) -/
def c02_feedStep : List c02_Tok × Str → c02_Tok → List c02_Tok × Str
  | (toks, acc), .text s => (toks, acc ++ s)
  | (toks, acc), t => (toks ++ c02_flush acc ++ [t], [])

def c02_feed (st : List c02_Tok × Str) (ts : List c02_Tok) : List c02_Tok × Str := ts.foldl c02_feedStep st

/-- adjacent text tokens are concatenated and empty text disappears; all other tokens are kept -/
def c02_coalesce (ts : List c02_Tok) : List c02_Tok :=
  (c02_feed ([], []) ts).1 ++ c02_flush (c02_feed ([], []) ts).2

theorem c02_feed_append (st : List c02_Tok × Str) (a b : List c02_Tok) :
    c02_feed st (a ++ b) = c02_feed (c02_feed st a) b := by simp [c02_feed]
@[simp] theorem c02_feed_nil (st : List c02_Tok × Str) : c02_feed st [] = st := rfl
@[simp] theorem c02_feed_cons (st : List c02_Tok × Str) (t : c02_Tok) (ts : List c02_Tok) :
    c02_feed st (t :: ts) = c02_feed (c02_feedStep st t) ts := rfl

@[simp] theorem c02_flush_nil : c02_flush [] = [] := by simp [c02_flush]

theorem c02_feedStep_tag (toks : List c02_Tok) (acc : Str) (t : c02_Tok) (h : ∀ s, t ≠ .text s) :
    c02_feedStep (toks, acc) t = (toks ++ c02_flush acc ++ [t], []) := by
  cases t with
  | text s => exact absurd rfl (h s)
  | _ => rfl

/-! ### projections -/

/-- all attribute (key, value) pairs of the tags, in document order -/
def c02_tokAttrs : List c02_Tok → List (Str × Str)
  | [] => []
  | .start _ as :: r => as ++ c02_tokAttrs r
  | .selfClose _ as :: r => as ++ c02_tokAttrs r
  | _ :: r => c02_tokAttrs r

/-- the text between the tags, concatenated -/
def c02_tokText : List c02_Tok → Str
  | [] => []
  | .text s :: r => s ++ c02_tokText r
  | _ :: r => c02_tokText r

/-- the tags only (text removed) -/
def c02_tokMarkup : List c02_Tok → List c02_Tok
  | [] => []
  | .text _ :: r => c02_tokMarkup r
  | t :: r => t :: c02_tokMarkup r

theorem c02_tokAttrs_append (a b : List c02_Tok) : c02_tokAttrs (a ++ b) = c02_tokAttrs a ++ c02_tokAttrs b := by
  induction a with
  | nil => simp [c02_tokAttrs]
  | cons t ts ih => cases t <;> simp [c02_tokAttrs, ih]

theorem c02_tokText_append (a b : List c02_Tok) : c02_tokText (a ++ b) = c02_tokText a ++ c02_tokText b := by
  induction a with
  | nil => simp [c02_tokText]
  | cons t ts ih => cases t <;> simp [c02_tokText, ih]

theorem c02_tokMarkup_append (a b : List c02_Tok) : c02_tokMarkup (a ++ b) = c02_tokMarkup a ++ c02_tokMarkup b := by
  induction a with
  | nil => simp [c02_tokMarkup]
  | cons t ts ih => cases t <;> simp [c02_tokMarkup, ih]

theorem c02_tokAttrs_flush (acc : Str) : c02_tokAttrs (c02_flush acc) = [] := by
  unfold c02_flush; split <;> simp [c02_tokAttrs]
theorem c02_tokText_flush (acc : Str) : c02_tokText (c02_flush acc) = acc := by
  unfold c02_flush; split
  · rename_i h; simp [c02_tokText, List.isEmpty_iff.mp h]
  · simp [c02_tokText]
theorem c02_tokMarkup_flush (acc : Str) : c02_tokMarkup (c02_flush acc) = [] := by
  unfold c02_flush; split <;> simp [c02_tokMarkup]
theorem c02_balRun_flush (st : Option (List Str)) (acc : Str) : c02_balRun st (c02_flush acc) = st := by
  unfold c02_flush; split
  · simp
  · cases st <;> simp [c02_balStep]

theorem c02_tokText_tag (t : c02_Tok) (h : ∀ s, t ≠ .text s) (r : List c02_Tok) :
    c02_tokText (t :: r) = c02_tokText r := by
  cases t with
  | text s => exact absurd rfl (h s)
  | _ => rfl

theorem c02_tokMarkup_tag (t : c02_Tok) (h : ∀ s, t ≠ .text s) (r : List c02_Tok) :
    c02_tokMarkup (t :: r) = t :: c02_tokMarkup r := by
  cases t with
  | text s => exact absurd rfl (h s)
  | _ => rfl

/-- coalescing, as an invariant of the fold: what was emitted plus the pending text has the same
    attributes / text / markup / balance state as the tokens fed so far -/
theorem c02_feed_inv (ts : List c02_Tok) (toks : List c02_Tok) (acc : Str) :
    c02_tokAttrs (c02_feed (toks, acc) ts).1 = c02_tokAttrs toks ++ c02_tokAttrs ts ∧
    c02_tokText (c02_feed (toks, acc) ts).1 ++ (c02_feed (toks, acc) ts).2
      = c02_tokText toks ++ acc ++ c02_tokText ts ∧
    c02_tokMarkup (c02_feed (toks, acc) ts).1 = c02_tokMarkup toks ++ c02_tokMarkup ts ∧
    ∀ st, c02_balRun st (c02_feed (toks, acc) ts).1 = c02_balRun (c02_balRun st toks) ts := by
  induction ts generalizing toks acc with
  | nil => simp [c02_tokAttrs, c02_tokText, c02_tokMarkup]
  | cons t ts ih =>
    by_cases ht : ∃ s, t = .text s
    · obtain ⟨s, rfl⟩ := ht
      have := ih toks (acc ++ s)
      refine ⟨?_, ?_, ?_, ?_⟩
      · simpa [c02_feedStep, c02_tokAttrs] using this.1
      · simpa [c02_feedStep, c02_tokText, List.append_assoc] using this.2.1
      · simpa [c02_feedStep, c02_tokMarkup] using this.2.2.1
      · intro st
        simp only [c02_feed_cons, c02_feedStep, c02_balRun_cons]
        rw [this.2.2.2 st]
        cases c02_balRun st toks <;> simp [c02_balStep]
    · have ht : ∀ s, t ≠ .text s := fun s h => ht ⟨s, h⟩
      have hx := c02_tokText_tag t ht
      have hm := c02_tokMarkup_tag t ht
      have := ih (toks ++ c02_flush acc ++ [t]) []
      rw [c02_feed_cons, c02_feedStep_tag toks acc t ht]
      refine ⟨?_, ?_, ?_, ?_⟩
      · rw [this.1, c02_tokAttrs_append, c02_tokAttrs_append, c02_tokAttrs_flush,
          show t :: ts = [t] ++ ts from rfl, c02_tokAttrs_append [t] ts]
        simp
      · rw [this.2.1, c02_tokText_append, c02_tokText_append, c02_tokText_flush]
        simp [hx, c02_tokText]
      · rw [this.2.2.1, c02_tokMarkup_append, c02_tokMarkup_append, c02_tokMarkup_flush]
        simp [hm, c02_tokMarkup]
      · intro st
        rw [this.2.2.2 st, c02_balRun_append, c02_balRun_append, c02_balRun_flush]
        rfl

theorem c02_tokAttrs_coalesce (ts : List c02_Tok) : c02_tokAttrs (c02_coalesce ts) = c02_tokAttrs ts := by
  have := (c02_feed_inv ts [] []).1
  simp [c02_coalesce, c02_tokAttrs_append, c02_tokAttrs_flush, this, c02_tokAttrs]

theorem c02_tokText_coalesce (ts : List c02_Tok) : c02_tokText (c02_coalesce ts) = c02_tokText ts := by
  have := (c02_feed_inv ts [] []).2.1
  simp [c02_coalesce, c02_tokText_append, c02_tokText_flush, this, c02_tokText]

theorem c02_tokMarkup_coalesce (ts : List c02_Tok) : c02_tokMarkup (c02_coalesce ts) = c02_tokMarkup ts := by
  have := (c02_feed_inv ts [] []).2.2.1
  simp [c02_coalesce, c02_tokMarkup_append, c02_tokMarkup_flush, this, c02_tokMarkup]

theorem c02_balanced_coalesce (ts : List c02_Tok) : c02_balanced (c02_coalesce ts) = c02_balanced ts := by
  have := (c02_feed_inv ts [] []).2.2.2 (some [])
  simp [c02_balanced, c02_coalesce, c02_balRun_append, c02_balRun_flush, this]

/-! ### projections of the tokens of a forest -/

mutual
/-- attribute pairs of a node, document (pre-)order -/
def c02_attrsOfN : Node → List (Str × Str)
  | .text _ => []
  | .forceWrite => []
  | .elem t cs => t.attrs ++ c02_attrsOfL cs
def c02_attrsOfL : List Node → List (Str × Str)
  | [] => []
  | c :: cs => c02_attrsOfN c ++ c02_attrsOfL cs
end

mutual
theorem c02_tokAttrs_tokensN (n : Node) : c02_tokAttrs (c02_tokensN n) = c02_attrsOfN n := by
  match n with
  | .text s => simp [c02_tokAttrs, c02_attrsOfN]
  | .forceWrite => simp [c02_tokAttrs, c02_attrsOfN]
  | .elem t cs =>
    rw [c02_tokensN_elem]
    by_cases h : isVoid t cs = true
    · have hc : cs = [] := by
        simp only [isVoid, Bool.and_eq_true, List.isEmpty_iff] at h
        exact h.1
      subst hc
      simp [h, c02_tokAttrs, c02_attrsOfN, c02_attrsOfL]
    · simp only [h, if_false, Bool.false_eq_true]
      simp [c02_tokAttrs, c02_tokAttrs_append, c02_attrsOfN, c02_tokAttrs_tokens cs]
theorem c02_tokAttrs_tokens (ns : List Node) : c02_tokAttrs (c02_tokens ns) = c02_attrsOfL ns := by
  match ns with
  | [] => simp [c02_tokAttrs, c02_attrsOfL]
  | c :: cs =>
    simp [c02_tokAttrs_append, c02_attrsOfL, c02_tokAttrs_tokensN c, c02_tokAttrs_tokens cs]
end

mutual
theorem c02_tokText_tokensN (n : Node) : c02_tokText (c02_tokensN n) = textOf n := by
  match n with
  | .text s => simp [c02_tokText]
  | .forceWrite => simp [c02_tokText]
  | .elem t cs =>
    rw [c02_tokensN_elem]
    by_cases h : isVoid t cs = true
    · have hc : cs = [] := by
        simp only [isVoid, Bool.and_eq_true, List.isEmpty_iff] at h
        exact h.1
      subst hc
      simp [h, c02_tokText]
    · simp only [h, if_false, Bool.false_eq_true]
      simp [c02_tokText, c02_tokText_append, c02_tokText_tokens cs]
theorem c02_tokText_tokens (ns : List Node) : c02_tokText (c02_tokens ns) = textOfL ns := by
  match ns with
  | [] => simp [c02_tokText]
  | c :: cs =>
    simp [c02_tokText_append, c02_tokText_tokensN c, c02_tokText_tokens cs]
end

/-! ### when coalescing changes nothing -/

/-- no empty text token and no two adjacent text tokens -/
def c02_textSeparated : List c02_Tok → Bool
  | [] => true
  | .text s :: r =>
    !s.isEmpty && (match r with | .text _ :: _ => false | _ => true) && c02_textSeparated r
  | _ :: r => c02_textSeparated r

/-- does the list start with a text token? -/
def c02_startsText : List c02_Tok → Bool
  | .text _ :: _ => true
  | _ => false

theorem c02_feed_separated (ts : List c02_Tok) (toks : List c02_Tok) (acc : Str)
    (hs : c02_textSeparated ts = true) (ha : acc = [] ∨ c02_startsText ts = false) :
    (c02_feed (toks, acc) ts).1 ++ c02_flush (c02_feed (toks, acc) ts).2 = toks ++ c02_flush acc ++ ts := by
  induction ts generalizing toks acc with
  | nil => simp
  | cons t r ih =>
    cases t with
    | text s =>
      have hacc : acc = [] := by
        rcases ha with h | h
        · exact h
        · simp [c02_startsText] at h
      subst hacc
      simp only [c02_textSeparated, Bool.and_eq_true, Bool.not_eq_true'] at hs
      obtain ⟨⟨hse, hr⟩, hsep⟩ := hs
      have hr' : c02_startsText r = false := by
        cases r with
        | nil => rfl
        | cons x xs =>
          cases x with
          | text _ => simp at hr
          | _ => rfl
      have := ih toks s hsep (Or.inr hr')
      simp only [c02_feed_cons, c02_feedStep, List.nil_append]
      rw [this]
      simp [c02_flush, hse]
    | _ =>
      simp only [c02_textSeparated] at hs
      rw [c02_feed_cons, c02_feedStep_tag _ _ _ (by simp), ih _ [] hs (Or.inl rfl)]
      simp

/-- a token list without empty or adjacent text tokens is left alone by coalescing -/
theorem c02_coalesce_separated (ts : List c02_Tok) (hs : c02_textSeparated ts = true) :
    c02_coalesce ts = ts := by
  have := c02_feed_separated ts [] [] hs (Or.inl rfl)
  simpa [c02_coalesce] using this

end Mammoth
