/-
  C17 — base64: round trip, length and alphabet of `b64encode`.
-/
import MammothModel.Base64
namespace Mammoth

theorem c17_val_char : ∀ n, n < 64 → b64Val (b64Char n) = some n := by decide +kernel

theorem c17_char_ne (n : Nat) (h : n < 64) : b64Char n ≠ '=' := by
  intro e
  have hv := c17_val_char n h
  rw [e] at hv
  cases hv

theorem c17_char_mem (n : Nat) (h : n < 64) : b64Char n ∈ b64Alphabet := by
  unfold b64Char
  rw [List.getD_eq_getElem?_getD, List.getElem?_eq_getElem (h : n < b64Alphabet.length)]
  exact List.getElem_mem _

/-- four 6-bit groups of `n`, put together again -/
theorem c17_regroup (n : Nat) :
    ((n / 262144 * 64 + n / 4096 % 64) * 64 + n / 64 % 64) * 64 + n % 64 = n := by
  have h1 : n / 262144 = n / 4096 / 64 := by rw [Nat.div_div_eq_div_mul]
  have h2 : n / 4096 = n / 64 / 64 := by rw [Nat.div_div_eq_div_mul]
  rw [h1, Nat.div_add_mod', h2, Nat.div_add_mod', Nat.div_add_mod']

/-- three groups of a 16-bit `n`, the last one padded with two zero bits -/
theorem c17_regroup2 (n : Nat) : (n / 1024 * 64 + n / 16 % 64) * 64 + n % 16 * 4 = n * 4 := by
  have h1 : n / 1024 = n / 16 / 64 := by rw [Nat.div_div_eq_div_mul]
  rw [h1, Nat.div_add_mod', ← Nat.mul_assoc _ 16 4, ← Nat.add_mul, Nat.div_add_mod']

/-- two groups of an 8-bit `n`, the last one padded with four zero bits -/
theorem c17_regroup1 (n : Nat) : n / 4 * 64 + n % 4 * 16 = n * 16 := by
  rw [← Nat.mul_assoc _ 4 16, ← Nat.add_mul, Nat.div_add_mod']

theorem c17_divmod (q r k : Nat) (h : r < k) : (q * k + r) / k = q ∧ (q * k + r) % k = r :=
  ⟨by rw [Nat.add_comm, Nat.add_mul_div_right _ _ (Nat.zero_lt_of_lt h), Nat.div_eq_of_lt h, Nat.zero_add],
   Nat.mul_add_mod_of_lt h⟩

theorem c17_bytes3 (a b c n : Nat) (hb : b < 256) (hc : c < 256) (hn : a * 65536 + b * 256 + c = n) :
    n / 65536 = a ∧ n / 256 % 256 = b ∧ n % 256 = c := by
  have e : n = (a * 256 + b) * 256 + c := by rw [← hn, Nat.add_mul, Nat.mul_assoc]
  have h1 := c17_divmod (a * 256 + b) c 256 hc
  have h2 := c17_divmod a b 256 hb
  rw [← e] at h1
  refine ⟨?_, ?_, h1.2⟩
  · rw [show 65536 = 256 * 256 from rfl, ← Nat.div_div_eq_div_mul, h1.1, h2.1]
  · rw [h1.1, h2.2]

theorem c17_top (a : UInt8) (n k : Nat) (h : n / k = a.toNat) : n / (k * 4) < 64 := by
  rw [← Nat.div_div_eq_div_mul, h]
  exact Nat.div_lt_of_lt_mul a.toNat_lt

/-- a group padded with zero bits: `n % 2^j * 2^(6-j)` -/
theorem c17_pad (n j k : Nat) (hj : 0 < j) (hk : 0 < k) : n % j * k < j * k :=
  (Nat.mul_lt_mul_right hk).2 (Nat.mod_lt n hj)

theorem c17_roundtrip : ∀ bs : List UInt8, b64decode (b64encode bs) = some bs
  | [] => rfl
  | [a] => by
    rw [b64encode, b64decode.eq_2, c17_val_char _ (Nat.div_lt_of_lt_mul a.toNat_lt),
      c17_val_char _ (c17_pad _ 4 16 (by decide) (by decide))]
    simp only [Option.bind_eq_bind, Option.bind_some]
    rw [c17_regroup1, Nat.mul_div_cancel _ (by decide), UInt8.ofNat_toNat]
  | [a, b] => by
    rw [b64encode]
    generalize hn : a.toNat * 256 + b.toNat = n
    have hab := c17_divmod a.toNat b.toNat 256 b.toNat_lt
    rw [hn] at hab
    have hpad : n % 16 * 4 < 64 := c17_pad n 16 4 (by decide) (by decide)
    rw [b64decode.eq_3 _ _ _ (c17_char_ne _ hpad), c17_val_char _ (c17_top a n 256 hab.1),
      c17_val_char _ (Nat.mod_lt _ (by decide)), c17_val_char _ hpad]
    simp only [Option.bind_eq_bind, Option.bind_some]
    rw [c17_regroup2, show 1024 = 4 * 256 from rfl, ← Nat.div_div_eq_div_mul, Nat.mul_div_cancel _ (by decide),
      hab.1, hab.2, UInt8.ofNat_toNat, UInt8.ofNat_toNat]
  | a :: b :: c :: rest => by
    have h64 : 0 < 64 := by decide
    rw [b64encode]
    generalize hn : a.toNat * 65536 + b.toNat * 256 + c.toNat = n
    have hbytes := c17_bytes3 _ _ _ n b.toNat_lt c.toNat_lt hn
    rw [b64decode.eq_4 _ _ _ _ _ (fun _ h _ => c17_char_ne _ (Nat.mod_lt _ h64) h)
        (fun h _ => c17_char_ne _ (Nat.mod_lt _ h64) h),
      c17_val_char _ (c17_top a n 65536 hbytes.1), c17_val_char _ (Nat.mod_lt _ h64),
      c17_val_char _ (Nat.mod_lt _ h64), c17_val_char _ (Nat.mod_lt _ h64), c17_roundtrip rest]
    simp only [Option.bind_eq_bind, Option.bind_some]
    rw [c17_regroup, hbytes.1, hbytes.2.1, hbytes.2.2, UInt8.ofNat_toNat, UInt8.ofNat_toNat, UInt8.ofNat_toNat]

theorem c17_length : ∀ bs : List UInt8, (b64encode bs).length = 4 * ((bs.length + 2) / 3)
  | [] => rfl
  | [_] => by simp [b64encode]
  | [_, _] => by simp [b64encode]
  | _ :: _ :: _ :: rest => by
    have ih := c17_length rest
    simp only [b64encode, List.length_cons, ih]
    omega

theorem c17_alphabet : ∀ bs : List UInt8, ∀ ch ∈ b64encode bs, ch ∈ b64Alphabet ∨ ch = '='
  | [] => fun _ h => nomatch h
  | [a] => by
    simp only [b64encode, List.forall_mem_cons, List.not_mem_nil, false_imp_iff, implies_true, and_true]
    exact ⟨.inl (c17_char_mem _ (Nat.div_lt_of_lt_mul a.toNat_lt)),
      .inl (c17_char_mem _ (c17_pad _ 4 16 (by decide) (by decide))), .inr trivial, .inr trivial⟩
  | [a, b] => by
    simp only [b64encode, List.forall_mem_cons, List.not_mem_nil, false_imp_iff, implies_true, and_true]
    exact ⟨.inl (c17_char_mem _ (c17_top a _ 256 (c17_divmod _ _ 256 b.toNat_lt).1)),
      .inl (c17_char_mem _ (Nat.mod_lt _ (by decide))),
      .inl (c17_char_mem _ (c17_pad _ 16 4 (by decide) (by decide))), .inr trivial⟩
  | a :: b :: c :: rest => by
    have h64 : 0 < 64 := by decide
    simp only [b64encode, List.forall_mem_cons]
    exact ⟨.inl (c17_char_mem _ (c17_top a _ 65536 (c17_bytes3 _ _ _ _ b.toNat_lt c.toNat_lt rfl).1)),
      .inl (c17_char_mem _ (Nat.mod_lt _ h64)), .inl (c17_char_mem _ (Nat.mod_lt _ h64)),
      .inl (c17_char_mem _ (Nat.mod_lt _ h64)), c17_alphabet rest⟩
end Mammoth
