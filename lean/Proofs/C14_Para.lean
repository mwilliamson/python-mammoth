/-
  C14 — `strip_empty` of a path around a forest, by cases on the forest.
-/
import Proofs.C14_Sites
namespace Mammoth

def Weight.isFull : Weight → Bool
  | .full => true
  | _ => false

theorem Weight.isFull_iff (w : Weight) : w.isFull = true ↔ w = .full := by
  cases w <;> simp [Weight.isFull]

/-- a path around a forest has content iff the forest has, or the forest is empty and the innermost
    element of the path is void -/
theorem c14_wrap_isFull (es : List Tag) (ns : List Node) :
    ((weightOf ns).wrap es).isFull = (anyContent ns || (ns.isEmpty && endsVoid es)) := by
  unfold weightOf
  cases ha : anyContent ns
  · cases ns with
    | nil =>
      simp only [List.isEmpty_nil, Bool.false_eq_true, if_false, if_true, Weight.wrap_none]
      cases es with
      | nil => rfl
      | cons t ts => cases hv : endsVoid (t :: ts) <;> simp [Weight.isFull]
    | cons c cs => simp [Weight.wrap_hollow, Weight.isFull]
  · simp [Weight.isFull]

/-- `strip_empty` of a path around a forest, by cases on the forest -/
theorem c14_strip_wrapElems (es : List Tag) (ns : List Node) :
    stripEmpty (wrapElems es ns) =
      if (anyContent ns || (ns.isEmpty && endsVoid es)) = true then wrapElems es (stripEmpty ns) else [] := by
  rw [stripEmpty_wrapElems, ← c14_wrap_isFull]
  simp only [Weight.isFull_iff]

theorem stripEmpty_isEmpty (ns : List Node) : (stripEmpty ns).isEmpty = !(weightOf ns).isFull := by
  rw [stripEmpty, stripList_isEmpty, weightOf]
  cases anyContent ns <;> cases ns <;> rfl

theorem c14_endsVoid_link (cfg : Cfg) (l : LinkProps) : endsVoid [c14_linkTag cfg l] = false := by
  simp only [endsVoid, voidTag, c14_linkTag]; rfl

end Mammoth
