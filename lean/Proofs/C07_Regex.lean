/-
  C07 — facts about the backtracking regex cost model (MammothModel/Regex.lean) instantiated
  with the tokeniser's STRING rules: exponential lower bound for the old rule, linear upper bound
  for the repaired rule, and agreement with the hand-written lexer `lexString`.
-/
import MammothModel.Regex
import Proofs.C07_Lexer
namespace Mammoth

@[simp] theorem c07_tick_fst (r : C07Res) : r.tick.1 = r.1 + 1 := rfl
@[simp] theorem c07_tick_snd (r : C07Res) : r.tick.2 = r.2 := rfl
@[simp] theorem c07_fail_fst : C07Res.fail.1 = 0 := rfl
@[simp] theorem c07_fail_snd : C07Res.fail.2 = none := rfl

theorem c07_orElse_fst_le (a b : C07Res) : (a.orElse b).1 ≤ a.1 + b.1 := by
  unfold C07Res.orElse; split <;> simp

theorem c07_orElse_none (a b : C07Res) (h : a.2 = none) : a.orElse b = (a.1 + b.1, b.2) := by
  unfold C07Res.orElse; simp [h]

theorem c07_orElse_some (a b : C07Res) (r : Str) (h : a.2 = some r) : a.orElse b = a := by
  unfold C07Res.orElse; simp [h]

theorem c07_orElse_tick_none (R K : C07Res) (h : R.2 = none) :
    (R.orElse K).tick = (R.1 + K.1 + 1, K.2) := by
  rw [c07_orElse_none R K h]; rfl

theorem c07_orElse_tick (R K : C07Res) (h : R.2 = none → K.2 = none) :
    (R.orElse K).tick.1 ≤ R.1 + K.1 + 1 ∧ (R.orElse K).tick.2 = R.2 := by
  cases hR : R.2 with
  | none => rw [c07_orElse_tick_none R K hR]; exact ⟨Nat.le_refl _, h hR⟩
  | some r => rw [c07_orElse_some R K r hR]; exact ⟨by simp only [c07_tick_fst]; omega, hR⟩

/-- the fuel of the repetition loop is irrelevant as soon as it exceeds the length of the input -/
theorem c07_starLoop_fuel (body : Str → (Str → C07Res) → C07Res) (k : Str → C07Res) :
    ∀ (f g : Nat) (s : Str), s.length < f → s.length < g →
      c07_starLoop body f s k = c07_starLoop body g s k := by
  intro f
  induction f with
  | zero => intro g s h; omega
  | succ f ih =>
    intro g s hf hg
    cases g with
    | zero => omega
    | succ g =>
      simp only [c07_starLoop]
      congr 3
      funext s'
      split
      · exact ih g s' (by omega) (by omega)
      · rfl

theorem c07_run_star (a : C07Regex) (s : Str) (k : Str → C07Res) :
    (C07Regex.star a).run s k = c07_starLoop a.run (s.length + 1) s k := by
  rw [C07Regex.run]

/-- fuel-free unfolding of the greedy star -/
theorem c07_star_unfold (a : C07Regex) (s : Str) (k : Str → C07Res) :
    (C07Regex.star a).run s k =
      ((a.run s fun s' => if s'.length < s.length then (C07Regex.star a).run s' k else .fail).orElse (k s)).tick := by
  rw [c07_run_star, c07_starLoop]
  congr 3
  funext s'
  split
  · rw [c07_run_star]; exact c07_starLoop_fuel _ _ _ _ _ (by omega) (by omega)
  · rfl

theorem c07_star_stop (a : C07Regex) (s : Str) (k : Str → C07Res) (C : Nat)
    (hb : ∀ k', (a.run s k').1 ≤ C ∧ (a.run s k').2 = none) :
    ((C07Regex.star a).run s k).1 ≤ C + (k s).1 + 1 ∧ ((C07Regex.star a).run s k).2 = (k s).2 := by
  rw [c07_star_unfold, c07_orElse_tick_none _ _ (hb _).2]
  exact ⟨by have := (hb fun s' => if s'.length < s.length then (C07Regex.star a).run s' k else .fail).1; omega, rfl⟩

/-- one iteration; `hk`: leaving the loop at `s` cannot succeed where the rest of the loop fails -/
theorem c07_star_step (a : C07Regex) (s s' : Str) (k : Str → C07Res) (C : Nat) (hlt : s'.length < s.length)
    (hb : ∀ k', (a.run s k').1 ≤ (k' s').1 + C ∧ (a.run s k').2 = (k' s').2)
    (hk : ((C07Regex.star a).run s' k).2 = none → (k s).2 = none) :
    ((C07Regex.star a).run s k).1 ≤ ((C07Regex.star a).run s' k).1 + C + (k s).1 + 1 ∧
    ((C07Regex.star a).run s k).2 = ((C07Regex.star a).run s' k).2 := by
  have hb' := hb fun s' => if s'.length < s.length then (C07Regex.star a).run s' k else .fail
  simp only [hlt, if_true] at hb'
  rw [c07_star_unfold]
  have := c07_orElse_tick (a.run s fun s' => if s'.length < s.length then (C07Regex.star a).run s' k else .fail)
    (k s) (fun e => hk (by rw [← hb'.2]; exact e))
  exact ⟨by omega, by rw [this.2, hb'.2]⟩

/-- the final continuation: success -/
def c07_k0 : Str → C07Res := fun s' => (0, some s')

/-- the continuation after the star of the STRING rule: the closing quote, then success -/
def c07_kq : Str → C07Res := fun s' => (C07Regex.chr c07_ccQuote).run s' fun s'' => (0, some s'')

theorem c07_kq_nil : c07_kq [] = (1, none) := rfl
theorem c07_kq_cons (c : Char) (cs : Str) :
    c07_kq (c :: cs) = if c = '\'' then (1, some cs) else (1, none) := by
  simp only [c07_kq, C07Regex.run, c07_ccQuote, C07Class.test]
  by_cases h : c = '\'' <;> simp [h, C07Res.tick, C07Res.fail]

theorem c07_run_chr_nil (p : C07Class) (k : Str → C07Res) : (C07Regex.chr p).run [] k = (1, none) := rfl
theorem c07_run_chr_cons (p : C07Class) (c : Char) (cs : Str) (k : Str → C07Res) :
    (C07Regex.chr p).run (c :: cs) k = if p.test c then (k cs).tick else (1, none) := by
  simp only [C07Regex.run]; split <;> rfl
theorem c07_run_seq (a b : C07Regex) (s : Str) (k : Str → C07Res) :
    (C07Regex.seq a b).run s k = a.run s fun s' => b.run s' k := rfl
theorem c07_run_alt (a b : C07Regex) (s : Str) (k : Str → C07Res) :
    (C07Regex.alt a b).run s k = ((a.run s k).orElse (b.run s k)).tick := rfl

theorem c07_inRanges_nil (c : Char) : c07_inRanges [] c = false := rfl
theorem c07_inRanges_cons (a b : Char) (rs : List (Char × Char)) (c : Char) :
    c07_inRanges ((a, b) :: rs) c = ((a.toNat ≤ c.toNat && c.toNat ≤ b.toNat) || c07_inRanges rs c) := rfl

theorem c07_range_one (a n : Nat) : (decide (a ≤ n) && decide (n ≤ a)) = (n == a) := by
  rw [Bool.eq_iff_iff]
  simp only [Bool.and_eq_true, decide_eq_true_eq, beq_iff_eq]
  omega

theorem c07_range_two (a n : Nat) : (decide (a ≤ n) && decide (n ≤ a + 1)) = (n == a || n == a + 1) := by
  rw [Bool.eq_iff_iff]
  simp only [Bool.and_eq_true, Bool.or_eq_true, decide_eq_true_eq, beq_iff_eq]
  omega

theorem c07_toNat_beq (c a : Char) : (c.toNat == a.toNat) = (c == a) := by
  rw [Bool.eq_iff_iff]
  simp only [beq_iff_eq, Char.toNat_inj]

theorem c07_inRanges_single (a c : Char) (rs : List (Char × Char)) :
    c07_inRanges ((a, a) :: rs) c = (c == a || c07_inRanges rs c) := by
  rw [c07_inRanges_cons, c07_range_one, c07_toNat_beq]

theorem c07_test_nqb (c : Char) : c07_ccNotQuoteBackslash.test c = (c != '\'' && c != '\\') := by
  simp [c07_ccNotQuoteBackslash, C07Class.test, c07_inRanges_single, c07_inRanges_nil, bne]
theorem c07_test_nq (c : Char) : c07_ccNotQuote.test c = (c != '\'') := by
  simp [c07_ccNotQuote, C07Class.test, c07_inRanges_single, c07_inRanges_nil, bne]
theorem c07_test_bs (c : Char) : c07_ccBackslash.test c = (c == '\\') := rfl
theorem c07_test_q (c : Char) : c07_ccQuote.test c = (c == '\'') := rfl
theorem c07_test_any (c : Char) : C07Class.any.test c = (c != '\n') := rfl

theorem c07_bodyNew_run (s : Str) (k : Str → C07Res) : c07_stringBodyNew.run s k =
    (((C07Regex.chr c07_ccBackslash).run s fun s' => (C07Regex.chr .any).run s' k).orElse
      ((C07Regex.chr c07_ccNotQuoteBackslash).run s k)).tick := rfl

theorem c07_bodyNew_nil (k : Str → C07Res) : c07_stringBodyNew.run [] k = (3, none) := rfl
theorem c07_bodyNew_quote (cs : Str) (k : Str → C07Res) : c07_stringBodyNew.run ('\'' :: cs) k = (3, none) := rfl
theorem c07_bodyNew_bs_nil (k : Str → C07Res) : c07_stringBodyNew.run ['\\'] k = (4, none) := rfl
theorem c07_bodyNew_bs_nl (cs : Str) (k : Str → C07Res) : c07_stringBodyNew.run ('\\' :: '\n' :: cs) k = (4, none) := rfl
theorem c07_bodyNew_bs (c : Char) (cs : Str) (k : Str → C07Res) (h : c ≠ '\n') :
    (c07_stringBodyNew.run ('\\' :: c :: cs) k).1 ≤ (k cs).1 + 4 ∧
    (c07_stringBodyNew.run ('\\' :: c :: cs) k).2 = (k cs).2 := by
  rw [c07_bodyNew_run]
  simp only [c07_run_chr_cons, c07_test_nqb, c07_test_bs, c07_test_any]
  simp [h, C07Res.orElse, C07Res.tick]
  cases (k cs).2 <;> simp
theorem c07_bodyNew_other (c : Char) (cs : Str) (k : Str → C07Res) (h1 : c ≠ '\'') (h2 : c ≠ '\\') :
    c07_stringBodyNew.run (c :: cs) k = ((k cs).1 + 3, (k cs).2) := by
  rw [c07_bodyNew_run]
  simp only [c07_run_chr_cons, c07_test_nqb, c07_test_bs]
  simp [h1, h2, C07Res.orElse, C07Res.tick]
  omega

/-- what is left after a closing quote -/
def c07_afterQuote : Str → Option Str
  | '\'' :: r => some r
  | _ => none

theorem c07_afterQuote_ne (c : Char) (r : Str) (h : c ≠ '\'') : c07_afterQuote (c :: r) = none := by
  unfold c07_afterQuote
  split
  · rename_i h'; simp at h'; exact absurd h'.1 h
  · rfl

/-- `hk2`: leaving the loop before the end of the body does not help `k` -/
theorem c07_newLoop (k : Str → C07Res) (hk1 : ∀ s, (k s).1 ≤ 1)
    (hk2 : ∀ s, (k (lexStringBody s).2).2 = none → (k s).2 = none) (s : Str) :
    ((C07Regex.star c07_stringBodyNew).run s k).1 ≤ 6 * (lexStringBody s).1.length + 6 ∧
    ((C07Regex.star c07_stringBodyNew).run s k).2 = (k (lexStringBody s).2).2 := by
  have h2 := hk2 s
  fun_induction lexStringBody s
  case case1 c cs hc m r hx ih =>
    have hc' : c ≠ '\n' := by simpa [isDot] using hc
    have ih := ih (hk2 cs)
    simp only [hx] at ih
    have hs := c07_star_step _ ('\\' :: c :: cs) cs k 4 (by simp only [List.length_cons]; omega)
      (fun k' => c07_bodyNew_bs c cs k' hc') (fun e => h2 (by rw [← ih.2]; exact e))
    have := hk1 ('\\' :: c :: cs)
    exact ⟨by simp only [List.length_cons]; omega, by rw [hs.2, ih.2]⟩
  case case2 c cs hc =>
    have hc' : c = '\n' := by simpa [isDot] using hc
    subst hc'
    have hs := c07_star_stop _ ('\\' :: '\n' :: cs) k 4 (fun k' => by rw [c07_bodyNew_bs_nl]; exact ⟨Nat.le_refl _, rfl⟩)
    have := hk1 ('\\' :: '\n' :: cs)
    exact ⟨by simp only [List.length_nil]; omega, hs.2⟩
  case case3 c cs hx hc m r hx' ih =>
    simp at hc
    have ih := ih (hk2 cs)
    simp only [hx'] at ih
    have hs := c07_star_step _ (c :: cs) cs k 3 (by simp only [List.length_cons]; omega)
      (fun k' => by rw [c07_bodyNew_other c cs k' hc.1 hc.2]; exact ⟨Nat.le_refl _, rfl⟩)
      (fun e => h2 (by rw [← ih.2]; exact e))
    have := hk1 (c :: cs)
    exact ⟨by simp only [List.length_cons]; omega, by rw [hs.2, ih.2]⟩
  case case4 c cs hx hc =>
    -- a quote, or a backslash at the very end: neither alternative of the body starts here
    have hb : ∀ k', (c07_stringBodyNew.run (c :: cs) k').1 ≤ 4 ∧ (c07_stringBodyNew.run (c :: cs) k').2 = none := by
      intro k'
      simp at hc
      by_cases hq : c = '\''
      · subst hq; rw [c07_bodyNew_quote]; exact ⟨by omega, rfl⟩
      · have hb := hc hq
        subst hb
        cases cs with
        | nil => rw [c07_bodyNew_bs_nil]; exact ⟨Nat.le_refl _, rfl⟩
        | cons d ds => exact absurd rfl (hx d ds rfl)
    have hs := c07_star_stop _ (c :: cs) k 4 hb
    have := hk1 (c :: cs)
    exact ⟨by simp only [List.length_nil]; omega, hs.2⟩
  case case5 =>
    have hs := c07_star_stop _ [] k 3 (fun k' => by rw [c07_bodyNew_nil]; exact ⟨Nat.le_refl _, rfl⟩)
    have := hk1 []
    exact ⟨by simp only [List.length_nil]; omega, hs.2⟩

theorem c07_kq_snd (s : Str) : (c07_kq s).2 = c07_afterQuote s := by
  cases s with
  | nil => rfl
  | cons c cs =>
    rw [c07_kq_cons]
    by_cases h : c = '\''
    · subst h; rfl
    · rw [if_neg h, c07_afterQuote_ne c cs h]

theorem c07_kq_le (s : Str) : (c07_kq s).1 ≤ 1 := by
  cases s with
  | nil => exact Nat.le_refl _
  | cons c cs => rw [c07_kq_cons]; split <;> exact Nat.le_refl _

theorem c07_newLoop_kq (s : Str) :
    ((C07Regex.star c07_stringBodyNew).run s c07_kq).1 ≤ 6 * (lexStringBody s).1.length + 6 ∧
    ((C07Regex.star c07_stringBodyNew).run s c07_kq).2 = c07_afterQuote (lexStringBody s).2 := by
  rw [← c07_kq_snd]
  refine c07_newLoop c07_kq c07_kq_le (fun s h => ?_) s
  -- a body that starts with a quote is empty; anything else is no closing quote
  cases s with
  | nil => rfl
  | cons c cs =>
    by_cases hc : c = '\''
    · subst hc; exact h
    · rw [c07_kq_cons, if_neg hc]

theorem c07_newLoop_k0 (s : Str) :
    ((C07Regex.star c07_stringBodyNew).run s c07_k0).1 ≤ 6 * (lexStringBody s).1.length + 6 ∧
    ((C07Regex.star c07_stringBodyNew).run s c07_k0).2 = some (lexStringBody s).2 :=
  c07_newLoop c07_k0 (fun _ => Nat.zero_le _) (fun _ h => nomatch h) s

theorem c07_lexStringBody_length (s : Str) : (lexStringBody s).1.length ≤ s.length := by
  have := congrArg List.length (c07_lexStringBody_split s)
  rw [List.length_append] at this
  omega

theorem c07_bodyOld_run (s : Str) (k : Str → C07Res) : c07_stringBodyOld.run s k =
    (((C07Regex.chr c07_ccBackslash).run s fun s' => (C07Regex.chr .any).run s' k).orElse
      ((C07Regex.chr c07_ccNotQuote).run s k)).tick := rfl

/-- step count of the old loop on `n` backslashes with no closing quote -/
def c07_oldCost : Nat → Nat
  | 0 => 5
  | 1 => 11
  | n+2 => c07_oldCost (n+1) + c07_oldCost n + 6

theorem c07_oldLoop_two (n : Nat) :
    (C07Regex.star c07_stringBodyOld).run (List.replicate n '\\') c07_kq = (c07_oldCost n, none) ∧
    (C07Regex.star c07_stringBodyOld).run (List.replicate (n+1) '\\') c07_kq = (c07_oldCost (n+1), none) := by
  induction n with
  | zero =>
    constructor
    · rfl
    · rfl
  | succ n ih =>
    refine ⟨ih.2, ?_⟩
    rw [c07_star_unfold, c07_bodyOld_run]
    simp only [List.replicate_succ, c07_run_chr_cons, c07_test_bs, c07_test_nq, c07_test_any]
    simp only [List.replicate_succ] at ih
    have h1 : n < n + 1 + 1 := by omega
    simp [h1, ih.1, ih.2, c07_kq_cons, C07Res.orElse, C07Res.tick, c07_oldCost]
    omega

theorem c07_oldCost_mono (n : Nat) : c07_oldCost n ≤ c07_oldCost (n+1) := by
  cases n with
  | zero => decide
  | succ n => simp [c07_oldCost]; omega

theorem c07_oldCost_exp (k : Nat) : 2 ^ k ≤ c07_oldCost (2 * k) := by
  induction k with
  | zero => decide
  | succ k ih =>
    have : 2 * (k + 1) = 2 * k + 2 := by omega
    rw [this, c07_oldCost, Nat.pow_succ]
    have := c07_oldCost_mono (2 * k)
    omega

theorem c07_quoted_exec (r : C07Regex) (s : Str) :
    (C07Regex.seq (.chr c07_ccQuote) r).exec s =
      match s with
      | '\'' :: cs => (r.run cs c07_k0).tick
      | _ => (1, none) := by
  unfold C07Regex.exec
  rw [c07_run_seq]
  cases s with
  | nil => rfl
  | cons c cs =>
    rw [c07_run_chr_cons, c07_test_q]
    by_cases h : c = '\''
    · subst h; rfl
    · have : (c == '\'') = false := by simpa using h
      simp only [this, Bool.false_eq_true, if_false]
      split
      · rename_i heq; simp at heq; exact absurd heq.1 h
      · rfl

theorem c07_stringRule_exec (body : C07Regex) (s : Str) :
    (C07Regex.seq (.chr c07_ccQuote) (.seq (.star body) (.chr c07_ccQuote))).exec s =
      match s with
      | '\'' :: cs => ((C07Regex.star body).run cs c07_kq).tick
      | _ => (1, none) :=
  c07_quoted_exec _ s

theorem c07_lexString_quote (cs : Str) :
    lexString ('\'' :: cs) =
      match c07_afterQuote (lexStringBody cs).2 with
      | some r => some (.string, '\'' :: (lexStringBody cs).1 ++ ['\''], r)
      | none => some (.unterminated, '\'' :: (lexStringBody cs).1, (lexStringBody cs).2) := by
  simp only [lexString]
  generalize lexStringBody cs = p
  obtain ⟨m, r⟩ := p
  cases r with
  | nil => rfl
  | cons c r =>
    by_cases h : c = '\''
    · subst h; rfl
    · simp only [c07_afterQuote_ne c r h]
      split
      · rename_i heq; simp at heq; exact absurd heq.2.1 h
      · rename_i heq; simp at heq
        obtain ⟨rfl, rfl⟩ := heq
        rfl

theorem c07_new_result (s : Str) :
    (c07_stringRuleNew.exec s).2 =
      match lexString s with
      | some (.string, _, r) => some r
      | _ => none := by
  unfold c07_stringRuleNew
  rw [c07_stringRule_exec]
  split
  · rename_i cs
    simp only [c07_tick_snd, (c07_newLoop_kq cs).2, c07_lexString_quote]
    cases c07_afterQuote (lexStringBody cs).2 <;> rfl
  · rename_i h
    rw [c07_lexString_other s (fun cs e => h cs e)]

theorem c07_unterminated_exec (s : Str) :
    c07_unterminatedRule.exec s =
      match s with
      | '\'' :: cs => ((C07Regex.star c07_stringBodyNew).run cs c07_k0).tick
      | _ => (1, none) :=
  c07_quoted_exec _ s

theorem c07_unterminated_exec_ne (c : Char) (cs : Str) (h : c ≠ '\'') :
    c07_unterminatedRule.exec (c :: cs) = (1, none) := by
  rw [c07_unterminated_exec]
  split
  · rename_i heq; simp at heq; exact absurd heq.1 h
  · rfl

/-- the STRING / UNTERMINATED_STRING step of `regex_tokeniser`, computed by the regex matcher:
    try STRING, then UNTERMINATED_STRING; the token value is the matched prefix -/
def c07_lexStringRx (s : Str) : Option (TokTy × Str × Str) :=
  match (c07_stringRuleNew.exec s).2 with
  | some r => some (.string, s.take (s.length - r.length), r)
  | none =>
    match (c07_unterminatedRule.exec s).2 with
    | some r => some (.unterminated, s.take (s.length - r.length), r)
    | none => none

/-- the matched prefix, recovered from what is left -/
theorem c07_take_of_split (m r s : Str) (h : m ++ r = s) : s.take (s.length - r.length) = m := by
  subst h; simp

theorem c07_lexStringRx_eq (s : Str) : c07_lexStringRx s = lexString s := by
  unfold c07_lexStringRx
  rw [c07_new_result]
  cases s with
  | nil => rfl
  | cons c cs =>
    by_cases h : c = '\''
    · subst h
      rw [c07_unterminated_exec]
      have hsplit := c07_lexStringBody_split cs
      rw [c07_lexString_quote]
      simp only [c07_tick_snd, (c07_newLoop_k0 cs).2]
      generalize lexStringBody cs = p at *
      obtain ⟨m, r'⟩ := p
      simp only at hsplit ⊢
      subst hsplit
      cases hq : c07_afterQuote r' with
      | none =>
        simp only
        congr 3
        exact c07_take_of_split ('\'' :: m) r' _ rfl
      | some r =>
        simp only
        have : r' = '\'' :: r := by
          revert hq; unfold c07_afterQuote; split <;> simp_all
        subst this
        congr 3
        exact c07_take_of_split ('\'' :: m ++ ['\'']) r _ (by simp)
    · rw [c07_lexString_other _ (fun cs e => h (by simp at e; exact e.1)),
        c07_unterminated_exec_ne c cs h]

end Mammoth
