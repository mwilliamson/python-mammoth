/-
  C18 — the invariant for notes, comments, `visitDocument` and `convertDoc`.
-/
import Proofs.C18_Visit
namespace Mammoth

theorem c18_grows_visitNote (cfg : Cfg) (n : Note) :
    c18_grows cfg (c18_linkedL n.body) (visitNote cfg n) :=
  c18_linkedL_eq n.body ▸ (c18_visitRel cfg _).of_visitNote n fun _ h => h

theorem c18_grows_visitComment (cfg : Cfg) (lc : Str × Comment) :
    c18_grows cfg (c18_linkedL lc.2.body) (visitComment cfg lc) :=
  c18_linkedL_eq lc.2.body ▸ (c18_visitRel cfg _).of_visitComment lc fun _ h => h

theorem c18_grows_mapMConcat {α : Type} (cfg : Cfg) (U : List Str) (f : α → ConvM (List Node))
    (xs : List α) (h : ∀ x ∈ xs, c18_grows cfg U (f x)) : c18_grows cfg U (mapMConcat f xs) :=
  VisitRel.of_mapMConcat (c18_step_refl cfg U) c18_step_trans f xs h

theorem c18_resolveNote_mem {notes : List Note} {ref : Str × Str} {n : Note}
    (h : resolveNote notes ref = .ok n) : n ∈ notes := by
  unfold resolveNote at h
  split at h
  · rename_i n' hn
    cases h
    obtain ⟨x, hx, e⟩ := List.mem_map.mp (lookupLast_mem hn)
    cases e
    exact hx
  · cases h

theorem c18_mapM_resolve_mem {notes : List Note} (refs : List (Str × Str)) (ns : List Note)
    (h : refs.mapM (resolveNote notes) = .ok ns) : ∀ n ∈ ns, n ∈ notes := by
  intro n hn
  obtain ⟨_, _, hr⟩ := mapM_mem _ h n hn
  exact c18_resolveNote_mem hr

theorem c18_note_sub {d : Document} {n : Note} (hn : n ∈ d.notes) :
    c18_linkedL n.body ⊆ c18_docLinked d := by
  intro u hu
  unfold c18_docLinked
  refine List.mem_append_left _ (List.mem_append_right _ ?_)
  exact List.mem_flatMap.mpr ⟨n, hn, hu⟩

theorem c18_comment_sub {d : Document} {c : Comment} (hc : c ∈ d.comments) :
    c18_linkedL c.body ⊆ c18_docLinked d := by
  intro u hu
  unfold c18_docLinked
  refine List.mem_append_right _ ?_
  exact List.mem_flatMap.mpr ⟨c, hc, hu⟩

theorem c18_children_sub (d : Document) : c18_linkedL d.children ⊆ c18_docLinked d := by
  intro u hu
  unfold c18_docLinked
  exact List.mem_append_left _ (List.mem_append_left _ hu)

/-- all comments referenced so far belong to the document -/
def c18_refsOk (cfg : Cfg) (st : ConvState) : Prop := ∀ x ∈ st.refComments, x.2 ∈ cfg.comments

theorem c18_refsOk_step {cfg : Cfg} {U : List Str} {s1 s2 : ConvState} (h1 : c18_refsOk cfg s1)
    (h : c18_step cfg U s1 s2) : c18_refsOk cfg s2 := by
  obtain ⟨_, ⟨new, e, q⟩⟩ := h
  intro x hx
  rw [e] at hx
  exact (List.mem_append.mp hx).elim (h1 x) (q x)

theorem c18_step_notes {cfg : Cfg} {d : Document} {st s1 s3 : ConvState} {nodes noteNodes : List Node}
    {notes : List Note} (h1 : (visitAll cfg false d.children).run st = .ok (nodes, s1))
    (hns : s1.noteRefs.mapM (resolveNote d.notes) = .ok notes)
    (h3 : (mapMConcat (visitNote cfg) notes).run s1 = .ok (noteNodes, s3)) :
    c18_step cfg (c18_docLinked d) st s3 := by
  have hmem := c18_mapM_resolve_mem _ _ hns
  refine c18_step_trans (c18_step_mono (c18_children_sub d) (c18_grows_visitAll cfg false d.children _ _ _ h1))
    (c18_grows_mapMConcat cfg _ _ notes ?_ _ _ _ h3)
  intro n hn
  exact c18_grows_mono (c18_note_sub (hmem n hn)) (c18_grows_visitNote cfg n)

theorem c18_visitDocument (cfg : Cfg) (d : Document) (hc : cfg.comments = d.comments)
    (st : ConvState) (nodes : List Node) (st' : ConvState) (hinit : c18_refsOk cfg st)
    (h : (visitDocument cfg d).run st = .ok (nodes, st')) :
    c18_step cfg (c18_docLinked d) st st' := by
  obtain ⟨_, s1, notes, _, s3, _, h1, hns, h3, h4⟩ := c16_visitDocument_inv cfg d st st' nodes h
  have st12 := c18_step_notes h1 hns h3
  have ok3 : c18_refsOk cfg s3 := c18_refsOk_step hinit st12
  refine c18_step_trans st12 (c18_grows_mapMConcat cfg _ _ s3.refComments ?_ _ _ _ h4)
  intro lc hlc
  have : lc.2 ∈ d.comments := hc ▸ ok3 lc hlc
  exact c18_grows_mono (c18_comment_sub this) (c18_grows_visitComment cfg lc)

/-- the invariant at the level of `convertDoc` -/
theorem c18_convertDoc (cfg : Cfg) (d : Document) (r : ConvResult) (h : convertDoc cfg d = .ok r) :
    ∀ op ∈ r.ioTrace, c18_opens cfg = true ∧ c18_opOk cfg.base (c18_docLinked d) op := by
  unfold convertDoc at h
  split at h
  · rename_i nodes st hrun
    cases h
    have := c18_visitDocument { cfg with comments := d.comments } d rfl {} nodes st
      (by intro x hx; cases hx) hrun
    obtain ⟨⟨ops, e, p⟩, _⟩ := this
    intro op hop
    simp only at hop
    rw [e] at hop
    simp only [List.nil_append] at hop
    exact p op hop
  · cases h

end Mammoth
