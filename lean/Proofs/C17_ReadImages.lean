/-
  C17, reader half — the element reader refines `c17_xmlImages`: for every environment, fuel, reader state
  and XML node, if the reader returns, the images of the elements it returns (and of its `extra` result)
  are those of the specification, the buffer of the specification being the images of the XML nodes the
  reader holds back (`c17_pend`).  Same shape as `Proofs/C01_ReadDefer.lean`.
-/
import Proofs.C17_ReadAtoms
import Proofs.C01_ReadDefer
namespace Mammoth

/-- the result `r` carries the images `l`: in line and in the extra channel (each up to the row-span sweep) -/
def c17_Sim (nv : Bool) (r : ReadResult) (l : c17_Imgs) : Prop :=
  c17_Pre nv r.elements l.inline ∧ c17_Pre nv r.extra l.extra

theorem c17_Sim_mono {nv nv' : Bool} {r : ReadResult} {l : c17_Imgs} (hm : nv' = true → nv = true)
    (h : c17_Sim nv r l) : c17_Sim nv' r l := ⟨c17_Pre_mono hm h.1, c17_Pre_mono hm h.2⟩

theorem c17_Sim_empty (nv : Bool) : c17_Sim nv {} {} := ⟨c17_Pre_nil nv, c17_Pre_nil nv⟩

theorem c17_Sim_concat {nv : Bool} {a b : ReadResult} {la lb : c17_Imgs}
    (ha : c17_Sim nv a la) (hb : c17_Sim nv b lb) : c17_Sim nv (a.concat b) (la.append lb) :=
  ⟨c17_Pre_append ha.1 hb.1, c17_Pre_append ha.2 hb.2⟩

theorem c17_Sim_leaf (nv : Bool) {r : ReadResult} {l : List ImageProps} (h : c17_leafRes r l) :
    c17_Sim nv r ⟨l, []⟩ := by
  obtain ⟨h1, h2, h3⟩ := h
  refine ⟨?_, ?_⟩
  · have := c17_Pre_atoms nv r.elements h2
    rw [h3] at this; exact this
  · rw [h1]; exact c17_Pre_nil nv

/-- starting in state `st`, the reader returned `r` and ended in `st'`; the specification, started with
    the buffer that stands for `st.deleted`, returned `s`:
    `r` carries the images of `s`, and the buffer of `s` stands for `st'.deleted` -/
structure c17_P2 (env : REnv) (st : RState) (nvn : Bool) (s : c17_ImgsD) (r : ReadResult) (st' : RState) : Prop where
  sim : c17_Sim (c01_noVMergeL st.deleted && nvn) r s.live
  buf : c17_pend env st'.deleted = s.buf
  nv : (c01_noVMergeL st.deleted && nvn) = true → c01_noVMergeL st'.deleted = true

theorem c17_P2_mono {env : REnv} {st : RState} {nvn nvn' : Bool} {s : c17_ImgsD} {r : ReadResult} {st' : RState}
    (hm : nvn' = true → nvn = true) (h : c17_P2 env st nvn s r st') : c17_P2 env st nvn' s r st' :=
  ⟨c17_Sim_mono (c01_nv_mono hm) h.sim, h.buf, fun hv => h.nv (c01_nv_mono hm hv)⟩

/-- an element that is a leaf of the traversal: the held-back nodes are left alone -/
theorem c17_P2_leaf (env : REnv) (st : RState) (nvn : Bool) {r : ReadResult} {l : List ImageProps} {st' : RState}
    (hd : st'.deleted = st.deleted) (hr : c17_leafRes r l) :
    c17_P2 env st nvn ⟨⟨l, []⟩, c17_pend env st.deleted⟩ r st' :=
  ⟨c17_Sim_leaf _ hr, by rw [hd], fun hv => by rw [hd]; simp only [Bool.and_eq_true] at hv; exact hv.1⟩

theorem c17_leafRes_elems (es : List Elem) (h1 : es.all c01_atom = true) (h2 : c17_elemImagesL es = []) :
    c17_leafRes (rrElems es) [] := ⟨rfl, h1, h2⟩

abbrev c17_Q (env : REnv) (st : RState) (n : XmlNode) (p : ReadResult × RState) : Prop :=
  c17_P2 env st (c01_noVMerge n) (c17_xmlImages env (c17_pend env st.deleted) n) p.1 p.2

abbrev c17_QL (env : REnv) (st : RState) (ns : List XmlNode) (p : ReadResult × RState) : Prop :=
  c17_P2 env st (c01_noVMergeL ns) (c17_xmlImagesL env (c17_pend env st.deleted) ns) p.1 p.2

/-- one element, given the reader for lists of children -/
theorem c17_readHandler_images (env : REnv) (ra : c05_RdAll)
    (ih : ∀ st ns, c05_spec (fun _ => True) (c17_QL env st ns) (ra st ns))
    (st : RState) {name : Str} (as : Attrs) (cs : List XmlNode) (k : Handler)
    (hg : handlerOf name = some k.name) (hk : c17_kindOf name = c17_kindH k) :
    c05_spec (fun _ => True) (c17_Q env st (.elem name as cs)) (readHandler env ra st as cs k) := by
  unfold c17_Q
  have hnvc : c01_noVMerge (.elem name as cs) = true → c01_noVMergeL cs = true := by
    intro h; simp only [c01_noVMerge, Bool.and_eq_true] at h; exact h.2
  have hcs := c05_spec_weaken (ih st cs) fun _ hp => c17_P2_mono hnvc hp
  cases k with
  | text | tab | noBreakHyphen | softHyphen =>
    rw [c17_xmlImages_skip env _ as cs hk]
    exact c05_spec_ok _ (c17_P2_leaf env st _ rfl (c17_leafRes_elems _ rfl (by simp [c17_elemImages])))
  | footnoteRef | endnoteRef | commentRef =>
    rw [c17_xmlImages_skip env _ as cs hk]
    dsimp only [readHandler, readNoteRef]
    cases attr? S!"w:id" as with
    | none => exact ⟨fun _ _ => trivial, fun _ h => nomatch h⟩
    | some id => exact c05_spec_ok _ (c17_P2_leaf env st _ rfl (c17_leafRes_elems _ rfl (by simp [c17_elemImages])))
  | instrText =>
    rw [c17_xmlImages_skip env _ as cs hk]
    exact c05_spec_ok _ (c17_P2_leaf env st _ rfl c17_leafRes_empty)
  | break_ =>
    rw [c17_xmlImages_skip env _ as cs hk]
    exact c05_spec_ok _ (c17_P2_leaf env st _ rfl (c17_leafRes_break as))
  | bookmarkStart =>
    rw [c17_xmlImages_skip env _ as cs hk]
    refine c05_spec_ite _ _ _ (fun _ => ?_) (fun _ => ?_)
    · exact c05_spec_ok _ (c17_P2_leaf env st _ rfl c17_leafRes_empty)
    · exact c05_spec_ok _ (c17_P2_leaf env st _ rfl (c17_leafRes_elems _ rfl (by simp [c17_elemImages])))
  | fldChar =>
    rw [c17_xmlImages_skip env _ as cs hk]
    refine ⟨fun _ _ => trivial, fun p h => ?_⟩
    obtain ⟨hl, hd⟩ := c17_leafRes_fldChar st as cs p.1 p.2 h
    exact c17_P2_leaf env st _ hd hl
  | symbol =>
    rw [c17_xmlImages_skip env _ as cs hk]
    dsimp only [readHandler]
    exact c05_spec_map _ _ ⟨fun _ _ => trivial, fun r h => c17_leafRes_symbol as r h⟩
      fun _ hr => c17_P2_leaf env st _ rfl hr
  | inline =>
    rw [c17_xmlImages_drawing env _ as cs hk]
    dsimp only [readHandler]
    exact c05_spec_map _ _ ⟨fun _ _ => trivial, fun r h => c17_leafRes_inline env cs r h⟩
      fun _ hr => c17_P2_leaf env st _ rfl hr
  | imagedata =>
    rw [c17_xmlImages_imagedata env _ as cs hk]
    refine ⟨fun _ _ => trivial, fun p h => ?_⟩
    obtain ⟨hl, hst⟩ := c17_leafRes_imagedata env as st p.1 p.2 h
    exact c17_P2_leaf env st _ (congrArg RState.deleted hst) hl
  | run =>
    rw [c17_xmlImages_through env _ as cs hk]
    refine c05_spec_bind _ _ hcs fun p hp => c05_spec_pure _ ⟨⟨c17_Pre_run _ ?_, hp.sim.2⟩, hp.buf, hp.nv⟩
    cases currentHyperlink p.2.stack with
    | none => exact hp.sim.1
    | some kw => exact c17_Pre_hyperlink kw hp.sim.1
  | table =>
    rw [c17_xmlImages_through env _ as cs hk]
    exact c05_spec_bind _ _ hcs fun p hp =>
      c05_spec_pure _ ⟨⟨c17_Pre_table _ _ hp.sim.1, hp.sim.2⟩, hp.buf, hp.nv⟩
  | tableRow =>
    rw [c17_xmlImages_through env _ as cs hk]
    exact c05_spec_bind _ _ hcs fun p hp =>
      c05_spec_pure _ ⟨⟨c17_Pre_row _ hp.sim.1, hp.sim.2⟩, hp.buf, hp.nv⟩
  | tableCell =>
    rw [c17_xmlImages_through env _ as cs hk, readHandler_tableCell]
    refine c05_spec_bind (Q := fun _ => True) _ _ ⟨fun _ _ => trivial, fun _ _ => trivial⟩ fun _ _ => ?_
    refine c05_spec_bind _ _ hcs fun p hp =>
      c05_spec_pure _ ⟨⟨c17_Pre_cell _ _ _ (fun hv => ?_) hp.sim.1, hp.sim.2⟩, hp.buf, hp.nv⟩
    exact c01_cell_vm hg (Bool.and_eq_true_iff.mp hv).2
  | childElements =>
    rw [c17_xmlImages_through env _ as cs hk]
    exact hcs
  | pict =>
    rw [c17_xmlImages_pict env _ as cs hk]
    exact c05_spec_bind _ _ hcs fun p hp =>
      c05_spec_pure _ ⟨⟨c17_Pre_nil _, c17_Pre_append hp.sim.2 hp.sim.1⟩, hp.buf, hp.nv⟩
  | hyperlink =>
    rw [c17_xmlImages_through env _ as cs hk]
    refine c05_spec_bind _ _ hcs fun p hp => ?_
    have hl (l : LinkProps) : c17_P2 env st (c01_noVMerge (.elem name as cs))
        (c17_xmlImagesL env (c17_pend env st.deleted) cs) { p.1 with elements := [.hyperlink l p.1.elements] } p.2 :=
      ⟨⟨c17_Pre_hyperlink _ hp.sim.1, hp.sim.2⟩, hp.buf, hp.nv⟩
    cases attr? S!"r:id" as with
    | some rid =>
      exact c05_spec_bind (Q := fun _ => True) _ _ ⟨fun _ _ => trivial, fun _ _ => trivial⟩
        fun _ _ => c05_spec_pure _ (hl _)
    | none =>
      cases attr? S!"w:anchor" as with
      | some a => exact c05_spec_pure _ (hl _)
      | none => exact c05_spec_pure _ hp
  | paragraph =>
    obtain ⟨k1, k2⟩ := c17_pend_key env st.deleted cs
    rw [c17_xmlImages_paragraph env _ as cs hk, ← k1, ← k2]
    have hmono : (c01_noVMergeL st.deleted && c01_noVMerge (.elem name as cs)) = true →
        c01_noVMergeL (st.deleted ++ cs) = true := by
      intro hv
      simp only [Bool.and_eq_true] at hv
      rw [c01_noVMergeL_append, hv.1, hnvc hv.2]; rfl
    refine c05_spec_ite (c01_delMark cs = true) _ _ (fun hd => ?_) (fun hd => ?_)
    · -- the mark is deleted: the content joins the held-back nodes
      rw [if_pos hd]
      exact c05_spec_ok _ ⟨c17_Sim_empty _, rfl, hmono⟩
    · rw [if_neg hd]
      have hp0 := ih { st with deleted := [] } (st.deleted ++ cs)
      unfold c17_QL at hp0
      rw [show c17_pend env ({ st with deleted := [] } : RState).deleted = [] from c17_pend_nil env] at hp0
      refine c05_spec_bind _ _ hp0 fun p hp => ?_
      refine c05_spec_bind (Q := fun _ => True) _ _ ⟨fun _ _ => trivial, fun _ _ => trivial⟩ fun num _ => ?_
      have hsim := c17_Sim_mono (nv' := c01_noVMergeL st.deleted && c01_noVMerge (.elem name as cs)) hmono hp.sim
      refine c05_spec_pure _ ⟨⟨?_, c17_Pre_nil _⟩, hp.buf, fun hv => hp.nv (hmono hv)⟩
      exact c17_Pre_append (a := [_]) (c17_Pre_paragraph _ hsim.1) hsim.2
  | alternateContent =>
    rw [c17_xmlImages_alt env _ as cs hk]
    exact c05_spec_weaken (ih st _) fun _ hp =>
      c17_P2_mono (fun hv => c01_noVMergeL_findChild _ cs (hnvc hv)) hp
  | sdt =>
    rw [c17_xmlImages_sdt env _ as cs hk, c01_isCheckboxSdt]
    dsimp only [readHandler]
    cases findChild S!"wordml:checkbox" (findChildOrNull S!"w:sdtPr" cs).2 with
    | some cb =>
      exact c05_spec_ok _ (c17_P2_leaf env st _ rfl (c17_leafRes_elems _ rfl (by simp [c17_elemImages])))
    | none =>
      exact c05_spec_weaken (ih st _) fun _ hp =>
        c17_P2_mono (fun hv => c01_noVMergeL_findChild _ cs (hnvc hv)) hp

theorem c17_closed (env : REnv) : c05_Closed env (fun _ => True) (c17_Q env) (c17_QL env) where
  fuel := trivial
  nil st := by
    dsimp only [c17_QL]
    rw [c17_xmlImagesL_nil]
    exact c17_P2_leaf env st _ rfl c17_leafRes_empty
  text st s := by
    dsimp only [c17_Q]
    rw [c17_xmlImages_text]
    exact c17_P2_leaf env st _ rfl c17_leafRes_empty
  skip st s ns p h := by
    dsimp only [c17_QL] at h ⊢
    rw [c17_xmlImagesL_cons, c17_xmlImages_text]
    simpa [c01_noVMergeL, c01_noVMerge] using h
  cons st name as cs ns p1 p2 h1 h2 := by
    dsimp only [c17_Q, c17_QL] at h1 h2 ⊢
    rw [c17_xmlImagesL_cons]
    rw [h1.buf] at h2
    have hv : (c01_noVMergeL st.deleted && c01_noVMergeL (.elem name as cs :: ns)) = true →
        (c01_noVMergeL st.deleted && c01_noVMerge (.elem name as cs)) = true ∧
        (c01_noVMergeL p1.2.deleted && c01_noVMergeL ns) = true := by
      intro hv
      simp only [c01_noVMergeL, Bool.and_eq_true] at hv
      have h1' : (c01_noVMergeL st.deleted && c01_noVMerge (.elem name as cs)) = true := by
        rw [hv.1, hv.2.1]; rfl
      exact ⟨h1', by rw [h1.nv h1', hv.2.2]; rfl⟩
    exact ⟨c17_Sim_concat (c17_Sim_mono (fun h' => (hv h').1) h1.sim) (c17_Sim_mono (fun h' => (hv h').2) h2.sim),
      h2.buf, fun h' => h2.nv (hv h').2⟩
  unhandled st name as cs hg := by
    unfold c17_Q
    rw [readUnhandled, c17_xmlImages_skip env _ as cs (c17_kindOf_none hg)]
    refine c05_spec_ite _ _ _ (fun _ => ?_) (fun _ => ?_)
    · exact c05_spec_ok _ (c17_P2_leaf env st _ rfl c17_leafRes_empty)
    · exact c05_spec_ok _ (c17_P2_leaf env st _ rfl (c17_leafRes_msg _))
  handler ra ih st name as cs h hg := by
    obtain ⟨k, rfl, hk⟩ := c17_kindOf_handler hg
    rw [readNamed_name]
    exact c17_readHandler_images env ra ih st as cs k hg hk

theorem c17_readElem_images (env : REnv) (f : Nat) (st : RState) (n : XmlNode) (r : ReadResult) (st' : RState)
    (h : readElem env f st n = .ok (r, st')) :
    c17_P2 env st (c01_noVMerge n) (c17_xmlImages env (c17_pend env st.deleted) n) r st' :=
  (c05_readElem_closed (c17_closed env) f st n).ok _ h

theorem c17_readAll_images (env : REnv) (f : Nat) (st : RState) (ns : List XmlNode) (r : ReadResult) (st' : RState)
    (h : readAll env f st ns = .ok (r, st')) :
    c17_P2 env st (c01_noVMergeL ns) (c17_xmlImagesL env (c17_pend env st.deleted) ns) r st' :=
  (c05_readAll_closed (c17_closed env) f st ns).ok _ h

end Mammoth
