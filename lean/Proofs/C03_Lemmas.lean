/-
  C03 — `findPathWarn` (`_find_html_path`): its result and the warning it may add (`c03_warnState`);
  what `visit` does on a paragraph, a run and a table in terms of the style-map lookup.
-/
import MammothModel.Package
import Proofs.Basics
namespace Mammoth

/-! ### running the converter monad -/

theorem c03_pure_run {α} (a : α) (st : ConvState) : (pure a : ConvM α).run st = .ok (a, st) := run_pure a st

theorem c03_findPath_some {cfg : Cfg} {t : Target} {s : Style} {p : HtmlPath}
    (h : findStyle cfg.upper cfg.styleMap t = some s) (hp : s.path = p) : findPath cfg t = some p := by
  rw [findPath, h, Option.map_some, hp]

theorem c03_findPath_none {cfg : Cfg} {t : Target} (h : findStyle cfg.upper cfg.styleMap t = none) :
    findPath cfg t = none := by
  rw [findPath, h, Option.map_none]

/-- the warning text of `_find_html_path` -/
def c03_styleWarning (kind : Str) (styleName : Option Str) (sid : Str) : Str :=
  S!"Unrecognised " ++ kind ++ S!" style: " ++ pyOpt styleName ++ S!" (Style ID: " ++ sid ++ S!")"

/-- the state after `findPathWarn`: one more message iff nothing matched and there is a style id -/
def c03_warnState (cfg : Cfg) (t : Target) (kind : Str) (styleId styleName : Option Str)
    (st : ConvState) : ConvState :=
  match findPath cfg t, styleId with
  | none, some sid => { st with messages := st.messages ++ [c03_styleWarning kind styleName sid] }
  | _, _ => st

theorem c03_findPathWarn_run (cfg : Cfg) (t : Target) (kind : Str) (sid sname : Option Str)
    (d : HtmlPath) (st : ConvState) :
    (findPathWarn cfg t kind sid sname d).run st =
      .ok ((findPath cfg t).getD d, c03_warnState cfg t kind sid sname st) := by
  unfold findPathWarn c03_warnState
  cases h : findPath cfg t with
  | some p => rfl
  | none =>
    cases sid with
    | none => rfl
    | some i => rfl

theorem c03_warnState_matched (cfg : Cfg) (t : Target) (kind : Str) (sid sname : Option Str)
    (st : ConvState) (p : HtmlPath) (h : findPath cfg t = some p) :
    c03_warnState cfg t kind sid sname st = st := by
  simp [c03_warnState, h]

theorem c03_warnState_noId (cfg : Cfg) (t : Target) (kind : Str) (sname : Option Str)
    (st : ConvState) : c03_warnState cfg t kind none sname st = st := by
  unfold c03_warnState
  cases findPath cfg t <;> rfl

theorem c03_warnState_fields (cfg : Cfg) (t : Target) (kind : Str) (sid sname : Option Str)
    (st : ConvState) :
    (c03_warnState cfg t kind sid sname st).noteRefs = st.noteRefs ∧
    (c03_warnState cfg t kind sid sname st).refComments = st.refComments ∧
    (c03_warnState cfg t kind sid sname st).ioTrace = st.ioTrace := by
  unfold c03_warnState
  split <;> exact ⟨rfl, rfl, rfl⟩

/-! ### `wrapAll` / `wrapElems` -/

theorem c03_wrapAll_append (ps qs : List HtmlPath) (ns : List Node) :
    wrapAll (ps ++ qs) ns = wrapAll qs (wrapAll ps ns) := by
  induction ps generalizing ns with
  | nil => rfl
  | cons p ps ih =>
    cases p with
    | elements es => simp only [List.cons_append, wrapAll, ih]
    | ignore => simp only [List.cons_append, wrapAll, ih]

theorem c03_visit_paragraph (cfg : Cfg) (hdr : Bool) (p : ParaProps) (cs : List Elem) (st : ConvState) :
    (visit cfg hdr (.paragraph p cs)).run st =
      match (findPath cfg (.paragraph p)).getD (.elements [pathElem S!"p" true]) with
      | .ignore => .ok ([], c03_warnState cfg (.paragraph p) S!"paragraph" p.styleId p.styleName st)
      | .elements es =>
        match (visitAll cfg hdr cs).run
                (c03_warnState cfg (.paragraph p) S!"paragraph" p.styleId p.styleName st) with
        | .ok (content, st') =>
          .ok (wrapElems es (if cfg.ignoreEmpty then content else .forceWrite :: content), st')
        | .error e => .error e := by
  rw [visit, run_bind, c03_findPathWarn_run]
  cases (findPath cfg (.paragraph p)).getD (.elements [pathElem S!"p" true]) with
  | ignore => rfl
  | elements es =>
    simp only [run_bind]
    cases (visitAll cfg hdr cs).run _ <;> rfl

theorem c03_visit_run (cfg : Cfg) (hdr : Bool) (r : RunProps) (cs : List Elem) (st : ConvState) :
    (visit cfg hdr (.run r cs)).run st =
      if (runPropPaths cfg r ++
            [(findPath cfg (.run r.styleId r.styleName)).getD (.elements [])]).any HtmlPath.isIgnore then
        .ok (wrapAll (runPropPaths cfg r ++
                        [(findPath cfg (.run r.styleId r.styleName)).getD (.elements [])]) [],
             c03_warnState cfg (.run r.styleId r.styleName) S!"run" r.styleId r.styleName st)
      else
        match (visitAll cfg hdr cs).run
                (c03_warnState cfg (.run r.styleId r.styleName) S!"run" r.styleId r.styleName st) with
        | .ok (ns, st') =>
          .ok (wrapAll (runPropPaths cfg r ++
                          [(findPath cfg (.run r.styleId r.styleName)).getD (.elements [])]) ns, st')
        | .error e => .error e := by
  rw [visit, run_bind, c03_findPathWarn_run]
  dsimp only
  split
  · rfl
  · simp only [run_bind]
    cases (visitAll cfg hdr cs).run _ <;> rfl

theorem c03_visit_table (cfg : Cfg) (hdr : Bool) (sid sname : Option Str) (rows : List Elem)
    (st : ConvState) :
    (visit cfg hdr (.table sid sname rows)).run st =
      match (findPath cfg (.table sid sname)).getD (.elements [pathElem S!"table" true]) with
      | .ignore => .ok ([], st)
      | .elements es =>
        match (visitRows cfg true rows).run st with
        | .ok ((head, body), st') =>
          .ok (wrapElems es
                (.forceWrite :: (if bodyIndex rows == 0 then body
                                 else [el S!"thead" [] head, el S!"tbody" [] body])), st')
        | .error e => .error e := by
  rw [visit]
  cases (findPath cfg (.table sid sname)).getD (.elements [pathElem S!"table" true]) with
  | ignore => rfl
  | elements es =>
    simp only [run_bind]
    cases (visitRows cfg true rows).run st <;> rfl

/-! ### kinds -/

/-- what sort of thing a matcher / a target is about -/
inductive c03_Kind where
  | paragraph | run | table | bold | italic | underline | strikethrough | allCaps | smallCaps
  | highlight | commentReference | brk
deriving DecidableEq, Repr

def c03_matcherKind : Matcher → c03_Kind
  | .paragraph _ _ _ => .paragraph
  | .run _ _ => .run
  | .table _ _ => .table
  | .bold => .bold
  | .italic => .italic
  | .underline => .underline
  | .strikethrough => .strikethrough
  | .allCaps => .allCaps
  | .smallCaps => .smallCaps
  | .highlight _ => .highlight
  | .commentReference => .commentReference
  | .brk _ => .brk

def c03_targetKind : Target → c03_Kind
  | .paragraph _ => .paragraph
  | .run _ _ => .run
  | .table _ _ => .table
  | .bold => .bold
  | .italic => .italic
  | .underline => .underline
  | .strikethrough => .strikethrough
  | .allCaps => .allCaps
  | .smallCaps => .smallCaps
  | .highlight _ => .highlight
  | .commentReference => .commentReference
  | .brk _ => .brk

theorem c03_optEqOrNone_iff (m e : Option Str) :
    optEqOrNone m e = true ↔ ∀ v, m = some v → e = some v := by
  cases m <;> simp [optEqOrNone]

theorem c03_nameMatches_iff (up : Str → Str) (m : Option StrMatch) (e : Option Str) :
    nameMatches up m e = true ↔ ∀ sm, m = some sm → ∃ n, e = some n ∧ sm.matches up n = true := by
  cases m with
  | none => simp [nameMatches]
  | some sm => cases e <;> simp [nameMatches]

end Mammoth
