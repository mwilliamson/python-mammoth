/-
  Decidable equality for the types that closed test vectors compare (results of the converter and of
  the reader), so that such vectors are checked by kernel evaluation (`decide +kernel`).
  `Node` and `XmlNode` contain lists of themselves: equality is tested by a structural Boolean
  function, proved to decide equality.
-/
import MammothModel.Reader
namespace Mammoth

deriving instance DecidableEq for Except

mutual
def Node.eqb : Node → Node → Bool
  | .text s, .text t => s == t
  | .forceWrite, .forceWrite => true
  | .elem t cs, .elem u ds => t == u && Node.eqbL cs ds
  | _, _ => false
def Node.eqbL : List Node → List Node → Bool
  | [], [] => true
  | a :: as, b :: bs => Node.eqb a b && Node.eqbL as bs
  | _, _ => false
end

mutual
theorem Node.eqb_refl : ∀ a : Node, a.eqb a = true
  | .text s => by simp [Node.eqb]
  | .forceWrite => rfl
  | .elem t cs => by simp [Node.eqb, Node.eqbL_refl cs]
theorem Node.eqbL_refl : ∀ as : List Node, Node.eqbL as as = true
  | [] => rfl
  | a :: as => by simp [Node.eqbL, Node.eqb_refl a, Node.eqbL_refl as]
end

mutual
theorem Node.eq_of_eqb (a b : Node) (h : a.eqb b = true) : a = b := by
  match a with
  | .text s =>
    cases b <;> simp only [Node.eqb, beq_iff_eq, Bool.false_eq_true] at h
    rw [h]
  | .forceWrite =>
    cases b <;> simp only [Node.eqb, Bool.false_eq_true] at h
    rfl
  | .elem t cs =>
    cases b <;> simp only [Node.eqb, Bool.and_eq_true, beq_iff_eq, Bool.false_eq_true] at h
    rw [h.1, Node.eqL_of_eqbL cs _ h.2]
theorem Node.eqL_of_eqbL (as bs : List Node) (h : Node.eqbL as bs = true) : as = bs := by
  match as with
  | [] =>
    cases bs <;> simp only [Node.eqbL, Bool.false_eq_true] at h
    rfl
  | a :: as =>
    cases bs <;> simp only [Node.eqbL, Bool.and_eq_true, Bool.false_eq_true] at h
    rw [Node.eq_of_eqb a _ h.1, Node.eqL_of_eqbL as _ h.2]
end

instance : DecidableEq Node := fun a b =>
  decidable_of_iff (a.eqb b = true) ⟨Node.eq_of_eqb a b, fun h => h ▸ Node.eqb_refl a⟩

mutual
def XmlNode.eqb : XmlNode → XmlNode → Bool
  | .elem n as cs, .elem m bs ds => n == m && as == bs && XmlNode.eqbL cs ds
  | .text s, .text t => s == t
  | _, _ => false
def XmlNode.eqbL : List XmlNode → List XmlNode → Bool
  | [], [] => true
  | a :: as, b :: bs => XmlNode.eqb a b && XmlNode.eqbL as bs
  | _, _ => false
end

mutual
theorem XmlNode.eqb_refl : ∀ a : XmlNode, a.eqb a = true
  | .elem n as cs => by simp [XmlNode.eqb, XmlNode.eqbL_refl cs]
  | .text s => by simp [XmlNode.eqb]
theorem XmlNode.eqbL_refl : ∀ as : List XmlNode, XmlNode.eqbL as as = true
  | [] => rfl
  | a :: as => by simp [XmlNode.eqbL, XmlNode.eqb_refl a, XmlNode.eqbL_refl as]
end

mutual
theorem XmlNode.eq_of_eqb (a b : XmlNode) (h : a.eqb b = true) : a = b := by
  match a with
  | .elem n as cs =>
    cases b <;> simp only [XmlNode.eqb, Bool.and_eq_true, beq_iff_eq, Bool.false_eq_true] at h
    rw [h.1.1, h.1.2, XmlNode.eqL_of_eqbL cs _ h.2]
  | .text s =>
    cases b <;> simp only [XmlNode.eqb, beq_iff_eq, Bool.false_eq_true] at h
    rw [h]
theorem XmlNode.eqL_of_eqbL (as bs : List XmlNode) (h : XmlNode.eqbL as bs = true) : as = bs := by
  match as with
  | [] =>
    cases bs <;> simp only [XmlNode.eqbL, Bool.false_eq_true] at h
    rfl
  | a :: as =>
    cases bs <;> simp only [XmlNode.eqbL, Bool.and_eq_true, Bool.false_eq_true] at h
    rw [XmlNode.eq_of_eqb a _ h.1, XmlNode.eqL_of_eqbL as _ h.2]
end

instance : DecidableEq XmlNode := fun a b =>
  decidable_of_iff (a.eqb b = true) ⟨XmlNode.eq_of_eqb a b, fun h => h ▸ XmlNode.eqb_refl a⟩

end Mammoth
