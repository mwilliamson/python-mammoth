/-
  C10 helpers: the pieces of the instruction-text matchers (`\s*`, `\s+`, a literal prefix) on
  strings of the expected shape.
-/
import MammothModel.Reader
namespace Mammoth

/-- all characters are white space (`\s*`) -/
def c10_allWs (s : Str) : Bool := s.all isSpace

theorem c10_dropWhile_isSpace (s : Str) : s.dropWhile isSpace = lstripWs s := by
  induction s with
  | nil => rfl
  | cons c cs ih =>
    by_cases h : isSpace c = true
    · simp only [List.dropWhile_cons_of_pos h, lstripWs, h, if_true, ih]
    · simp [List.dropWhile, lstripWs, h]

theorem c10_lstripWs_ws (ws s : Str) (h : c10_allWs ws = true) : lstripWs (ws ++ s) = lstripWs s := by
  rw [← c10_dropWhile_isSpace, ← c10_dropWhile_isSpace, List.dropWhile_append_of_pos]
  exact List.all_eq_true.mp h

theorem c10_lstripWs_nonspace (c : Char) (s : Str) (h : isSpace c = false) : lstripWs (c :: s) = c :: s := by
  simp [lstripWs, h]

theorem c10_stripPrefix_append (p s : Str) : stripPrefix? (p ++ s) p = some s := by
  induction p with
  | nil => cases s <;> rfl
  | cons c cs ih => simp [stripPrefix?, ih]

/-- `\s+` followed by a non-space character consumes exactly the white space -/
theorem c10_ws1_ws (ws s : Str) (c : Char) (hne : ws ≠ []) (h : c10_allWs ws = true) (hc : isSpace c = false) :
    ws1 (ws ++ c :: s) = some (c :: s) := by
  cases ws with
  | nil => contradiction
  | cons w ws' =>
    simp only [c10_allWs, List.all_cons, Bool.and_eq_true] at h
    simp only [List.cons_append, ws1, h.1, if_true, skipWs]
    rw [c10_lstripWs_ws ws' _ h.2, c10_lstripWs_nonspace c s hc]

theorem c10_takeWhile_all (q : Char) (s : Str) (h : q ∉ s) : s.takeWhile (· != q) = s := by
  induction s with
  | nil => rfl
  | cons c cs ih =>
    simp only [List.mem_cons, not_or] at h
    have hc : (c != q) = true := by simpa using fun e => h.1 e.symm
    simp [hc, ih h.2]

theorem c10_takeWhile_stop (q : Char) (url rest : Str) (h : q ∉ url) :
    (url ++ q :: rest).takeWhile (· != q) = url := by
  rw [List.takeWhile_append, c10_takeWhile_all q url h]
  simp

/-- `\s*HYPERLINK` at the start of the instruction -/
theorem c10_keyword (w1 tail : Str) (h1 : c10_allWs w1 = true) :
    stripPrefix? (skipWs (w1 ++ (S!"HYPERLINK" ++ tail))) S!"HYPERLINK" = some tail := by
  simp only [skipWs]
  rw [c10_lstripWs_ws w1 _ h1]
  rw [show S!"HYPERLINK" ++ tail = 'H' :: (S!"YPERLINK" ++ tail) from rfl]
  rw [c10_lstripWs_nonspace 'H' _ (by decide)]
  exact c10_stripPrefix_append S!"HYPERLINK" tail

/-- after `HYPERLINK\s+` an external link needs a `"`; a `\l` switch is not one -/
theorem c10_external_none (w1 w2 rest : Str) (h1 : c10_allWs w1 = true) (h2 : c10_allWs w2 = true)
    (hne : w2 ≠ []) : matchExternalLink (w1 ++ S!"HYPERLINK" ++ w2 ++ S!"\\l" ++ rest) = none := by
  have e : w1 ++ S!"HYPERLINK" ++ w2 ++ S!"\\l" ++ rest =
      w1 ++ (S!"HYPERLINK" ++ (w2 ++ '\\' :: ('l' :: rest))) := by simp
  rw [e]
  unfold matchExternalLink
  rw [c10_keyword w1 _ h1]
  simp only [Option.bind_eq_bind, Option.bind_some]
  rw [c10_ws1_ws w2 _ '\\' hne h2 (by decide)]
  rfl

end Mammoth
