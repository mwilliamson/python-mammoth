/-
  C16 — images that cannot be opened are reported.
-/
import MammothModel.Convert
import Proofs.Basics
namespace Mammoth

/-- the warning `Image.open` ends in, if any (an embedded image is either there or a KeyError) -/
def c16_openError (cfg : Cfg) (src : ImageSrc) : Option Str :=
  match src with
  | .embedded _ => none
  | .linked uri =>
    if isAbsoluteUri uri then
      match cfg.world uri with
      | some _ => none
      | none => some (S!"could not open external image: '" ++ uri ++ S!"' (document directory: '" ++
                        pyOpt cfg.base ++ S!"')")
    else match cfg.base with
      | some b =>
        match cfg.world (osPathJoin b uri) with
        | some _ => none
        | none => some (S!"could not open external image: '" ++ uri ++ S!"' (document directory: '" ++
                          b ++ S!"')")
      | none => some (S!"could not find external image '" ++ uri ++ S!"', fileobj has no name")

/-- does the configured image converter open the image at all -/
def c16_opens (cfg : Cfg) : Bool :=
  match cfg.imageConv with
  | .dataUri => true
  | .fixed _ o => o

/-- opening the image succeeds -/
def c16_srcOk (cfg : Cfg) (src : ImageSrc) : Bool :=
  match src with
  | .embedded _ => true
  | .linked uri =>
    if isAbsoluteUri uri then (cfg.world uri).isSome
    else match cfg.base with
      | some b => (cfg.world (osPathJoin b uri)).isSome
      | none => false

theorem c16_openError_none_iff (cfg : Cfg) (src : ImageSrc) :
    c16_openError cfg src = none ↔ c16_srcOk cfg src = true := by
  have yes : (none : Option Str) = none ↔ true = true := ⟨fun _ => rfl, fun _ => rfl⟩
  have no : ∀ m : Str, some m = none ↔ false = true := fun _ => ⟨nofun, nofun⟩
  unfold c16_openError c16_srcOk
  cases src with
  | embedded n => exact yes
  | linked uri =>
    dsimp only
    by_cases habs : isAbsoluteUri uri = true
    · rw [if_pos habs, if_pos habs]
      cases cfg.world uri
      · exact no _
      · exact yes
    · rw [if_neg habs, if_neg habs]
      cases cfg.base with
      | none => exact no _
      | some b =>
        dsimp only
        cases cfg.world (osPathJoin b uri)
        · exact no _
        · exact yes

theorem c16_openImage_linked (cfg : Cfg) (uri : Str) (st : ConvState) :
    ∃ res t, (openImage cfg (.linked uri)).run st = .ok (res, { st with ioTrace := t }) ∧
      c16_openError cfg (.linked uri) = (match res with | .error m => some m | .ok _ => none) := by
  unfold openImage c16_openError
  dsimp only
  by_cases habs : isAbsoluteUri uri = true
  · rw [if_pos habs, if_pos habs, run_bind, run_modify]
    dsimp only
    cases cfg.world uri with
    | some b => exact ⟨.ok b, _, rfl, rfl⟩
    | none => exact ⟨.error _, _, rfl, rfl⟩
  · rw [if_neg habs, if_neg habs]
    cases cfg.base with
    | none => exact ⟨.error _, st.ioTrace, rfl, rfl⟩
    | some b =>
      dsimp only
      rw [run_bind, run_modify]
      dsimp only
      cases cfg.world (osPathJoin b uri) with
      | some bs => exact ⟨.ok bs, _, rfl, rfl⟩
      | none => exact ⟨.error _, _, rfl, rfl⟩

theorem c16_openImage_post (cfg : Cfg) (src : ImageSrc) (st : ConvState) (res : Except Str Bytes)
    (st1 : ConvState) (h : (openImage cfg src).run st = .ok (res, st1)) :
    (∃ t, st1 = { st with ioTrace := t }) ∧
      c16_openError cfg src = (match (generalizing := false) res with | .error m => some m | .ok _ => none) := by
  cases src with
  | embedded n =>
    unfold openImage at h
    dsimp only at h
    split at h
    · rw [run_pure] at h; cases h
      exact ⟨⟨_, rfl⟩, rfl⟩
    · rw [run_throw] at h; cases h
  | linked uri =>
    obtain ⟨res', t, hrun, he⟩ := c16_openImage_linked cfg uri st
    rw [hrun] at h
    cases h
    exact ⟨⟨t, rfl⟩, he⟩

theorem c16_openImage_fails (cfg : Cfg) (src : ImageSrc) (msg : Str) (st : ConvState)
    (h : c16_openError cfg src = some msg) :
    ∃ st1, (openImage cfg src).run st = .ok (.error msg, st1) ∧ st1.messages = st.messages := by
  cases src with
  | embedded n => cases h
  | linked uri =>
    obtain ⟨res, t, hrun, he⟩ := c16_openImage_linked cfg uri st
    rw [h] at he
    cases res with
    | ok b => cases he
    | error m => cases he; exact ⟨_, hrun, rfl⟩

/-- `convertImage` when the converter opens the image and opening fails: no node, one warning -/
theorem c16_convertImage_fails (cfg : Cfg) (i : ImageProps) (msg : Str) (st : ConvState)
    (ho : c16_opens cfg = true) (h : c16_openError cfg i.src = some msg) :
    ∃ st', (convertImage cfg i).run st = .ok ([], st') ∧ st'.messages = st.messages ++ [msg] := by
  unfold convertImage
  rw [run_bind, run_modify]
  obtain ⟨st1, hrun, hmsg⟩ := c16_openImage_fails cfg i.src msg
    { st with imageCalls := st.imageCalls ++ [i] } h
  unfold c16_opens at ho
  simp only
  cases hc : cfg.imageConv with
  | dataUri =>
    simp only
    rw [run_bind, hrun]
    simp only
    rw [run_bind]
    unfold warn
    rw [run_modify]
    exact ⟨_, rfl, by simp [hmsg]⟩
  | fixed attrs opens =>
    rw [hc] at ho
    simp only at ho
    subst ho
    simp only [if_true]
    rw [run_bind, hrun]
    simp only
    rw [run_bind]
    unfold warn
    rw [run_modify]
    exact ⟨_, rfl, by simp [hmsg]⟩

end Mammoth
