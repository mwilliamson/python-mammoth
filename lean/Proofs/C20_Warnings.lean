/-
  C20 — every image handed to an image converter that opens images and that cannot be opened has its
  warning among the messages: an invariant of the converter's state (`c20_warned`), preserved by every
  step of `visit` / `visitDocument`, hence true of the result of `convertDoc` and of `apiConvert`.
-/
import Proofs.C16_Image
import Proofs.C16_Mono
import Proofs.C17_Package
import Proofs.C18_Io
import Proofs.VisitState
namespace Mammoth

/-- every converter call logged so far whose image cannot be opened (`c16_openError`: the warning text
    `Image.open` ends in) has that warning among the messages so far; and the part of every embedded image
    handed to the converter exists (otherwise the conversion has died with a KeyError) -/
def c20_warned (cfg : Cfg) (st : ConvState) : Prop :=
  ∀ i ∈ st.imageCalls, (∀ m, c16_openError cfg i.src = some m → m ∈ st.messages) ∧
    (∀ name, i.src = .embedded name → (lookupLast name cfg.archive).isSome = true)

/-- every successful run of `m` preserves `c20_warned` -/
def c20_keepsW {α : Type} (cfg : Cfg) (m : ConvM α) : Prop :=
  ∀ st a st', m.run st = .ok (a, st') → c20_warned cfg st → c20_warned cfg st'

theorem c20_warned_of (cfg : Cfg) {st st' : ConvState} (h1 : st'.imageCalls = st.imageCalls)
    (h2 : st.messages ⊆ st'.messages) (hw : c20_warned cfg st) : c20_warned cfg st' := by
  intro i hi
  rw [h1] at hi
  exact ⟨fun m hm => h2 ((hw i hi).1 m hm), (hw i hi).2⟩

/-- a successful call of a converter that opens images: the part of an embedded image exists -/
theorem c20_convertImage_present (cfg : Cfg) (ho : c16_opens cfg = true) (i : ImageProps) (name : Str)
    (hs : i.src = .embedded name) (st st' : ConvState) (ns : List Node)
    (h : (convertImage cfg i).run st = .ok (ns, st')) : (lookupLast name cfg.archive).isSome = true := by
  cases hl : lookupLast name cfg.archive with
  | some b => rfl
  | none =>
    exfalso
    rw [c17_convertImage_run] at h
    unfold c17_finish at h
    unfold c16_opens at ho
    cases hc : cfg.imageConv with
    | dataUri =>
      rw [hc] at h
      simp only [hs, openImage, hl, run_bind, run_throw] at h
      cases h
    | fixed attrs opens =>
      rw [hc] at ho h
      simp only at ho
      subst ho
      simp only [if_true, hs, openImage, hl, run_bind, run_throw] at h
      cases h

/-- THE STEP THAT MATTERS: the call is logged, and when the image cannot be opened the warning is issued -/
theorem c20_keepsW_convertImage (cfg : Cfg) (ho : c16_opens cfg = true) (i : ImageProps) :
    c20_keepsW cfg (convertImage cfg i) := by
  intro st ns st' h hw
  have hcalls : st'.imageCalls = st.imageCalls ++ [i] := by
    rw [c17_convertImage_run] at h
    exact c17_finish_calls cfg i _ st' ns h
  have hmono : st.messages ⊆ st'.messages := (c16_mono_convertImage cfg i st ns st' h).subset
  intro j hj
  rw [hcalls] at hj
  rcases List.mem_append.mp hj with hj | hj
  · exact ⟨fun m hm => hmono ((hw j hj).1 m hm), (hw j hj).2⟩
  · simp only [List.mem_singleton] at hj
    subst hj
    refine ⟨fun m hm => ?_, fun name hs => c20_convertImage_present cfg ho j name hs st st' ns h⟩
    obtain ⟨st'', hrun, hmsg⟩ := c16_convertImage_fails cfg j m st ho hm
    rw [hrun] at h
    cases h
    rw [hmsg]
    simp

theorem c20_visitRel (cfg : Cfg) (ho : c16_opens cfg = true) :
    VisitRel cfg (fun _ => True) fun st st' => c20_warned cfg st → c20_warned cfg st' where
  refl _ hw := hw
  trans p q hw := q (p hw)
  warn _ _ := c20_warned_of cfg rfl (List.subset_append_left _ _)
  noteRef _ _ := c20_warned_of cfg rfl (List.Subset.refl _)
  commentRef _ _ _ _ _ := c20_warned_of cfg rfl (List.Subset.refl _)
  image i _ := c20_keepsW_convertImage cfg ho i

theorem c20_keepsW_visit (cfg : Cfg) (ho : c16_opens cfg = true) (hdr : Bool) (e : Elem) :
    c20_keepsW cfg (visit cfg hdr e) :=
  (c20_visitRel cfg ho).of_visit hdr e fun _ _ => trivial

theorem c20_keepsW_visitRows (cfg : Cfg) (ho : c16_opens cfg = true) (inHead : Bool) (es : List Elem) :
    c20_keepsW cfg (visitRows cfg inHead es) :=
  (c20_visitRel cfg ho).of_visitRows inHead es fun _ _ => trivial

/-- the result of `convertDoc` under a converter that opens images: every image handed to the converter that
    cannot be opened has its warning among the messages -/
theorem c20_convertDoc_warned (cfg : Cfg) (ho : c16_opens cfg = true) (d : Document) (r : ConvResult)
    (h : convertDoc cfg d = .ok r) :
    ∀ i ∈ r.imageCalls, (∀ m, c16_openError cfg i.src = some m → m ∈ r.messages) ∧
      (∀ name, i.src = .embedded name → (lookupLast name cfg.archive).isSome = true) := by
  unfold convertDoc at h
  split at h
  · rename_i nodes st hv
    cases h
    have hw := (c20_visitRel { cfg with comments := d.comments } ho).of_visitDocument d {} nodes st hv
      (by intro i hi; cases hi)
    intro i hi
    exact ⟨fun m hm => mem_unique.mpr ((hw i hi).1 m hm), (hw i hi).2⟩
  · cases h

/-- … and of `apiConvert` -/
theorem c20_api_warned (p : Package) (fuel : Nat) (base : Option Str) (world : Str → Option Bytes)
    (o : Options) (out : ApiOut) (h : apiConvert p fuel base world id o = .ok out)
    (ho : c16_opens (c05_apiCfg p base world o (c17_embOf p o)) = true) :
    ∀ i ∈ out.imageCalls,
      (∀ m, c16_openError (c05_apiCfg p base world o (c17_embOf p o)) i.src = some m → m ∈ out.messages) ∧
      (∀ name, i.src = .embedded name → (lookupLast name (archiveBytes p)).isSome = true) := by
  obtain ⟨emb, doc, msgs, r, he, _, hconv, rfl⟩ := c05_apiConvert_ok h
  rw [c17_embOf_eq he] at ho ⊢
  intro i hi
  obtain ⟨w1, w2⟩ := c20_convertDoc_warned _ ho doc r hconv i hi
  refine ⟨fun m hmi => ?_, w2⟩
  -- `apply` first: unifying the argument before the goal makes Lean unfold `readOptions` again and again
  apply mem_unique.mpr
  exact List.mem_append_right _ (w1 m hmi)

theorem c20_openError_linked (cfg : Cfg) (uri : Str) :
    (c16_openError cfg (.linked uri)).isSome = (c17_opened cfg (.linked uri)).isNone := by
  simp only [c16_openError, c17_opened]
  split
  · cases cfg.world uri <;> rfl
  · cases cfg.base with
    | none => rfl
    | some b =>
      dsimp only
      cases cfg.world (osPathJoin b uri) <;> rfl

/-- an image that `image.open()` cannot open, whose part exists if it is embedded, is a linked image with a
    warning text -/
theorem c20_unopened_has_warning (cfg : Cfg) (src : ImageSrc)
    (hp : ∀ name, src = .embedded name → (lookupLast name cfg.archive).isSome = true)
    (h : c17_opened cfg src = none) : ∃ m, c16_openError cfg src = some m := by
  cases src with
  | embedded name =>
    have := hp name rfl
    rw [show lookupLast name cfg.archive = none from h] at this
    cases this
  | linked uri =>
    apply Option.isSome_iff_exists.mp
    rw [c20_openError_linked, h]
    rfl

/-- conversely an image with a warning text cannot be opened -/
theorem c20_warning_unopened (cfg : Cfg) (src : ImageSrc) (m : Str) (h : c16_openError cfg src = some m) :
    c17_opened cfg src = none := by
  cases src with
  | embedded name => cases h
  | linked uri =>
    apply Option.isNone_iff_eq_none.mp
    rw [← c20_openError_linked, h]
    rfl

end Mammoth
