/-
  C08 — what the converter emits for one paragraph: the style's path wrapped around the content.
-/
import MammothModel.Convert
namespace Mammoth

theorem c08_visit_paragraph (cfg : Cfg) (hdr : Bool) (p : ParaProps) (cs : List Elem) (s : Style)
    (es : List Tag) (h : findStyle cfg.upper cfg.styleMap (.paragraph p) = some s)
    (hp : s.path = .elements es) :
    visit cfg hdr (.paragraph p cs) =
      (do let content ← visitAll cfg hdr cs
          pure (wrapElems es (if cfg.ignoreEmpty then content else .forceWrite :: content))) := by
  rw [visit]
  simp [findPathWarn, findPath, h, hp]

theorem c08_visit_paragraph_default (cfg : Cfg) (hdr : Bool) (p : ParaProps) (cs : List Elem)
    (h : findStyle cfg.upper cfg.styleMap (.paragraph p) = none) :
    visit cfg hdr (.paragraph p cs) =
      (do (match p.styleId with
            | some sid => warn (S!"Unrecognised paragraph style: " ++ pyOpt p.styleName ++
                                S!" (Style ID: " ++ sid ++ S!")")
            | none => pure ())
          let content ← visitAll cfg hdr cs
          pure (wrapElems [pathElem S!"p" true]
                  (if cfg.ignoreEmpty then content else .forceWrite :: content))) := by
  rw [visit, findPathWarn, findPath, h]
  -- what remains are instances of the monad laws, which hold by computation in `ConvM`
  cases p.styleId <;> rfl

end Mammoth
