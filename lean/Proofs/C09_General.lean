/-
  C09 — facts about `calculateRowSpans` that hold for every input (no validity assumption).
-/
import Proofs.C09_Convert
import Proofs.C09_Sweep
namespace Mammoth

/-- a cell without its rowspan and `_vmerge` mark (what `calculate_row_spans` must not change);
    other elements as they are -/
def c09_cellKey : Elem → Elem
  | .cell c _ _ cs => .cell c 0 false cs
  | e => e

/-- not a continuation cell -/
def c09_notVm : Elem → Bool
  | .cell _ _ vm _ => !vm
  | _ => true

/-- `b` is the row `a` with some cells removed (order, spans, contents of the others unchanged),
    no cell other than continuation cells removed, header flag unchanged; non-rows are unchanged -/
def c09_rowKept (a b : Elem) : Prop :=
  (∃ h cells cells', a = .row h cells ∧ b = .row h cells' ∧
      (cells'.map c09_cellKey).Sublist (cells.map c09_cellKey) ∧
      ((cells.filter c09_notVm).map c09_cellKey).Sublist (cells'.map c09_cellKey)) ∨
  (isRow a = false ∧ b = a)

theorem c09_rowKept_refl (a : Elem) : c09_rowKept a a := by
  cases h : isRow a with
  | false => exact Or.inr ⟨h, rfl⟩
  | true =>
    obtain ⟨hh, cells, rfl⟩ := c09_isRow_eq h
    exact Or.inl ⟨hh, cells, cells, rfl, rfl, List.Sublist.refl _, List.Sublist.map _ List.filter_sublist⟩

theorem c09_Forall2_refl {α} {R : α → α → Prop} (h : ∀ a, R a a) : ∀ l : List α, c09_Forall2 R l l
  | [] => .nil
  | a :: l => .cons (h a) (c09_Forall2_refl h l)

theorem c09_sweepCells_skip {e : Elem} (h : isCell e = false) (r : Nat) (rest : List Elem) (pos ci : Nat)
    (sw : Sweep) : sweepCells r (e :: rest) pos ci sw = sweepCells r rest (pos + 1) ci sw := by
  cases e with
  | cell => cases h
  | _ => rfl

theorem c09_sweepRows_skip {e : Elem} (h : isRow e = false) (rest : List Elem) (r : Nat) (sw : Sweep) :
    sweepRows (e :: rest) r sw = sweepRows rest (r + 1) sw := by
  cases e with
  | row => cases h
  | _ => rfl

theorem c09_rebuildCells_skip {e : Elem} (h : isCell e = false) (sw : Sweep) (r : Nat) (rest : List Elem)
    (pos : Nat) : rebuildCells sw r (e :: rest) pos = e :: rebuildCells sw r rest (pos + 1) := by
  cases e with
  | cell => cases h
  | _ => rfl

theorem c09_rebuildRows_skip {e : Elem} (h : isRow e = false) (sw : Sweep) (rest : List Elem) (r : Nat) :
    rebuildRows sw (e :: rest) r = e :: rebuildRows sw rest (r + 1) := by
  cases e with
  | row => cases h
  | _ => rfl

theorem c09_notVm_of_not_cell {e : Elem} (h : isCell e = false) : c09_notVm e = true := by
  cases e with
  | cell => cases h
  | _ => rfl

/-! ### the drops are continuation cells -/

/-- the `_vmerge` mark of the cell at position `pos` of row `r` -/
def c09_vmAt (rows : List Elem) (r pos : Nat) : Bool :=
  match rows[r]? with
  | some (.row _ cells) =>
    (match cells[pos]? with
     | some (.cell _ _ vm _) => vm
     | _ => false)
  | _ => false

theorem c09_sweepCells_drops_vm (r : Nat) (good : Nat × Nat → Prop) (cells : List Elem) :
    ∀ (pos ci : Nat) (sw : Sweep), (∀ v, v ∈ sw.drops → good v) →
      (∀ i c rs ch, cells[i]? = some (.cell c rs true ch) → good (r, pos + i)) →
      ∀ v, v ∈ (sweepCells r cells pos ci sw).drops → good v := by
  induction cells with
  | nil => intro pos ci sw h _ v hv; exact h v hv
  | cons e es ih =>
    intro pos ci sw h hg v hv
    have hg' := fun i c rs ch hi => (Nat.add_right_comm pos i 1 ▸ hg (i + 1) c rs ch hi : good (r, pos + 1 + i))
    cases he : isCell e with
    | true =>
      obtain ⟨c, rs, vm, ch, rfl⟩ := c09_isCell_eq he
      rw [c09_sweepCells_cons] at hv
      refine ih (pos + 1) (ci + c) _ ?_ hg' v hv
      intro w hw
      rcases (c09_drops_step ..).mp hw with hw | hw
      · exact h w hw
      · have hvm : vm = true := by
          have := hw.2; simp [c09_hits] at this; exact this.1
        subst hvm
        rw [hw.1]; exact hg 0 c rs ch rfl
    | false =>
      rw [c09_sweepCells_skip he] at hv
      exact ih (pos + 1) ci sw h hg' v hv

theorem c09_sweepRows_drops_vm (good : Nat × Nat → Prop) (rows : List Elem) :
    ∀ (r : Nat) (sw : Sweep), (∀ v, v ∈ sw.drops → good v) →
      (∀ j h cells i c rs ch, rows[j]? = some (.row h cells) → cells[i]? = some (.cell c rs true ch) →
        good (r + j, i)) →
      ∀ v, v ∈ (sweepRows rows r sw).drops → good v := by
  induction rows with
  | nil => intro r sw h _ v hv; exact h v hv
  | cons e es ih =>
    intro r sw h hg v hv
    have hg' := fun j hh cells i c rs ch hj hi =>
      (Nat.add_right_comm r j 1 ▸ hg (j + 1) hh cells i c rs ch hj hi : good (r + 1 + j, i))
    cases he : isRow e with
    | true =>
      obtain ⟨hh, cells, rfl⟩ := c09_isRow_eq he
      rw [sweepRows] at hv
      refine ih (r + 1) _ ?_ hg' v hv
      apply c09_sweepCells_drops_vm r good cells 0 0 sw h
      intro i c rs ch hi
      rw [Nat.zero_add]
      exact hg 0 hh cells i c rs ch rfl hi
    | false =>
      rw [c09_sweepRows_skip he] at hv
      exact ih (r + 1) sw h hg' v hv

/-- every dropped position holds a continuation cell -/
theorem c09_drops_are_vm (rows : List Elem) (v : Nat × Nat) (hv : v ∈ (sweepRows rows 0 {}).drops) :
    c09_vmAt rows v.1 v.2 = true := by
  apply c09_sweepRows_drops_vm (fun v => c09_vmAt rows v.1 v.2 = true) rows 0 {} (by simp) ?_ v hv
  intro j h cells i c rs ch hj hi
  simp [c09_vmAt, hj, hi]

theorem c09_rebuildCells_kept (sw : Sweep) (r : Nat) (cells : List Elem) :
    ∀ pos, ((rebuildCells sw r cells pos).map c09_cellKey).Sublist (cells.map c09_cellKey) := by
  induction cells with
  | nil => intro pos; exact List.Sublist.refl _
  | cons e es ih =>
    intro pos
    cases he : isCell e with
    | true =>
      obtain ⟨c, rs, vm, ch, rfl⟩ := c09_isCell_eq he
      simp only [rebuildCells]
      split
      · exact List.Sublist.cons _ (ih _)
      · exact List.Sublist.cons_cons _ (ih _)
    | false => rw [c09_rebuildCells_skip he]; exact List.Sublist.cons_cons _ (ih _)

theorem c09_rebuildCells_keeps (sw : Sweep) (r : Nat) (cells : List Elem) :
    ∀ pos, (∀ i c rs ch, cells[i]? = some (.cell c rs false ch) → ¬ (r, pos + i) ∈ sw.drops) →
      ((cells.filter c09_notVm).map c09_cellKey).Sublist ((rebuildCells sw r cells pos).map c09_cellKey) := by
  induction cells with
  | nil => intro pos _; exact List.Sublist.refl _
  | cons e es ih =>
    intro pos hg
    have hg' := fun i c rs ch hi =>
      (Nat.add_right_comm pos i 1 ▸ hg (i + 1) c rs ch hi : ¬ (r, pos + 1 + i) ∈ sw.drops)
    cases he : isCell e with
    | true =>
      obtain ⟨c, rs, vm, ch, rfl⟩ := c09_isCell_eq he
      simp only [rebuildCells]
      cases vm with
      | true =>
        simp only [List.filter_cons, c09_notVm, Bool.not_true, Bool.false_eq_true, if_false]
        split
        · exact ih _ hg'
        · exact List.Sublist.cons _ (ih _ hg')
      | false =>
        have : sw.drops.contains (r, pos) = false := by
          have := hg 0 c rs ch rfl
          simpa using this
        simp only [this, Bool.false_eq_true, if_false, List.filter_cons, c09_notVm, Bool.not_false, if_true,
          List.map_cons, c09_cellKey]
        exact List.Sublist.cons_cons _ (ih _ hg')
    | false =>
      rw [c09_rebuildCells_skip he, List.filter_cons, c09_notVm_of_not_cell he, if_pos rfl]
      exact List.Sublist.cons_cons _ (ih _ hg')

theorem c09_rebuildRows_kept (sw : Sweep) (rows : List Elem) :
    ∀ r, (∀ j h cells i c rs ch, rows[j]? = some (.row h cells) → cells[i]? = some (.cell c rs false ch) →
        ¬ (r + j, i) ∈ sw.drops) →
      c09_Forall2 c09_rowKept rows (rebuildRows sw rows r) := by
  induction rows with
  | nil => intro r _; exact .nil
  | cons e es ih =>
    intro r hg
    have hg' := fun j hh cells i c rs ch hj hi =>
      (Nat.add_right_comm r j 1 ▸ hg (j + 1) hh cells i c rs ch hj hi : ¬ (r + 1 + j, i) ∈ sw.drops)
    cases he : isRow e with
    | true =>
      obtain ⟨hh, cells, rfl⟩ := c09_isRow_eq he
      rw [rebuildRows]
      refine .cons (Or.inl ⟨hh, cells, _, rfl, rfl, c09_rebuildCells_kept sw r cells 0, ?_⟩) (ih _ hg')
      apply c09_rebuildCells_keeps sw r cells 0
      intro i c rs ch hi
      rw [Nat.zero_add]
      exact hg 0 hh cells i c rs ch rfl hi
    | false =>
      rw [c09_rebuildRows_skip he]
      exact .cons (Or.inr ⟨he, rfl⟩) (ih _ hg')

/-- the optional header flag of a table child (`none` for a non-row) -/
def c09_rowFlag : Elem → Option Bool
  | .row h _ => some h
  | _ => none

theorem c09_rowKept_flag {a b : Elem} (h : c09_rowKept a b) : c09_rowFlag b = c09_rowFlag a := by
  rcases h with ⟨hh, cells, cells', rfl, rfl, _⟩ | ⟨_, rfl⟩ <;> rfl

theorem c09_Forall2_map_eq {α β} {R : α → α → Prop} (f : α → β) (hf : ∀ a b, R a b → f b = f a) :
    ∀ {l l' : List α}, c09_Forall2 R l l' → l'.map f = l.map f := by
  intro l l' h
  induction h with
  | nil => rfl
  | cons hab _ ih => simp [hf _ _ hab, ih]

end Mammoth
