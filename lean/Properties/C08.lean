/-
  C08 — paragraphs map one-to-one, in order, to heading, list-item and paragraph blocks.
-/
import Proofs.C08_DefaultMap
import Proofs.C08_Paths
import Proofs.C08_Blocks
import Proofs.C08_Numbering
import Proofs.C08_Lists
import Proofs.C08_Convert
import Proofs.C08_Xml
import Proofs.C08_XmlNumbering
import Proofs.Eval
namespace Mammoth

/-! ## 1. the default style map -/

/-- The model's DSL parser, run (in the kernel) on the text of `options._default_style_map`
    extracted from the source, yields exactly these 41 mappings in this order
    (`c08_defaultMapValue`, Proofs/C08_DefaultMap.lean): `p.Heading1..6 => h1..6:fresh`,
    `p[style-name='Heading 1..6'|'heading 1..6'] => h1..6:fresh`, the note/`Strong`/`Hyperlink`
    entries, the ten list entries `p:(un)ordered-list(1..5)` and `p[style-name='Normal'] => p:fresh`. -/
theorem C08_default_map_value : defaultStyleMap = c08_defaultMapValue := c08_default_map_value

/-- every line of the default style map parses: no "Did not understand this style mapping" message -/
theorem C08_default_map_no_warnings : (readStyleMap Generated.defaultStyleMapText).2 = [] :=
  congrArg Prod.snd c08_default_map_read

/-- (a) A paragraph whose style ID is `Heading<n>` (n = 1..6) gets `h<n>:fresh`, whatever its style
    name and numbering are. -/
theorem C08_default_paths_heading_id (n : Nat) (h1 : 1 ≤ n) (h6 : n ≤ 6) (name : Option Str)
    (num : Option NumLevel) :
    findStyle upperAscii defaultStyleMap
        (.paragraph { styleId := some (c08_hId n), styleName := name, numbering := num })
      = some ⟨.paragraph (some (c08_hId n)) none none, .elements [c08_fresh (c08_hTag n)]⟩ :=
  c08_path_heading_id n h1 h6 name num

/-- (b) A paragraph whose style ID is not one of `Heading1..6` and whose style name equals
    `Heading <n>` up to ASCII letter case (`heading 3`, `HEADING 3`, `hEaDiNg 3`, …) gets
    `h<n>:fresh`, whatever its numbering is. -/
theorem C08_default_paths_heading_name (n : Nat) (h1 : 1 ≤ n) (h6 : n ≤ 6) (sid : Option Str)
    (hs : c08_notHeadingId sid = true) (name : Str) (hn : upperAscii name = upperAscii (c08_hName n))
    (num : Option NumLevel) :
    findStyle upperAscii defaultStyleMap
        (.paragraph { styleId := sid, styleName := some name, numbering := num })
      = some ⟨.paragraph none (some (.equalTo (c08_hName n))) none, .elements [c08_fresh (c08_hTag n)]⟩ :=
  c08_path_heading_name n h1 h6 sid hs name hn num

/-- (c) A paragraph with numbering level index `k` (0..4, i.e. depth d = k+1 = 1..5), ordered or
    not, that is not caught by an earlier mapping (no heading style ID; style name absent or not a
    heading / note name) gets the depth-d list path: `ul|ol > li` (k times), then `ol` or `ul`,
    then `li:fresh`. -/
theorem C08_default_paths_list (k : Nat) (hk : k < 5) (ordered : Bool) (sid name : Option Str)
    (hs : c08_notHeadingId sid = true) (hn : c08_noEarlierName name = true) :
    findStyle upperAscii defaultStyleMap
        (.paragraph { styleId := sid, styleName := name, numbering := some ⟨natToStr k, ordered⟩ })
      = some ⟨.paragraph none none (some ⟨natToStr k, ordered⟩),
              .elements (c08_outer k ++ [c08_listTag ordered, c08_liFresh])⟩ :=
  c08_path_list k hk ordered sid name hs hn

/-- (d) A paragraph with no heading style ID, no matching style name and no numbering (or a
    numbering level other than "0".."4") matches nothing in the default map, so the converter uses
    its built-in default, a fresh `p` (see `C08_paragraph_nodes_default`). -/
theorem C08_default_paths_none (sid name : Option Str) (num : Option NumLevel)
    (hs : c08_notHeadingId sid = true) (hn : c08_noEarlierName name = true)
    (hN : name.map upperAscii ≠ some S!"NORMAL") (hl : c08_knownLevel num = false) :
    findStyle upperAscii defaultStyleMap
        (.paragraph { styleId := sid, styleName := name, numbering := num }) = none :=
  c08_path_none sid name num hs hn hN hl

/-- Every paragraph mapping of the default map has a non-empty path whose last tag is `:fresh`
    and whose other tags are not, and none of whose tags is a void element. -/
theorem C08_default_paths_end_fresh :
    defaultStyleMap.all (fun s =>
      match s.matcher, s.path with
      | .paragraph _ _ _, .elements es => c08_oneBlock es && c08_noVoid es
      | .paragraph _ _ _, .ignore => false
      | _, _ => true) = true := by
  rw [c08_default_map_value]
  decide +kernel

/-- What the converter emits for one paragraph whose style is found: the path wrapped around the
    converted children (plus the force-write marker when empty paragraphs are kept). -/
theorem C08_paragraph_nodes (cfg : Cfg) (hdr : Bool) (p : ParaProps) (cs : List Elem) (s : Style)
    (es : List Tag) (h : findStyle cfg.upper cfg.styleMap (.paragraph p) = some s)
    (hp : s.path = .elements es) :
    visit cfg hdr (.paragraph p cs) =
      (do let content ← visitAll cfg hdr cs
          pure (wrapElems es (if cfg.ignoreEmpty then content else .forceWrite :: content))) :=
  c08_visit_paragraph cfg hdr p cs s es h hp

/-- … and when no mapping applies: a warning iff the paragraph has a style ID, then `p:fresh`
    around the converted children. -/
theorem C08_paragraph_nodes_default (cfg : Cfg) (hdr : Bool) (p : ParaProps) (cs : List Elem)
    (h : findStyle cfg.upper cfg.styleMap (.paragraph p) = none) :
    visit cfg hdr (.paragraph p cs) =
      (do (match p.styleId with
            | some sid => warn (S!"Unrecognised paragraph style: " ++ pyOpt p.styleName ++
                                S!" (Style ID: " ++ sid ++ S!")")
            | none => pure ())
          let content ← visitAll cfg hdr cs
          pure (wrapElems [pathElem S!"p" true]
                  (if cfg.ignoreEmpty then content else .forceWrite :: content))) :=
  c08_visit_paragraph_default cfg hdr p cs h

/-! ## 2. one block per paragraph, in order -/

/-- Collapsing a wrapped path only collapses the content inside it. -/
theorem C08_collapse_chain (t : Tag) (ts : List Tag) (inner : List Node) :
    collapseNode (c08_chain t ts inner) = c08_chain t ts (collapse inner) := by
  induction ts generalizing t with
  | nil => simp [c08_chain, wrapElems, collapseNode, collapse]
  | cons t' ts ih =>
    rw [c08_chain_cons, c08_chain_cons, ← ih t']
    simp [collapseNode, collapseFrom, c08_addC_nil]

/-- ONE-TO-ONE.  Add (with the merge rule of C04) the node of a path `t :: ts` whose LAST tag is
    `:fresh` to ANY accumulated forest `acc`, with ANY content `inner`.  Then (1) `ts.length` steps
    down the last-child spine of the result sits an element with exactly that last tag and exactly
    `inner` as its children — the new block received nothing from, and gave nothing to, an earlier
    element; and (2) the fresh elements of the result, in document order, are those of `acc`
    followed by those of the new node — the new block is an additional element, not a merged one. -/
theorem C08_blocks_one_to_one (t : Tag) (ts : List Tag) (inner acc : List Node)
    (hf : (c08_lastTag t ts).collapsible = false) :
    c08_descend ts.length (addC acc (c08_chain t ts inner)) = some (c08_lastTag t ts, inner) ∧
    c08_freshTagsL (addC acc (c08_chain t ts inner)) =
      c08_freshTagsL acc ++ ((t :: ts).filter (fun t => !t.collapsible) ++ c08_freshTagsL inner) := by
  constructor
  · induction ts generalizing t acc with
    | nil =>
      simp only [c08_lastTag] at hf
      have : addC acc (c08_chain t [] inner) = acc ++ [.elem t inner] := by
        simp [c08_chain, wrapElems, addC, hf]
        split <;> rfl
      rw [this]
      exact c08_descend_snoc_zero _ _ _
    | cons t' ts ih =>
      simp only [c08_lastTag] at hf ⊢
      rw [c08_chain_cons]
      simp only [List.length_cons]
      unfold addC
      split
      · split
        · rw [c08_descend_snoc_succ]
          simp only [addAllC_cons, addAllC_nil]
          exact ih t' _ hf
        · rw [c08_descend_snoc_succ, ← c08_addC_nil (c08_chain t' ts inner)]
          exact ih t' _ hf
      · rw [c08_descend_snoc_succ, ← c08_addC_nil (c08_chain t' ts inner)]
        exact ih t' _ hf
  · rw [c08_freshTags_addC, ← c08_freshTagsL_wrapElems]
    simp [wrapElems, c08_chain]

/-- Merging never removes, duplicates or reorders a `:fresh` element, at any depth. -/
theorem C08_fresh_elements_preserved (ns : List Node) :
    c08_freshTagsL (collapse ns) = c08_freshTagsL ns := c08_freshTags_collapse ns

/-- IN ORDER.  Take any sequence of paragraphs, each converted to a path (non-void tags, exactly
    one fresh tag: the last — true of all default paths by `C08_default_paths_end_fresh`) around
    content that has no fresh element of its own.  After `strip_empty` and `collapse` the fresh
    elements of the output, in document order, are exactly the last tags of the paths of the
    paragraphs with non-empty content: one block each, none shared, order kept. -/
theorem C08_blocks_in_order (paras : List (List Tag × List Node))
    (hv : ∀ p ∈ paras, c08_noVoid p.1 = true) (hb : ∀ p ∈ paras, c08_oneBlock p.1 = true)
    (hc : ∀ p ∈ paras, c08_freshTagsL (stripList p.2) = []) :
    c08_freshTagsL (collapse (stripEmpty (c08_docNodes paras))) =
      (paras.filter fun p => !(stripList p.2).isEmpty).filterMap fun p => p.1.getLast? := by
  rw [c08_freshTags_collapse, stripEmpty]
  induction paras with
  | nil => simp [c08_docNodes, stripList]
  | cons p ps ih =>
    have ih' := ih (fun q hq => hv q (by simp [hq])) (fun q hq => hb q (by simp [hq]))
      (fun q hq => hc q (by simp [hq]))
    obtain ⟨t, h1, h2⟩ := c08_oneBlock_filter p.1 (hb p (by simp))
    have h3 := hc p (by simp)
    simp only [c08_docNodes, List.flatMap_cons] at ih' ⊢
    rw [c08_stripList_append, c08_freshTagsL_append, ih', c08_stripList_wrapElems _ _ (hv p (by simp))]
    by_cases he : (stripList p.2).isEmpty = true
    · simp [he]
    · simp [he, c08_freshTagsL_wrapElems, h1, h2, h3]

/-! ## 3. numbering resolution -/

/-- `w:num` → `w:abstractNum` without `w:numStyleLink` → the level with that `w:ilvl` (if defined) -/
theorem C08_findLevel_direct (n : Numbering) (f : Nat) (numId : Option Str) (lvl absId : Str)
    (an : AbstractNum) (h1 : lookupLast numId n.nums = some absId)
    (h2 : lookupLast (some absId) n.abstractNums = some an) (h3 : an.numStyleLink = none) :
    findLevel n (f+1) numId lvl = .ok ((lookupLast lvl an.levels).map toNumLevel) := by
  simp [findLevel, h1, h2, h3]

/-- an abstract num with a `w:numStyleLink` to a numbering style that carries num id `k` resolves
    to whatever num `k` resolves to (same level index) -/
theorem C08_findLevel_link (n : Numbering) (f : Nat) (numId k : Option Str) (lvl absId link : Str)
    (an : AbstractNum) (h1 : lookupLast numId n.nums = some absId)
    (h2 : lookupLast (some absId) n.abstractNums = some an) (h3 : an.numStyleLink = some link)
    (h4 : lookupLast (some link) n.styles.numbering = some k) :
    findLevel n (f+1) numId lvl = findLevel n f k lvl := by
  simp [findLevel, h1, h2, h3, h4]

/-- dangling references give "no numbering", not an error: unknown num id, unknown abstract num,
    or a link to an undefined numbering style -/
theorem C08_findLevel_dangling (n : Numbering) (f : Nat) (numId : Option Str) (lvl : Str) :
    (lookupLast numId n.nums = none → findLevel n (f+1) numId lvl = .ok none) ∧
    (∀ absId, lookupLast numId n.nums = some absId → lookupLast (some absId) n.abstractNums = none →
      findLevel n (f+1) numId lvl = .ok none) ∧
    (∀ absId an link, lookupLast numId n.nums = some absId →
      lookupLast (some absId) n.abstractNums = some an → an.numStyleLink = some link →
      lookupLast (some link) n.styles.numbering = none → findLevel n (f+1) numId lvl = .ok none) := by
  refine ⟨?_, ?_, ?_⟩
  · intro h; simp [findLevel, h]
  · intro a h1 h2; simp [findLevel, h1, h2]
  · intro a an link h1 h2 h3 h4; simp [findLevel, h1, h2, h3, h4]

/-- the fuel only bounds the length of the style-link chain: a successful answer does not depend on
    it (any larger fuel gives the same answer) -/
theorem C08_findLevel_fuel_irrelevant (n : Numbering) (f g : Nat) (hfg : f ≤ g) (numId : Option Str)
    (lvl : Str) (r : Option NumLevel) (h : findLevel n f numId lvl = .ok r) :
    findLevel n g numId lvl = .ok r := by
  induction hfg with
  | refl => exact h
  | step _ ih => exact c08_findLevel_fuel_mono n _ numId lvl r ih

/-- THE PARAGRAPH'S OWN `w:numPr` WINS: with both `w:numId` and `w:ilvl` present the result is the
    num's level, whatever the paragraph style is — the style's numbering is not consulted even when
    the num resolves to nothing. -/
theorem C08_numPr_wins (env : REnv) (styleId : Option Str) (numPr : List XmlNode) (numId lvl : Str)
    (h1 : childAttr S!"w:numId" S!"w:val" numPr = some numId)
    (h2 : childAttr S!"w:ilvl" S!"w:val" numPr = some lvl) :
    readNumberingProps env styleId numPr =
      findLevel env.numbering (env.numbering.nums.length + env.numbering.abstractNums.length + 2)
        (some numId) lvl := by
  simp [readNumberingProps, h1, h2]

/-- otherwise (no `w:numId` or no `w:ilvl`) the numbering is the level whose `w:pStyle` is the
    paragraph's style ID, if the paragraph has one -/
theorem C08_style_numbering_fallback (env : REnv) (styleId : Option Str) (numPr : List XmlNode)
    (h : childAttr S!"w:numId" S!"w:val" numPr = none ∨ childAttr S!"w:ilvl" S!"w:val" numPr = none) :
    readNumberingProps env styleId numPr =
      .ok (styleId.bind fun sid => findLevelByStyle env.numbering sid) := by
  unfold readNumberingProps
  rcases h with h | h
  · rw [h]; cases styleId <;> simp
  · rw [h]; cases childAttr S!"w:numId" S!"w:val" numPr <;> cases styleId <;> simp

/-! ## 4. nesting of list items -/

/-- the default list path of depth `k+1` around `content` is the single node `c08_listNode k o content`:
    `ul|ol > li >` (k times) `ol|ul > li:fresh > content` -/
theorem C08_list_path_node (k : Nat) (o : Bool) (content : List Node) :
    wrapElems (c08_listPath k o) content = [c08_listNode k o content] := c08_wrap_listPath k o content

/-- REFINEMENT, one step.  Let the forest collapsed so far be the one denoted by a stack `S` of open
    lists (outermost first; each with the siblings before it, its tag, its closed items and the tag
    of its open `li`) and the children `c` of the innermost open item.  Adding a list item of depth
    `k+1` and kind `o` gives the forest denoted by `c08_step S c k o` (the specification: reuse the
    open lists above depth `k+1`, creating `ul|ol > li` where none is open; continue the list open
    at depth `k+1` iff it has the item's kind, else close it and open a new one after it; close
    everything deeper) with the item's content as the children of the new innermost `li:fresh`. -/
theorem C08_lists_step (k : Nat) (o : Bool) (content : List Node) (S : List c08_Level) (c : List Node)
    (hw : c08_wf S = true) (hi : c08_inert c = true) :
    addC (c08_rend S c) (c08_listNode k o content) = c08_rend (c08_step S c k o) content :=
  c08_addC_listNode k o content S c hw hi

/-- REFINEMENT, whole documents.  For any sequence of list items (any depths, kinds, contents) and
    other fresh blocks, `collapse` computes exactly the forest that the specification machine
    `c08_run` denotes.  Side conditions (`c08_itemOk`): an item's collapsed content does not end in a
    bare `ul`/`ol` element of its own (needed only when another item follows); a non-list block's
    tag is fresh and not a bare `ul`/`ol`; `c08_seqOk` is their conjunction along the sequence. -/
theorem C08_lists_nest (items : List c08_Item) (hok : c08_seqOk items = true) :
    collapse (items.map c08_nodeOfItem) =
      c08_rend (c08_run ([], []) items).1 (c08_run ([], []) items).2 := by
  simpa [collapse, c08_rend] using
    c08_collapseFrom_items items [] [] (by simp [c08_wf]) (fun _ => by simp [c08_inert]) hok

/-- `c08_seqOk` holds in particular when every item satisfies `c08_itemOk` -/
theorem C08_lists_nest_side_condition (items : List c08_Item) (h : items.all c08_itemOk = true) :
    c08_seqOk items = true := by
  induction items with
  | nil => rfl
  | cons it rest ih =>
    rw [List.all_cons, Bool.and_eq_true] at h
    cases rest with
    | nil => cases it <;> simp only [c08_seqOk, h.1, Bool.and_self]
    | cons r rs => cases it <;> simp only [c08_seqOk, h.1, ih h.2, Bool.and_self]

/-- the side condition on contents holds whenever no top-level node of the content is a bare
    `ul`/`ol` element -/
theorem C08_item_content_ok (content : List Node) (h : c08_noTopList content = true) :
    c08_inert (collapse content) = true :=
  c08_inert_of_noTopList _ (c08_noTopList_collapseFrom [] content (by simp [c08_noTopList]) h)

/-- DEPTH AND KIND.  After an item of depth `k+1` exactly `k+1` lists are open; the innermost is a
    list of the item's kind (`ol` for ordered, `ul` otherwise) and its open item is the new `li:fresh`. -/
theorem C08_item_depth_and_kind (S : List c08_Level) (c : List Node) (k : Nat) (o : Bool) :
    (c08_step S c k o).length = k + 1 ∧
    ∃ L, (c08_step S c k o)[k]? = some L ∧ L.litag = c08_liFresh ∧
      L.ltag.name = (if o then S!"ol" else S!"ul") := by
  refine ⟨c08_step_length S c k o, ?_⟩
  obtain ⟨L, h1, h2, h3⟩ := c08_step_last S c k o
  exact ⟨L, h1, h2, by rw [h3]; cases o <;> rfl⟩

/-- INSIDE EXACTLY d LISTS.  In the forest denoted after an item of depth `d = k+1`, following the
    last child from the top level meets exactly `d` (list, item) pairs — each list tag one that
    `ul|ol` matches, each item tag one that `li` matches — and then, `2d-1` steps down, the new
    `li:fresh` whose children are exactly the item's content. -/
theorem C08_item_sits_in_d_lists (S : List c08_Level) (c : List Node) (k : Nat) (o : Bool)
    (content : List Node) (hw : c08_wf S = true) :
    c08_descend (2 * k + 1) (c08_rend (c08_step S c k o) content) = some (c08_liFresh, content) ∧
    c08_spineTags (2 * (k + 1)) (c08_rend (c08_step S c k o) content) =
      (c08_step S c k o).flatMap (fun L => [L.ltag, L.litag]) ∧
    (c08_step S c k o).length = k + 1 ∧
    (∀ L ∈ c08_step S c k o, c08_isListTag L.ltag = true ∧ c08_isLiTag L.litag = true) := by
  have hlen := c08_step_length S c k o
  refine ⟨?_, ?_, hlen, ?_⟩
  · obtain ⟨L, hk, hli, _⟩ := c08_step_last S c k o
    rw [c08_descend_rend _ content k L hlen hk, hli]
  · rw [← hlen]
    exact c08_spineTags_rend _ content
  · have := c08_wf_step S c k o hw
    intro L hL
    simp only [c08_wf, List.all_eq_true, Bool.and_eq_true] at this
    exact this L hL

/-- SHARED ENCLOSING LISTS.  Every list that was open above the new item's depth is still the
    same open list afterwards (same tag, same earlier siblings, same closed items, same open item). -/
theorem C08_items_share_enclosing (S : List c08_Level) (c : List Node) (k : Nat) (o : Bool) (i : Nat)
    (hik : i < k) (hiS : i < S.length) : (c08_step S c k o)[i]? = S[i]? := by
  obtain ⟨d, rfl⟩ : ∃ d, k = (i + 1) + d := ⟨k - (i + 1), by omega⟩
  have hlen : i < (S.take (i + 1)).length := by
    rw [List.length_take]
    omega
  rw [c08_step_add S c (i + 1) d o hiS, List.getElem?_append_left hlen,
    List.getElem?_take_of_lt (Nat.lt_succ_self i)]

/-- SAME KIND CONTINUES.  If a list of the item's kind is open at the item's depth, the item joins
    it: same list element, the previously open item (with everything nested in it) becomes one more
    closed item and the new `li:fresh` is the open one. -/
theorem C08_same_kind_continues (S : List c08_Level) (c : List Node) (k : Nat) (o : Bool)
    (L : c08_Level) (hL : S[k]? = some L) (hk : L.ltag.name = (c08_listTag o).name) :
    (c08_step S c k o)[k]? =
      some ⟨L.pre, L.ltag, L.items ++ [.elem L.litag (c08_rend (S.drop (k+1)) c)], c08_liFresh⟩ := by
  rw [c08_step_at S c k o L hL, c08_step, if_pos hk]
  rfl

/-- OTHER KIND STARTS A NEW LIST.  If the list open at the item's depth has the other kind, it is
    closed (it becomes an earlier sibling) and a new list of the item's kind is opened after it. -/
theorem C08_other_kind_new_list (S : List c08_Level) (c : List Node) (k : Nat) (o : Bool)
    (L : c08_Level) (hL : S[k]? = some L) (hk : L.ltag.name ≠ (c08_listTag o).name) :
    (c08_step S c k o)[k]? =
      some ⟨L.pre ++ [.elem L.ltag (L.items ++ [.elem L.litag (c08_rend (S.drop (k+1)) c)])],
            c08_listTag o, [], c08_liFresh⟩ := by
  rw [c08_step_at S c k o L hL, c08_step, if_neg hk]
  rfl

/-- two consecutive top-level items of the same kind: ONE list element, TWO distinct `li` -/
theorem C08_two_items_share_list (o : Bool) (c1 c2 : List Node) :
    collapse [c08_listNode 0 o c1, c08_listNode 0 o c2] =
      [.elem (c08_listTag o) [.elem c08_liFresh (collapse c1), .elem c08_liFresh (collapse c2)]] := by
  simp only [collapse, collapseFrom, c08_collapseNode_listNode, c08_addC_nil]
  cases o <;>
  simp [c08_listNode, addC, c08_listTag, c08_ul, c08_ol, isMatch, Tag.names, sepText, c08_liFresh, c08_fresh]

/-- a top-level item after a top-level item of the other kind opens a new list -/
theorem C08_kind_change_opens_list (o : Bool) (c1 c2 : List Node) :
    collapse [c08_listNode 0 o c1, c08_listNode 0 (!o) c2] =
      [.elem (c08_listTag o) [.elem c08_liFresh (collapse c1)],
       .elem (c08_listTag (!o)) [.elem c08_liFresh (collapse c2)]] := by
  simp only [collapse, collapseFrom, c08_collapseNode_listNode, c08_addC_nil]
  cases o <;>
  simp [c08_listNode, addC, c08_listTag, c08_ul, c08_ol, isMatch, Tag.names]

/-- a depth-2 item after a depth-1 item nests inside that item's `li`, after its content -/
theorem C08_deeper_item_nests_in_li (o1 o2 : Bool) (c1 c2 : List Node)
    (h1 : c08_inert (collapse c1) = true) :
    collapse [c08_listNode 0 o1 c1, c08_listNode 1 o2 c2] =
      [.elem (c08_listTag o1)
        [.elem c08_liFresh (collapse c1 ++ [.elem (c08_listTag o2) [.elem c08_liFresh (collapse c2)]])]] := by
  have := C08_lists_nest [.li 0 o1 c1, .li 1 o2 c2] (by simp [c08_seqOk, c08_itemOk, h1])
  simpa [c08_nodeOfItem, c08_run, c08_step, c08_rend] using this

/-- depth 1, depth 2, depth 1 (same kind as the first): the third item is a sibling `li` of the
    first in the same list; the nested list stays inside the first `li` -/
theorem C08_back_to_outer_list (o1 o2 : Bool) (c1 c2 c3 : List Node)
    (h1 : c08_inert (collapse c1) = true) (h2 : c08_inert (collapse c2) = true) :
    collapse [c08_listNode 0 o1 c1, c08_listNode 1 o2 c2, c08_listNode 0 o1 c3] =
      [.elem (c08_listTag o1)
        [.elem c08_liFresh (collapse c1 ++ [.elem (c08_listTag o2) [.elem c08_liFresh (collapse c2)]]),
         .elem c08_liFresh (collapse c3)]] := by
  have := C08_lists_nest [.li 0 o1 c1, .li 1 o2 c2, .li 0 o1 c3] (by simp [c08_seqOk, c08_itemOk, h1, h2])
  simpa [c08_nodeOfItem, c08_run, c08_step, c08_rend] using this

/-- a depth-2 item with no list open gets its missing outer level as `ul > li` -/
theorem C08_missing_outer_level_is_ul (o : Bool) (c : List Node) :
    collapse [c08_listNode 1 o c] =
      [.elem c08_ulol [.elem c08_li [.elem (c08_listTag o) [.elem c08_liFresh (collapse c)]]]] := by
  simp only [collapse, collapseFrom, c08_collapseNode_listNode, c08_addC_nil]
  simp [c08_listNode]

/-- a non-list block closes every open list: the next item starts a new list after the block -/
theorem C08_block_closes_lists (o : Bool) (t : Tag) (c1 c2 c3 : List Node)
    (ht : t.collapsible = false) (hl : c08_isListTag t = false)
    (h1 : c08_inert (collapse c1) = true) :
    collapse [c08_listNode 0 o c1, .elem t c2, c08_listNode 0 o c3] =
      [.elem (c08_listTag o) [.elem c08_liFresh (collapse c1)], .elem t (collapse c2),
       .elem (c08_listTag o) [.elem c08_liFresh (collapse c3)]] := by
  have := C08_lists_nest [.li 0 o c1, .block t c2, .li 0 o c3] (by simp [c08_seqOk, c08_itemOk, h1, ht, hl])
  simpa [c08_nodeOfItem, c08_run, c08_step, c08_rend] using this

/-! ## 5. examples (non-vacuity) -/

/-- the path the converter uses for a paragraph under the default style map -/
private def c08_exPath (p : ParaProps) : List Tag :=
  match findStyle upperAscii defaultStyleMap (.paragraph p) with
  | some ⟨_, .elements es⟩ => es
  | _ => [pathElem S!"p" true]

/-- bullet, bullet, number at depth 2, bullet, plain paragraph; then a heading by ID (its numbering
    is ignored), a heading by name in odd letter case with an unknown style ID, a numbered item at
    depth 3 with nothing open, and a numbered top-level item -/
private def c08_exParas : List (ParaProps × Str) :=
  [({ numbering := some ⟨S!"0", false⟩ }, S!"a"), ({ numbering := some ⟨S!"0", false⟩ }, S!"b"),
   ({ numbering := some ⟨S!"1", true⟩ }, S!"c"), ({ numbering := some ⟨S!"0", false⟩ }, S!"d"),
   ({}, S!"e"),
   ({ styleId := some S!"Heading2", numbering := some ⟨S!"0", false⟩ }, S!"f"),
   ({ styleId := some S!"x", styleName := some S!"hEADING 4" }, S!"g"),
   ({ numbering := some ⟨S!"2", true⟩ }, S!"h"), ({ numbering := some ⟨S!"0", true⟩ }, S!"i")]

example :
    render (c08_exParas.flatMap fun (p, s) => wrapElems (c08_exPath p) [.text s]) =
      S!"<ul><li>a</li><li>b<ol><li>c</li></ol></li><li>d</li></ul><p>e</p><h2>f</h2><h4>g</h4><ul><li><ul><li><ol><li>h</li></ol></li></ul></li></ul><ol><li>i</li></ol>" := by
  unfold c08_exPath
  rw [c08_default_map_value]
  decide +kernel

/-- the README-style sequence as a forest: one `ul` with three `li`, the `ol` nested in the second -/
example :
    collapse (wrapElems (c08_listPath 0 false) [.text S!"a"] ++ wrapElems (c08_listPath 0 false) [.text S!"b"] ++
              wrapElems (c08_listPath 1 true) [.text S!"c"] ++ wrapElems (c08_listPath 0 false) [.text S!"d"] ++
              wrapElems [c08_fresh S!"p"] [.text S!"e"]) =
      [.elem c08_ul [.elem c08_liFresh [.text S!"a"],
                     .elem c08_liFresh [.text S!"b", .elem c08_ol [.elem c08_liFresh [.text S!"c"]]],
                     .elem c08_liFresh [.text S!"d"]],
       .elem (c08_fresh S!"p") [.text S!"e"]] := by decide +kernel

/-- the same through the specification machine -/
example :
    c08_rend (c08_run ([], []) [.li 0 false [.text S!"a"], .li 0 false [.text S!"b"], .li 1 true [.text S!"c"],
        .li 0 false [.text S!"d"], .block (c08_fresh S!"p") [.text S!"e"]]).1
      (c08_run ([], []) [.li 0 false [.text S!"a"], .li 0 false [.text S!"b"], .li 1 true [.text S!"c"],
        .li 0 false [.text S!"d"], .block (c08_fresh S!"p") [.text S!"e"]]).2 =
      [.elem c08_ul [.elem c08_liFresh [.text S!"a"],
                     .elem c08_liFresh [.text S!"b", .elem c08_ol [.elem c08_liFresh [.text S!"c"]]],
                     .elem c08_liFresh [.text S!"d"]],
       .elem (c08_fresh S!"p") [.text S!"e"]] := by decide +kernel

example : c08_seqOk [.li 0 false [.text S!"a"], .li 0 false [.text S!"b"], .li 1 true [.text S!"c"],
    .li 0 false [.text S!"d"], .block (c08_fresh S!"p") [.text S!"e"]] = true := by decide +kernel

/-- hypotheses of (a)–(d) are satisfiable -/
example : upperAscii S!"hEADING 4" = upperAscii (c08_hName 4) := by decide +kernel
example : c08_hId 3 = S!"Heading3" ∧ c08_hName 3 = S!"Heading 3" ∧ c08_hTag 3 = S!"h3" := by decide +kernel
example : c08_notHeadingId (some S!"ListParagraph") = true ∧ c08_noEarlierName (some S!"List Paragraph") = true := by
  decide +kernel
example : c08_knownLevel (some ⟨S!"7", true⟩) = false ∧ c08_knownLevel none = false := by decide +kernel
example : findStyle upperAscii defaultStyleMap (.paragraph {}) = none :=
  C08_default_paths_none none none none rfl rfl (by simp) rfl

/-- the default list path of depth 3, numbered -/
example : c08_outer 2 ++ [c08_listTag true, c08_liFresh] =
    [c08_ulol, c08_li, c08_ulol, c08_li, c08_ol, c08_liFresh] := by rfl

/-- a path with a fresh last tag, a forest to merge into, the spine of C08_blocks_one_to_one -/
example : c08_descend 1 (addC [.elem c08_ul [.elem c08_liFresh []]] (c08_chain c08_ulol [c08_liFresh] [.text S!"x"]))
    = some (c08_liFresh, [.text S!"x"]) := by decide +kernel
example : c08_oneBlock (c08_listPath 2 true) = true ∧ c08_noVoid (c08_listPath 2 true) = true := by decide +kernel

/-- numbering: a num whose abstract num links to a numbering style whose num has the levels -/
private def c08_exNumbering : Numbering :=
  { abstractNums := [(some S!"0", ⟨[(S!"0", ⟨S!"0", true, some S!"Fancy"⟩)], none⟩),
                     (some S!"1", ⟨[], some S!"ListStyle"⟩)],
    nums := [(some S!"5", S!"0"), (some S!"6", S!"1")],
    styles := { numbering := [(some S!"ListStyle", some S!"5")] } }
example : findLevel c08_exNumbering 3 (some S!"6") S!"0" = .ok (some ⟨S!"0", true⟩) := by decide +kernel
example : findLevel c08_exNumbering 3 (some S!"9") S!"0" = .ok none := by decide +kernel
example : findLevelByStyle c08_exNumbering S!"Fancy" = some ⟨S!"0", true⟩ := by decide +kernel
example : readNumberingProps { numbering := c08_exNumbering } (some S!"Fancy")
    [.elem S!"w:numId" [(S!"w:val", S!"9")] [], .elem S!"w:ilvl" [(S!"w:val", S!"0")] []] = .ok none :=
  by decide +kernel
example : readNumberingProps { numbering := c08_exNumbering } (some S!"Fancy")
    [.elem S!"w:numId" [(S!"w:val", S!"9")] []] = .ok (some ⟨S!"0", true⟩) := by decide +kernel

/-! ## 6. END TO END: from the XML of a paragraph

Specification on the XML (Proofs/C08_Xml.lean, over the XML accessors of Proofs/C11_Xml.lean, which are independent of
the reader's helpers): `c08x_pPr cs` — the children of
the paragraph's first `w:pPr`; `c08x_markDeleted cs` — `w:pPr/w:rPr/w:del` exists (the paragraph mark is a tracked
deletion: the reader merges such a paragraph into the next one); `c08x_style env pPr` — `w:pStyle/@w:val`, its name among
the paragraph styles of styles.xml, and the warning if it is undefined; `c08x_numPr pPr` — the pair
(`w:numPr/w:numId/@w:val`, `w:numPr/w:ilvl/@w:val`); `c08x_numbering env pPr` — the numbering the paragraph should get. -/

/-- THE SPECIFIED NUMBERING, case by case: the paragraph's own `w:numPr` with BOTH a `w:numId` and a `w:ilvl` decides —
    `find_level` through the numbering definitions (`C08_findLevel_direct` / `_link` / `_dangling`), whatever the
    paragraph style is; otherwise the level whose `w:pStyle` is the paragraph's style id; otherwise none -/
theorem C08_xml_numbering_cases (env : REnv) (pPr : List XmlNode) :
    (∀ numId lvl, c08x_numPr pPr = (some numId, some lvl) →
      c08x_numbering env pPr = findLevel env.numbering (c08x_fuel env) (some numId) lvl) ∧
    (∀ sid, (c08x_numPr pPr).1 = none ∨ (c08x_numPr pPr).2 = none → (c08x_style env pPr).1.1 = some sid →
      c08x_numbering env pPr = .ok (findLevelByStyle env.numbering sid)) ∧
    ((c08x_numPr pPr).1 = none ∨ (c08x_numPr pPr).2 = none → (c08x_style env pPr).1.1 = none →
      c08x_numbering env pPr = .ok none) := by
  have hmiss : (c08x_numPr pPr).1 = none ∨ (c08x_numPr pPr).2 = none →
      c08x_numbering env pPr = match (c08x_style env pPr).1.1 with
        | some sid => .ok (findLevelByStyle env.numbering sid)
        | none => .ok none := by
    intro h
    unfold c08x_numbering
    split
    · rename_i hp
      simp [hp] at h
    · rfl
  refine ⟨fun numId lvl h => ?_, fun sid h hs => ?_, fun h hs => ?_⟩
  · rw [c08x_numbering, h]
  · rw [hmiss h, hs]
  · rw [hmiss h, hs]

/-- READER HALF.  A `w:p` (any attributes) whose paragraph mark is not deleted, whose children `cs` — preceded by
    what earlier deleted paragraphs deferred — are read as `r`: the reader returns, or fails, as the resolution of
    the specified numbering does; on success the result is ONE paragraph element with the style read off the `w:pPr`,
    its `numbering` field equal to the specified numbering, around the children's elements; followed by the extra
    elements of its content. -/
theorem C08_xml_paragraph_numbering (env : REnv) (f : Nat) (st st1 : RState) (as : Attrs) (cs : List XmlNode)
    (r : ReadResult)
    (hdel : c08x_markDeleted cs = false)
    (hcs : readAllWith (readElem env f) { st with deleted := [] } (st.deleted ++ cs) = .ok (r, st1)) :
    readElem env (f+1) st (.elem S!"w:p" as cs) =
      (c08x_numbering env (c08x_pPr cs)).map fun num =>
        ({ elements := .paragraph { styleId := (c08x_style env (c08x_pPr cs)).1.1,
                                    styleName := (c08x_style env (c08x_pPr cs)).1.2,
                                    numbering := num } r.elements :: r.extra,
           extra := [],
           messages := (c08x_style env (c08x_pPr cs)).2 ++ r.messages }, st1) := by
  rw [c08x_reader_paragraph, hdel, hcs]
  cases c08x_numbering env (c08x_pPr cs) <;> rfl

/-- a paragraph whose mark is deleted yields nothing itself; its children are deferred to the next paragraph -/
theorem C08_xml_deleted_paragraph (env : REnv) (f : Nat) (st : RState) (as : Attrs) (cs : List XmlNode)
    (hdel : c08x_markDeleted cs = true) :
    readElem env (f+1) st (.elem S!"w:p" as cs) = .ok ({}, { st with deleted := st.deleted ++ cs }) := by
  rw [c08x_reader_paragraph, hdel]; rfl

/-- NUMBERING DEFINITIONS FROM numbering.xml, direct case.  The environment's numbering was read from the root
    children `root` of numbering.xml (`hn`); the paragraph's `w:numPr` names num `numId` and level `lvl` (`hnp`); the
    num points to an abstract numbering (`h1`, `h2`) without numbering-style link (`h3`) that has a level filed under
    `lvl` (`h4`).  Then the specified numbering of the paragraph is level `lvl` itself, and it is ordered iff the
    `w:numFmt` of a `w:lvl` element with `w:ilvl` = `lvl` of a `w:abstractNum` with that id is not `bullet`. -/
theorem C08_xml_numbering_from_definitions (env : REnv) (root : List XmlNode) (styles : Styles)
    (pPr : List XmlNode) (numId lvl absId : Str) (an : AbstractNum) (l : AbsLevel)
    (hn : readNumberingXml root styles = .ok env.numbering)
    (hnp : c08x_numPr pPr = (some numId, some lvl))
    (h1 : lookupLast (some numId) env.numbering.nums = some absId)
    (h2 : lookupLast (some absId) env.numbering.abstractNums = some an)
    (h3 : an.numStyleLink = none)
    (h4 : lookupLast lvl an.levels = some l) :
    c08x_numbering env pPr = .ok (some ⟨lvl, l.isOrdered⟩) ∧
    ∃ ap ∈ c11x_named S!"w:abstractNum" root, c11x_attr S!"w:abstractNumId" ap.1 = some absId ∧
      ∃ lp ∈ c11x_named S!"w:lvl" ap.2, c11x_attr S!"w:ilvl" lp.1 = some lvl ∧
        l.isOrdered = decide ((c11x_propVal S!"w:numFmt" lp.2).join ≠ some S!"bullet") := by
  obtain ⟨_, habs, _⟩ := c08x_readNumberingXml root styles _ hn
  obtain ⟨ap, hap, hid, _, hlv⟩ := habs _ (lookupLast_mem h2)
  obtain ⟨hidx, lp, hlp, hil, hord, _⟩ := hlv _ (lookupLast_mem h4)
  refine ⟨?_, ap, hap, hid.symm, lp, hlp, hil, hord⟩
  rw [c08x_numbering, hnp]
  simpa [findLevel, h1, h2, h3, h4, toNumLevel] using hidx

/-- FROM THE XML TO THE LIST ITEM.  Under the default style map (`hmap`, `hup`), a `w:p` whose mark is not deleted
    (`hdel`), whose children are read as `r` (`hcs`), whose specified numbering resolves to level index `k` < 5 of kind
    `o` (`hnum`), and whose style is not caught by an earlier mapping (`hs`: style id not `Heading1..6`; `hn`: style
    name absent or not a heading / note name): it is read as one paragraph element, and THAT element is converted to
    the single node `c08_listNode k o content` — `ul|ol > li >` (k times) `ol|ul > li:fresh >` the nodes of its
    children (`C08_list_path_node`). -/
theorem C08_xml_to_block (env : REnv) (cfg : Cfg) (hdr : Bool) (f : Nat) (st st1 : RState) (as : Attrs)
    (cs : List XmlNode) (r : ReadResult) (k : Nat) (o : Bool)
    (hmap : cfg.styleMap = defaultStyleMap) (hup : cfg.upper = upperAscii)
    (hdel : c08x_markDeleted cs = false)
    (hcs : readAllWith (readElem env f) { st with deleted := [] } (st.deleted ++ cs) = .ok (r, st1))
    (hnum : c08x_numbering env (c08x_pPr cs) = .ok (some ⟨natToStr k, o⟩)) (hk : k < 5)
    (hs : c08_notHeadingId (c08x_style env (c08x_pPr cs)).1.1 = true)
    (hn : c08_noEarlierName (c08x_style env (c08x_pPr cs)).1.2 = true) :
    readElem env (f+1) st (.elem S!"w:p" as cs) =
      .ok ({ elements := .paragraph { styleId := (c08x_style env (c08x_pPr cs)).1.1,
                                      styleName := (c08x_style env (c08x_pPr cs)).1.2,
                                      numbering := some ⟨natToStr k, o⟩ } r.elements :: r.extra,
             extra := [],
             messages := (c08x_style env (c08x_pPr cs)).2 ++ r.messages }, st1) ∧
    visit cfg hdr (.paragraph { styleId := (c08x_style env (c08x_pPr cs)).1.1,
                                styleName := (c08x_style env (c08x_pPr cs)).1.2,
                                numbering := some ⟨natToStr k, o⟩ } r.elements) =
      (do let content ← visitAll cfg hdr r.elements
          pure [c08_listNode k o (if cfg.ignoreEmpty then content else .forceWrite :: content)]) := by
  refine ⟨c08x_read_paragraph env f st st1 as cs r _ hdel hcs hnum, ?_⟩
  rw [c08_visit_paragraph cfg hdr _ _ _ (c08_listPath k o)
    (by rw [hmap, hup]; exact c08_path_list k hk o _ _ hs hn) rfl]
  simp only [c08_wrap_listPath]

/-- …TO A HEADING, by style id: `w:pStyle` = `Heading<n>` gives `h<n>:fresh`, whatever the numbering -/
theorem C08_xml_to_block_heading_id (env : REnv) (cfg : Cfg) (hdr : Bool) (f : Nat) (st st1 : RState) (as : Attrs)
    (cs : List XmlNode) (r : ReadResult) (n : Nat) (num : Option NumLevel)
    (hmap : cfg.styleMap = defaultStyleMap) (hup : cfg.upper = upperAscii)
    (hdel : c08x_markDeleted cs = false)
    (hcs : readAllWith (readElem env f) { st with deleted := [] } (st.deleted ++ cs) = .ok (r, st1))
    (hnum : c08x_numbering env (c08x_pPr cs) = .ok num)
    (h1 : 1 ≤ n) (h6 : n ≤ 6) (hid : (c08x_style env (c08x_pPr cs)).1.1 = some (c08_hId n)) :
    readElem env (f+1) st (.elem S!"w:p" as cs) =
      .ok ({ elements := .paragraph { styleId := some (c08_hId n),
                                      styleName := (c08x_style env (c08x_pPr cs)).1.2,
                                      numbering := num } r.elements :: r.extra,
             extra := [],
             messages := (c08x_style env (c08x_pPr cs)).2 ++ r.messages }, st1) ∧
    visit cfg hdr (.paragraph { styleId := some (c08_hId n), styleName := (c08x_style env (c08x_pPr cs)).1.2,
                                numbering := num } r.elements) =
      (do let content ← visitAll cfg hdr r.elements
          pure [.elem (c08_fresh (c08_hTag n)) (if cfg.ignoreEmpty then content else .forceWrite :: content)]) := by
  rw [← hid]
  refine ⟨c08x_read_paragraph env f st st1 as cs r _ hdel hcs hnum, ?_⟩
  rw [hid, c08_visit_paragraph cfg hdr _ _ _ [c08_fresh (c08_hTag n)]
    (by rw [hmap, hup]; exact c08_path_heading_id n h1 h6 _ num) rfl]
  rfl

/-- …TO A HEADING, by style name: a style whose name in styles.xml is `Heading <n>` up to ASCII case (and whose id is
    not `Heading1..6`) gives `h<n>:fresh`, whatever the numbering -/
theorem C08_xml_to_block_heading_name (env : REnv) (cfg : Cfg) (hdr : Bool) (f : Nat) (st st1 : RState) (as : Attrs)
    (cs : List XmlNode) (r : ReadResult) (n : Nat) (num : Option NumLevel) (name : Str)
    (hmap : cfg.styleMap = defaultStyleMap) (hup : cfg.upper = upperAscii)
    (hdel : c08x_markDeleted cs = false)
    (hcs : readAllWith (readElem env f) { st with deleted := [] } (st.deleted ++ cs) = .ok (r, st1))
    (hnum : c08x_numbering env (c08x_pPr cs) = .ok num)
    (h1 : 1 ≤ n) (h6 : n ≤ 6) (hs : c08_notHeadingId (c08x_style env (c08x_pPr cs)).1.1 = true)
    (hname : (c08x_style env (c08x_pPr cs)).1.2 = some name)
    (hn : upperAscii name = upperAscii (c08_hName n)) :
    readElem env (f+1) st (.elem S!"w:p" as cs) =
      .ok ({ elements := .paragraph { styleId := (c08x_style env (c08x_pPr cs)).1.1, styleName := some name,
                                      numbering := num } r.elements :: r.extra,
             extra := [],
             messages := (c08x_style env (c08x_pPr cs)).2 ++ r.messages }, st1) ∧
    visit cfg hdr (.paragraph { styleId := (c08x_style env (c08x_pPr cs)).1.1, styleName := some name,
                                numbering := num } r.elements) =
      (do let content ← visitAll cfg hdr r.elements
          pure [.elem (c08_fresh (c08_hTag n)) (if cfg.ignoreEmpty then content else .forceWrite :: content)]) := by
  rw [← hname]
  refine ⟨c08x_read_paragraph env f st st1 as cs r _ hdel hcs hnum, ?_⟩
  rw [hname, c08_visit_paragraph cfg hdr _ _ _ [c08_fresh (c08_hTag n)]
    (by rw [hmap, hup]; exact c08_path_heading_name n h1 h6 _ hs name hn num) rfl]
  rfl

/-- …TO A PLAIN PARAGRAPH: no heading style id, no heading / note / `Normal` style name, and no numbering (or a level
    index other than 0..4): no default mapping applies and the paragraph becomes `p:fresh` (with the
    unrecognised-style warning iff it has a style id) -/
theorem C08_xml_to_block_plain (env : REnv) (cfg : Cfg) (hdr : Bool) (f : Nat) (st st1 : RState) (as : Attrs)
    (cs : List XmlNode) (r : ReadResult) (num : Option NumLevel)
    (hmap : cfg.styleMap = defaultStyleMap) (hup : cfg.upper = upperAscii)
    (hdel : c08x_markDeleted cs = false)
    (hcs : readAllWith (readElem env f) { st with deleted := [] } (st.deleted ++ cs) = .ok (r, st1))
    (hnum : c08x_numbering env (c08x_pPr cs) = .ok num)
    (hs : c08_notHeadingId (c08x_style env (c08x_pPr cs)).1.1 = true)
    (hn : c08_noEarlierName (c08x_style env (c08x_pPr cs)).1.2 = true)
    (hN : (c08x_style env (c08x_pPr cs)).1.2.map upperAscii ≠ some S!"NORMAL")
    (hl : c08_knownLevel num = false) :
    readElem env (f+1) st (.elem S!"w:p" as cs) =
      .ok ({ elements := .paragraph { styleId := (c08x_style env (c08x_pPr cs)).1.1,
                                      styleName := (c08x_style env (c08x_pPr cs)).1.2,
                                      numbering := num } r.elements :: r.extra,
             extra := [],
             messages := (c08x_style env (c08x_pPr cs)).2 ++ r.messages }, st1) ∧
    visit cfg hdr (.paragraph { styleId := (c08x_style env (c08x_pPr cs)).1.1,
                                styleName := (c08x_style env (c08x_pPr cs)).1.2,
                                numbering := num } r.elements) =
      (do (match (c08x_style env (c08x_pPr cs)).1.1 with
            | some sid => warn (S!"Unrecognised paragraph style: " ++ pyOpt (c08x_style env (c08x_pPr cs)).1.2 ++
                                S!" (Style ID: " ++ sid ++ S!")")
            | none => pure ())
          let content ← visitAll cfg hdr r.elements
          pure [.elem (pathElem S!"p" true) (if cfg.ignoreEmpty then content else .forceWrite :: content)]) := by
  refine ⟨c08x_read_paragraph env f st st1 as cs r _ hdel hcs hnum, ?_⟩
  rw [c08_visit_paragraph_default cfg hdr _ _
    (by rw [hmap, hup]; exact c08_path_none _ _ num hs hn hN hl)]
  rfl

/-- AN XML LIST PARAGRAPH AT LEVEL k BECOMES AN `li` INSIDE k+1 LISTS.  Under the hypotheses of `C08_xml_to_block`,
    if converting the paragraph read succeeds with `nodes` (`hrun`), then `nodes` is the single list node of depth
    `k+1` and kind `o` around the nodes `content` of the paragraph's children (with the force-write marker when empty
    paragraphs are kept); and merging it (the `collapse` step) into ANY forest denoted by a stack `S` of open lists
    and the children `c` of the innermost open item gives the forest denoted by `c08_step S c k o`: exactly `k+1`
    lists are open, `2k+1` steps down the last-child spine sits the new `li:fresh` with exactly `content` as its
    children, and the innermost list is `ol` iff `o`. -/
theorem C08_xml_list_item_nesting (env : REnv) (cfg : Cfg) (hdr : Bool) (f : Nat) (st st1 : RState) (as : Attrs)
    (cs : List XmlNode) (r : ReadResult) (k : Nat) (o : Bool) (s s' : ConvState) (nodes : List Node)
    (S : List c08_Level) (c : List Node)
    (hmap : cfg.styleMap = defaultStyleMap) (hup : cfg.upper = upperAscii)
    (hdel : c08x_markDeleted cs = false)
    (hcs : readAllWith (readElem env f) { st with deleted := [] } (st.deleted ++ cs) = .ok (r, st1))
    (hnum : c08x_numbering env (c08x_pPr cs) = .ok (some ⟨natToStr k, o⟩)) (hk : k < 5)
    (hs : c08_notHeadingId (c08x_style env (c08x_pPr cs)).1.1 = true)
    (hn : c08_noEarlierName (c08x_style env (c08x_pPr cs)).1.2 = true)
    (hrun : (visit cfg hdr (.paragraph { styleId := (c08x_style env (c08x_pPr cs)).1.1,
                                          styleName := (c08x_style env (c08x_pPr cs)).1.2,
                                          numbering := some ⟨natToStr k, o⟩ } r.elements)).run s = .ok (nodes, s'))
    (hw : c08_wf S = true) (hi : c08_inert c = true) :
    ∃ content,
      (visitAll cfg hdr r.elements).run s =
        .ok (content, s') ∧
      nodes = [c08_listNode k o (if cfg.ignoreEmpty then content else .forceWrite :: content)] ∧
      addC (c08_rend S c) (c08_listNode k o (if cfg.ignoreEmpty then content else .forceWrite :: content)) =
        c08_rend (c08_step S c k o) (if cfg.ignoreEmpty then content else .forceWrite :: content) ∧
      c08_descend (2 * k + 1)
          (c08_rend (c08_step S c k o) (if cfg.ignoreEmpty then content else .forceWrite :: content)) =
        some (c08_liFresh, if cfg.ignoreEmpty then content else .forceWrite :: content) ∧
      (c08_step S c k o).length = k + 1 ∧
      ∃ L, (c08_step S c k o)[k]? = some L ∧ L.litag = c08_liFresh ∧
        L.ltag.name = (if o then S!"ol" else S!"ul") := by
  rw [(C08_xml_to_block env cfg hdr f st st1 as cs r k o hmap hup hdel hcs hnum hk hs hn).2, run_bind_ok] at hrun
  obtain ⟨content, s1, h1, hrun⟩ := hrun
  rw [run_pure_ok] at hrun
  obtain ⟨hnodes, hs1⟩ := hrun
  subst hs1
  refine ⟨content, h1, hnodes.symm, C08_lists_step k o _ S c hw hi,
    (C08_item_sits_in_d_lists S c k o _ hw).1, (C08_item_depth_and_kind S c k o).1,
    (C08_item_depth_and_kind S c k o).2⟩

/-! examples: numbering.xml with a bullet numbering (levels 0, 1) and a decimal one; styles.xml naming `ListParagraph`;
    the paragraph `<w:p><w:pPr><w:pStyle w:val="ListParagraph"/><w:numPr><w:ilvl w:val="1"/><w:numId w:val="5"/>
    </w:numPr></w:pPr><w:r><w:t>item</w:t></w:r></w:p>` -/
private def c08x_exNumXml : List XmlNode :=
  [.elem S!"w:abstractNum" [(S!"w:abstractNumId", S!"0")]
     [.elem S!"w:lvl" [(S!"w:ilvl", S!"0")] [.elem S!"w:numFmt" [(S!"w:val", S!"bullet")] []],
      .elem S!"w:lvl" [(S!"w:ilvl", S!"1")] [.elem S!"w:numFmt" [(S!"w:val", S!"bullet")] []]],
   .elem S!"w:abstractNum" [(S!"w:abstractNumId", S!"1")]
     [.elem S!"w:lvl" [(S!"w:ilvl", S!"0")] [.elem S!"w:numFmt" [(S!"w:val", S!"decimal")] [],
                                            .elem S!"w:pStyle" [(S!"w:val", S!"Numbered")] []]],
   .elem S!"w:num" [(S!"w:numId", S!"5")] [.elem S!"w:abstractNumId" [(S!"w:val", S!"0")] []],
   .elem S!"w:num" [(S!"w:numId", S!"6")] [.elem S!"w:abstractNumId" [(S!"w:val", S!"1")] []]]
private def c08x_exStyles : Styles :=
  { paragraph := [(some S!"ListParagraph", some S!"List Paragraph"), (some S!"Numbered", some S!"Numbered")] }
private def c08x_exEnv : REnv :=
  { numbering := (match readNumberingXml c08x_exNumXml c08x_exStyles with | .ok n => n | .error _ => {}),
    styles := c08x_exStyles }
private def c08x_exPara (pPr : List XmlNode) (t : Str) : List XmlNode :=
  [.elem S!"w:pPr" [] pPr, .elem S!"w:r" [] [.elem S!"w:t" [] [.text t]]]
private def c08x_exItem : List XmlNode :=
  c08x_exPara [.elem S!"w:pStyle" [(S!"w:val", S!"ListParagraph")] [],
               .elem S!"w:numPr" [] [.elem S!"w:ilvl" [(S!"w:val", S!"1")] [], .elem S!"w:numId" [(S!"w:val", S!"5")] []]]
    S!"item"

example : readNumberingXml c08x_exNumXml c08x_exStyles = .ok c08x_exEnv.numbering := by c05_kernel_rfl
/-- the hypotheses of `C08_xml_to_block` / `C08_xml_list_item_nesting` for the item: level 1, bullet -/
example : c08x_markDeleted c08x_exItem = false ∧
    c08x_numPr (c08x_pPr c08x_exItem) = (some S!"5", some S!"1") ∧
    c08x_numbering c08x_exEnv (c08x_pPr c08x_exItem) = .ok (some ⟨natToStr 1, false⟩) ∧
    (c08x_style c08x_exEnv (c08x_pPr c08x_exItem)).1 = (some S!"ListParagraph", some S!"List Paragraph") ∧
    c08_notHeadingId (c08x_style c08x_exEnv (c08x_pPr c08x_exItem)).1.1 = true ∧
    c08_noEarlierName (c08x_style c08x_exEnv (c08x_pPr c08x_exItem)).1.2 = true :=
  by decide +kernel
example : ∃ r st1, readAllWith (readElem c08x_exEnv 3) {} c08x_exItem = .ok (r, st1) ∧
    r.elements = [.run {} [.text S!"item"]] := ⟨_, _, rfl, rfl⟩
/-- the hypotheses of `C08_xml_numbering_from_definitions` for it -/
example : lookupLast (some S!"5") c08x_exEnv.numbering.nums = some S!"0" ∧
    (lookupLast (some S!"0") c08x_exEnv.numbering.abstractNums).map (·.numStyleLink) = some none := by decide +kernel
/-- read and converted with the default style map: `ul|ol > li > ul > li:fresh > item` -/
example :
    (match readElem c08x_exEnv 4 {} (.elem S!"w:p" [] c08x_exItem) with
      | .ok (rr, _) => ((visitAll { styleMap := c08_defaultMapValue } false rr.elements).run {}).toOption.map (·.1)
      | .error _ => none) = some [c08_listNode 1 false [.text S!"item"]] := by decide +kernel
/-- no `w:numPr`, but the style `Numbered` is the `w:pStyle` of level 0 of the decimal numbering: `ol > li:fresh` -/
example : c08x_numbering c08x_exEnv [.elem S!"w:pStyle" [(S!"w:val", S!"Numbered")] []] =
    .ok (some ⟨S!"0", true⟩) := by decide +kernel
example :
    (match readElem c08x_exEnv 4 {} (.elem S!"w:p" []
        (c08x_exPara [.elem S!"w:pStyle" [(S!"w:val", S!"Numbered")] []] S!"one")) with
      | .ok (rr, _) => ((visitAll { styleMap := c08_defaultMapValue } false rr.elements).run {}).toOption.map (·.1)
      | .error _ => none) = some [c08_listNode 0 true [.text S!"one"]] := by decide +kernel
/-- the paragraph's own `w:numPr` wins over the style's numbering, even when its num is undefined: a plain `p` -/
example : c08x_numbering c08x_exEnv
    [.elem S!"w:pStyle" [(S!"w:val", S!"Numbered")] [],
     .elem S!"w:numPr" [] [.elem S!"w:ilvl" [(S!"w:val", S!"0")] [], .elem S!"w:numId" [(S!"w:val", S!"9")] []]] =
    .ok none := by decide +kernel
/-- a deleted paragraph mark -/
example : c08x_markDeleted [.elem S!"w:pPr" [] [.elem S!"w:rPr" [] [.elem S!"w:del" [] []]]] = true := by decide +kernel


end Mammoth
