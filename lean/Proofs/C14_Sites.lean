/-
  C14 — the sites of the converter that keep or drop elements: force-write markers (bookmarks, tables,
  rows, cells, `ignore_empty_paragraphs=False`), void elements (breaks, images, checkboxes), and the
  wrappers (paragraph paths, run paths, hyperlinks) that vanish when nothing is left inside them.
-/
import Proofs.C14_Visit
namespace Mammoth

/-! ### `strip_empty` on wrapped forests -/

theorem prune_append (a b : List Node) : prune (a ++ b) = prune a ++ prune b := by
  induction a with
  | nil => simp [prune]
  | cons x xs ih => by_cases h : hasContent x = true <;> simp [prune, h, ih]

theorem stripEmpty_append (a b : List Node) : stripEmpty (a ++ b) = stripEmpty a ++ stripEmpty b := by
  simp only [stripEmpty, stripList_eq, prune_append]

theorem prune_of_noContent (ns : List Node) (h : anyContent ns = false) : prune ns = [] := by
  have := stripList_isEmpty ns
  rw [h, stripList_eq] at this
  exact List.isEmpty_iff.mp (by simpa using this)

theorem weightOf_full_iff (ns : List Node) : weightOf ns = .full ↔ anyContent ns = true := by
  unfold weightOf
  cases anyContent ns <;> cases ns <;> simp

theorem weightOf_none_iff (ns : List Node) : weightOf ns = .none ↔ ns = [] := by
  unfold weightOf
  cases h : anyContent ns <;> cases ns <;> simp_all [anyContent]

theorem wrapElems_eq_nil (es : List Tag) (ns : List Node) (h : wrapElems es ns = []) : es = [] ∧ ns = [] := by
  cases es with
  | nil => exact ⟨rfl, by simpa [wrapElems] using h⟩
  | cons t ts => simp [wrapElems] at h

theorem prune_single_elem (t : Tag) (cs : List Node) :
    prune [.elem t cs] = if (weightOf cs).wrap1 t = .full then [.elem t (prune cs)] else [] := by
  have h1 := weightOf_single_elem t cs
  have h2 := weightOf_full_iff [.elem t cs]
  rw [h1] at h2
  by_cases hc : hasContent (.elem t cs) = true
  · have : (weightOf cs).wrap1 t = .full := h2.mpr (by simp [anyContent, hc])
    simp [prune, hc, this, pruneNode]
  · have : ¬ (weightOf cs).wrap1 t = .full := fun hf => hc (by simpa [anyContent] using h2.mp hf)
    simp [prune, hc, this]

/-- A path around a forest, after `strip_empty`: the whole path around the stripped forest if something
    has content (the forest, or — around nothing at all — a void innermost element), otherwise nothing. -/
theorem prune_wrapElems (es : List Tag) (ns : List Node) :
    prune (wrapElems es ns) = if (weightOf ns).wrap es = .full then wrapElems es (prune ns) else [] := by
  induction es with
  | nil =>
    simp only [wrapElems, Weight.wrap]
    by_cases h : weightOf ns = .full
    · simp [h]
    · simp only [h, if_false]
      apply prune_of_noContent
      cases ha : anyContent ns with
      | false => rfl
      | true => exact absurd ((weightOf_full_iff ns).mpr ha) h
  | cons t ts ih =>
    simp only [wrapElems, Weight.wrap]
    rw [prune_single_elem, weightOf_wrapElems]
    by_cases ho : ((weightOf ns).wrap ts).wrap1 t = .full
    · simp only [ho, if_true]
      rw [ih]
      by_cases hi : (weightOf ns).wrap ts = .full
      · simp [hi]
      · simp only [hi, if_false]
        -- the inner forest is empty: the path is `[t]`, `t` is void and there is nothing inside
        have hn : (weightOf ns).wrap ts = .none := by
          cases hw : (weightOf ns).wrap ts with
          | none => rfl
          | hollow => rw [hw] at ho; simp [Weight.wrap1] at ho
          | full => exact absurd hw hi
        rw [← weightOf_wrapElems, weightOf_none_iff] at hn
        obtain ⟨h1, h2⟩ := wrapElems_eq_nil ts ns hn
        subst h1; subst h2
        simp [wrapElems, prune]
    · simp [ho]

theorem stripEmpty_wrapElems (es : List Tag) (ns : List Node) :
    stripEmpty (wrapElems es ns) =
      if (weightOf ns).wrap es = .full then wrapElems es (stripEmpty ns) else [] := by
  simp only [stripEmpty, stripList_eq, prune_wrapElems]

/-- with a force-write marker inside, the whole path stays -/
theorem stripEmpty_wrapElems_fw (es : List Tag) (ns : List Node) :
    stripEmpty (wrapElems es (.forceWrite :: ns)) = wrapElems es (.forceWrite :: stripEmpty ns) := by
  rw [stripEmpty_wrapElems, weightOf_cons_fw, Weight.wrap_full]
  simp [stripEmpty, stripList_eq, prune, hasContent, pruneNode]

theorem stripEmpty_el_fw (name : Str) (attrs : List (Str × Str)) (ns : List Node) :
    stripEmpty [el name attrs (.forceWrite :: ns)] = [el name attrs (.forceWrite :: stripEmpty ns)] :=
  stripEmpty_wrapElems_fw [{ name := name, attrs := Dict.ofList attrs }] ns

/-! ### run paths without `!` are one path -/

/-- the elements of a list of paths (innermost path first), outermost element first -/
def c14_tags : List HtmlPath → List Tag
  | [] => []
  | .elements es :: ps => c14_tags ps ++ es
  | .ignore :: ps => c14_tags ps

theorem c14_wrapElems_append (a b : List Tag) (ns : List Node) :
    wrapElems (a ++ b) ns = wrapElems a (wrapElems b ns) := by
  induction a with
  | nil => rfl
  | cons t a ih => simp only [List.cons_append, wrapElems, ih]

theorem c14_wrapAll_tags (paths : List HtmlPath) (ns : List Node)
    (h : paths.any HtmlPath.isIgnore = false) : wrapAll paths ns = wrapElems (c14_tags paths) ns := by
  induction paths generalizing ns with
  | nil => rfl
  | cons p ps ih =>
    cases p with
    | ignore => simp [HtmlPath.isIgnore] at h
    | elements es =>
      have h' : ps.any HtmlPath.isIgnore = false := by simpa [HtmlPath.isIgnore] using h
      simp only [wrapAll, c14_tags, ih _ h', c14_wrapElems_append]

/-! ### inversion of successful visits -/

theorem c14_map_ok {α β} (x : ConvM α) (f : α → β) (st : ConvState) (b : β) (st' : ConvState)
    (h : (x >>= fun a => pure (f a)) st = .ok (b, st')) : ∃ a, x st = .ok (a, st') ∧ b = f a := by
  obtain ⟨a, s, h1, h2⟩ := app_bind_ok h
  rw [app_pure, Except.ok.injEq, Prod.mk.injEq] at h2
  exact ⟨a, h2.2 ▸ h1, h2.1.symm⟩

/-- a void element without children is kept by `strip_empty` as it is -/
theorem stripEmpty_void (t : Tag) (h : voidTag t = true) : stripEmpty [.elem t []] = [.elem t []] := by
  have hv : hasContent (.elem t []) = true := by
    have : voidNames.contains t.name = true := h
    simp only [hasContent, isVoid, this]; rfl
  simp only [stripEmpty, stripList_eq, prune, hv, if_true, pruneNode]

/-- what a paragraph not mapped to `!` returns: its path around the content of its children, with a
    force-write marker in front of the content when empty paragraphs are to be kept -/
theorem c14_visit_paragraph (cfg : Cfg) (hdr : Bool) (p : ParaProps) (cs : List Elem) (es : List Tag)
    (st st' : ConvState) (nodes : List Node)
    (hp : c01_path cfg (.paragraph p) (.elements [pathElem S!"p" true]) = .elements es)
    (h : visit cfg hdr (.paragraph p cs) st = .ok (nodes, st')) :
    ∃ content,
      visitAll cfg hdr cs (c01_warnState cfg (.paragraph p) S!"paragraph" p.styleId p.styleName st)
        = .ok (content, st') ∧
      nodes = wrapElems es (if cfg.ignoreEmpty then content else .forceWrite :: content) := by
  simp only [visit] at h
  rw [app_bind, c01_findPathWarn_run] at h
  simp only [hp] at h
  exact c14_map_ok _ _ _ _ _ h

/-- a paragraph mapped to `!` returns nothing -/
theorem c14_visit_paragraph_ignore (cfg : Cfg) (hdr : Bool) (p : ParaProps) (cs : List Elem)
    (st st' : ConvState) (nodes : List Node)
    (hp : c01_path cfg (.paragraph p) (.elements [pathElem S!"p" true]) = .ignore)
    (h : visit cfg hdr (.paragraph p cs) st = .ok (nodes, st')) : nodes = [] := by
  simp only [visit] at h
  rw [app_bind, c01_findPathWarn_run] at h
  simp only [hp, app_pure, Except.ok.injEq, Prod.mk.injEq] at h
  exact h.1.symm

theorem c14_visit_run_eq (cfg : Cfg) (hdr : Bool) (r : RunProps) (cs : List Elem) (st : ConvState) :
    visit cfg hdr (.run r cs) st =
      (if (c01_runPaths cfg r).any HtmlPath.isIgnore then pure (wrapAll (c01_runPaths cfg r) [])
       else visitAll cfg hdr cs >>= fun ns => pure (wrapAll (c01_runPaths cfg r) ns))
        (c01_warnState cfg (.run r.styleId r.styleName) S!"run" r.styleId r.styleName st) := by
  simp only [visit]
  rw [app_bind, c01_findPathWarn_run]
  rfl

theorem c14_visit_run (cfg : Cfg) (hdr : Bool) (r : RunProps) (cs : List Elem)
    (st st' : ConvState) (nodes : List Node)
    (hno : (c01_runPaths cfg r).any HtmlPath.isIgnore = false)
    (h : visit cfg hdr (.run r cs) st = .ok (nodes, st')) :
    ∃ content,
      visitAll cfg hdr cs (c01_warnState cfg (.run r.styleId r.styleName) S!"run" r.styleId r.styleName st)
        = .ok (content, st') ∧
      nodes = wrapElems (c14_tags (c01_runPaths cfg r)) content := by
  rw [c14_visit_run_eq, hno, if_neg Bool.false_ne_true] at h
  obtain ⟨ns, h1, h2⟩ := c14_map_ok _ _ _ _ _ h
  exact ⟨ns, h1, h2.trans (c14_wrapAll_tags _ _ hno)⟩

/-- the tag of a hyperlink -/
def c14_linkTag (cfg : Cfg) (l : LinkProps) : Tag :=
  { name := S!"a",
    attrs := Dict.ofList ([(S!"href", match l.anchor with
                                      | none => pyOpt l.href
                                      | some a => ['#'] ++ (cfg.idPrefix ++ a))] ++
              (match l.targetFrame with | some t => [(S!"target", t)] | none => [])),
    collapsible := true }

theorem c14_visit_hyperlink (cfg : Cfg) (hdr : Bool) (l : LinkProps) (cs : List Elem)
    (st st' : ConvState) (nodes : List Node)
    (h : visit cfg hdr (.hyperlink l cs) st = .ok (nodes, st')) :
    ∃ content, visitAll cfg hdr cs st = .ok (content, st') ∧ nodes = [.elem (c14_linkTag cfg l) content] := by
  simp only [visit] at h
  exact c14_map_ok _ _ _ _ _ h

end Mammoth
