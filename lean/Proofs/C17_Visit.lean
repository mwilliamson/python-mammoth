/-
  C17, converter half — for every document tree and configuration: the image converter is called once
  for every image that is not below an element mapped to `!`, in document order (`c17_visImages`), and the
  `img` elements of the produced forest are, in the same order, what the converter returns for these
  images (`c17_imgOf`: nothing for an image that cannot be opened).  The statement about one run is `c17_H`,
  under a style map that does not mention `img`.
-/
import Proofs.C10_GlobalDoc
import Proofs.C17_Images
import Proofs.VisitPost
namespace Mammoth

/-! ### the `img` elements of a forest -/

mutual
def c17_imgsN : Node → List Tag
  | .elem t cs => (if t.name = S!"img" then [t] else []) ++ c17_imgs cs
  | .text _ => []
  | .forceWrite => []
/-- the tags of the elements named `img`, in document order -/
def c17_imgs : List Node → List Tag
  | [] => []
  | c :: cs => c17_imgsN c ++ c17_imgs cs
end

@[simp] theorem c17_imgs_nil : c17_imgs [] = [] := by simp [c17_imgs]
@[simp] theorem c17_imgs_cons (c : Node) (cs : List Node) : c17_imgs (c :: cs) = c17_imgsN c ++ c17_imgs cs := by
  simp [c17_imgs]
@[simp] theorem c17_imgsN_text (s : Str) : c17_imgsN (.text s) = [] := by simp [c17_imgsN]
@[simp] theorem c17_imgsN_fw : c17_imgsN .forceWrite = [] := by simp [c17_imgsN]
theorem c17_imgsN_elem (t : Tag) (cs : List Node) :
    c17_imgsN (.elem t cs) = (if t.name = S!"img" then [t] else []) ++ c17_imgs cs := by simp [c17_imgsN]

theorem c17_imgs_append (a b : List Node) : c17_imgs (a ++ b) = c17_imgs a ++ c17_imgs b := by
  induction a with
  | nil => simp
  | cons x xs ih => simp [ih, List.append_assoc]

/-- an element that is not an `img` contributes the `img`s of its children -/
theorem c17_imgsN_other (t : Tag) (cs : List Node) (h : t.name ≠ S!"img") :
    c17_imgsN (.elem t cs) = c17_imgs cs := by simp [c17_imgsN_elem, h]

theorem c17_imgs_el (n : Str) (a : List (Str × Str)) (cs : List Node) (h : n ≠ S!"img") :
    c17_imgs [el n a cs] = c17_imgs cs := by
  simp [el, c17_imgsN_elem, h]
theorem c17_imgs_cel (n : Str) (a : List (Str × Str)) (cs : List Node) (h : n ≠ S!"img") :
    c17_imgs [cel n a cs] = c17_imgs cs := by
  simp [cel, c17_imgsN_elem, h]

/-! ### the specification: visible images of a document tree; what the converter makes of one image -/

mutual
/-- the images of the element that are not below a paragraph, run or table mapped to `!`, in document order -/
def c17_visImages (cfg : Cfg) : Elem → List ImageProps
  | .image i => [i]
  | .paragraph p cs =>
    if (c01_path cfg (.paragraph p) (.elements [pathElem S!"p" true])).isIgnore then [] else c17_visImagesL cfg cs
  | .run r cs => if (c01_runPaths cfg r).any HtmlPath.isIgnore then [] else c17_visImagesL cfg cs
  | .table sid sname rows =>
    if (c01_path cfg (.table sid sname) (.elements [pathElem S!"table" true])).isIgnore then []
    else c17_visImagesL cfg rows
  | .hyperlink _ cs => c17_visImagesL cfg cs
  | .row _ cells => c17_visImagesL cfg cells
  | .cell _ _ _ cs => c17_visImagesL cfg cs
  | .text _ => []
  | .tab => []
  | .noteRef _ _ => []
  | .commentRef _ => []
  | .checkbox _ => []
  | .brk _ => []
  | .bookmark _ => []
def c17_visImagesL (cfg : Cfg) : List Elem → List ImageProps
  | [] => []
  | e :: es => c17_visImages cfg e ++ c17_visImagesL cfg es
end

/-- the bytes `image.open()` yields, if it yields any: the archive entry of an embedded image, what the
    outside world has at the resolved location of a linked one -/
def c17_opened (cfg : Cfg) : ImageSrc → Option Bytes
  | .embedded name => lookupLast name cfg.archive
  | .linked uri =>
    if isAbsoluteUri uri then cfg.world uri
    else match cfg.base with
      | some b => cfg.world (osPathJoin b uri)
      | none => none

def c17_imgTag (attrs : List (Str × Str)) : Tag := { name := S!"img", attrs := Dict.ofList attrs }

/-- the data URI of `bytes` under the image's content type -/
def c17_dataUri (i : ImageProps) (bytes : Bytes) : Str :=
  S!"data:" ++ pyOpt i.contentType ++ S!";base64," ++ b64encode bytes

/-- the `img` tag the configured converter produces for an image: none when the image cannot be opened
    (a warning is issued instead) -/
def c17_imgOf (cfg : Cfg) (i : ImageProps) : List Tag :=
  match cfg.imageConv with
  | .dataUri =>
    match c17_opened cfg i.src with
    | some bytes => [c17_imgTag (c17_altAttr i ++ [(S!"src", c17_dataUri i bytes)])]
    | none => []
  | .fixed attrs opens =>
    if opens then
      match c17_opened cfg i.src with
      | some bytes => [c17_imgTag (c17_altAttr i ++ attrs ++ [(S!"data-len", natToStr bytes.length)])]
      | none => []
    else [c17_imgTag (c17_altAttr i ++ attrs)]

/-- no tag of the path has `img` among its names (`img`, `x|img`, …) -/
def c17_noImgPath : HtmlPath → Bool
  | .elements es => es.all fun t => !(t.names.contains S!"img")
  | .ignore => true

theorem c17_name_ne_img {t : Tag} (h : t.names.contains S!"img" = false) : t.name ≠ S!"img" := by
  intro e
  have : t.names.contains S!"img" = true := by simp [Tag.names, e]
  rw [h] at this; cases this

/-- no style mapping mentions an element named `img` -/
def c17_noImgMap (cfg : Cfg) : Bool := cfg.styleMap.all fun s => c17_noImgPath s.path

/-! ### paths without `img` -/

theorem c17_noImg_findPath (cfg : Cfg) (hm : c17_noImgMap cfg = true) (t : Target) (p : HtmlPath)
    (h : findPath cfg t = some p) : c17_noImgPath p = true := by
  obtain ⟨s, hs, rfl⟩ := findPath_mem h
  exact List.all_eq_true.mp hm s hs

theorem c17_noImg_path (cfg : Cfg) (hm : c17_noImgMap cfg = true) (t : Target) (d : HtmlPath)
    (hd : c17_noImgPath d = true) : c17_noImgPath (c01_path cfg t d) = true := by
  unfold c01_path
  cases h : findPath cfg t with
  | none => simpa using hd
  | some q => simpa using c17_noImg_findPath cfg hm t q h

theorem c17_visitName_ne_img {n : Str} (h : VisitName n) : n ≠ S!"img" := by
  cases h <;> decide

theorem c17_noImg_runPropPaths (cfg : Cfg) (hm : c17_noImgMap cfg = true) (r : RunProps) :
    (runPropPaths cfg r).all c17_noImgPath = true := by
  refine List.all_eq_true.mpr (runPropPaths_cases (c17_noImg_findPath cfg hm _ _) ?_ rfl r)
  intro n hn
  simpa [c17_noImgPath, pathElem, Tag.names] using fun e => c17_visitName_ne_img hn e.symm

theorem c17_noImg_runPaths (cfg : Cfg) (hm : c17_noImgMap cfg = true) (r : RunProps) :
    (c01_runPaths cfg r).all c17_noImgPath = true := by
  unfold c01_runPaths
  simp only [List.all_append, Bool.and_eq_true, List.all_cons, List.all_nil, Bool.and_true]
  exact ⟨c17_noImg_runPropPaths cfg hm r, c17_noImg_path cfg hm _ _ rfl⟩

theorem c17_imgs_wrapElems (es : List Tag) (ns : List Node) (he : c17_noImgPath (.elements es) = true) :
    c17_imgs (wrapElems es ns) = c17_imgs ns := by
  induction es with
  | nil => rfl
  | cons t ts ih =>
    simp only [c17_noImgPath, List.all_cons, Bool.and_eq_true, Bool.not_eq_true'] at he
    simp only [wrapElems, c17_imgs_cons, c17_imgs_nil, List.append_nil]
    rw [c17_imgsN_other _ _ (c17_name_ne_img he.1)]
    exact ih (by simpa [c17_noImgPath] using he.2)

theorem c17_imgs_wrapAll (paths : List HtmlPath) (ns : List Node) (hp : paths.all c17_noImgPath = true) :
    c17_imgs (wrapAll paths ns) = if paths.any HtmlPath.isIgnore then [] else c17_imgs ns := by
  induction paths generalizing ns with
  | nil => simp [wrapAll]
  | cons p ps ih =>
    simp only [List.all_cons, Bool.and_eq_true] at hp
    cases p with
    | ignore =>
      simp only [wrapAll, List.any_cons, HtmlPath.isIgnore, Bool.true_or, if_true]
      rw [ih [] hp.2]
      split <;> simp
    | elements es =>
      simp only [wrapAll, List.any_cons, HtmlPath.isIgnore, Bool.false_or]
      rw [ih _ hp.2, c17_imgs_wrapElems es ns hp.1]

/-! ### the statement about one run of the converter -/

/-- from state `st` the computation returned `ns` and ended in `st'`; `imgs` are the images and `evs` the
    events (`c10_evs`) of the piece of document it converted -/
def c17_Post (cfg : Cfg) (st : ConvState) (imgs : List ImageProps) (evs : List c10_Ev) (ns : List Node)
    (st' : ConvState) : Prop :=
  st'.imageCalls = st.imageCalls ++ imgs ∧
  (c17_noImgMap cfg = true → c17_imgs ns = imgs.flatMap (c17_imgOf cfg)) ∧
  st'.noteRefs = st.noteRefs ++ c10_evRefs evs ∧
  st'.refComments.map Prod.snd = st.refComments.map Prod.snd ++ c10_evComments cfg evs

def c17_H (cfg : Cfg) (m : ConvM (List Node)) (imgs : List ImageProps) (evs : List c10_Ev) : Prop :=
  ∀ st ns st', m.run st = .ok (ns, st') → c17_Post cfg st imgs evs ns st'

def c17_H2 (cfg : Cfg) (m : ConvM (List Node × List Node)) (imgs : List ImageProps) (evs : List c10_Ev) : Prop :=
  ∀ st h b st', m.run st = .ok ((h, b), st') → c17_Post cfg st imgs evs (h ++ b) st'

/-- the computation leaves the call log and the two reference lists alone -/
def c17_keeps {α} (m : ConvM α) : Prop :=
  ∀ st a st', m.run st = .ok (a, st') →
    st'.imageCalls = st.imageCalls ∧ st'.noteRefs = st.noteRefs ∧ st'.refComments = st.refComments

theorem c17_H_pure (cfg : Cfg) (ns : List Node) (evs : List c10_Ev) (h1 : c17_noImgMap cfg = true → c17_imgs ns = [])
    (h2 : c10_evRefs evs = []) (h3 : c10_evCRefs evs = []) : c17_H cfg (pure ns) [] evs := by
  intro st ns' st' h
  rw [run_pure] at h; cases h
  exact ⟨by simp, fun hm => by simp [h1 hm], by simp [h2], by simp [c10_evComments, h3]⟩

theorem c17_H_nil (cfg : Cfg) (ns : List Node) (h : c17_noImgMap cfg = true → c17_imgs ns = []) : c17_H cfg (pure ns) [] [] :=
  c17_H_pure cfg ns [] h rfl rfl

theorem c17_H_keeps_bind {α} (cfg : Cfg) (m : ConvM α) (f : α → ConvM (List Node)) (imgs : List ImageProps)
    (evs : List c10_Ev) (hm : c17_keeps m) (hf : ∀ a, c17_H cfg (f a) imgs evs) : c17_H cfg (m >>= f) imgs evs := by
  intro st ns st' h
  obtain ⟨a, s, hr, h⟩ := run_bind_ok.mp h
  obtain ⟨e0, e1, e2⟩ := hm st a s hr
  have := hf a s ns st' h
  unfold c17_Post at this ⊢
  rw [e0, e1, e2] at this
  exact this

theorem c17_H_findPathWarn (cfg : Cfg) (t : Target) (kind : Str) (sid sname : Option Str) (d : HtmlPath)
    (f : HtmlPath → ConvM (List Node)) (imgs : List ImageProps) (evs : List c10_Ev)
    (hf : c17_H cfg (f (c01_path cfg t d)) imgs evs) :
    c17_H cfg (findPathWarn cfg t kind sid sname d >>= f) imgs evs := by
  intro st ns st' h
  rw [run_bind] at h
  have e : (findPathWarn cfg t kind sid sname d).run st =
      .ok (c01_path cfg t d, c01_warnState cfg t kind sid sname st) := c01_findPathWarn_run ..
  rw [e] at h
  have := hf _ ns st' h
  have e : (c01_warnState cfg t kind sid sname st).imageCalls = st.imageCalls ∧
      (c01_warnState cfg t kind sid sname st).noteRefs = st.noteRefs ∧
      (c01_warnState cfg t kind sid sname st).refComments = st.refComments := by
    unfold c01_warnState; split <;> exact ⟨rfl, rfl, rfl⟩
  unfold c17_Post at this ⊢
  rw [e.1, e.2.1, e.2.2] at this
  exact this

/-- wrap the result in something that adds no `img` -/
theorem c17_H_map (cfg : Cfg) (m : ConvM (List Node)) (g : List Node → List Node) (imgs : List ImageProps)
    (evs : List c10_Ev) (hm : c17_H cfg m imgs evs) (hg : c17_noImgMap cfg = true → ∀ ns, c17_imgs (g ns) = c17_imgs ns) :
    c17_H cfg (m >>= fun ns => pure (g ns)) imgs evs := by
  intro st ns st' h
  obtain ⟨a, s, hr, h⟩ := run_bind_ok.mp h
  rw [run_pure] at h; cases h
  obtain ⟨p0, p1, p2, p3⟩ := hm st a st' hr
  exact ⟨p0, fun h' => by rw [hg h', p1 h'], p2, p3⟩

theorem c17_Post_seq (cfg : Cfg) (st s1 s2 : ConvState) (i1 i2 : List ImageProps) (e1 e2 : List c10_Ev)
    (a b : List Node) (p : c17_Post cfg st i1 e1 a s1) (q : c17_Post cfg s1 i2 e2 b s2) :
    c17_Post cfg st (i1 ++ i2) (e1 ++ e2) (a ++ b) s2 := by
  obtain ⟨p0, p1, p2, p3⟩ := p
  obtain ⟨q0, q1, q2, q3⟩ := q
  refine ⟨?_, ?_, ?_, ?_⟩
  · rw [q0, p0, List.append_assoc]
  · intro h'; rw [c17_imgs_append, p1 h', q1 h', List.flatMap_append]
  · rw [q2, p2, c10_evRefs_append, List.append_assoc]
  · rw [q3, p3, c10_evComments_append, List.append_assoc]

theorem c17_H_seq (cfg : Cfg) (m1 m2 : ConvM (List Node)) (i1 i2 : List ImageProps) (e1 e2 : List c10_Ev)
    (h1 : c17_H cfg m1 i1 e1) (h2 : c17_H cfg m2 i2 e2) :
    c17_H cfg (do let a ← m1; let b ← m2; pure (a ++ b)) (i1 ++ i2) (e1 ++ e2) := by
  intro st ns st' h
  obtain ⟨a, s1, hr1, h⟩ := run_bind_ok.mp h
  obtain ⟨b, s2, hr2, h⟩ := run_bind_ok.mp h
  rw [run_pure] at h; cases h
  exact c17_Post_seq cfg st s1 st' i1 i2 e1 e2 a b (h1 st a s1 hr1) (h2 s1 b st' hr2)

/-! #### keeps -/

theorem c17_keeps_pure {α} (a : α) : c17_keeps (pure a : ConvM α) := by
  intro st b st' h; rw [run_pure] at h; cases h; exact ⟨rfl, rfl, rfl⟩
theorem c17_keeps_throw {α} (e : Err) : c17_keeps (throw e : ConvM α) := by
  intro st b st' h; rw [run_throw] at h; cases h
theorem c17_keeps_modify (f : ConvState → ConvState)
    (hf : ∀ s, (f s).imageCalls = s.imageCalls ∧ (f s).noteRefs = s.noteRefs ∧ (f s).refComments = s.refComments) :
    c17_keeps (modify f : ConvM PUnit) := by
  intro st b st' h; rw [run_modify] at h; cases h; exact hf st
theorem c17_keeps_bind {α β} (m : ConvM α) (f : α → ConvM β) (hm : c17_keeps m)
    (hf : ∀ a, c17_keeps (f a)) : c17_keeps (m >>= f) := by
  intro st b st' h
  obtain ⟨a, s, hr, h⟩ := run_bind_ok.mp h
  obtain ⟨e0, e1, e2⟩ := hm st a s hr
  obtain ⟨e3, e4, e5⟩ := hf a s b st' h
  exact ⟨e3.trans e0, e4.trans e1, e5.trans e2⟩
theorem c17_keeps_warn (m : Str) : c17_keeps (warn m) :=
  c17_keeps_modify _ (fun _ => ⟨rfl, rfl, rfl⟩)

/-! #### one image -/

/-- the bytes in the result of `image.open()` -/
def c17_openRes : Except Str Bytes → Option Bytes
  | .ok b => some b
  | .error _ => none

/-- `image.open()`: either the bytes `c17_opened` names, or a warning text when there are none -/
theorem c17_openImage_spec (cfg : Cfg) (src : ImageSrc) (st st' : ConvState) (r : Except Str Bytes)
    (h : (openImage cfg src).run st = .ok (r, st')) :
    c17_opened cfg src = c17_openRes r ∧
    st'.imageCalls = st.imageCalls ∧ st'.noteRefs = st.noteRefs ∧ st'.refComments = st.refComments := by
  unfold openImage at h
  unfold c17_opened
  cases src with
  | embedded name =>
    simp only at h ⊢
    split at h
    · rename_i b hb; rw [run_pure] at h; cases h; exact ⟨hb, rfl, rfl, rfl⟩
    · rw [run_throw] at h; cases h
  | linked uri =>
    simp only at h ⊢
    split at h
    · rename_i habs
      rw [if_pos habs]
      simp only [run_bind, run_modify] at h
      split at h
      · rename_i b hb; rw [run_pure] at h; cases h; exact ⟨hb, rfl, rfl, rfl⟩
      · rename_i hb; rw [run_pure] at h; cases h; exact ⟨hb, rfl, rfl, rfl⟩
    · rename_i habs
      rw [if_neg habs]
      split at h
      · rename_i b hbase
        rw [hbase]
        simp only [run_bind, run_modify] at h
        split at h
        · rename_i bs hb; rw [run_pure] at h; cases h; exact ⟨hb, rfl, rfl, rfl⟩
        · rename_i hb; rw [run_pure] at h; cases h; exact ⟨hb, rfl, rfl, rfl⟩
      · rename_i hbase
        rw [hbase]
        rw [run_pure] at h; cases h; exact ⟨rfl, rfl, rfl, rfl⟩

theorem c17_imgs_img (attrs : List (Str × Str)) : c17_imgs [el S!"img" attrs []] = [c17_imgTag attrs] := by
  simp [el, c17_imgTag, c17_imgsN_elem]

/-- after `image.open()`: one `img` with the attributes `f bytes`, or a warning and nothing -/
theorem c17_after_open_spec (cfg : Cfg) (src : ImageSrc) (f : Bytes → List (Str × Str))
    (st st' : ConvState) (ns : List Node)
    (h : (do match ← openImage cfg src with
              | .ok bytes => pure [el S!"img" (f bytes) []]
              | .error msg => do warn msg; pure [] : ConvM (List Node)).run st = .ok (ns, st')) :
    c17_imgs ns = (match c17_opened cfg src with | some b => [c17_imgTag (f b)] | none => []) ∧
    st'.imageCalls = st.imageCalls ∧ st'.noteRefs = st.noteRefs ∧ st'.refComments = st.refComments := by
  simp only [run_bind] at h
  split at h
  · rename_i r s hop
    obtain ⟨h1, h2, h3, h4⟩ := c17_openImage_spec _ _ _ _ _ hop
    rw [h1]
    cases r with
    | ok b =>
      simp only [run_pure] at h; cases h
      exact ⟨c17_imgs_img _, h2, h3, h4⟩
    | error m =>
      simp only [run_bind, c17_run_warn, run_pure] at h; cases h
      exact ⟨rfl, h2, h3, h4⟩
  · cases h

theorem c17_finish_spec (cfg : Cfg) (i : ImageProps) (st st' : ConvState) (ns : List Node)
    (h : (c17_finish cfg i).run st = .ok (ns, st')) :
    c17_imgs ns = c17_imgOf cfg i ∧
    st'.imageCalls = st.imageCalls ∧ st'.noteRefs = st.noteRefs ∧ st'.refComments = st.refComments := by
  unfold c17_finish at h
  unfold c17_imgOf
  cases hconv : cfg.imageConv with
  | dataUri =>
    simp only [hconv] at h ⊢
    exact c17_after_open_spec cfg i.src (fun bytes => c17_altAttr i ++ [(S!"src", c17_dataUri i bytes)]) st st' ns h
  | fixed attrs opens =>
    simp only [hconv] at h ⊢
    cases opens with
    | true =>
      simp only [if_true] at h ⊢
      exact c17_after_open_spec cfg i.src
        (fun bytes => c17_altAttr i ++ attrs ++ [(S!"data-len", natToStr bytes.length)]) st st' ns h
    | false =>
      simp only [Bool.false_eq_true, if_false] at h ⊢
      rw [run_pure] at h; cases h
      exact ⟨c17_imgs_img _, rfl, rfl, rfl⟩

theorem c17_finish_calls (cfg : Cfg) (i : ImageProps) (st st' : ConvState) (ns : List Node)
    (h : (c17_finish cfg i).run st = .ok (ns, st')) : st'.imageCalls = st.imageCalls :=
  (c17_finish_spec cfg i st st' ns h).2.1

theorem c17_H_convertImage (cfg : Cfg) (i : ImageProps) : c17_H cfg (convertImage cfg i) [i] [] := by
  intro st ns st' h
  rw [c17_convertImage_run] at h
  obtain ⟨h1, h2, h3, h4⟩ := c17_finish_spec cfg i _ st' ns h
  refine ⟨by rw [h2]; rfl, fun _ => by simp [h1], by rw [h3]; simp [c17_logged, c10_evRefs], ?_⟩
  rw [h4]; simp [c17_logged, c10_evComments, c10_evCRefs]

/-! #### the visitor -/

mutual
theorem c17_H_visit (cfg : Cfg) (hdr : Bool) (e : Elem) :
    c17_H cfg (visit cfg hdr e) (c17_visImages cfg e) (c10_evs cfg e) := by
  match e with
  | .paragraph p cs =>
    rw [visit, c10_evs, c17_visImages]
    apply c17_H_findPathWarn
    cases hpath : c01_path cfg (.paragraph p) (.elements [pathElem S!"p" true]) with
    | ignore => exact c17_H_nil _ _ (fun _ => rfl)
    | elements es =>
      simp only [HtmlPath.isIgnore, Bool.false_eq_true, if_false]
      apply c17_H_map _ _ _ _ _ (c17_H_visitAll cfg hdr cs)
      intro hm ns
      have hp := c17_noImg_path cfg hm (.paragraph p) (.elements [pathElem S!"p" true]) (by decide)
      rw [hpath] at hp
      rw [c17_imgs_wrapElems _ _ hp]
      split <;> simp
  | .run r cs =>
    rw [visit, c10_evs, c17_visImages]
    apply c17_H_findPathWarn
    simp only
    rw [← c01_runPaths]
    split
    · rename_i hi
      apply c17_H_nil
      intro hm
      rw [c17_imgs_wrapAll _ _ (c17_noImg_runPaths cfg hm r)]
      simp [hi]
    · rename_i hi
      apply c17_H_map _ _ _ _ _ (c17_H_visitAll cfg hdr cs)
      intro hm ns
      rw [c17_imgs_wrapAll _ _ (c17_noImg_runPaths cfg hm r)]
      simp [hi]
  | .text s => rw [visit]; simp only [c10_evs, c17_visImages]; exact c17_H_nil _ _ (fun _ => by simp)
  | .hyperlink h cs =>
    rw [visit, c10_evs, c17_visImages]
    intro st ns st' hr
    have := c17_H_map cfg (visitAll cfg hdr cs) (fun ns => [cel S!"a" (c10_linkAttrs cfg h) ns])
      _ _ (c17_H_visitAll cfg hdr cs) (fun _ ns => c17_imgs_cel _ _ _ (by decide)) st ns st' hr
    obtain ⟨p0, p1, p2, p3⟩ := this
    exact ⟨p0, p1, by simpa [c10_evRefs] using p2, by simpa [c10_evComments, c10_evCRefs] using p3⟩
  | .checkbox c =>
    rw [visit]; simp only [c10_evs, c17_visImages]
    exact c17_H_nil _ _ (fun _ => c17_imgs_el _ _ _ (by decide))
  | .table sid sname rows =>
    rw [visit, c10_evs, c17_visImages]
    rw [← c01_path]
    cases hpath : c01_path cfg (.table sid sname) (.elements [pathElem S!"table" true]) with
    | ignore => exact c17_H_nil _ _ (fun _ => rfl)
    | elements es =>
      simp only [HtmlPath.isIgnore, Bool.false_eq_true, if_false]
      intro st ns st' h
      obtain ⟨⟨hd, bd⟩, s, hr, h⟩ := run_bind_ok.mp h
      rw [run_pure] at h; cases h
      obtain ⟨i0, i1, i2, i3⟩ := c17_H_visitRows cfg true rows st hd bd st' hr
      refine ⟨i0, fun hm => ?_, i2, i3⟩
      have hp := c17_noImg_path cfg hm (.table sid sname) (.elements [pathElem S!"table" true]) (by decide)
      rw [hpath] at hp
      rw [← i1 hm, c17_imgs_wrapElems _ _ hp, c17_imgs_cons, c17_imgsN_fw, List.nil_append]
      split
      · rename_i hbi
        have : hd = [] := c01_visitRows_head_nil cfg rows (by simpa using hbi) st hd bd st' hr
        simp [this]
      · simp [el, c17_imgsN_elem, c17_imgs_append]
  | .row h cells =>
    rw [visit, c10_evs, c17_visImages]
    apply c17_H_map _ _ _ _ _ (c17_H_visitAll cfg hdr cells)
    intro _ ns
    rw [c17_imgs_el _ _ _ (by decide), c17_imgs_cons, c17_imgsN_fw, List.nil_append]
  | .cell a b c cs =>
    rw [visit, c10_evs, c17_visImages]
    apply c17_H_map _ _ _ _ _ (c17_H_visitAll cfg hdr cs)
    intro _ ns
    have : (if hdr then S!"th" else S!"td") ≠ S!"img" := by cases hdr <;> decide
    rw [c17_imgs_el _ _ _ this, c17_imgs_cons, c17_imgsN_fw, List.nil_append]
  | .brk ty =>
    rw [visit]; simp only [c10_evs, c17_visImages]
    split
    · rename_i es hf
      apply c17_H_nil
      intro hm
      rw [c17_imgs_wrapElems _ _ (c17_noImg_findPath cfg hm _ _ hf)]; rfl
    · exact c17_H_nil _ _ (fun _ => rfl)
    · split
      · apply c17_H_nil
        intro _
        simp [c17_imgsN_elem, pathElem]
      · exact c17_H_nil _ _ (fun _ => rfl)
  | .tab => rw [visit]; simp only [c10_evs, c17_visImages]; exact c17_H_nil _ _ (fun _ => by simp)
  | .image i => rw [visit]; simp only [c10_evs, c17_visImages]; exact c17_H_convertImage cfg i
  | .bookmark n =>
    rw [visit, c10_evs, c17_visImages]
    exact c17_H_pure _ _ _ (fun _ => by rw [c17_imgs_cel _ _ _ (by decide)]; simp) rfl rfl
  | .noteRef ty id =>
    rw [c10_evs, c17_visImages]
    intro st ns st' h
    rw [StateT.run, c01_visit_noteRef] at h
    cases h
    refine ⟨by simp, fun _ => ?_, rfl, by simp [c10_evComments, c10_evCRefs]⟩
    simp [el, c17_imgsN_elem]
  | .commentRef id =>
    rw [c10_evs, c17_visImages]
    cases hp : findPath cfg .commentReference with
    | none => rw [visit]; simp only [hp]; exact c17_H_nil _ _ (fun _ => rfl)
    | some p =>
      cases p with
      | ignore => rw [visit]; simp only [hp]; exact c17_H_nil _ _ (fun _ => rfl)
      | elements es =>
        simp only
        intro st ns st' h
        rw [visit] at h
        simp only [hp] at h
        cases hl : lookupLast id (cfg.comments.map fun c => (c.id, c)) with
        | none => simp only [hl, run_throw] at h; cases h
        | some cm =>
          simp only [hl, run_bind, run_get, run_modify, run_pure] at h
          cases h
          refine ⟨by simp, fun hm => ?_, by simp [c10_evRefs], ?_⟩
          · rw [c17_imgs_wrapElems _ _ (c17_noImg_findPath cfg hm _ _ hp)]
            simp [el, c17_imgsN_elem]
          · simp [c10_evComments, c10_evCRefs, c10_findComment, hl]
theorem c17_H_visitAll (cfg : Cfg) (hdr : Bool) (es : List Elem) :
    c17_H cfg (visitAll cfg hdr es) (c17_visImagesL cfg es) (c10_evsL cfg es) := by
  match es with
  | [] => rw [visitAll, c10_evsL, c17_visImagesL]; exact c17_H_nil _ _ (fun _ => rfl)
  | e :: es =>
    rw [visitAll, c10_evsL, c17_visImagesL]
    exact c17_H_seq cfg _ _ _ _ _ _ (c17_H_visit cfg hdr e) (c17_H_visitAll cfg hdr es)
theorem c17_H_visitRows (cfg : Cfg) (inHead : Bool) (rs : List Elem) :
    c17_H2 cfg (visitRows cfg inHead rs) (c17_visImagesL cfg rs) (c10_evsL cfg rs) := by
  match rs with
  | [] =>
    rw [visitRows, c10_evsL, c17_visImagesL]
    intro st h b st' hr
    rw [run_pure] at hr; cases hr
    exact c17_H_nil cfg [] (fun _ => rfl) st [] st rfl
  | r :: rs =>
    rw [visitRows, c10_evsL, c17_visImagesL]
    split
    · exact c10_rows_cons (fun st s1 s2 a b => c17_Post_seq cfg st s1 s2 _ _ _ _ a b)
        (fun a hb => (a ++ hb.1, hb.2)) (c17_H_visit cfg true r) (c17_H_visitRows cfg true rs)
        (fun a _ h b _ _ => List.append_assoc a h b)
    · -- after the first body row nothing goes to the head any more
      exact c10_rows_cons (fun st s1 s2 a b => c17_Post_seq cfg st s1 s2 _ _ _ _ a b)
        (fun a hb => (hb.1, a ++ hb.2)) (c17_H_visit cfg false r) (c17_H_visitRows cfg false rs)
        (fun a s1 h b s2 hr => by rw [c01_visitRows_false_head cfg rs s1 h b s2 hr]; rfl)
end

end Mammoth
