/-
  C08 — which default mapping a paragraph gets (`findStyle` on the explicit default map).
-/
import Proofs.C08_DefaultMap
namespace Mammoth

/-- style id `Heading<n>` -/
def c08_hId (n : Nat) : Str := S!"Heading" ++ natToStr n
/-- style name `Heading <n>` -/
def c08_hName (n : Nat) : Str := S!"Heading " ++ natToStr n
/-- tag name `h<n>` -/
def c08_hTag (n : Nat) : Str := 'h' :: natToStr n

/-- the style ids that the default map matches by id -/
def c08_headingIds : List Str := (List.range 6).map fun i => c08_hId (i+1)

/-- upper-cased style names matched by a default paragraph mapping that precedes the list mappings -/
def c08_earlierUpper : List Str :=
  [S!"HEADING 1", S!"HEADING 2", S!"HEADING 3", S!"HEADING 4", S!"HEADING 5", S!"HEADING 6",
   S!"FOOTNOTE TEXT", S!"ENDNOTE TEXT", S!"ANNOTATION TEXT", S!"FOOTNOTE", S!"ENDNOTE"]

/-- the paragraph's style id is not one of `Heading1`..`Heading6` -/
def c08_notHeadingId (sid : Option Str) : Bool :=
  match sid with
  | none => true
  | some s => !c08_headingIds.contains s

/-- the paragraph's style name (if any) is not, up to ASCII case, one of the names that the
    default map sends to a heading or to a note paragraph -/
def c08_noEarlierName (name : Option Str) : Bool :=
  match name with
  | none => true
  | some n => !c08_earlierUpper.contains (upperAscii n)

/-- the ten numbering levels that the default map knows: index "0".."4", either kind -/
def c08_knownLevel (num : Option NumLevel) : Bool :=
  match num with
  | none => false
  | some l => ((List.range 5).map natToStr).contains l.levelIndex

/-- A sufficient test that matcher `m` cannot match a paragraph of which one knows only that its
    style id is none of `ids`, its upper-cased style name none of `names` and its numbering level
    none of `nums`. -/
def c08_misses (ids names : Str → Bool) (nums : NumLevel → Bool) : Matcher → Bool
  | .paragraph i n l =>
      i.any ids || n.any (fun | .equalTo v => names (upperAscii v) | .startsWith _ => false) || l.any nums
  | _ => true

theorem c08_misses_spec {ids names : Str → Bool} {nums : NumLevel → Bool} {p : ParaProps}
    (hi : ∀ i, ids i = true → p.styleId ≠ some i)
    (hn : ∀ x, p.styleName = some x → names (upperAscii x) = false)
    (hl : ∀ l, nums l = true → p.numbering ≠ some l)
    (m : Matcher) (h : c08_misses ids names nums m = true) :
    matcherMatches upperAscii m (.paragraph p) = false := by
  cases m with
  | paragraph i n l =>
    simp only [c08_misses, Bool.or_eq_true, Option.any_eq_true] at h
    simp only [matcherMatches, Bool.and_eq_false_iff]
    rcases h with (⟨i, rfl, h⟩ | ⟨v, rfl, h⟩) | ⟨l, rfl, h⟩
    · exact .inl (.inl (beq_false_of_ne (hi i h)))
    · refine .inl (.inr ?_)
      cases v with
      | startsWith v => exact absurd h Bool.false_ne_true
      | equalTo v =>
        cases hx : p.styleName with
        | none => rfl
        | some x =>
          refine beq_false_of_ne fun e => ?_
          change names (upperAscii v) = true at h
          rw [e, hn x hx] at h
          cases h
    · exact .inr (beq_false_of_ne (hl l h))
  | _ => rfl

theorem c08_findStyle_skip {upper : Str → Str} {t : Target} {skip : Matcher → Bool}
    (hskip : ∀ m, skip m = true → matcherMatches upper m t = false) {sm : List Style} {r : Option Style}
    (hr : sm.find? (fun s => !skip s.matcher) = r)
    (hm : ∀ s, r = some s → matcherMatches upper s.matcher t = true) :
    findStyle upper sm t = r := by
  subst hr
  induction sm with
  | nil => rfl
  | cons s sm ih =>
    cases hs : skip s.matcher with
    | true =>
      simp only [findStyle, List.find?_cons, hskip _ hs, hs] at ih hm ⊢
      exact ih hm
    | false =>
      simp only [findStyle, List.find?_cons, hs] at hm ⊢
      simp [hm]

theorem c08_notHeadingId_spec {sid : Option Str} (h : c08_notHeadingId sid = true) (i : Str)
    (hi : c08_headingIds.contains i = true) : sid ≠ some i := by
  rintro rfl
  rw [c08_notHeadingId, hi] at h
  cases h

theorem c08_noEarlierName_spec {name : Option Str} (h : c08_noEarlierName name = true) (x : Str)
    (hx : name = some x) : c08_earlierUpper.contains (upperAscii x) = false := by
  subst hx
  simpa [c08_noEarlierName] using h

theorem c08_path_heading_id (n : Nat) (h1 : 1 ≤ n) (h6 : n ≤ 6) (name : Option Str) (num : Option NumLevel) :
    findStyle upperAscii defaultStyleMap
        (.paragraph { styleId := some (c08_hId n), styleName := name, numbering := num })
      = some (c08_byId (c08_hId n) (c08_hTag n)) := by
  have table : ∀ n < 7, 1 ≤ n → c08_defaultMapValue.find? (fun s =>
      !c08_misses (· != c08_hId n) (fun _ => false) (fun _ => false) s.matcher) =
      some (c08_byId (c08_hId n) (c08_hTag n)) := by decide +kernel
  rw [c08_default_map_value]
  refine c08_findStyle_skip (c08_misses_spec ?_ ?_ ?_) (table n (by omega) h1) ?_
  · intro i hi e
    simp [← Option.some.inj e] at hi
  · simp
  · simp
  · rintro _ ⟨rfl⟩
    simp [c08_byId, matcherMatches, optEqOrNone, nameMatches]

theorem c08_path_heading_name (n : Nat) (h1 : 1 ≤ n) (h6 : n ≤ 6) (sid : Option Str)
    (hs : c08_notHeadingId sid = true) (name : Str) (hn : upperAscii name = upperAscii (c08_hName n))
    (num : Option NumLevel) :
    findStyle upperAscii defaultStyleMap
        (.paragraph { styleId := sid, styleName := some name, numbering := num })
      = some (c08_byName (c08_hName n) (c08_hTag n)) := by
  have table : ∀ n < 7, 1 ≤ n → c08_defaultMapValue.find? (fun s =>
      !c08_misses c08_headingIds.contains (· != upperAscii (c08_hName n)) (fun _ => false) s.matcher) =
      some (c08_byName (c08_hName n) (c08_hTag n)) := by decide +kernel
  rw [c08_default_map_value]
  refine c08_findStyle_skip (c08_misses_spec (c08_notHeadingId_spec hs) ?_ ?_) (table n (by omega) h1) ?_
  · rintro _ ⟨rfl⟩
    simp [hn]
  · simp
  · rintro _ ⟨rfl⟩
    simp [c08_byName, matcherMatches, optEqOrNone, nameMatches, StrMatch.matches, hn]

theorem c08_path_list (k : Nat) (hk : k < 5) (ordered : Bool) (sid name : Option Str)
    (hs : c08_notHeadingId sid = true) (hn : c08_noEarlierName name = true) :
    findStyle upperAscii defaultStyleMap
        (.paragraph { styleId := sid, styleName := name, numbering := some ⟨natToStr k, ordered⟩ })
      = some (c08_listStyle k ordered) := by
  have table : ∀ k < 5, ∀ o, c08_defaultMapValue.find? (fun s =>
      !c08_misses c08_headingIds.contains c08_earlierUpper.contains (· != ⟨natToStr k, o⟩) s.matcher) =
      some (c08_listStyle k o) := by decide +kernel
  rw [c08_default_map_value]
  refine c08_findStyle_skip
    (c08_misses_spec (c08_notHeadingId_spec hs) (c08_noEarlierName_spec hn) ?_) (table k hk ordered) ?_
  · intro l hl e
    simp [← Option.some.inj e] at hl
  · rintro _ ⟨rfl⟩
    simp [c08_listStyle, matcherMatches, optEqOrNone, nameMatches]

theorem c08_path_none (sid name : Option Str) (num : Option NumLevel)
    (hs : c08_notHeadingId sid = true) (hn : c08_noEarlierName name = true)
    (hN : name.map upperAscii ≠ some S!"NORMAL") (hl : c08_knownLevel num = false) :
    findStyle upperAscii defaultStyleMap
        (.paragraph { styleId := sid, styleName := name, numbering := num }) = none := by
  have table : c08_defaultMapValue.find? (fun s =>
      !c08_misses c08_headingIds.contains (fun v => c08_earlierUpper.contains v || v == S!"NORMAL")
        (fun l => c08_knownLevel (some l)) s.matcher) = none := by decide +kernel
  rw [c08_default_map_value]
  refine c08_findStyle_skip (c08_misses_spec (c08_notHeadingId_spec hs) ?_ ?_) table nofun
  · rintro x rfl
    rw [c08_noEarlierName_spec hn x rfl, Bool.false_or]
    exact beq_false_of_ne (by simpa using hN)
  · rintro l hl' rfl
    simp [hl] at hl'

end Mammoth
