/-
  C11 — run formatting becomes exactly the corresponding inline elements.
-/
import Proofs.C11_Lemmas
import Proofs.C04_Chains
import Proofs.C11_Xml
import Proofs.C11_XmlNoField
import Proofs.C11_Ext7
namespace Mammoth

/-! ### reading the formatting of a run -/

/-- an on/off property (`w:b`, `w:i`, `w:strike`, `w:caps`, `w:smallCaps`) is on iff its element
    is present and its `w:val` is neither `false` nor `0` (a missing `w:val` counts as on) -/
theorem C11_toggle_read (name : Str) (props : List XmlNode) :
    readBoolElem name props = true ↔
      ∃ as cs, findChild name props = some (as, cs) ∧
        attr? S!"w:val" as ≠ some S!"false" ∧ attr? S!"w:val" as ≠ some S!"0" := by
  unfold readBoolElem
  cases h : findChild name props with
  | none => simp
  | some r =>
    obtain ⟨as, cs⟩ := r
    simp [readBoolAttr]

/-- underline is on iff `w:u` is present WITH a value, and that value is not `false`, `0`, `none` -/
theorem C11_underline_read (props : List XmlNode) :
    readUnderline props = true ↔
      ∃ as cs v, findChild S!"w:u" props = some (as, cs) ∧ attr? S!"w:val" as = some v ∧
        v ≠ S!"false" ∧ v ≠ S!"0" ∧ v ≠ S!"none" := by
  unfold readUnderline
  cases h : findChild S!"w:u" props with
  | none => simp
  | some r =>
    obtain ⟨as, cs⟩ := r
    cases hv : attr? S!"w:val" as with
    | none => simp [hv]
    | some v => simp [hv, and_assoc]

/-- a highlight colour is kept iff it is given, non-empty and not `none` -/
theorem C11_highlight_read (v : Option Str) (c : Str) :
    readHighlight v = some c ↔ v = some c ∧ c ≠ [] ∧ c ≠ S!"none" := by
  unfold readHighlight
  cases v with
  | none => simp
  | some s =>
    by_cases h : (s.isEmpty || s == S!"none") = true
    · simp only [h, if_true, Option.some.injEq]
      constructor
      · intro h'; cases h'
      · rintro ⟨rfl, h1, h2⟩
        simp [List.isEmpty_iff, h1, h2] at h
    · simp only [Bool.not_eq_true] at h
      simp only [h, Bool.false_eq_true, if_false, Option.some.injEq]
      constructor
      · rintro rfl
        simp at h
        exact ⟨rfl, h.1, h.2⟩
      · rintro ⟨rfl, _, _⟩; rfl

/-- absent, empty and `none` highlight values all mean: not highlighted -/
theorem C11_highlight_off :
    readHighlight none = none ∧ readHighlight (some []) = none ∧ readHighlight (some S!"none") = none := by
  decide

/-- the run properties are read field by field with the readers above -/
theorem C11_readRunProps_fields (props : List XmlNode) (style : Option Str × Option Str) :
    (readRunProps props style).bold = readBoolElem S!"w:b" props ∧
    (readRunProps props style).italic = readBoolElem S!"w:i" props ∧
    (readRunProps props style).strike = readBoolElem S!"w:strike" props ∧
    (readRunProps props style).allCaps = readBoolElem S!"w:caps" props ∧
    (readRunProps props style).smallCaps = readBoolElem S!"w:smallCaps" props ∧
    (readRunProps props style).underline = readUnderline props ∧
    (readRunProps props style).vertAlign = childAttr S!"w:vertAlign" S!"w:val" props ∧
    (readRunProps props style).highlight = readHighlight (childAttr S!"w:highlight" S!"w:val" props) :=
  ⟨rfl, rfl, rfl, rfl, rfl, rfl, rfl, rfl⟩

/-! ### the formatting paths of a run -/

/-- THE PATH LIST of a run, innermost first: highlight (only if a mapping matches the colour),
    small caps, all caps (mapped path, else no element), strikethrough (mapped, else `s`),
    underline (mapped, else no element), `sub` / `sup`, italic (mapped, else `em`), bold
    (mapped, else `strong`); properties that are off contribute nothing -/
theorem C11_runPropPaths_spec (cfg : Cfg) (r : RunProps) :
    runPropPaths cfg r =
      c11_highlightSpec cfg r.highlight ++
      c11_propSpec cfg r.smallCaps .smallCaps none ++
      c11_propSpec cfg r.allCaps .allCaps none ++
      c11_propSpec cfg r.strike .strikethrough (some S!"s") ++
      c11_propSpec cfg r.underline .underline none ++
      c11_vertSpec r.vertAlign ++
      c11_propSpec cfg r.italic .italic (some S!"em") ++
      c11_propSpec cfg r.bold .bold (some S!"strong") :=
  c11_runPropPaths_eq cfg r

/-- a run without any formatting has no formatting path -/
theorem C11_runPropPaths_off (cfg : Cfg) (r : RunProps)
    (hb : r.bold = false) (hi : r.italic = false) (hu : r.underline = false) (hs : r.strike = false)
    (hc : r.allCaps = false) (hsc : r.smallCaps = false)
    (hsub : r.vertAlign ≠ some S!"subscript") (hsup : r.vertAlign ≠ some S!"superscript")
    (hh : ∀ c, r.highlight = some c → findStyle cfg.upper cfg.styleMap (.highlight c) = none) :
    runPropPaths cfg r = [] := by
  rw [C11_runPropPaths_spec]
  have h1 : c11_highlightSpec cfg r.highlight = [] := by
    unfold c11_highlightSpec
    cases h : r.highlight with
    | none => rfl
    | some c => simp [hh c h]
  simp [h1, c11_propSpec, c11_vertSpec, hb, hi, hu, hs, hc, hsc, hsub, hsup]

/-- `wrapAll` nests: the LAST path of the list is the outermost element -/
theorem C11_wrapAll_elements (ps : List HtmlPath) (es : List Tag) (ns : List Node) :
    wrapAll (ps ++ [.elements es]) ns = wrapElems es (wrapAll ps ns) := by
  rw [c03_wrapAll_append]; rfl

/-- …and a `!` anywhere throws away everything inside it -/
theorem C11_wrapAll_ignore (ps qs : List HtmlPath) (ns : List Node) :
    wrapAll (ps ++ .ignore :: qs) ns = wrapAll qs [] := by
  rw [c03_wrapAll_append]; rfl

/-- the general shape of a converted run (no `!` involved): the children's nodes wrapped by the
    formatting paths and then by the run-style path -/
theorem C11_visit_run (cfg : Cfg) (hdr : Bool) (r : RunProps) (cs : List Elem) (st : ConvState)
    (hno : (runPropPaths cfg r ++
             [(findPath cfg (.run r.styleId r.styleName)).getD (.elements [])]).any HtmlPath.isIgnore = false) :
    (visit cfg hdr (.run r cs)).run st =
      match (visitAll cfg hdr cs).run
              (c03_warnState cfg (.run r.styleId r.styleName) S!"run" r.styleId r.styleName st) with
      | .ok (ns, st') =>
        .ok (wrapAll (runPropPaths cfg r ++
                        [(findPath cfg (.run r.styleId r.styleName)).getD (.elements [])]) ns, st')
      | .error e => .error e := by
  rw [visit, run_bind, c03_findPathWarn_run]
  simp only [hno, Bool.false_eq_true, if_false, run_bind]
  cases (visitAll cfg hdr cs).run _ with
  | error e => rfl
  | ok r => rfl

/-- a plain run (everything off, no sub/superscript, highlight absent or unmapped, no matching run
    style) yields exactly its children's nodes -/
theorem C11_plain_run_adds_nothing (cfg : Cfg) (hdr : Bool) (r : RunProps) (cs : List Elem)
    (st : ConvState)
    (hb : r.bold = false) (hi : r.italic = false) (hu : r.underline = false) (hs : r.strike = false)
    (hc : r.allCaps = false) (hsc : r.smallCaps = false)
    (hsub : r.vertAlign ≠ some S!"subscript") (hsup : r.vertAlign ≠ some S!"superscript")
    (hh : ∀ c, r.highlight = some c → findStyle cfg.upper cfg.styleMap (.highlight c) = none)
    (hstyle : findStyle cfg.upper cfg.styleMap (.run r.styleId r.styleName) = none) :
    (visit cfg hdr (.run r cs)).run st =
      (visitAll cfg hdr cs).run
        (c03_warnState cfg (.run r.styleId r.styleName) S!"run" r.styleId r.styleName st) := by
  have hp : findPath cfg (.run r.styleId r.styleName) = none := by simp [findPath, hstyle]
  have h0 := C11_runPropPaths_off cfg r hb hi hu hs hc hsc hsub hsup hh
  rw [C11_visit_run cfg hdr r cs st (by simp [h0, hp, HtmlPath.isIgnore]), h0, hp]
  cases (visitAll cfg hdr cs).run _ with
  | error e => rfl
  | ok r => rfl

/-- WITHOUT ANY STYLE MAPPING the run's text is enclosed in `strong`, `em`, `sup`, `sub`, `s`
    (outermost first) exactly when the run is bold, italic, superscript, subscript, struck
    through; underline, all caps, small caps and highlight add nothing -/
theorem C11_visit_run_nomap (cfg : Cfg) (hdr : Bool) (r : RunProps) (cs : List Elem)
    (st : ConvState) (hmap : cfg.styleMap = []) :
    (visit cfg hdr (.run r cs)).run st =
      match (visitAll cfg hdr cs).run
              (c03_warnState cfg (.run r.styleId r.styleName) S!"run" r.styleId r.styleName st) with
      | .ok (ns, st') =>
        .ok (c11_wrapIf r.bold (c11_tag S!"strong")
              (c11_wrapIf r.italic (c11_tag S!"em")
                (c11_wrapIf (r.vertAlign == some S!"superscript") (c11_tag S!"sup")
                  (c11_wrapIf (r.vertAlign == some S!"subscript") (c11_tag S!"sub")
                    (c11_wrapIf r.strike (c11_tag S!"s") ns)))), st')
      | .error e => .error e := by
  have hf : ∀ t, findPath cfg t = none := fun t => c11_findPath_nil cfg t hmap
  have hpaths : ∀ ns, wrapAll (runPropPaths cfg r ++ [HtmlPath.elements []]) ns =
      c11_wrapIf r.bold (c11_tag S!"strong")
        (c11_wrapIf r.italic (c11_tag S!"em")
          (c11_wrapIf (r.vertAlign == some S!"superscript") (c11_tag S!"sup")
            (c11_wrapIf (r.vertAlign == some S!"subscript") (c11_tag S!"sub")
              (c11_wrapIf r.strike (c11_tag S!"s") ns)))) := by
    intro ns
    unfold runPropPaths propPath
    simp only [hf, c03_wrapAll_append, c11_pathElem, c11_wrapAll_if, c11_wrapAll_if_empty]
    cases r.highlight <;> rfl
  have hno : (runPropPaths cfg r ++ [HtmlPath.elements []]).any HtmlPath.isIgnore = false := by
    unfold runPropPaths propPath
    simp only [hf, List.any_append, c11_any_if, Bool.or_false]
    cases r.highlight <;> rfl
  have := C11_visit_run cfg hdr r cs st (by rw [hf]; exact hno)
  rw [this, hf]
  simp only [Option.getD_none, hpaths]

/-! ### examples -/

/-- bold + italic, no mappings: `<strong><em>x</em></strong>` -/
example :
    ((visit {} false (.run { bold := true, italic := true } [.text S!"x"])).run {}).toOption.map (·.1) =
      some [.elem (c11_tag S!"strong") [.elem (c11_tag S!"em") [.text S!"x"]]] := by c05_kernel_rfl

/-- underline without a mapping adds no element; with `u => em` it adds `em` -/
example :
    ((visit {} false (.run { underline := true } [.text S!"x"])).run {}).toOption.map (·.1) =
      some [.text S!"x"] := by c05_kernel_rfl
example :
    ((visit { styleMap := [⟨.underline, .elements [c11_tag S!"em"]⟩] } false
        (.run { underline := true } [.text S!"x"])).run {}).toOption.map (·.1) =
      some [.elem (c11_tag S!"em") [.text S!"x"]] := by c05_kernel_rfl

/-- `<w:b w:val="0"/>` is off, `<w:b/>` is on, `<w:u/>` (no value) is off -/
example : readBoolElem S!"w:b" [.elem S!"w:b" [(S!"w:val", S!"0")] []] = false := by decide +kernel
example : readBoolElem S!"w:b" [.elem S!"w:b" [] []] = true := by decide +kernel
example : readUnderline [.elem S!"w:u" [] []] = false := by decide +kernel
example : readUnderline [.elem S!"w:u" [(S!"w:val", S!"single")] []] = true := by decide +kernel

/-! ### the formatting of one run never extends over the text of another run

Stated on the HTML forest `ns` that the conversion produces (each run's nodes wrapped in that run's own inline
elements, `C11_visit_run`) and the forest `collapse (stripEmpty ns)` that is written out (`render`).
`leaves`: the text nodes / force-write markers in order, each with the tags of its enclosing elements,
outermost first (Proofs/C04_Chains.lean). -/

/-- FORMATTING IS LOCAL.  The leaves of the written forest are exactly the contentful leaves of `ns` (non-empty
    text, force-write markers), in order and unchanged, plus separator text leaves (`SepIn`: the `:separator`
    of a non-fresh tag of `ns`; inline formatting elements have none).  The chain of elements around each
    leaf has the SAME LENGTH as in `ns` and, position by position, the output element has the attributes of
    the leaf's own wrapper at that depth and — when the tag names of `ns` are linked transitively
    (`namesTrans`, e.g. no `|` alternatives among the tags) — its name is that wrapper's name or one of its
    alternatives.  So the wrappers around a run's text in the output are that run's own wrappers, whatever
    its neighbours are: a neighbour's `strong`/`em`/… never encloses it, and none of its own is lost. -/
theorem C11_formatting_local (ns : List Node) (h : namesTrans (tagsOfL ns) = true) :
    LeafEmb tagStep (SepIn ns) ((leaves ns).filter leafKept) (leaves (collapse (stripEmpty ns))) := by
  rw [← leaves_stripEmpty]
  exact leaves_collapse_step ns (stripEmpty ns)
    (by rw [stripEmpty, stripList_eq]; exact allTagsL_prune ns (allTagsL_tagsOfL ns)) h

/-- the same for EVERY forest, each position related by finitely many merge steps (`TagReach`; attributes are
    always identical, `TagReach.attrs`) -/
theorem C11_formatting_local_reach (ns : List Node) :
    LeafEmb TagReach (SepIn ns) ((leaves ns).filter leafKept) (leaves (collapse (stripEmpty ns))) := by
  rw [← leaves_stripEmpty]
  exact leaves_collapse_reach ns (stripEmpty ns)
    (by rw [stripEmpty, stripList_eq]; exact allTagsL_prune ns (allTagsL_tagsOfL ns))

/-- leaf by leaf: a text leaf of the written forest that is not a separator is a text leaf of `ns`, and the
    elements around it correspond one to one to its own wrappers in `ns`; conversely every non-empty text leaf
    of `ns` is written under such a chain -/
theorem C11_formatting_local_leaf (ns : List Node) (h : namesTrans (tagsOfL ns) = true) :
    (∀ c' s, (c', Node.text s) ∈ leaves (collapse (stripEmpty ns)) →
      SepIn ns (.text s) ∨ ∃ c, (c, Node.text s) ∈ leaves ns ∧ chainRel c c') ∧
    (∀ c s, s ≠ [] → (c, Node.text s) ∈ leaves ns →
      ∃ c', (c', Node.text s) ∈ leaves (collapse (stripEmpty ns)) ∧ chainRel c c') := by
  have H := C11_formatting_local ns h
  constructor
  · intro c' s hm
    rcases H.mem_right _ hm with hs | ⟨a, ha, hc, he⟩
    · exact Or.inl hs
    · obtain ⟨c, n⟩ := a
      have hn : n = Node.text s := he
      subst hn
      exact Or.inr ⟨c, (List.mem_filter.mp ha).1, hc⟩
  · intro c s hs hm
    have hk : leafKept (c, Node.text s) = true := by
      simp [leafKept, hasContent, hs]
    obtain ⟨b, hb, hc, he⟩ := H.mem_left _ (List.mem_filter.mpr ⟨hm, hk⟩)
    obtain ⟨c', n⟩ := b
    have hn : Node.text s = n := he
    subst hn
    exact ⟨c', hb, hc⟩

/-! non-vacuity: a bold run between two plain runs, and two bold runs that are merged -/
private def strongT : Tag := { name := S!"strong", collapsible := true }
private def emT : Tag := { name := S!"em", collapsible := true }
private def c11_forest : List Node :=
  [.text S!"a", .elem strongT [.text S!"b"], .elem strongT [.elem emT [.text S!"c"]], .elem emT [.text []],
   .text S!"d"]
example : namesTrans (tagsOfL c11_forest) = true := by decide +kernel
example : (leaves c11_forest).filter leafKept =
    [([], .text S!"a"), ([strongT], .text S!"b"), ([strongT, emT], .text S!"c"), ([], .text S!"d")] := by c05_kernel_rfl
example : leaves (collapse (stripEmpty c11_forest)) =
    [([], .text S!"a"), ([strongT], .text S!"b"), ([strongT, emT], .text S!"c"), ([], .text S!"d")] := by c05_kernel_rfl
example : collapse (stripEmpty c11_forest) =
    [.text S!"a", .elem strongT [.text S!"b", .elem emT [.text S!"c"]], .text S!"d"] := by c05_kernel_rfl

/-! ### END TO END: from the XML of a run to its HTML

`c11x_rPr cs`: the children of the first `w:rPr` child of the run (nothing if there is none);
`c11x_paths env cfg props = c11x_formatPaths cfg props ++ [c11x_stylePath env cfg props]`: the path list specified
directly on the XML property list `props` (Proofs/C11_Xml.lean): `w:b` / `w:i` / `w:strike` / `w:caps` /
`w:smallCaps` count iff the element is present and its `w:val` is neither `false` nor `0`; `w:u` iff present with a
value other than `false`, `0`, `none`; `w:vertAlign` iff its value is `subscript` / `superscript`; `w:highlight` iff
its value is non-empty, not `none`, and a highlight mapping matches it; the run style `w:rStyle` (named through the
character styles of `env`) contributes the path of the first matching run mapping. -/

/-- the specification looks at the XML the way the reader's helper functions do -/
theorem C11_xml_spec_reads (env : REnv) (name : Str) (props : List XmlNode) :
    readBoolElem name props = c11x_toggle name props ∧
    readUnderline props = c11x_underline props ∧
    readHighlight (childAttr S!"w:highlight" S!"w:val" props) = c11x_highlight props ∧
    childAttr S!"w:vertAlign" S!"w:val" props = c11x_vertAlign props ∧
    readStyle props S!"w:rStyle" S!"Run" env.styles.character =
      ((c11x_styleId props, c11x_styleName env props), c11x_styleMsgs env props) :=
  ⟨c11x_readBoolElem name props, c11x_readUnderline props, c11x_readHighlight props,
   c11x_childAttr _ props, c11x_readStyle env props⟩

/-- READER HALF: a `w:r` element (any attributes `as`, any children `cs`) whose children are read as `r`, ending in a
    state `st1` with no open hyperlink field, is read as ONE run element with the run properties specified by
    its `w:rPr`, containing the children's elements; its only own message is the undefined-style warning -/
theorem C11_xml_read_run (env : REnv) (f : Nat) (st st1 : RState) (as : Attrs) (cs : List XmlNode)
    (r : ReadResult)
    (hcs : readAllWith (readElem env f) st cs = .ok (r, st1))
    (hfld : currentHyperlink st1.stack = none) :
    readElem env (f+1) st (.elem S!"w:r" as cs) =
      .ok ({ elements := [.run (c11x_runProps env (c11x_rPr cs)) r.elements], extra := r.extra,
             messages := c11x_styleMsgs env (c11x_rPr cs) ++ r.messages }, st1) := by
  rw [c11x_reader_run, hcs]
  show Except.ok _ = _
  rw [hfld]

/-- FROM THE XML TO THE WRAPPERS.  Hypotheses (all on the XML, the reader state and the style map):
    `hcs` — the children `cs` of the `w:r` are read (by the same reader, fuel `f`) as `r`, ending in state `st1`;
    `hfld` — no hyperlink complex field is open in `st1`;
    `hno` — none of the paths specified by the run's `w:rPr` is `!`.
    Then the element is read as one run, and converting THAT run yields the nodes of the children's elements
    `r.elements` wrapped by `c11x_paths` — the paths specified directly on the `w:rPr` XML, innermost first, bold
    outermost but for the run style.  The converter state passes through as for any run (`c03_warnState`: one
    warning iff the run has a style id that no mapping matches). -/
theorem C11_xml_run_wrappers (env : REnv) (cfg : Cfg) (hdr : Bool) (f : Nat) (st st1 : RState) (as : Attrs)
    (cs : List XmlNode) (r : ReadResult) (cst : ConvState)
    (hcs : readAllWith (readElem env f) st cs = .ok (r, st1))
    (hfld : currentHyperlink st1.stack = none)
    (hno : (c11x_paths env cfg (c11x_rPr cs)).any HtmlPath.isIgnore = false) :
    readElem env (f+1) st (.elem S!"w:r" as cs) =
      .ok ({ elements := [.run (c11x_runProps env (c11x_rPr cs)) r.elements], extra := r.extra,
             messages := c11x_styleMsgs env (c11x_rPr cs) ++ r.messages }, st1) ∧
    (visit cfg hdr (.run (c11x_runProps env (c11x_rPr cs)) r.elements)).run cst =
      match (visitAll cfg hdr r.elements).run
              (c03_warnState cfg (.run (c11x_styleId (c11x_rPr cs)) (c11x_styleName env (c11x_rPr cs))) S!"run"
                (c11x_styleId (c11x_rPr cs)) (c11x_styleName env (c11x_rPr cs)) cst) with
      | .ok (ns, cst') => .ok (wrapAll (c11x_paths env cfg (c11x_rPr cs)) ns, cst')
      | .error e => .error e := by
  refine ⟨C11_xml_read_run env f st st1 as cs r hcs hfld, ?_⟩
  have hno' : (runPropPaths cfg (c11x_runProps env (c11x_rPr cs)) ++
      [(findPath cfg (.run (c11x_runProps env (c11x_rPr cs)).styleId
          (c11x_runProps env (c11x_rPr cs)).styleName)).getD (.elements [])]).any HtmlPath.isIgnore = false := by
    rw [c11x_runPropPaths, c11x_stylePath_eq]; exact hno
  rw [C11_visit_run cfg hdr _ _ cst hno', c11x_runPropPaths, c11x_stylePath_eq]
  rfl

/-- …and if one of the specified paths IS `!`, the children are not converted at all: the nodes are the specified
    paths around nothing (the paths outside the `!` still wrap the empty content) -/
theorem C11_xml_run_ignored (env : REnv) (cfg : Cfg) (hdr : Bool) (f : Nat) (st st1 : RState) (as : Attrs)
    (cs : List XmlNode) (r : ReadResult) (cst : ConvState)
    (hcs : readAllWith (readElem env f) st cs = .ok (r, st1))
    (hfld : currentHyperlink st1.stack = none)
    (hig : (c11x_paths env cfg (c11x_rPr cs)).any HtmlPath.isIgnore = true) :
    readElem env (f+1) st (.elem S!"w:r" as cs) =
      .ok ({ elements := [.run (c11x_runProps env (c11x_rPr cs)) r.elements], extra := r.extra,
             messages := c11x_styleMsgs env (c11x_rPr cs) ++ r.messages }, st1) ∧
    (visit cfg hdr (.run (c11x_runProps env (c11x_rPr cs)) r.elements)).run cst =
      .ok (wrapAll (c11x_paths env cfg (c11x_rPr cs)) [],
           c03_warnState cfg (.run (c11x_styleId (c11x_rPr cs)) (c11x_styleName env (c11x_rPr cs))) S!"run"
             (c11x_styleId (c11x_rPr cs)) (c11x_styleName env (c11x_rPr cs)) cst) := by
  refine ⟨C11_xml_read_run env f st st1 as cs r hcs hfld, ?_⟩
  rw [visit, run_bind, c03_findPathWarn_run]
  simp only [c11x_runPropPaths, c11x_stylePath_eq]
  have hig' : (c11x_formatPaths cfg (c11x_rPr cs) ++ [c11x_stylePath env cfg (c11x_rPr cs)]).any
      HtmlPath.isIgnore = true := hig
  simp only [hig', if_true]
  rfl

/-- A RUN WITHOUT FORMATTING, FROM THE XML: if in the run's `w:rPr` (possibly absent) every on/off property and
    underline is absent or switched off (`w:val` `false` / `0`; `w:u` also without a value or `none`), there is no
    sub/superscript, the highlight is absent, empty, `none` or unmapped and no run-style mapping applies
    (`c11x_plain`), then converting the run that is read yields exactly the nodes of its children's elements -/
theorem C11_xml_plain_run (env : REnv) (cfg : Cfg) (hdr : Bool) (f : Nat) (st st1 : RState) (as : Attrs)
    (cs : List XmlNode) (r : ReadResult) (cst : ConvState)
    (hcs : readAllWith (readElem env f) st cs = .ok (r, st1))
    (hfld : currentHyperlink st1.stack = none)
    (hplain : c11x_plain env cfg (c11x_rPr cs) = true) :
    readElem env (f+1) st (.elem S!"w:r" as cs) =
      .ok ({ elements := [.run (c11x_runProps env (c11x_rPr cs)) r.elements], extra := r.extra,
             messages := c11x_styleMsgs env (c11x_rPr cs) ++ r.messages }, st1) ∧
    (visit cfg hdr (.run (c11x_runProps env (c11x_rPr cs)) r.elements)).run cst =
      (visitAll cfg hdr r.elements).run
        (c03_warnState cfg (.run (c11x_styleId (c11x_rPr cs)) (c11x_styleName env (c11x_rPr cs))) S!"run"
          (c11x_styleId (c11x_rPr cs)) (c11x_styleName env (c11x_rPr cs)) cst) := by
  have hp := c11x_plain_paths env cfg _ hplain
  obtain ⟨h1, h2⟩ := C11_xml_run_wrappers env cfg hdr f st st1 as cs r cst hcs hfld (by rw [hp]; rfl)
  refine ⟨h1, ?_⟩
  rw [h2, hp]
  cases (visitAll cfg hdr r.elements).run _ with
  | error e => rfl
  | ok p => rfl

/-- THE SAME WITH EVERY HYPOTHESIS ON THE XML AND ON THE STATE BEFORE THE RUN: the run is outside every hyperlink
    complex field (`currentHyperlink st.stack = none`), and neither its children nor the nodes deferred from
    deleted paragraphs contain a `w:fldChar` (`c11x_noFldL`) — then no hyperlink field is open after the children
    either, and `C11_xml_run_wrappers` applies -/
theorem C11_xml_run_wrappers_nofield (env : REnv) (cfg : Cfg) (hdr : Bool) (f : Nat) (st st1 : RState) (as : Attrs)
    (cs : List XmlNode) (r : ReadResult) (cst : ConvState)
    (hcs : readAllWith (readElem env f) st cs = .ok (r, st1))
    (hfld : currentHyperlink st.stack = none)
    (hnf : c11x_noFldL cs = true) (hdel : c11x_noFldL st.deleted = true)
    (hno : (c11x_paths env cfg (c11x_rPr cs)).any HtmlPath.isIgnore = false) :
    readElem env (f+1) st (.elem S!"w:r" as cs) =
      .ok ({ elements := [.run (c11x_runProps env (c11x_rPr cs)) r.elements], extra := r.extra,
             messages := c11x_styleMsgs env (c11x_rPr cs) ++ r.messages }, st1) ∧
    (visit cfg hdr (.run (c11x_runProps env (c11x_rPr cs)) r.elements)).run cst =
      match (visitAll cfg hdr r.elements).run
              (c03_warnState cfg (.run (c11x_styleId (c11x_rPr cs)) (c11x_styleName env (c11x_rPr cs))) S!"run"
                (c11x_styleId (c11x_rPr cs)) (c11x_styleName env (c11x_rPr cs)) cst) with
      | .ok (ns, cst') => .ok (wrapAll (c11x_paths env cfg (c11x_rPr cs)) ns, cst')
      | .error e => .error e :=
  C11_xml_run_wrappers env cfg hdr f st st1 as cs r cst hcs
    (by rw [c11x_readAll_stack env f st st1 cs r hnf hdel hcs]; exact hfld) hno

/-- a run without `w:rPr`, or with an empty one, is plain under every style map without a catch-all run mapping -/
theorem C11_xml_no_rPr_plain (env : REnv) (cfg : Cfg)
    (hst : findStyle cfg.upper cfg.styleMap (.run none none) = none) :
    c11x_plain env cfg [] = true := by
  simp [c11x_plain, c11x_toggle, c11x_underline, c11x_vertAlign, c11x_highlight, c11x_propVal, c11x_named,
    c11x_styleId, c11x_styleName, hst]

/-! examples: `<w:r><w:rPr><w:b/><w:i w:val="0"/><w:u w:val="single"/><w:strike w:val="true"/>
    <w:vertAlign w:val="superscript"/><w:highlight w:val="yellow"/></w:rPr><w:t>x</w:t><w:tab/></w:r>`
    under the style map `u => em`, `highlight[color='yellow'] => mark` -/
private def c11x_exProps : List XmlNode :=
  [.elem S!"w:b" [] [], .elem S!"w:i" [(S!"w:val", S!"0")] [], .elem S!"w:u" [(S!"w:val", S!"single")] [],
   .elem S!"w:strike" [(S!"w:val", S!"true")] [], .elem S!"w:vertAlign" [(S!"w:val", S!"superscript")] [],
   .elem S!"w:highlight" [(S!"w:val", S!"yellow")] [], .elem S!"w:b" [(S!"w:val", S!"false")] []]
private def c11x_exContent : List XmlNode :=
  [.elem S!"w:rPr" [] c11x_exProps, .elem S!"w:t" [] [.text S!"x"], .elem S!"w:tab" [] []]
private def c11x_exCfg : Cfg :=
  { styleMap := [⟨.underline, .elements [c11_tag S!"em"]⟩, ⟨.highlight (some S!"yellow"), .elements [c11_tag S!"mark"]⟩] }

/-- the hypotheses of `C11_xml_run_wrappers` hold for it -/
example : ∃ r st1, readAllWith (readElem {} 2) {} c11x_exContent = .ok (r, st1) ∧
    currentHyperlink st1.stack = none ∧
    (c11x_paths {} c11x_exCfg (c11x_rPr c11x_exContent)).any HtmlPath.isIgnore = false ∧
    r.elements = [.text S!"x", .tab] :=
  ⟨{ elements := [.text S!"x", .tab] }, {}, by c05_kernel_rfl, rfl, by decide +kernel, rfl⟩
/-- its specified paths, innermost first: mark, s, em (underline, mapped), sup, strong — italic is switched off,
    the second `w:b` does not count -/
example : c11x_paths {} c11x_exCfg (c11x_rPr c11x_exContent) =
    [.elements [c11_tag S!"mark"], .elements [c11_tag S!"s"], .elements [c11_tag S!"em"],
     .elements [c11_tag S!"sup"], .elements [c11_tag S!"strong"], .elements []] := by decide +kernel
/-- read and converted: `<strong><sup><em><s><mark>x TAB</mark></s></em></sup></strong>` -/
example :
    (match readElem {} 3 {} (.elem S!"w:r" [] c11x_exContent) with
      | .ok (rr, _) => ((visitAll c11x_exCfg false rr.elements).run {}).toOption.map (·.1)
      | .error _ => none) =
    some [.elem (c11_tag S!"strong") [.elem (c11_tag S!"sup") [.elem (c11_tag S!"em") [.elem (c11_tag S!"s")
            [.elem (c11_tag S!"mark") [.text S!"x", .text ['\t']]]]]]] := by c05_kernel_rfl

/-- everything switched off: `<w:rPr><w:b w:val="false"/><w:i w:val="0"/><w:u/><w:u w:val="single"/>
    <w:strike w:val="0"/><w:highlight w:val="none"/><w:vertAlign w:val="baseline"/></w:rPr>` is plain -/
private def c11x_exOff : List XmlNode :=
  [.elem S!"w:rPr" []
    [.elem S!"w:b" [(S!"w:val", S!"false")] [], .elem S!"w:i" [(S!"w:val", S!"0")] [], .elem S!"w:u" [] [],
     .elem S!"w:u" [(S!"w:val", S!"single")] [], .elem S!"w:strike" [(S!"w:val", S!"0")] [],
     .elem S!"w:highlight" [(S!"w:val", S!"none")] [], .elem S!"w:vertAlign" [(S!"w:val", S!"baseline")] []],
   .elem S!"w:t" [] [.text S!"plain"]]
example : c11x_plain {} c11x_exCfg (c11x_rPr c11x_exOff) = true := by decide +kernel
example : c11x_noFldL c11x_exContent = true ∧ c11x_noFldL c11x_exOff = true := by decide +kernel
example : ∃ r st1, readAllWith (readElem {} 2) {} c11x_exOff = .ok (r, st1) ∧
    currentHyperlink st1.stack = none ∧ r.elements = [.text S!"plain"] := ⟨{ elements := [.text S!"plain"] }, {}, by c05_kernel_rfl, rfl, rfl⟩
example :
    (match readElem {} 3 {} (.elem S!"w:r" [] c11x_exOff) with
      | .ok (rr, _) => ((visitAll c11x_exCfg false rr.elements).run {}).toOption.map (·.1)
      | .error _ => none) = some [.text S!"plain"] := by c05_kernel_rfl
/-- a `!` mapping for bold: nothing of the run is written -/
example :
    (match readElem {} 3 {} (.elem S!"w:r" [] c11x_exContent) with
      | .ok (rr, _) => ((visitAll { styleMap := [⟨.bold, .ignore⟩] } false rr.elements).run {}).toOption.map (·.1)
      | .error _ => none) = some [] := by c05_kernel_rfl

/-- THE FIRST OCCURRENCE DECIDES: for every property list `pre ++ <name as…> :: rest` in which no element of `pre`
    has the name (`c11e_noChild`; text nodes are skipped), the toggle is read from the `w:val` of THAT element —
    later duplicates in `rest` (any spelling) are irrelevant; and a list without such an element reads as off -/
theorem C11_toggle_first_decides (name : Str) (pre : List XmlNode) (as : Attrs) (cs rest : List XmlNode)
    (h : c11e_noChild name pre = true) :
    readBoolElem name (pre ++ .elem name as cs :: rest) = readBoolAttr (attr? S!"w:val" as) ∧
    readBoolElem name pre = false := by
  have hpre := c11e_findChild_skip name pre [] h
  rw [List.append_nil] at hpre
  simp only [readBoolElem, c11e_findChild_skip name pre _ h, hpre, findChild, beq_self_eq_true, if_true, and_self]

example : c11e_noChild S!"w:b" [.text S!" ", .elem S!"w:i" [] []] = true := by decide +kernel
example : readBoolElem S!"w:b" ([.text S!" ", .elem S!"w:i" [] []] ++
    .elem S!"w:b" [(S!"w:val", S!"0")] [] :: [.elem S!"w:b" [] []]) = false := by decide +kernel

/-- UNDERLINE, ALL CAPS, SMALL CAPS AND HIGHLIGHT ADD NOTHING WITHOUT A MAPPING OF THEIR OWN, whatever ELSE the style
    map overrides (bold, italic, strikethrough, run styles, …): if no mapping matches underline, all caps, small
    caps and the run's highlight colour, the run's formatting paths wrap any content exactly as those of the same run
    with these four properties cleared (`c11e_clear`) -/
theorem C11_unmapped_add_nothing (cfg : Cfg) (r : RunProps) (ns : List Node)
    (hu : findStyle cfg.upper cfg.styleMap .underline = none)
    (hc : findStyle cfg.upper cfg.styleMap .allCaps = none)
    (hsc : findStyle cfg.upper cfg.styleMap .smallCaps = none)
    (hh : c11_highlightSpec cfg r.highlight = []) :
    wrapAll (runPropPaths cfg r) ns = wrapAll (runPropPaths cfg (c11e_clear r)) ns :=
  c11e_unmapped cfg r hu hc hsc hh ns

private def c11e_exCfg : Cfg := { styleMap := [⟨.bold, .elements [c11_tag S!"b"]⟩] }
private def c11e_exRun : RunProps :=
  { bold := true, underline := true, allCaps := true, smallCaps := true, highlight := some S!"yellow" }
example : findStyle c11e_exCfg.upper c11e_exCfg.styleMap .underline = none ∧
    findStyle c11e_exCfg.upper c11e_exCfg.styleMap .allCaps = none ∧
    findStyle c11e_exCfg.upper c11e_exCfg.styleMap .smallCaps = none ∧
    c11_highlightSpec c11e_exCfg c11e_exRun.highlight = [] := by decide +kernel
example : wrapAll (runPropPaths c11e_exCfg c11e_exRun) [.text S!"x"] = [.elem (c11_tag S!"b") [.text S!"x"]] := by
  c05_kernel_rfl

/-- ADJACENT RUNS ARE WRAPPED ONE BY ONE: for EVERY list of text runs (any formatting, equal or different from run to
    run) and EVERY style map (including `!` mappings), the converted nodes are the concatenation, in order, of each
    run's own nodes — its text inside its own paths (`c11e_runNodes`: formatting paths, then the run-style path) —
    so no run's wrapper contains another run's text; the state only collects the unrecognised-style warnings, in
    order -/
theorem C11_adjacent_runs_separate (cfg : Cfg) (hdr : Bool) (rs : List (RunProps × Str)) (st : ConvState) :
    (visitAll cfg hdr (rs.map fun p => Elem.run p.1 [.text p.2])).run st =
      .ok (rs.flatMap (c11e_runNodes cfg), rs.foldl (c11e_runWarn cfg) st) := by
  induction rs generalizing st with
  | nil => rfl
  | cons p rs ih =>
    simp only [List.map_cons, visitAll, run_bind, c11e_visit_textRun, ih, List.flatMap_cons, List.foldl_cons]
    rfl

example : [(({ bold := true } : RunProps), S!"a"), ({ bold := true }, S!"b"), ({ italic := true }, S!"c")].flatMap
      (c11e_runNodes {}) =
    [.elem (c11_tag S!"strong") [.text S!"a"], .elem (c11_tag S!"strong") [.text S!"b"],
     .elem (c11_tag S!"em") [.text S!"c"]] := by c05_kernel_rfl

#print axioms C11_toggle_first_decides
#print axioms C11_unmapped_add_nothing
#print axioms C11_adjacent_runs_separate

end Mammoth
