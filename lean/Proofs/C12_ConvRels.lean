/-
  C12 (conversion) — what the relationship reader and the content-types reader make of a part in which
  one entry was replaced by, or extended with, the style-map entry: every lookup the converter performs
  (targets by one of the looked-up relationship types, target by an id other than `rMammothStyleMap`,
  content type of a path other than `mammoth/style-map`) gives the same answer.
-/
import Proofs.C12_ConvXml
import Proofs.Basics
namespace Mammoth

def c12_relName : Str := S!"relationships:Relationship"
def c12_overrideName : Str := S!"content-types:Override"
def c12_defaultName : Str := S!"content-types:Default"
def c12_smId : Str := S!"rMammothStyleMap"

/-! ### `lookupLast` under append / replace -/

theorem c12_lookupLast_replace {α β} [DecidableEq α] (k k' : α) (v w : β) (A B : List (α × β))
    (h : k' ≠ k) : lookupLast k' (A ++ (k, w) :: B) = lookupLast k' (A ++ (k, v) :: B) := by
  rw [lookupLast_append, lookupLast_append]
  simp only [lookupLast, h, if_false]

theorem c12_lookupLast_snoc {α β} [DecidableEq α] (k k' : α) (w : β) (A : List (α × β))
    (h : k' ≠ k) : lookupLast k' (A ++ [(k, w)]) = lookupLast k' A := by
  rw [lookupLast_append]
  simp only [lookupLast, h, if_false, Option.none_or]

/-! ### `mapM` under append / replace -/

theorem c12_mapM_replace {α β} (f : α → Except Err β) (A B : List α) (o n : α) (ro rn : β)
    (ho : f o = .ok ro) (hn : f n = .ok rn) :
    (∃ e, (A ++ o :: B).mapM f = .error e ∧ (A ++ n :: B).mapM f = .error e) ∨
    (∃ ra rb, (A ++ o :: B).mapM f = .ok (ra ++ ro :: rb) ∧ (A ++ n :: B).mapM f = .ok (ra ++ rn :: rb)) := by
  simp only [List.mapM_append, List.mapM_cons, ho, hn]
  cases A.mapM f with
  | error e => exact Or.inl ⟨e, rfl, rfl⟩
  | ok ra =>
    cases B.mapM f with
    | error e => exact Or.inl ⟨e, rfl, rfl⟩
    | ok rb => exact Or.inr ⟨ra, rb, rfl, rfl⟩

theorem c12_mapM_snoc {α β} (f : α → Except Err β) (A : List α) (n : α) (rn : β) (hn : f n = .ok rn) :
    (∃ e, A.mapM f = .error e ∧ (A ++ [n]).mapM f = .error e) ∨
    (∃ ra, A.mapM f = .ok ra ∧ (A ++ [n]).mapM f = .ok (ra ++ [rn])) := by
  simp only [List.mapM_append, List.mapM_cons, List.mapM_nil, hn]
  cases A.mapM f with
  | error e => exact Or.inl ⟨e, rfl, rfl⟩
  | ok ra => exact Or.inr ⟨ra, rfl, rfl⟩

/-! ### relationships -/

/-- one `Relationship` element, as `read_relationships_xml_element` reads it -/
def c12_relOf (as : Attrs) : Except Err Rel :=
  match attr? S!"Id" as, attr? S!"Target" as, attr? S!"Type" as with
  | some i, some t, some ty => .ok ⟨i, t, normRelType ty⟩
  | _, _, _ => .error (.key S!"Id/Target/Type")

theorem c12_readRelsXml_eq (cs : List XmlNode) :
    readRelsXml cs = (c12_attrsOf c12_relName cs).mapM c12_relOf := by
  unfold readRelsXml c12_attrsOf c12_relName
  rw [List.mapM_map]
  rfl

/-- the relationship the embed writes -/
def c12_smRel : Rel := ⟨c12_smId, styleMapAbsPath, S!"http://schemas.zwobble.org/mammoth/style-map"⟩

theorem c12_relOf_sm : c12_relOf styleMapRelAttrs = .ok c12_smRel := by rfl

/-- the relationship types `_find_part_paths` looks up in the main document's relationships -/
def c12_lookedUp : List Str :=
  [relTypePrefix ++ S!"comments", relTypePrefix ++ S!"endnotes", relTypePrefix ++ S!"footnotes",
   relTypePrefix ++ S!"numbering", relTypePrefix ++ S!"styles"]

/-- all the converter asks of the relationships gives the same answer -/
structure c12_RelsSim (rels rels' : Rels) : Prop where
  byId : ∀ rid, rid ≠ c12_smId → rels'.targetById rid = rels.targetById rid
  byType : ∀ ty, ty ∈ c12_lookedUp → rels'.targetsByType ty = rels.targetsByType ty

theorem c12_RelsSim_refl (rels : Rels) : c12_RelsSim rels rels := ⟨fun _ _ => rfl, fun _ _ => rfl⟩

theorem c12_smRel_ty_notLooked : ∀ ty, ty ∈ c12_lookedUp → (c12_smRel.ty == ty) = false := by
  decide +kernel

theorem c12_RelsSim_snoc (rels : Rels) : c12_RelsSim rels (rels ++ [c12_smRel]) := by
  constructor
  · intro rid hr
    unfold Rels.targetById
    have := c12_lookupLast_snoc c12_smId rid c12_smRel.target (rels.map fun r => (r.id, r.target)) hr
    rw [List.map_append, List.map_cons, List.map_nil, show c12_smRel.id = c12_smId from rfl, this]
  · intro ty ht
    unfold Rels.targetsByType
    rw [List.filter_append]
    simp [c12_smRel_ty_notLooked ty ht]

theorem c12_RelsSim_replace (ra rb : Rels) (ro : Rel) (hid : ro.id = c12_smId)
    (hty : c12_lookedUp.contains ro.ty = false) :
    c12_RelsSim (ra ++ ro :: rb) (ra ++ c12_smRel :: rb) := by
  constructor
  · intro rid hr
    unfold Rels.targetById
    have := c12_lookupLast_replace c12_smId rid ro.target c12_smRel.target
      (ra.map fun r => (r.id, r.target)) (rb.map fun r => (r.id, r.target)) hr
    rw [List.map_append, List.map_cons, List.map_append, List.map_cons, hid,
      show c12_smRel.id = c12_smId from rfl, this]
  · intro ty ht
    unfold Rels.targetsByType
    have h1 : (c12_smRel.ty == ty) = false := c12_smRel_ty_notLooked ty ht
    have h2 : (ro.ty == ty) = false := by
      cases h : ro.ty == ty with
      | false => rfl
      | true =>
        have := eq_of_beq h
        rw [this] at hty
        have hc : c12_lookedUp.contains ty = true := by simpa using ht
        rw [hc] at hty; cases hty
    simp [List.filter_append, h1, h2]

/-- the element the embed overwrites is a complete relationship of a type that is not looked up -/
def c12_relAttrsOk (old : Attrs) : Bool :=
  match c12_relOf old with
  | .ok r => !c12_lookedUp.contains r.ty
  | .error _ => false

/-- the relationships read from the children `cs'` of an updated part, compared with the original `cs` -/
theorem c12_readRelsXml_D1L {old : Attrs} {cs cs' : List XmlNode}
    (h : c12_D1L (xMatches c12_relName S!"Id" styleMapRelAttrs) old styleMapRelAttrs cs cs')
    (hold : c12_relAttrsOk old = true) :
    (∃ e, readRelsXml cs = .error e ∧ readRelsXml cs' = .error e) ∨
    (∃ rels rels', readRelsXml cs = .ok rels ∧ readRelsXml cs' = .ok rels' ∧ c12_RelsSim rels rels') := by
  rw [c12_readRelsXml_eq, c12_readRelsXml_eq]
  rcases c12_attrsOf_D1L c12_relName h with h | ⟨hp, A, B, h1, h2⟩
  · rw [h]
    cases hm : (c12_attrsOf c12_relName cs).mapM c12_relOf with
    | error e => exact Or.inl ⟨e, rfl, rfl⟩
    | ok rels => exact Or.inr ⟨rels, rels, rfl, rfl, c12_RelsSim_refl rels⟩
  · rw [h1, h2]
    unfold c12_relAttrsOk at hold
    cases hro : c12_relOf old with
    | error e => rw [hro] at hold; cases hold
    | ok ro =>
      rw [hro] at hold
      have hty : c12_lookedUp.contains ro.ty = false := by simpa using hold
      have hid : ro.id = c12_smId := by
        -- the identifying attribute matched
        simp only [xMatches, Bool.and_eq_true] at hp
        have hid' : attr? S!"Id" old = some c12_smId := by
          have := eq_of_beq hp.2
          rw [this]; decide +kernel
        unfold c12_relOf at hro
        rw [hid'] at hro
        split at hro
        · rename_i i t ty hi _ _
          cases hi; cases hro; rfl
        · cases hro
      rcases c12_mapM_replace c12_relOf A B old styleMapRelAttrs ro c12_smRel hro c12_relOf_sm with
        ⟨e, e1, e2⟩ | ⟨ra, rb, e1, e2⟩
      · exact Or.inl ⟨e, e1, e2⟩
      · exact Or.inr ⟨_, _, e1, e2, c12_RelsSim_replace ra rb ro hid hty⟩

/-- … and of a part to whose root the style-map relationship was appended -/
theorem c12_readRelsXml_snoc (cs : List XmlNode) :
    (∃ e, readRelsXml cs = .error e ∧ readRelsXml (cs ++ [.elem c12_relName styleMapRelAttrs []]) = .error e) ∨
    (∃ rels rels', readRelsXml cs = .ok rels ∧
      readRelsXml (cs ++ [.elem c12_relName styleMapRelAttrs []]) = .ok rels' ∧ c12_RelsSim rels rels') := by
  rw [c12_readRelsXml_eq, c12_readRelsXml_eq, c12_attrsOf_append, c12_attrsOf_cons_elem, c12_attrsOf_nil]
  simp only [beq_self_eq_true, if_true, List.append_nil]
  rcases c12_mapM_snoc c12_relOf (c12_attrsOf c12_relName cs) styleMapRelAttrs c12_smRel c12_relOf_sm with
    ⟨e, e1, e2⟩ | ⟨ra, e1, e2⟩
  · exact Or.inl ⟨e, e1, e2⟩
  · exact Or.inr ⟨_, _, e1, e2, c12_RelsSim_snoc ra⟩

/-! ### content types -/

def c12_defaultOf (as : Attrs) : Except Err (Str × Str) :=
  match attr? S!"Extension" as, attr? S!"ContentType" as with
  | some e, some c => .ok (e, c)
  | _, _ => .error (Err.key S!"Extension/ContentType")

def c12_overrideOf (as : Attrs) : Except Err (Str × Str) :=
  match attr? S!"PartName" as, attr? S!"ContentType" as with
  | some p, some c => .ok (lstripChar '/' p, c)
  | _, _ => .error (Err.key S!"PartName/ContentType")

theorem c12_readContentTypesXml_eq (cs : List XmlNode) :
    readContentTypesXml cs = (do
      let ds ← (c12_attrsOf c12_defaultName cs).mapM c12_defaultOf
      let os ← (c12_attrsOf c12_overrideName cs).mapM c12_overrideOf
      pure { defaults := ds, overrides := os }) := by
  unfold readContentTypesXml c12_attrsOf c12_defaultName c12_overrideName
  rw [List.mapM_map, List.mapM_map]
  rfl

/-- the override the embed writes -/
def c12_smOverride : Str × Str := (styleMapPath, S!"text/prs.mammoth.style-map")

theorem c12_overrideOf_sm : c12_overrideOf styleMapOverrideAttrs = .ok c12_smOverride := by rfl

/-- the content type of every path other than `mammoth/style-map` is the same -/
def c12_CtSim (ct ct' : ContentTypes) : Prop :=
  ∀ path, path ≠ styleMapPath → findContentType ct' path = findContentType ct path

theorem c12_CtSim_refl (ct : ContentTypes) : c12_CtSim ct ct := fun _ _ => rfl

theorem c12_CtSim_snoc (ds os : List (Str × Str)) :
    c12_CtSim { defaults := ds, overrides := os } { defaults := ds, overrides := os ++ [c12_smOverride] } := by
  intro path hp
  unfold findContentType
  dsimp only
  rw [show c12_smOverride = (styleMapPath, c12_smOverride.2) from rfl, c12_lookupLast_snoc _ _ _ _ hp]

theorem c12_CtSim_replace (ds A B : List (Str × Str)) (c : Str) :
    c12_CtSim { defaults := ds, overrides := A ++ (styleMapPath, c) :: B }
      { defaults := ds, overrides := A ++ c12_smOverride :: B } := by
  intro path hp
  unfold findContentType
  dsimp only
  rw [show c12_smOverride = (styleMapPath, c12_smOverride.2) from rfl,
    c12_lookupLast_replace styleMapPath path c c12_smOverride.2 A B hp]

/-- the `Override` the embed overwrites has a content type -/
def c12_overrideAttrsOk (old : Attrs) : Bool := (attr? S!"ContentType" old).isSome

theorem c12_readContentTypesXml_D1L {old : Attrs} {cs cs' : List XmlNode}
    (h : c12_D1L (xMatches c12_overrideName S!"PartName" styleMapOverrideAttrs) old styleMapOverrideAttrs cs cs')
    (hold : c12_overrideAttrsOk old = true) :
    (∃ e, readContentTypesXml cs = .error e ∧ readContentTypesXml cs' = .error e) ∨
    (∃ ct ct', readContentTypesXml cs = .ok ct ∧ readContentTypesXml cs' = .ok ct' ∧ c12_CtSim ct ct') := by
  rw [c12_readContentTypesXml_eq, c12_readContentTypesXml_eq]
  have hd : c12_attrsOf c12_defaultName cs' = c12_attrsOf c12_defaultName cs := by
    rcases c12_attrsOf_D1L c12_defaultName h with h | ⟨hp, _⟩
    · exact h
    · simp only [xMatches, Bool.and_eq_true] at hp
      exact absurd hp.1 (by decide +kernel)
  rw [hd]
  cases hds : (c12_attrsOf c12_defaultName cs).mapM c12_defaultOf with
  | error e => exact Or.inl ⟨e, rfl, rfl⟩
  | ok ds =>
    simp only [bind, Except.bind, pure, Except.pure]
    rcases c12_attrsOf_D1L c12_overrideName h with h | ⟨hp, A, B, h1, h2⟩
    · rw [h]
      cases (c12_attrsOf c12_overrideName cs).mapM c12_overrideOf with
      | error e => exact Or.inl ⟨e, rfl, rfl⟩
      | ok os => exact Or.inr ⟨_, _, rfl, rfl, c12_CtSim_refl _⟩
    · rw [h1, h2]
      simp only [xMatches, Bool.and_eq_true] at hp
      have hpn : attr? S!"PartName" old = some styleMapAbsPath := by
        have := eq_of_beq hp.2
        rw [this]; decide +kernel
      unfold c12_overrideAttrsOk at hold
      cases hc : attr? S!"ContentType" old with
      | none => rw [hc] at hold; cases hold
      | some c =>
        have hro : c12_overrideOf old = .ok (styleMapPath, c) := by
          unfold c12_overrideOf
          rw [hpn, hc]
          show Except.ok (lstripChar '/' styleMapAbsPath, c) = _
          have : lstripChar '/' styleMapAbsPath = styleMapPath := by decide +kernel
          rw [this]
        rcases c12_mapM_replace c12_overrideOf A B old styleMapOverrideAttrs _ _ hro c12_overrideOf_sm with
          ⟨e, e1, e2⟩ | ⟨ra, rb, e1, e2⟩
        · rw [e1, e2]; exact Or.inl ⟨e, rfl, rfl⟩
        · rw [e1, e2]; exact Or.inr ⟨_, _, rfl, rfl, c12_CtSim_replace ds ra rb c⟩

theorem c12_readContentTypesXml_snoc (cs : List XmlNode) :
    (∃ e, readContentTypesXml cs = .error e ∧
      readContentTypesXml (cs ++ [.elem c12_overrideName styleMapOverrideAttrs []]) = .error e) ∨
    (∃ ct ct', readContentTypesXml cs = .ok ct ∧
      readContentTypesXml (cs ++ [.elem c12_overrideName styleMapOverrideAttrs []]) = .ok ct' ∧
      c12_CtSim ct ct') := by
  rw [c12_readContentTypesXml_eq, c12_readContentTypesXml_eq, c12_attrsOf_append, c12_attrsOf_append,
    c12_attrsOf_cons_elem, c12_attrsOf_cons_elem, c12_attrsOf_nil]
  have hne : (c12_overrideName == c12_defaultName) = false := by decide +kernel
  simp only [c12_attrsOf_nil, hne, beq_self_eq_true, if_true, List.append_nil, Bool.false_eq_true, if_false]
  cases hds : (c12_attrsOf c12_defaultName cs).mapM c12_defaultOf with
  | error e => exact Or.inl ⟨e, rfl, rfl⟩
  | ok ds =>
    simp only [bind, Except.bind, pure, Except.pure]
    rcases c12_mapM_snoc c12_overrideOf (c12_attrsOf c12_overrideName cs) styleMapOverrideAttrs _
      c12_overrideOf_sm with ⟨e, e1, e2⟩ | ⟨ra, e1, e2⟩
    · rw [e1, e2]; exact Or.inl ⟨e, rfl, rfl⟩
    · rw [e1, e2]; exact Or.inr ⟨_, _, rfl, rfl, c12_CtSim_snoc ds ra⟩

end Mammoth
