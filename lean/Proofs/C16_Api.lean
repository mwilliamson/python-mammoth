/-
  C16 — `apiConvert` with default options; the raw (not yet de-duplicated) style-map warnings.
-/
import Proofs.C03_Lemmas
import Proofs.C16_Unique
import Proofs.C08_DefaultMap
import Proofs.C05_Api
namespace Mammoth

/-- the configuration `apiConvert` hands to the converter -/
def c16_apiCfg (p : Package) (base : Option Str) (world : Str → Option Bytes) (o : Options)
    (embedded : Option Str) : Cfg :=
  { styleMap := (readOptions o.styleMap embedded o.includeDefault).1, idPrefix := o.idPrefix.getD [],
    ignoreEmpty := o.ignoreEmpty, imageConv := o.imageConv, archive := archiveBytes p,
    base := base, world := world }

theorem c16_apiCfg_eq : c16_apiCfg = c05_apiCfg := rfl

theorem c16_apiCfg_default (p : Package) (base : Option Str) (world : Str → Option Bytes) :
    c16_apiCfg p base world {} none =
      { styleMap := c08_defaultMapValue, archive := archiveBytes p, base := base, world := world } := by
  unfold c16_apiCfg readOptions
  rw [c08_default_map_value]
  rfl

theorem c16_apiConvert_default (p : Package) (fuel : Nat) (base : Option Str) (world : Str → Option Bytes)
    (tr : Document → Document) (he : readEmbeddedStyleMap p = .ok none) :
    apiConvert p fuel base world tr {} = c05_apiRest p fuel base world tr {} none := by
  rw [c05_apiConvert_eq, if_pos rfl, he]
  rfl

/-- one warning per style-map line that could not be understood, in order, duplicates kept -/
def c16_styleWarnings (text : Str) : List Str :=
  ((styleLines text).map fun l => (l, readStyleMapping l)).filterMap
    fun (l, r) => if r.isNone then some (styleWarning l) else none

theorem c16_readStyleMap_messages (text : Str) :
    (readStyleMap text).2 = unique (c16_styleWarnings text) := rfl

end Mammoth
