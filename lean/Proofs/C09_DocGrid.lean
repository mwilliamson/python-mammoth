/-
  C09 — the document grid of a valid table is total: every position inside the grid has an owner,
  positions outside have none.
-/
import Proofs.C09_LayoutProof
namespace Mammoth

theorem c09_cellAt_isSome (cells : c09_Row) :
    ∀ (ci i x : Nat), ci ≤ x → ((c09_cellAt cells ci i x).isSome = true ↔ x < ci + c09_width cells) := by
  induction cells with
  | nil => intro ci i x h; exact ⟨fun h' => Bool.noConfusion h', fun h' => absurd h' (Nat.not_lt.mpr h)⟩
  | cons d ds ih =>
    intro ci i x h
    rw [c09_width, ← Nat.add_assoc]
    by_cases hlt : x < ci + d.span
    · rw [c09_cellAt_lt ci i x d ds hlt]
      exact ⟨fun _ => Nat.lt_of_lt_of_le hlt (Nat.le_add_right _ _), fun _ => rfl⟩
    · rw [c09_cellAt_ge d ds ci i x hlt, ih _ _ x (Nat.le_of_not_lt hlt)]

/-- if the row above is completely owned, so is this row -/
theorem c09_docRow_isSome (pp prev row : c09_Row) (prevOwn : Nat → Option c09_Id) (y : Nat)
    (hpp : c09_rowOkFrom pp prev 0 = true) (hok : c09_rowOkFrom prev row 0 = true)
    (hown : ∀ x, (c09_cellAt prev 0 0 x).isSome = true → (prevOwn x).isSome = true) (x : Nat) :
    (c09_docRow prevOwn y row x).isSome = true ↔ (c09_cellAt row 0 0 x).isSome = true := by
  cases hc : c09_cellAt row 0 0 x with
  | none => simp [c09_docRow_none hc]
  | some p =>
    obtain ⟨s, i, c⟩ := p
    rw [c09_docRow_some hc]
    cases hd : c.isCont with
    | false => simp
    | true =>
      obtain ⟨i0, c0, h0, _⟩ := c09_cont_above pp prev row x s i c hpp hok hc hd
      have := hown x (by simp [h0])
      simpa using this

theorem c09_docRows_isSome (rest : List c09_Row) :
    ∀ (pp prev : c09_Row) (prevOwn : Nat → Option c09_Id) (y : Nat), c09_rowOkFrom pp prev 0 = true →
      c09_validFrom prev rest = true →
      (∀ x, (c09_cellAt prev 0 0 x).isSome = true → (prevOwn x).isSome = true) →
      ∀ j x, (c09_ownAt (c09_docRows prevOwn y rest) j x).isSome = true ↔
        ∃ row, rest[j]? = some row ∧ x < c09_width row := by
  induction rest with
  | nil => intro pp prev prevOwn y _ _ _ j x; simp [c09_docRows, c09_ownAt]
  | cons row rest ih =>
    intro pp prev prevOwn y hpp hv hown j x
    simp only [c09_validFrom, Bool.and_eq_true] at hv
    have hrow := c09_docRow_isSome pp prev row prevOwn y hpp hv.1 hown
    cases j with
    | zero =>
      simp only [c09_docRows, c09_ownAt, List.getElem?_cons_zero, Option.some.injEq, exists_eq_left']
      rw [hrow x, c09_cellAt_isSome row 0 0 x (Nat.zero_le _)]; simp
    | succ j =>
      have := ih prev row (c09_docRow prevOwn y row) (y + 1) hv.1 hv.2 (fun x h => (hrow x).mpr h) j x
      simpa [c09_docRows, c09_ownAt] using this

theorem c09_docGrid_isSome (rows : List c09_Row) (hv : c09_validFrom [] rows = true) (y x : Nat) :
    (c09_docGrid rows y x).isSome = true ↔ ∃ row, rows[y]? = some row ∧ x < c09_width row :=
  c09_docRows_isSome rows [] [] (fun _ => none) 0 rfl hv (fun x h => by simp [c09_cellAt] at h) y x

end Mammoth
