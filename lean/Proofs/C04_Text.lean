/-
  C04 — text content under `collapse` for ALL forests (separators included).

  * `IsDecoL ns s` : `s` is the text of `ns` with, in front of the content of SOME collapsible elements,
    that element's own separator inserted (a relation defined by recursion over the input forest; it does not
    mention the algorithm).  `isDecoL_collapse : IsDecoL ns (textOfL (collapse ns))`.
  * conservation: text length + total separator length of the elements present is the same before and after:
    every element that disappears (is merged) leaves exactly its separator.
-/
import Proofs.Stable
namespace Mammoth

/-- the separator string of a tag (`[]` when there is none) -/
def sepStr (t : Tag) : Str :=
  match t.separator with
  | some s => s
  | none => []

theorem textOfL_sepText (t : Tag) : textOfL (sepText t) = sepStr t := by
  unfold sepText sepStr
  cases t.separator with
  | none => simp
  | some s =>
    by_cases h : s.isEmpty
    · have := List.isEmpty_iff.mp h
      subst this; simp
    · simp [h]

mutual
/-- `IsDeco n s`: `s` is the text of `n` where each element may be preceded — directly in front of its
    content — by its own separator, provided it is collapsible (not `:fresh`) -/
def IsDeco : Node → Str → Prop
  | .text x, s => s = x
  | .forceWrite, s => s = []
  | .elem t cs, s => IsDecoL cs s ∨ (t.collapsible = true ∧ ∃ s', s = sepStr t ++ s' ∧ IsDecoL cs s')
def IsDecoL : List Node → Str → Prop
  | [], s => s = []
  | c :: cs, s => ∃ a b, s = a ++ b ∧ IsDeco c a ∧ IsDecoL cs b
end

theorem isDecoL_nil (s : Str) : IsDecoL [] s ↔ s = [] := by simp [IsDecoL]
theorem isDecoL_cons (c : Node) (cs : List Node) (s : Str) :
    IsDecoL (c :: cs) s ↔ ∃ a b, s = a ++ b ∧ IsDeco c a ∧ IsDecoL cs b := by simp [IsDecoL]
theorem isDeco_elem (t : Tag) (cs : List Node) (s : Str) :
    IsDeco (.elem t cs) s ↔
      (IsDecoL cs s ∨ (t.collapsible = true ∧ ∃ s', s = sepStr t ++ s' ∧ IsDecoL cs s')) := by
  simp [IsDeco]

theorem isDecoL_append (xs ys : List Node) (s : Str) :
    IsDecoL (xs ++ ys) s ↔ ∃ a b, s = a ++ b ∧ IsDecoL xs a ∧ IsDecoL ys b := by
  induction xs generalizing s with
  | nil =>
    simp only [List.nil_append, isDecoL_nil]
    constructor
    · intro h; exact ⟨[], s, by simp, rfl, h⟩
    · rintro ⟨a, b, rfl, rfl, hb⟩; simpa using hb
  | cons x xs ih =>
    simp only [List.cons_append, isDecoL_cons]
    constructor
    · rintro ⟨a, b, rfl, ha, hb⟩
      obtain ⟨b1, b2, rfl, h1, h2⟩ := (ih b).mp hb
      exact ⟨a ++ b1, b2, by simp, ⟨a, b1, rfl, ha, h1⟩, h2⟩
    · rintro ⟨a, b, rfl, ⟨a1, a2, rfl, h1, h2⟩, hb⟩
      exact ⟨a1, a2 ++ b, by simp, h1, (ih _).mpr ⟨a2, b, rfl, h2, hb⟩⟩

theorem isDecoL_single (n : Node) (s : Str) : IsDecoL [n] s ↔ IsDeco n s := by
  simp only [isDecoL_cons, isDecoL_nil]
  constructor
  · rintro ⟨a, b, rfl, ha, rfl⟩; simpa using ha
  · intro h; exact ⟨s, [], by simp, h, rfl⟩

theorem isDecoL_sepText (t : Tag) (s : Str) : IsDecoL (sepText t) s ↔ s = sepStr t := by
  rw [← textOfL_sepText]
  rcases sepText_cases t with e | ⟨x, _, e⟩ <;> simp [e, isDecoL_nil, isDecoL_single, IsDeco]

/-! the undecorated text is a decoration -/
mutual
theorem isDeco_plain (n : Node) : IsDeco n (textOf n) := by
  match n with
  | .text s => simp [IsDeco]
  | .forceWrite => simp [IsDeco]
  | .elem t cs => rw [isDeco_elem]; left; simpa using isDecoL_plain cs
theorem isDecoL_plain (ns : List Node) : IsDecoL ns (textOfL ns) := by
  match ns with
  | [] => simp [IsDecoL]
  | c :: cs => rw [isDecoL_cons]; exact ⟨_, _, by simp, isDeco_plain c, isDecoL_plain cs⟩
end

/-! ### merging only shrinks the set of decorations -/
theorem isDecoL_addAllC (acc ns : List Node) (s : Str) (h : IsDecoL (addAllC acc ns) s) :
    ∃ a b, s = a ++ b ∧ IsDecoL acc a ∧ IsDecoL ns b := by
  refine addAllC_induct
    (M := fun acc ns out => ∀ s, IsDecoL out s → ∃ a b, s = a ++ b ∧ IsDecoL acc a ∧ IsDecoL ns b)
    (fun _ s h => ⟨s, [], by simp, h, (isDecoL_nil _).mpr rfl⟩) ?_ ?_ acc ns s h
  · intro acc n ns out _ ih s h
    obtain ⟨a, b, rfl, ha, hb⟩ := ih s h
    obtain ⟨a1, a2, rfl, h1, h2⟩ := (isDecoL_append _ _ _).mp ha
    exact ⟨a1, a2 ++ b, by simp, h1, (isDecoL_cons _ _ _).mpr ⟨a2, b, rfl, (isDecoL_single _ _).mp h2, hb⟩⟩
  · intro init lt lcs t cs ns out hc _ ihc ih s h
    obtain ⟨a, b, rfl, ha, hb⟩ := ih s h
    obtain ⟨a1, a2, rfl, h1, h2⟩ := (isDecoL_append _ _ _).mp ha
    rw [isDecoL_single, isDeco_elem] at h2
    -- in either case `a2 = p ++ x` with `x` a decoration of the merged children and `p` an admissible
    -- prefix for `lt`; `x` splits into a decoration of `lcs`, the separator of `t`, a decoration of `cs`
    have key : ∀ x, IsDecoL (addAllC (lcs ++ sepText t) cs) x →
        ∃ u1 v, x = u1 ++ (sepStr t ++ v) ∧ IsDecoL lcs u1 ∧ IsDecoL cs v := by
      intro x hx
      obtain ⟨u, v, rfl, hu, hv⟩ := ihc x hx
      obtain ⟨u1, u2, rfl, hu1, hu2⟩ := (isDecoL_append _ _ _).mp hu
      rw [isDecoL_sepText] at hu2
      subst hu2
      exact ⟨u1, v, by simp, hu1, hv⟩
    have hn : ∀ v, IsDecoL cs v → IsDecoL (.elem t cs :: ns) ((sepStr t ++ v) ++ b) := fun v hv =>
      (isDecoL_cons _ _ _).mpr ⟨_, b, rfl, (isDeco_elem _ _ _).mpr (Or.inr ⟨hc, v, rfl, hv⟩), hb⟩
    have hl : ∀ u, IsDeco (.elem lt lcs) u → IsDecoL (init ++ [.elem lt lcs]) (a1 ++ u) := fun u hu =>
      (isDecoL_append _ _ _).mpr ⟨a1, u, rfl, h1, (isDecoL_single _ _).mpr hu⟩
    cases h2 with
    | inl hx =>
      obtain ⟨u1, v, rfl, hu1, hv⟩ := key _ hx
      exact ⟨a1 ++ u1, _, by simp, hl _ ((isDeco_elem _ _ _).mpr (Or.inl hu1)), hn v hv⟩
    | inr hx =>
      obtain ⟨hlc, x, rfl, hx⟩ := hx
      obtain ⟨u1, v, rfl, hu1, hv⟩ := key _ hx
      exact ⟨a1 ++ (sepStr lt ++ u1), _, by simp,
        hl _ ((isDeco_elem _ _ _).mpr (Or.inr ⟨hlc, u1, rfl, hu1⟩)), hn v hv⟩

theorem isDecoL_addC (acc : List Node) (n : Node) (s : Str) (h : IsDecoL (addC acc n) s) :
    ∃ a b, s = a ++ b ∧ IsDecoL acc a ∧ IsDeco n b := by
  obtain ⟨a, b, rfl, ha, hb⟩ := isDecoL_addAllC acc [n] s h
  exact ⟨a, b, rfl, ha, (isDecoL_single _ _).mp hb⟩

mutual
theorem isDeco_collapseNode (n : Node) (s : Str) (h : IsDeco (collapseNode n) s) : IsDeco n s := by
  match n with
  | .text x => simpa [collapseNode] using h
  | .forceWrite => simpa [collapseNode] using h
  | .elem t cs =>
    simp only [collapseNode] at h
    rw [isDeco_elem] at h ⊢
    have key : ∀ x, IsDecoL (collapseFrom [] cs) x → IsDecoL cs x := by
      intro x hx
      obtain ⟨a, b, rfl, ha, hb⟩ := isDecoL_collapseFrom [] cs x hx
      rw [isDecoL_nil] at ha; subst ha; simpa using hb
    cases h with
    | inl h => exact Or.inl (key _ h)
    | inr h =>
      obtain ⟨hc, x, rfl, hx⟩ := h
      exact Or.inr ⟨hc, x, rfl, key _ hx⟩
theorem isDecoL_collapseFrom (acc ns : List Node) (s : Str) (h : IsDecoL (collapseFrom acc ns) s) :
    ∃ a b, s = a ++ b ∧ IsDecoL acc a ∧ IsDecoL ns b := by
  match ns with
  | [] => exact ⟨s, [], by simp, by simpa [collapseFrom] using h, by simp [IsDecoL]⟩
  | c :: cs =>
    unfold collapseFrom at h
    obtain ⟨a, b, rfl, ha, hb⟩ := isDecoL_collapseFrom (addC acc (collapseNode c)) cs s h
    obtain ⟨a1, a2, rfl, h1, h2⟩ := isDecoL_addC acc (collapseNode c) a ha
    exact ⟨a1, a2 ++ b, by simp, h1,
      (isDecoL_cons _ _ _).mpr ⟨a2, b, rfl, isDeco_collapseNode c a2 h2, hb⟩⟩
end

/-- every decoration of the collapsed forest is a decoration of the original one -/
theorem isDecoL_of_collapse (ns : List Node) (s : Str) (h : IsDecoL (collapse ns) s) : IsDecoL ns s := by
  obtain ⟨a, b, rfl, ha, hb⟩ := isDecoL_collapseFrom [] ns s h
  rw [isDecoL_nil] at ha; subst ha; simpa using hb

/-- the text of the collapsed forest is the original text with separators inserted only in front of the
    content of collapsible elements, each its own -/
theorem isDecoL_collapse (ns : List Node) : IsDecoL ns (textOfL (collapse ns)) :=
  isDecoL_of_collapse ns _ (isDecoL_plain _)

/-! ### what a decoration is: consequences -/
mutual
theorem sublist_of_isDeco (n : Node) (s : Str) (h : IsDeco n s) : (textOf n).Sublist s := by
  match n with
  | .text x => simp only [IsDeco] at h; subst h; simp
  | .forceWrite => simp
  | .elem t cs =>
    rw [isDeco_elem] at h
    rw [textOf_elem]
    cases h with
    | inl h => exact sublistL_of_isDecoL cs s h
    | inr h =>
      obtain ⟨_, x, rfl, hx⟩ := h
      exact (sublistL_of_isDecoL cs x hx).trans (List.sublist_append_right _ _)
theorem sublistL_of_isDecoL (ns : List Node) (s : Str) (h : IsDecoL ns s) : (textOfL ns).Sublist s := by
  match ns with
  | [] => simp
  | c :: cs =>
    rw [isDecoL_cons] at h
    obtain ⟨a, b, rfl, ha, hb⟩ := h
    rw [textOfL_cons]
    exact List.Sublist.append (sublist_of_isDeco c a ha) (sublistL_of_isDecoL cs b hb)
end

mutual
theorem eq_of_isDeco_noSep (n : Node) (s : Str) (h : IsDeco n s) (hn : noSep n = true) : s = textOf n := by
  match n with
  | .text x => simpa [IsDeco] using h
  | .forceWrite => simpa [IsDeco] using h
  | .elem t cs =>
    simp only [noSep, Bool.and_eq_true] at hn
    have hs : sepStr t = [] := by rw [← textOfL_sepText, List.isEmpty_iff.mp hn.1, textOfL_nil]
    rw [isDeco_elem] at h
    rw [textOf_elem]
    cases h with
    | inl h => exact eq_of_isDecoL_noSep cs s h hn.2
    | inr h =>
      obtain ⟨_, x, rfl, hx⟩ := h
      rw [hs]; simpa using eq_of_isDecoL_noSep cs x hx hn.2
theorem eq_of_isDecoL_noSep (ns : List Node) (s : Str) (h : IsDecoL ns s) (hn : noSepL ns = true) :
    s = textOfL ns := by
  match ns with
  | [] => simpa [IsDecoL] using h
  | c :: cs =>
    simp only [noSepL, Bool.and_eq_true] at hn
    rw [isDecoL_cons] at h
    obtain ⟨a, b, rfl, ha, hb⟩ := h
    rw [textOfL_cons, eq_of_isDeco_noSep c a ha hn.1, eq_of_isDecoL_noSep cs b hb hn.2]
end

/-! ### conservation: every merged element leaves exactly its separator -/
mutual
/-- total length of the separators of all elements of the forest -/
def sepWeight : Node → Nat
  | .elem t cs => (textOfL (sepText t)).length + sepWeightL cs
  | _ => 0
def sepWeightL : List Node → Nat
  | [] => 0
  | c :: cs => sepWeight c + sepWeightL cs
end

/-- text length plus separator weight -/
def mass (ns : List Node) : Nat := (textOfL ns).length + sepWeightL ns

theorem sepWeightL_append (a b : List Node) : sepWeightL (a ++ b) = sepWeightL a + sepWeightL b := by
  induction a with
  | nil => simp [sepWeightL]
  | cons x xs ih => simp [sepWeightL, ih, Nat.add_assoc]

theorem mass_append (a b : List Node) : mass (a ++ b) = mass a + mass b := by
  simp only [mass, textOfL_append, List.length_append, sepWeightL_append]; omega

theorem mass_elem (t : Tag) (cs : List Node) :
    mass [.elem t cs] = (textOfL (sepText t)).length + mass cs := by
  simp [mass, sepWeightL, sepWeight]; omega

theorem mass_sepText (t : Tag) : mass (sepText t) = (textOfL (sepText t)).length := by
  rcases sepText_cases t with e | ⟨s, _, e⟩ <;> simp [e, mass, sepWeightL, sepWeight]

theorem mass_cons (c : Node) (cs : List Node) : mass (c :: cs) = mass [c] + mass cs :=
  mass_append [c] cs

theorem mass_addAllC (acc ns : List Node) : mass (addAllC acc ns) = mass acc + mass ns := by
  refine addAllC_induct (M := fun acc ns out => mass out = mass acc + mass ns)
    (fun _ => by simp [mass, sepWeightL]) ?_ ?_ acc ns
  · intro acc n ns out _ ih
    rw [ih, mass_append, mass_cons n ns, Nat.add_assoc]
  · intro init lt lcs t cs ns out _ _ ihc ih
    -- the separator of `t` moves from the weight of the vanished element into the text
    rw [ih, mass_cons _ ns, mass_append, mass_append, mass_elem, mass_elem, mass_elem, ihc, mass_append,
      mass_sepText]
    omega

theorem mass_addC (acc : List Node) (n : Node) : mass (addC acc n) = mass acc + mass [n] :=
  mass_addAllC acc [n]

mutual
theorem mass_collapseNode (n : Node) : mass [collapseNode n] = mass [n] := by
  match n with
  | .text s => simp [collapseNode]
  | .forceWrite => simp [collapseNode]
  | .elem t cs =>
    have := mass_collapseFrom [] cs
    simp only [collapseNode, mass_elem, this]
    simp [mass, sepWeightL]
theorem mass_collapseFrom (acc ns : List Node) : mass (collapseFrom acc ns) = mass acc + mass ns := by
  match ns with
  | [] => simp [collapseFrom, mass, sepWeightL]
  | c :: cs =>
    unfold collapseFrom
    rw [mass_collapseFrom (addC acc (collapseNode c)) cs, mass_addC, mass_collapseNode c, mass_cons c cs,
      Nat.add_assoc]
end

end Mammoth
