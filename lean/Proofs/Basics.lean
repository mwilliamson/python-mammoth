/-
Elementary facts about the model's basic data structures (`lookupLast`, `Dict`, `unique`, `startsWith`) and
about successful runs in `Except ε` and `StateT σ (Except ε)` (the converter's `ConvM` is an instance).
-/
import MammothModel.Basic
namespace Mammoth

/-! ### `lookupLast` -/

theorem lookupLast_mem {α β} [DecidableEq α] {k : α} {l : List (α × β)} {v : β}
    (h : lookupLast k l = some v) : (k, v) ∈ l := by
  induction l with
  | nil => cases h
  | cons a l ih =>
    obtain ⟨k', v'⟩ := a
    simp only [lookupLast] at h
    split at h
    · rename_i w hw; cases h; exact List.mem_cons_of_mem _ (ih hw)
    · split at h
      · rename_i hk; cases h; subst hk; exact List.mem_cons_self
      · cases h

theorem lookupLast_isSome_of_mem {α β} [DecidableEq α] (k : α) (l : List (α × β))
    (h : k ∈ l.map (·.1)) : (lookupLast k l).isSome = true := by
  induction l with
  | nil => simp at h
  | cons a l ih =>
    obtain ⟨k', v'⟩ := a
    simp only [lookupLast]
    cases hl : lookupLast k l with
    | some w => rfl
    | none =>
      simp only [List.map_cons, List.mem_cons] at h
      rcases h with h | h
      · subst h; simp
      · have := ih h; rw [hl] at this; cases this

theorem lookupLast_append {α β} [DecidableEq α] (k : α) (a b : List (α × β)) :
    lookupLast k (a ++ b) = (lookupLast k b).or (lookupLast k a) := by
  induction a with
  | nil => simp [lookupLast]
  | cons hd tl ih =>
    obtain ⟨k', v⟩ := hd
    simp only [List.cons_append, lookupLast, ih]
    cases lookupLast k b <;> simp

theorem Dict.get?_insert {β} (k k' : Str) (v : β) (d : Dict β) :
    Dict.get? k (Dict.insert k' v d) = if k = k' then some v else Dict.get? k d := by
  induction d with
  | nil => simp [Dict.insert, Dict.get?]
  | cons hd tl ih =>
    obtain ⟨k'', v''⟩ := hd
    simp only [Dict.insert]
    split
    · subst_vars; simp only [Dict.get?]; split <;> rfl
    · split
      · simp only [Dict.get?]
      · simp only [Dict.get?, ih]
        split
        · split
          · subst_vars; contradiction
          · rfl
        · rfl

theorem Dict.get?_foldl {β} (k : Str) (kvs : List (Str × β)) (d : Dict β) :
    Dict.get? k (kvs.foldl (fun d kv => Dict.insert kv.1 kv.2 d) d) =
      (lookupLast k kvs).or (Dict.get? k d) := by
  induction kvs generalizing d with
  | nil => simp [lookupLast]
  | cons hd tl ih =>
    obtain ⟨k', v⟩ := hd
    simp only [List.foldl_cons, ih, Dict.get?_insert, lookupLast]
    cases lookupLast k tl <;> simp
    split <;> simp

/-- a dictionary built from pairs answers like Python's `dict(pairs)` -/
theorem Dict.get?_ofList {β} (k : Str) (kvs : List (Str × β)) :
    Dict.get? k (Dict.ofList kvs) = lookupLast k kvs := by
  simp [Dict.ofList, Dict.get?_foldl, Dict.get?]

/-! ### `unique` -/

theorem mem_uniqueAux {α} [DecidableEq α] {x : α} {seen xs : List α} :
    x ∈ uniqueAux seen xs ↔ x ∈ xs ∧ x ∉ seen := by
  induction xs generalizing seen with
  | nil => simp [uniqueAux]
  | cons y ys ih =>
    unfold uniqueAux
    by_cases hy : y ∈ seen
    · simp only [hy, if_true, ih, List.mem_cons]
      constructor
      · rintro ⟨h1, h2⟩; exact ⟨Or.inr h1, h2⟩
      · rintro ⟨h1 | h1, h2⟩
        · subst h1; exact absurd hy h2
        · exact ⟨h1, h2⟩
    · simp only [hy, if_false, List.mem_cons, ih, not_or]
      constructor
      · rintro (h | ⟨h1, h2, h3⟩)
        · subst h; exact ⟨Or.inl rfl, hy⟩
        · exact ⟨Or.inr h1, h3⟩
      · rintro ⟨h1 | h1, h2⟩
        · exact Or.inl h1
        · by_cases hx : x = y
          · exact Or.inl hx
          · exact Or.inr ⟨h1, hx, h2⟩

theorem mem_unique {α} [DecidableEq α] {x : α} {xs : List α} : x ∈ unique xs ↔ x ∈ xs := by
  simp [unique, mem_uniqueAux]

/-! ### `startsWith` -/

theorem startsWith_iff (s p : Str) : startsWith s p = true ↔ ∃ r, s = p ++ r := by
  induction p generalizing s with
  | nil => simp [startsWith]
  | cons c p ih =>
    cases s with
    | nil => simp [startsWith]
    | cons d s =>
      simp only [startsWith, Bool.and_eq_true, beq_iff_eq, ih, List.cons_append, List.cons.injEq]
      constructor
      · rintro ⟨h, r, hr⟩; exact ⟨r, h, hr⟩
      · rintro ⟨r, h, hr⟩; exact ⟨h, r, hr⟩

theorem andL_append {α} {p : α → Bool} {pL : List α → Bool} (hnil : pL [] = true)
    (hcons : ∀ x xs, pL (x :: xs) = (p x && pL xs)) (xs ys : List α) : pL (xs ++ ys) = (pL xs && pL ys) := by
  induction xs with
  | nil => rw [List.nil_append, hnil, Bool.true_and]
  | cons x xs ih => rw [List.cons_append, hcons, hcons, ih, Bool.and_assoc]

theorem bind_ok {ε α β} {x : Except ε α} {f : α → Except ε β} {b : β} (h : (x >>= f) = .ok b) :
    ∃ a, x = .ok a ∧ f a = .ok b := by
  cases x with
  | error e => cases h
  | ok a => exact ⟨a, rfl, h⟩

theorem bind_err {ε α β} {x : Except ε α} {f : α → Except ε β} {e : ε} (h : (x >>= f) = .error e) :
    x = .error e ∨ ∃ a, x = .ok a ∧ f a = .error e := by
  cases x with
  | error e' => cases h; exact .inl rfl
  | ok a => exact .inr ⟨a, rfl, h⟩

theorem mapM_mem {ε α β} (f : α → Except ε β) : ∀ {l : List α} {bs : List β}, l.mapM f = .ok bs →
    ∀ b ∈ bs, ∃ a ∈ l, f a = .ok b
  | [], bs, h, b, hb => by
    cases h
    cases hb
  | a :: l, bs, h, b, hb => by
    rw [List.mapM_cons] at h
    obtain ⟨b1, hfa, h⟩ := bind_ok h
    obtain ⟨bs1, hl, h⟩ := bind_ok h
    cases h
    rcases List.mem_cons.mp hb with rfl | hb'
    · exact ⟨a, List.mem_cons_self, hfa⟩
    · obtain ⟨a', ha', hfa'⟩ := mapM_mem f hl b hb'
      exact ⟨a', List.mem_cons_of_mem _ ha', hfa'⟩

theorem mapM_ok {ε α β} (f : α → Except ε β) (l : List α) (h : ∀ a ∈ l, ∃ b, f a = .ok b) :
    ∃ bs, l.mapM f = .ok bs := by
  induction l with
  | nil => exact ⟨[], rfl⟩
  | cons a l ih =>
    obtain ⟨b, hb⟩ := h a List.mem_cons_self
    obtain ⟨bs, hbs⟩ := ih (fun a' ha' => h a' (List.mem_cons_of_mem _ ha'))
    refine ⟨b :: bs, ?_⟩
    rw [List.mapM_cons, hb, hbs]
    rfl

/-! ### running `StateT σ (Except ε)`: `m.run st`, and the same equations for the bare application `m st` -/

theorem run_bind {σ ε α β} (m : StateT σ (Except ε) α) (f : α → StateT σ (Except ε) β) (st : σ) :
    (m >>= f).run st = match m.run st with
      | .ok (a, s) => (f a).run s
      | .error e => .error e := by
  rw [StateT.run_bind]
  cases m.run st <;> rfl

theorem run_pure {σ ε α} (a : α) (st : σ) : (pure a : StateT σ (Except ε) α).run st = .ok (a, st) := rfl
theorem run_modify {σ ε} (f : σ → σ) (st : σ) : (modify f : StateT σ (Except ε) PUnit).run st = .ok (⟨⟩, f st) := rfl
theorem run_get {σ ε} (st : σ) : (get : StateT σ (Except ε) σ).run st = .ok (st, st) := rfl
theorem run_throw {σ ε α} (e : ε) (st : σ) : (throw e : StateT σ (Except ε) α).run st = .error e := rfl

theorem run_bind_ok {σ ε α β} {m : StateT σ (Except ε) α} {f : α → StateT σ (Except ε) β} {st st' : σ} {b : β} :
    (m >>= f).run st = .ok (b, st') ↔ ∃ a s, m.run st = .ok (a, s) ∧ (f a).run s = .ok (b, st') := by
  rw [run_bind]
  cases m.run st with
  | error e => exact ⟨nofun, nofun⟩
  | ok p =>
    constructor
    · intro h; exact ⟨p.1, p.2, rfl, h⟩
    · rintro ⟨_, _, e, h⟩; cases e; exact h

theorem run_pure_ok {σ ε α} {a b : α} {s s' : σ} :
    (pure a : StateT σ (Except ε) α).run s = .ok (b, s') ↔ a = b ∧ s = s' := by
  rw [run_pure, Except.ok.injEq, Prod.mk.injEq]

theorem app_bind {σ ε α β} (m : StateT σ (Except ε) α) (f : α → StateT σ (Except ε) β) (st : σ) :
    (m >>= f) st = match m st with
      | .ok (a, s) => f a s
      | .error e => .error e :=
  run_bind m f st

theorem app_pure {σ ε α} (a : α) (st : σ) : (pure a : StateT σ (Except ε) α) st = .ok (a, st) := rfl
theorem app_modify {σ ε} (f : σ → σ) (st : σ) : (modify f : StateT σ (Except ε) PUnit) st = .ok (⟨⟩, f st) := rfl
theorem app_get {σ ε} (st : σ) : (get : StateT σ (Except ε) σ) st = .ok (st, st) := rfl
theorem app_throw {σ ε α} (e : ε) (st : σ) : (throw e : StateT σ (Except ε) α) st = .error e := rfl

theorem app_bind_ok {σ ε α β} {m : StateT σ (Except ε) α} {f : α → StateT σ (Except ε) β} {st st' : σ} {b : β}
    (h : (m >>= f) st = .ok (b, st')) : ∃ a s, m st = .ok (a, s) ∧ f a s = .ok (b, st') :=
  run_bind_ok.mp h

theorem app_map {σ ε α β} (m : StateT σ (Except ε) α) (f : α → β) (st : σ) :
    (m >>= fun a => pure (f a)) st = (m st).map fun r => (f r.1, r.2) := by
  rw [app_bind]
  cases m st <;> rfl

theorem map_keepState_ok {ε σ α β} {x : Except ε (α × σ)} {g : α × σ → β} {b : β}
    {st' : σ} (h : x.map (fun r => (g r, r.2)) = .ok (b, st')) : ∃ a, x = .ok (a, st') := by
  cases x with
  | error e => cases h
  | ok r => cases h; exact ⟨_, rfl⟩

end Mammoth
