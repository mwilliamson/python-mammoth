/-
  C10, the whole output forest: the labels of the note references, in closed form.
-/
import Proofs.C10_GlobalProps
namespace Mammoth

/-- `[k]` -/
def c10_label (k : Nat) : Str := ['['] ++ natToStr k ++ [']']

/-- the anchors of a list of note references met from counter `n` on: the k-th is labelled `[n+k]` -/
def c10_noteAnchors (cfg : Cfg) (n : Nat) (refs : List (Str × Str)) : List (Str × Str × Str) :=
  (refs.zipIdx (n + 1)).map fun p =>
    (referenceId cfg p.1.1 p.1.2, ['#'] ++ referentId cfg p.1.1 p.1.2, c10_label p.2)

/-- without comment-reference events the anchors are those of the note references -/
theorem c10_evAnchors_notes (cfg : Cfg) (evs : List c10_Ev) (h : c10_evCRefs evs = []) (n c : Nat) :
    c10_evAnchors cfg n c evs = c10_noteAnchors cfg n (c10_evRefs evs) := by
  induction evs generalizing n with
  | nil => rfl
  | cons ev evs ih =>
    cases ev with
    | commentRef id => simp [c10_evCRefs] at h
    | noteRef ty id =>
      rw [c10_evAnchors, ih (by simpa [c10_evCRefs] using h)]
      rfl
    | _ => simpa [c10_evAnchors, c10_evRefs] using ih (by simpa [c10_evCRefs] using h) n

theorem c10_noteAnchors_text (cfg : Cfg) (refs : List (Str × Str)) (n : Nat) :
    (c10_noteAnchors cfg n refs).map (·.2.2) = (List.range' (n + 1) refs.length).map c10_label := by
  rw [c10_noteAnchors, List.map_map, ← List.zipIdx_map_snd (n + 1) refs, List.map_map]
  rfl

theorem c10_noteAnchors_href (cfg : Cfg) (refs : List (Str × Str)) (n : Nat) :
    (c10_noteAnchors cfg n refs).map (·.2.1) = refs.map (fun r => ['#'] ++ referentId cfg r.1 r.2) := by
  rw [c10_noteAnchors, List.map_map]
  conv => rhs; rw [← List.zipIdx_map_fst (n + 1) refs, List.map_map]
  rfl

theorem c10_noteAnchors_id (cfg : Cfg) (refs : List (Str × Str)) (n : Nat) :
    (c10_noteAnchors cfg n refs).map (·.1) = refs.map (fun r => referenceId cfg r.1 r.2) := by
  rw [c10_noteAnchors, List.map_map]
  conv => rhs; rw [← List.zipIdx_map_fst (n + 1) refs, List.map_map]
  rfl

end Mammoth
