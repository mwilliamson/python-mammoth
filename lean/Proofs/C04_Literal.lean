/-
  C04 — the literal (fuelled) transcription of the Python algorithm (`collapseAllPy`, `addPy`,
  `collapseNodePy`: re-collapses the children of the already collapsed node while merging) computes
  the same forest as the structural `collapse` as soon as the fuel exceeds three times the nesting
  depth.  The one place where the two differ — `addPy` calls `collapseAllPy` on the collapsed
  children where `addC` calls `addAllC` — is bridged by idempotence (`collapseNode_of_stable`).
-/
import Proofs.Stable
namespace Mammoth

/-! ### nesting depth -/
mutual
/-- nesting depth of a node: text and force-write markers have depth 0, an element one more than its
    deepest child -/
def nodeDepth : Node → Nat
  | .elem _ cs => nodeDepthL cs + 1
  | _ => 0
def nodeDepthL : List Node → Nat
  | [] => 0
  | c :: cs => max (nodeDepth c) (nodeDepthL cs)
end

@[simp] theorem nodeDepthL_nil : nodeDepthL [] = 0 := by simp [nodeDepthL]
@[simp] theorem nodeDepthL_cons (c : Node) (cs : List Node) :
    nodeDepthL (c :: cs) = max (nodeDepth c) (nodeDepthL cs) := by simp [nodeDepthL]
@[simp] theorem nodeDepth_text (s : Str) : nodeDepth (.text s) = 0 := by simp [nodeDepth]
@[simp] theorem nodeDepth_fw : nodeDepth .forceWrite = 0 := by simp [nodeDepth]
@[simp] theorem nodeDepth_elem (t : Tag) (cs : List Node) : nodeDepth (.elem t cs) = nodeDepthL cs + 1 := by
  simp [nodeDepth]

theorem nodeDepthL_append (a b : List Node) : nodeDepthL (a ++ b) = max (nodeDepthL a) (nodeDepthL b) := by
  induction a with
  | nil => simp
  | cons x xs ih => simp [ih, Nat.max_assoc]

theorem nodeDepthL_sepText (t : Tag) : nodeDepthL (sepText t) = 0 := by
  rcases sepText_cases t with e | ⟨s, _, e⟩ <;> simp [e]

/-! ### merging never deepens the forest -/
/-- stated for an arbitrary bound `d`, so that `max` only ever occurs on the left of `≤` -/
theorem nodeDepthL_addAllC_le (acc ns : List Node) (d : Nat) (ha : nodeDepthL acc ≤ d)
    (hn : nodeDepthL ns ≤ d) : nodeDepthL (addAllC acc ns) ≤ d := by
  refine addAllC_induct
    (M := fun acc ns out => ∀ d, nodeDepthL acc ≤ d → nodeDepthL ns ≤ d → nodeDepthL out ≤ d)
    (fun _ _ ha _ => ha) ?_ ?_ acc ns d ha hn
  · intro acc n ns out _ ih d ha hn
    simp only [nodeDepthL_cons, Nat.max_le] at hn
    exact ih d (by simp [nodeDepthL_append, Nat.max_le, ha, hn.1]) hn.2
  · intro init lt lcs t cs ns out _ _ ihc ih d ha hn
    simp only [nodeDepthL_append, nodeDepthL_cons, nodeDepth_elem, nodeDepthL_nil, Nat.max_le] at ha hn
    cases d with
    | zero => omega
    | succ d =>
      simp only [Nat.add_le_add_iff_right] at ha hn
      have hmid := ihc d (by simp [nodeDepthL_append, nodeDepthL_sepText, ha.2.1]) hn.1
      exact ih _ (by simp [nodeDepthL_append, Nat.max_le, ha.1, hmid]) hn.2

theorem nodeDepthL_addAllC (acc ns : List Node) :
    nodeDepthL (addAllC acc ns) ≤ max (nodeDepthL acc) (nodeDepthL ns) :=
  nodeDepthL_addAllC_le acc ns _ (Nat.le_max_left ..) (Nat.le_max_right ..)

theorem nodeDepthL_addC (acc : List Node) (n : Node) :
    nodeDepthL (addC acc n) ≤ max (nodeDepthL acc) (nodeDepth n) := by
  simpa using nodeDepthL_addAllC acc [n]

mutual
theorem nodeDepth_collapseNode (n : Node) : nodeDepth (collapseNode n) ≤ nodeDepth n := by
  match n with
  | .text s => simp [collapseNode]
  | .forceWrite => simp [collapseNode]
  | .elem t cs =>
    simp only [collapseNode, nodeDepth_elem, Nat.add_le_add_iff_right]
    exact nodeDepthL_collapseFrom_le [] cs _ (by simp) (Nat.le_refl _)
theorem nodeDepthL_collapseFrom_le (acc ns : List Node) (d : Nat) (ha : nodeDepthL acc ≤ d)
    (hn : nodeDepthL ns ≤ d) : nodeDepthL (collapseFrom acc ns) ≤ d := by
  match ns with
  | [] => simpa [collapseFrom] using ha
  | c :: cs =>
    simp only [nodeDepthL_cons, Nat.max_le] at hn
    unfold collapseFrom
    exact nodeDepthL_collapseFrom_le _ cs d
      (Nat.le_trans (nodeDepthL_addC acc _) (Nat.max_le.mpr ⟨ha, Nat.le_trans (nodeDepth_collapseNode c) hn.1⟩))
      hn.2
end

/-! ### on collapsed children, collapsing again is just adding (idempotence at work) -/
theorem collapseFrom_eq_addAllC_of_stable : ∀ (acc cs : List Node), stableL cs = true →
    collapseFrom acc cs = addAllC acc cs
  | acc, [], _ => by simp [collapseFrom]
  | acc, c :: cs, h => by
    rw [stableL_cons_eq] at h
    simp only [Bool.and_eq_true] at h
    unfold collapseFrom
    rw [collapseNode_of_stable c h.1.1, addAllC_cons]
    exact collapseFrom_eq_addAllC_of_stable (addC acc c) cs h.2

/-! ### the literal algorithm -/

/-- a forest of depth 0 consists of text nodes and markers only: nothing merges -/
theorem collapseFrom_depth0 : ∀ (acc ns : List Node), nodeDepthL ns = 0 → collapseFrom acc ns = acc ++ ns
  | acc, [], _ => by simp [collapseFrom]
  | acc, c :: cs, h => by
    rw [nodeDepthL_cons, Nat.max_eq_zero_iff] at h
    have hc : addC acc (collapseNode c) = acc ++ [c] := by
      cases c with
      | text s => exact addC_text acc s
      | forceWrite => exact addC_fw acc
      | elem t cs' => simp at h
    unfold collapseFrom
    rw [hc, collapseFrom_depth0 _ cs h.2, List.append_assoc, List.singleton_append]

/-- the statement for one fuel value: fuel `F` is enough for forests of depth `d` when `3 * d ≤ F + 1`
    (any fuel for depth 0, `3 * d - 1` otherwise; this is sharp, see the examples in Properties/C04) -/
def PyAgrees (F : Nat) : Prop :=
  ∀ (acc ns : List Node), 3 * nodeDepthL ns ≤ F + 1 → collapseAllPy F acc ns = collapseFrom acc ns

theorem collapseNodePy_of (f : Nat) (ih : ∀ g, g < f → PyAgrees g) (n : Node)
    (h : 3 * nodeDepth n ≤ f + 3) : collapseNodePy f n = collapseNode n := by
  match n, f with
  | .text _, 0 | .text _, _+1 | .forceWrite, 0 | .forceWrite, _+1 => simp only [collapseNodePy, collapseNode]
  | .elem t cs, 0 =>
    -- without fuel the node is returned as it is: it has no element children
    rw [nodeDepth_elem] at h
    rw [collapseNodePy, collapseNode, collapseFrom_depth0 [] cs (by omega), List.nil_append]
  | .elem t cs, g+1 =>
    rw [nodeDepth_elem] at h
    rw [collapseNodePy, collapseNode, ih g (by omega) [] cs (by omega)]

theorem addPy_of (F : Nat) (ih : ∀ g, g < F → PyAgrees g) (acc : List Node) (n : Node)
    (h : 3 * nodeDepth n ≤ F + 2) : addPy F acc n = addC acc (collapseNode n) := by
  match F with
  | 0 =>
    rw [addPy]
    cases n with
    | text s => exact (addC_text acc s).symm
    | forceWrite => exact (addC_fw acc).symm
    | elem t cs => rw [nodeDepth_elem] at h; omega
  | f+1 =>
    have hn := collapseNodePy_of f (fun g hg => ih g (by omega)) n (by omega)
    unfold addPy
    rw [hn]
    cases n with
    | text s => exact (addC_text acc s).symm
    | forceWrite => exact (addC_fw acc).symm
    | elem t cs =>
      -- the two differ only where the merged children are added: `collapseAllPy` there collapses the
      -- already collapsed `cs` again, which changes nothing
      rw [nodeDepth_elem] at h
      have hd := nodeDepthL_collapseFrom_le [] cs (nodeDepthL cs) (Nat.zero_le _) (Nat.le_refl _)
      simp only [collapseNode]
      unfold addC
      split
      · split
        · rw [ih f (by omega) _ _ (by omega),
            collapseFrom_eq_addAllC_of_stable _ _ (stableL_collapseFrom [] cs rfl)]
        · rfl
      · rfl

theorem pyAgrees_all (F : Nat) : PyAgrees F := by
  induction F using Nat.strongRecOn with
  | _ F ih =>
    intro acc ns
    induction ns generalizing acc with
    | nil =>
      intro _
      cases F <;> simp [collapseAllPy, collapseFrom]
    | cons c cs ihl =>
      intro h
      match F, ih, ihl with
      | 0, _, _ =>
        simp only [collapseAllPy]
        rw [collapseFrom_depth0 acc (c :: cs) (by omega)]
      | f+1, ih, ihl =>
        simp only [nodeDepthL_cons] at h
        simp only [collapseAllPy, collapseFrom]
        rw [addPy_of f (fun g hg => ih g (by omega)) acc c (by omega)]
        exact ihl _ (by omega)

end Mammoth
