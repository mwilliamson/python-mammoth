/-
  C02 — substitution of strings in a forest: `strip_empty` and `collapse` commute
  with replacing the strings (text, attribute values, separators) of a forest, as long as the
  replacement keeps empty/non-empty apart and keeps distinct attribute values distinct.
-/
import MammothModel.Html
import Proofs.Collapse
namespace Mammoth

/-! ### substitutions -/

/-- A substitution of the strings of a forest: one function for each place where a string sits.
    `attr k v` is the new value of an attribute named `k` whose value is `v`. -/
structure c02_Sub where
  /-- applied to text nodes and to separators (a separator becomes a text node when `collapse` merges) -/
  text : Str → Str
  attr : Str → Str → Str

/-- the same function everywhere -/
def c02_Sub.uniform (σ : Str → Str) : c02_Sub := ⟨σ, fun _ => σ⟩

/-- text and separator strings stay empty / non-empty -/
def c02_Sub.TextOk (σ : c02_Sub) : Prop := ∀ s, (σ.text s).isEmpty = s.isEmpty
/-- distinct values of the same attribute stay distinct -/
def c02_Sub.AttrInj (σ : c02_Sub) : Prop := ∀ k a b, σ.attr k a = σ.attr k b → a = b

/-- values replaced, keys and order kept -/
def c02_mapAttrs (f : Str → Str → Str) : Dict Str → Dict Str
  | [] => []
  | (k, v) :: r => (k, f k v) :: c02_mapAttrs f r

/-- name, alternatives and the collapsible flag are kept -/
def c02_mapTag (σ : c02_Sub) (t : Tag) : Tag :=
  { name := t.name, alts := t.alts, attrs := c02_mapAttrs σ.attr t.attrs,
    collapsible := t.collapsible, separator := t.separator.map σ.text }

mutual
def c02_mapNode (σ : c02_Sub) : Node → Node
  | .text s => .text (σ.text s)
  | .forceWrite => .forceWrite
  | .elem t cs => .elem (c02_mapTag σ t) (c02_mapForest σ cs)
/-- apply the substitution to every text node, attribute value and separator of the forest -/
def c02_mapForest (σ : c02_Sub) : List Node → List Node
  | [] => []
  | c :: cs => c02_mapNode σ c :: c02_mapForest σ cs
end

/-- `mapStrings σ`: the one-function form -/
def c02_mapStrings (σ : Str → Str) (ns : List Node) : List Node := c02_mapForest (c02_Sub.uniform σ) ns

@[simp] theorem c02_mapForest_nil (σ : c02_Sub) : c02_mapForest σ [] = [] := by simp [c02_mapForest]
@[simp] theorem c02_mapForest_cons (σ : c02_Sub) (c : Node) (cs : List Node) :
    c02_mapForest σ (c :: cs) = c02_mapNode σ c :: c02_mapForest σ cs := by simp [c02_mapForest]
@[simp] theorem c02_mapNode_text (σ : c02_Sub) (s : Str) : c02_mapNode σ (.text s) = .text (σ.text s) := by
  simp [c02_mapNode]
@[simp] theorem c02_mapNode_fw (σ : c02_Sub) : c02_mapNode σ .forceWrite = .forceWrite := by
  simp [c02_mapNode]
@[simp] theorem c02_mapNode_elem (σ : c02_Sub) (t : Tag) (cs : List Node) :
    c02_mapNode σ (.elem t cs) = .elem (c02_mapTag σ t) (c02_mapForest σ cs) := by
  simp [c02_mapNode]

theorem c02_mapForest_eq_map (σ : c02_Sub) (a : List Node) : c02_mapForest σ a = a.map (c02_mapNode σ) := by
  induction a with
  | nil => simp
  | cons x xs ih => simp [ih]

theorem c02_mapForest_append (σ : c02_Sub) (a b : List Node) :
    c02_mapForest σ (a ++ b) = c02_mapForest σ a ++ c02_mapForest σ b := by
  simp [c02_mapForest_eq_map]

theorem c02_mapForest_isEmpty (σ : c02_Sub) (a : List Node) : (c02_mapForest σ a).isEmpty = a.isEmpty := by
  cases a <;> simp

theorem c02_mapForest_getLast? (σ : c02_Sub) (a : List Node) :
    (c02_mapForest σ a).getLast? = a.getLast?.map (c02_mapNode σ) := by
  rw [c02_mapForest_eq_map, List.getLast?_map]

@[simp] theorem c02_mapTag_name (σ : c02_Sub) (t : Tag) : (c02_mapTag σ t).name = t.name := rfl
@[simp] theorem c02_mapTag_alts (σ : c02_Sub) (t : Tag) : (c02_mapTag σ t).alts = t.alts := rfl
@[simp] theorem c02_mapTag_names (σ : c02_Sub) (t : Tag) : (c02_mapTag σ t).names = t.names := rfl
@[simp] theorem c02_mapTag_collapsible (σ : c02_Sub) (t : Tag) :
    (c02_mapTag σ t).collapsible = t.collapsible := rfl
@[simp] theorem c02_mapTag_attrs (σ : c02_Sub) (t : Tag) :
    (c02_mapTag σ t).attrs = c02_mapAttrs σ.attr t.attrs := rfl
@[simp] theorem c02_mapTag_separator (σ : c02_Sub) (t : Tag) :
    (c02_mapTag σ t).separator = t.separator.map σ.text := rfl

theorem c02_isVoid_map (σ : c02_Sub) (t : Tag) (cs : List Node) :
    isVoid (c02_mapTag σ t) (c02_mapForest σ cs) = isVoid t cs := by
  simp [isVoid, c02_mapForest_isEmpty]

/-! ### strip_empty -/
mutual
theorem c02_stripNode_map (σ : c02_Sub) (ht : σ.TextOk) (n : Node) :
    stripNode (c02_mapNode σ n) = c02_mapForest σ (stripNode n) := by
  match n with
  | .text s =>
    simp only [c02_mapNode_text, stripNode, ht s]
    split <;> simp
  | .forceWrite => simp [stripNode]
  | .elem t cs =>
    simp only [c02_mapNode_elem, stripNode, c02_stripList_map σ ht cs, c02_mapForest_isEmpty, c02_isVoid_map]
    split <;> simp
theorem c02_stripList_map (σ : c02_Sub) (ht : σ.TextOk) (ns : List Node) :
    stripList (c02_mapForest σ ns) = c02_mapForest σ (stripList ns) := by
  match ns with
  | [] => simp [stripList]
  | c :: cs =>
    simp only [c02_mapForest_cons, stripList, c02_stripNode_map σ ht c, c02_stripList_map σ ht cs,
      c02_mapForest_append]
end

/-! ### collapse -/

theorem c02_mapAttrs_inj (f : Str → Str → Str) (hf : ∀ k a b, f k a = f k b → a = b) :
    ∀ (a b : Dict Str), c02_mapAttrs f a = c02_mapAttrs f b → a = b
  | [], [], _ => rfl
  | [], (k, v) :: r, h => by simp [c02_mapAttrs] at h
  | (k, v) :: r, [], h => by simp [c02_mapAttrs] at h
  | (k, v) :: r, (k', v') :: r', h => by
    simp only [c02_mapAttrs, List.cons.injEq, Prod.mk.injEq] at h
    obtain ⟨⟨hk, hv⟩, hr⟩ := h
    subst hk
    rw [hf k v v' hv, c02_mapAttrs_inj f hf r r' hr]

theorem c02_isMatch_map (σ : c02_Sub) (ha : σ.AttrInj) (a b : Tag) :
    isMatch (c02_mapTag σ a) (c02_mapTag σ b) = isMatch a b := by
  have h : (c02_mapAttrs σ.attr a.attrs == c02_mapAttrs σ.attr b.attrs) = (a.attrs == b.attrs) := by
    rw [Bool.eq_iff_iff]
    simp only [beq_iff_eq]
    exact ⟨c02_mapAttrs_inj σ.attr ha _ _, fun h => by rw [h]⟩
  simp [isMatch, h]

theorem c02_sepText_map (σ : c02_Sub) (hs : σ.TextOk) (t : Tag) :
    sepText (c02_mapTag σ t) = c02_mapForest σ (sepText t) := by
  unfold sepText
  cases h : t.separator with
  | none => simp [h]
  | some s =>
    simp only [c02_mapTag_separator, h, Option.map_some, hs s]
    split <;> simp

theorem c02_mergeable_map (σ : c02_Sub) (ha : σ.AttrInj) (l n : Node) :
    mergeable (c02_mapNode σ l) (c02_mapNode σ n) = mergeable l n := by
  cases l <;> cases n <;> simp [mergeable, c02_isMatch_map σ ha]

theorem c02_addAllC_map (σ : c02_Sub) (ht : σ.TextOk) (ha : σ.AttrInj) (acc ns : List Node) :
    addAllC (c02_mapForest σ acc) (c02_mapForest σ ns) = c02_mapForest σ (addAllC acc ns) := by
  refine addAllC_induct
    (M := fun acc ns out => addAllC (c02_mapForest σ acc) (c02_mapForest σ ns) = c02_mapForest σ out)
    (fun _ => by simp) ?_ ?_ acc ns
  · intro acc n ns out hm ih
    rw [c02_mapForest_cons, addAllC_cons, addC_of_not_mergeable]
    · simpa [c02_mapForest_append] using ih
    · intro l' hl'
      rw [c02_mapForest_getLast?] at hl'
      obtain ⟨l, hl, rfl⟩ := Option.map_eq_some_iff.mp hl'
      rw [c02_mergeable_map σ ha, hm l hl]
  · intro init lt lcs t cs ns out hc hm ihc ih
    rw [c02_mapForest_append, ← c02_sepText_map σ ht] at ihc
    simp only [c02_mapForest_append, c02_mapForest_cons, c02_mapNode_elem, c02_mapForest_nil] at ih ⊢
    rw [addAllC_cons, addC_snoc_merge _ _ _ _ _ (by simpa using hc) (by rw [c02_isMatch_map σ ha]; exact hm), ihc]
    exact ih

theorem c02_addC_map (σ : c02_Sub) (ht : σ.TextOk) (ha : σ.AttrInj) (acc : List Node) (n : Node) :
    addC (c02_mapForest σ acc) (c02_mapNode σ n) = c02_mapForest σ (addC acc n) := by
  simpa using c02_addAllC_map σ ht ha acc [n]

mutual
theorem c02_collapseNode_map (σ : c02_Sub) (ht : σ.TextOk) (ha : σ.AttrInj) (n : Node) :
    collapseNode (c02_mapNode σ n) = c02_mapNode σ (collapseNode n) := by
  match n with
  | .text s => simp [collapseNode]
  | .forceWrite => simp [collapseNode]
  | .elem t cs =>
    simp only [c02_mapNode_elem, collapseNode]
    have := c02_collapseFrom_map σ ht ha [] cs
    simp only [c02_mapForest_nil] at this
    rw [this]
theorem c02_collapseFrom_map (σ : c02_Sub) (ht : σ.TextOk) (ha : σ.AttrInj) (acc ns : List Node) :
    collapseFrom (c02_mapForest σ acc) (c02_mapForest σ ns) = c02_mapForest σ (collapseFrom acc ns) := by
  match ns with
  | [] => simp [collapseFrom]
  | c :: cs =>
    simp only [c02_mapForest_cons, collapseFrom]
    rw [c02_collapseNode_map σ ht ha c, c02_addC_map σ ht ha acc (collapseNode c),
      c02_collapseFrom_map σ ht ha _ cs]
end

end Mammoth
