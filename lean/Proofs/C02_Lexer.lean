/-
  C02 — a strict lexer for exactly the grammar the HTML writer emits, written as a left fold of a
  one-character state transducer, and the lemmas that run it over the pieces of the writer's output.
-/
import Proofs.C02_Escape
import Proofs.C02_Tokens
namespace Mammoth

/-! ### plain names -/

/-- characters allowed in tag names and attribute keys: anything but whitespace and `< > / = " &` -/
def c02_nameChar (c : Char) : Bool :=
  !isSpace c && c != '<' && c != '>' && c != '/' && c != '=' && c != '"' && c != '&'

/-- a non-empty string of name characters -/
def c02_plainName (s : Str) : Bool := !s.isEmpty && s.all c02_nameChar

def c02_plainAttrs (d : Dict Str) : Bool := d.all fun kv => c02_plainName kv.1

mutual
def c02_plainNamesN : Node → Bool
  | .text _ => true
  | .forceWrite => true
  | .elem t cs => c02_plainName t.name && c02_plainAttrs t.attrs && c02_plainNames cs
/-- every tag name and every attribute key of the forest is a plain name (attribute values and text
    are arbitrary) -/
def c02_plainNames : List Node → Bool
  | [] => true
  | c :: cs => c02_plainNamesN c && c02_plainNames cs
end

/-! ### the transducer -/

inductive c02_Mode where
  /-- between tags; `acc` = decoded text since the last tag -/
  | text (acc : Str)
  /-- inside an entity in text; `buf` = characters since the `&` -/
  | ent (acc buf : Str)
  /-- after `<`: reading an element name (`n` = what was read so far) -/
  | name (n : Str)
  /-- inside a start tag, after the name and after the closing quote of each attribute -/
  | attrs (n : Str) (as : List (Str × Str))
  /-- inside a start tag, after a space: an attribute key or `/` must follow -/
  | sp (n : Str) (as : List (Str × Str))
  /-- reading an attribute key -/
  | key (n : Str) (as : List (Str × Str)) (k : Str)
  /-- after `key=`: the opening quote must follow -/
  | eq (n : Str) (as : List (Str × Str)) (k : Str)
  /-- inside a quoted attribute value; `v` = decoded value so far -/
  | val (n : Str) (as : List (Str × Str)) (k v : Str)
  /-- inside an entity in an attribute value -/
  | vent (n : Str) (as : List (Str × Str)) (k v buf : Str)
  /-- after ` /` in a start tag: `>` must follow -/
  | slash (n : Str) (as : List (Str × Str))
  /-- after `</`: reading the name of an end tag -/
  | close (n : Str)
  /-- the input is not in the grammar -/
  | fail
deriving DecidableEq, Repr, Inhabited

structure c02_St where
  toks : List c02_Tok
  mode : c02_Mode
deriving DecidableEq, Repr, Inhabited

/-- the four entity names -/
def c02_entity (buf : Str) : Option Char :=
  if buf = S!"amp" then some '&' else if buf = S!"lt" then some '<'
  else if buf = S!"gt" then some '>' else if buf = S!"quot" then some '"' else none

/-- one character of input -/
def c02_step : c02_St → Char → c02_St
  | ⟨toks, .text acc⟩, c =>
    if c = '<' then ⟨toks ++ c02_flush acc, .name []⟩
    else if c = '&' then ⟨toks, .ent acc []⟩
    else if c = '>' then ⟨toks, .fail⟩
    else if c = '"' then ⟨toks, .fail⟩
    else ⟨toks, .text (acc ++ [c])⟩
  | ⟨toks, .ent acc buf⟩, c =>
    if c = ';' then
      match c02_entity buf with
      | some ch => ⟨toks, .text (acc ++ [ch])⟩
      | none => ⟨toks, .fail⟩
    else ⟨toks, .ent acc (buf ++ [c])⟩
  | ⟨toks, .name n⟩, c =>
    if c02_nameChar c then ⟨toks, .name (n ++ [c])⟩
    else if n.isEmpty then (if c = '/' then ⟨toks, .close []⟩ else ⟨toks, .fail⟩)
    else if c = ' ' then ⟨toks, .sp n []⟩
    else if c = '>' then ⟨toks ++ [.start n []], .text []⟩
    else ⟨toks, .fail⟩
  | ⟨toks, .attrs n as⟩, c =>
    if c = ' ' then ⟨toks, .sp n as⟩
    else if c = '>' then ⟨toks ++ [.start n as], .text []⟩
    else ⟨toks, .fail⟩
  | ⟨toks, .sp n as⟩, c =>
    if c02_nameChar c then ⟨toks, .key n as [c]⟩
    else if c = '/' then ⟨toks, .slash n as⟩
    else ⟨toks, .fail⟩
  | ⟨toks, .key n as k⟩, c =>
    if c02_nameChar c then ⟨toks, .key n as (k ++ [c])⟩
    else if c = '=' then ⟨toks, .eq n as k⟩
    else ⟨toks, .fail⟩
  | ⟨toks, .eq n as k⟩, c =>
    if c = '"' then ⟨toks, .val n as k []⟩ else ⟨toks, .fail⟩
  | ⟨toks, .val n as k v⟩, c =>
    if c = '"' then ⟨toks, .attrs n (as ++ [(k, v)])⟩
    else if c = '&' then ⟨toks, .vent n as k v []⟩
    else if c = '<' then ⟨toks, .fail⟩
    else if c = '>' then ⟨toks, .fail⟩
    else ⟨toks, .val n as k (v ++ [c])⟩
  | ⟨toks, .vent n as k v buf⟩, c =>
    if c = ';' then
      match c02_entity buf with
      | some ch => ⟨toks, .val n as k (v ++ [ch])⟩
      | none => ⟨toks, .fail⟩
    else ⟨toks, .vent n as k v (buf ++ [c])⟩
  | ⟨toks, .slash n as⟩, c =>
    if c = '>' then ⟨toks ++ [.selfClose n as], .text []⟩ else ⟨toks, .fail⟩
  | ⟨toks, .close n⟩, c =>
    if c02_nameChar c then ⟨toks, .close (n ++ [c])⟩
    else if n.isEmpty then ⟨toks, .fail⟩
    else if c = '>' then ⟨toks ++ [.end n], .text []⟩
    else ⟨toks, .fail⟩
  | ⟨toks, .fail⟩, _ => ⟨toks, .fail⟩

/-- the lexer's run: a left fold of `c02_step` -/
def c02_run (st : c02_St) (s : Str) : c02_St := s.foldl c02_step st

/-- Lex a whole document: start between tags with nothing pending, and accept only if the input
    ends between tags.  Text between two tags comes out as ONE decoded text token (none if empty). -/
def c02_lexHtml (s : Str) : Option (List c02_Tok) :=
  match c02_run ⟨[], .text []⟩ s with
  | ⟨toks, .text acc⟩ => some (toks ++ c02_flush acc)
  | _ => none

/-- strip the tags and decode the entities: the concatenated text tokens (`[]` when the input is
    not in the grammar) -/
def c02_htmlText (s : Str) : Str :=
  match c02_lexHtml s with
  | some toks => c02_tokText toks
  | none => []

@[simp] theorem c02_run_nil (st : c02_St) : c02_run st [] = st := rfl
@[simp] theorem c02_run_cons (st : c02_St) (c : Char) (s : Str) :
    c02_run st (c :: s) = c02_run (c02_step st c) s := rfl
theorem c02_run_append (st : c02_St) (a b : Str) : c02_run st (a ++ b) = c02_run (c02_run st a) b := by
  simp [c02_run]

/-! ### facts about name characters -/

theorem c02_nameChar_ne {c : Char} (h : c02_nameChar c = true) :
    c ≠ ' ' ∧ c ≠ '<' ∧ c ≠ '>' ∧ c ≠ '/' ∧ c ≠ '=' ∧ c ≠ '"' ∧ c ≠ '&' := by
  refine ⟨?_, ?_, ?_, ?_, ?_, ?_, ?_⟩ <;> (intro hc; subst hc; revert h; decide)

theorem c02_nameChar_space : c02_nameChar ' ' = false := by decide
theorem c02_nameChar_gt : c02_nameChar '>' = false := by decide
theorem c02_nameChar_slash : c02_nameChar '/' = false := by decide
theorem c02_nameChar_eq : c02_nameChar '=' = false := by decide
theorem c02_nameChar_quot : c02_nameChar '"' = false := by decide

/-! ### running over escaped strings -/

/-- The lexer decodes escaped characters in two places, text between tags and attribute values.
    `m acc` is the decoding mode with `acc` decoded so far, `e acc buf` the mode inside an entity of
    which `buf` has been read. -/
structure c02_Decoding (m : Str → c02_Mode) (e : Str → Str → c02_Mode) : Prop where
  other : ∀ toks acc c, c ≠ '"' → c ≠ '&' → c ≠ '<' → c ≠ '>' →
    c02_step ⟨toks, m acc⟩ c = ⟨toks, m (acc ++ [c])⟩
  amp : ∀ toks acc, c02_step ⟨toks, m acc⟩ '&' = ⟨toks, e acc []⟩
  ent : ∀ toks acc buf c, c02_step ⟨toks, e acc buf⟩ c =
    if c = ';' then
      match c02_entity buf with
      | some ch => ⟨toks, m (acc ++ [ch])⟩
      | none => ⟨toks, .fail⟩
    else ⟨toks, e acc (buf ++ [c])⟩

theorem c02_decoding_text : c02_Decoding .text .ent :=
  ⟨fun _ _ _ h1 h2 h3 h4 => by simp [c02_step, h1, h2, h3, h4], fun _ _ => rfl, fun _ _ _ _ => rfl⟩

theorem c02_decoding_val (n : Str) (as : List (Str × Str)) (k : Str) :
    c02_Decoding (.val n as k) (.vent n as k) :=
  ⟨fun _ _ _ h1 h2 h3 h4 => by simp [c02_step, h1, h2, h3, h4], fun _ _ => rfl, fun _ _ _ _ => rfl⟩

theorem c02_run_escape {m e} (d : c02_Decoding m e) (s : Str) (toks : List c02_Tok) (acc : Str) :
    c02_run ⟨toks, m acc⟩ (escape s) = ⟨toks, m (acc ++ s)⟩ := by
  induction s generalizing acc with
  | nil => simp
  | cons c cs ih =>
    rw [c02_escape_cons, c02_run_append]
    rcases c02_char_cases c with h | h | h | h | ⟨h1, h2, h3, h4⟩
    · subst h; rw [c02_escapeChar_quot]
      simp [d.amp, d.ent, c02_entity, ih]
    · subst h; rw [c02_escapeChar_amp]
      simp [d.amp, d.ent, c02_entity, ih]
    · subst h; rw [c02_escapeChar_lt]
      simp [d.amp, d.ent, c02_entity, ih]
    · subst h; rw [c02_escapeChar_gt]
      simp [d.amp, d.ent, c02_entity, ih]
    · rw [c02_escapeChar_other c h1 h2 h3 h4]
      simp [d.other _ _ c h1 h2 h3 h4, ih]

/-! ### running over names -/

theorem c02_run_name (s : Str) (hs : s.all c02_nameChar = true) (toks : List c02_Tok) (n : Str) :
    c02_run ⟨toks, .name n⟩ s = ⟨toks, .name (n ++ s)⟩ := by
  induction s generalizing n with
  | nil => simp
  | cons c cs ih =>
    simp only [List.all_cons, Bool.and_eq_true] at hs
    simp [c02_step, hs.1, ih hs.2]

theorem c02_run_key (s : Str) (hs : s.all c02_nameChar = true) (toks : List c02_Tok) (n : Str)
    (as : List (Str × Str)) (k : Str) :
    c02_run ⟨toks, .key n as k⟩ s = ⟨toks, .key n as (k ++ s)⟩ := by
  induction s generalizing k with
  | nil => simp
  | cons c cs ih =>
    simp only [List.all_cons, Bool.and_eq_true] at hs
    simp [c02_step, hs.1, ih hs.2]

theorem c02_run_close (s : Str) (hs : s.all c02_nameChar = true) (toks : List c02_Tok) (n : Str) :
    c02_run ⟨toks, .close n⟩ s = ⟨toks, .close (n ++ s)⟩ := by
  induction s generalizing n with
  | nil => simp
  | cons c cs ih =>
    simp only [List.all_cons, Bool.and_eq_true] at hs
    simp [c02_step, hs.1, ih hs.2]

theorem c02_plainName_iff (s : Str) :
    c02_plainName s = true ↔ s.isEmpty = false ∧ s.all c02_nameChar = true := by
  simp [c02_plainName]

/-! ### attributes -/

/-- from the state after a space inside a tag: ` key="escaped value"` (without the space) -/
theorem c02_run_sp_attr (k v : Str) (hk : c02_plainName k = true) (toks : List c02_Tok) (n : Str)
    (as : List (Str × Str)) :
    c02_run ⟨toks, .sp n as⟩ (k ++ S!"=\"" ++ escape v ++ ['"']) = ⟨toks, .attrs n (as ++ [(k, v)])⟩ := by
  obtain ⟨hne, hall⟩ := (c02_plainName_iff k).mp hk
  cases k with
  | nil => cases hne
  | cons c cs =>
    simp only [List.all_cons, Bool.and_eq_true] at hall
    rw [c02_run_append, c02_run_append]
    simp only [List.cons_append, c02_run_cons]
    have h1 : c02_step ⟨toks, .sp n as⟩ c = ⟨toks, .key n as [c]⟩ := by simp [c02_step, hall.1]
    rw [h1, c02_run_append, c02_run_key cs hall.2]
    simp only [c02_run_cons, c02_run_nil]
    have h2 : c02_step ⟨toks, .key n as ([c] ++ cs)⟩ '=' = ⟨toks, .eq n as ([c] ++ cs)⟩ := by
      simp [c02_step, c02_nameChar_eq]
    have h3 : c02_step ⟨toks, .eq n as ([c] ++ cs)⟩ '"' = ⟨toks, .val n as ([c] ++ cs) []⟩ := by
      simp [c02_step]
    rw [h2, h3, c02_run_escape (c02_decoding_val _ _ _)]
    simp [c02_step]

theorem c02_attrString_cons (k v : Str) (rest : Dict Str) :
    attrString ((k, v) :: rest) = [' '] ++ (k ++ S!"=\"" ++ escape v ++ ['"']) ++ attrString rest := by
  simp [attrString]

theorem c02_run_attrs (d : Dict Str) (hd : c02_plainAttrs d = true) (toks : List c02_Tok) (n : Str)
    (as : List (Str × Str)) :
    c02_run ⟨toks, .attrs n as⟩ (attrString d) = ⟨toks, .attrs n (as ++ d)⟩ := by
  induction d generalizing as with
  | nil => simp [attrString]
  | cons kv rest ih =>
    obtain ⟨k, v⟩ := kv
    simp only [c02_plainAttrs, List.all_cons, Bool.and_eq_true] at hd
    rw [c02_attrString_cons, c02_run_append, c02_run_append]
    have h1 : c02_run ⟨toks, .attrs n as⟩ [' '] = ⟨toks, .sp n as⟩ := by simp [c02_step]
    rw [h1, c02_run_sp_attr k v hd.1, ih hd.2]
    simp

/-- right after a (non-empty) element name the attributes are read the same way -/
theorem c02_run_name_attrs (d : Dict Str) (hd : c02_plainAttrs d = true) (toks : List c02_Tok) (n : Str)
    (hne : n.isEmpty = false) (c : Char) (hc : c = ' ' ∨ c = '>') :
    c02_step (c02_run ⟨toks, .name n⟩ (attrString d)) c = c02_step ⟨toks, .attrs n d⟩ c := by
  cases d with
  | nil =>
    rcases hc with rfl | rfl
    · simp [attrString, c02_step, c02_nameChar_space, hne]
    · simp [attrString, c02_step, c02_nameChar_gt, hne]
  | cons kv rest =>
    obtain ⟨k, v⟩ := kv
    have h0 := c02_run_attrs ((k, v) :: rest) hd toks n []
    rw [c02_attrString_cons, List.append_assoc, c02_run_append] at h0 ⊢
    have h1 : c02_run ⟨toks, .name n⟩ [' '] = c02_run ⟨toks, .attrs n []⟩ [' '] := by
      simp [c02_step, c02_nameChar_space, hne]
    rw [h1, h0]
    simp

/-- `<name attrs>` -/
theorem c02_run_startTag (n : Str) (as : Dict Str) (hn : c02_plainName n = true) (hd : c02_plainAttrs as = true)
    (toks : List c02_Tok) (acc : Str) :
    c02_run ⟨toks, .text acc⟩ (['<'] ++ n ++ attrString as ++ ['>'])
      = ⟨toks ++ c02_flush acc ++ [.start n as], .text []⟩ := by
  obtain ⟨hne, hall⟩ := (c02_plainName_iff n).mp hn
  rw [c02_run_append, c02_run_append, c02_run_append]
  have h1 : c02_run ⟨toks, .text acc⟩ ['<'] = ⟨toks ++ c02_flush acc, .name []⟩ := by simp [c02_step]
  rw [h1, c02_run_name _ hall]
  simp only [List.nil_append, c02_run_cons, c02_run_nil]
  rw [c02_run_name_attrs _ hd _ _ hne '>' (Or.inr rfl)]
  simp [c02_step]

/-- `<name attrs />` -/
theorem c02_run_selfClose (n : Str) (as : Dict Str) (hn : c02_plainName n = true) (hd : c02_plainAttrs as = true)
    (toks : List c02_Tok) (acc : Str) :
    c02_run ⟨toks, .text acc⟩ (['<'] ++ n ++ attrString as ++ S!" />")
      = ⟨toks ++ c02_flush acc ++ [.selfClose n as], .text []⟩ := by
  obtain ⟨hne, hall⟩ := (c02_plainName_iff n).mp hn
  rw [c02_run_append, c02_run_append, c02_run_append]
  have h1 : c02_run ⟨toks, .text acc⟩ ['<'] = ⟨toks ++ c02_flush acc, .name []⟩ := by simp [c02_step]
  rw [h1, c02_run_name _ hall]
  simp only [List.nil_append, c02_run_cons, c02_run_nil]
  rw [c02_run_name_attrs _ hd _ _ hne ' ' (Or.inl rfl)]
  simp [c02_step, c02_nameChar_slash]

/-- `</name>` -/
theorem c02_run_endTag (name : Str) (hn : c02_plainName name = true) (toks : List c02_Tok) (acc : Str) :
    c02_run ⟨toks, .text acc⟩ (S!"</" ++ name ++ ['>'])
      = ⟨toks ++ c02_flush acc ++ [.end name], .text []⟩ := by
  obtain ⟨hem, hall⟩ := (c02_plainName_iff name).mp hn
  rw [c02_run_append, c02_run_append]
  have h1 : c02_run ⟨toks, .text acc⟩ S!"</" = ⟨toks ++ c02_flush acc, .close []⟩ := by
    simp [c02_step, c02_nameChar_slash]
  rw [h1, c02_run_close _ hall]
  simp [c02_step, c02_nameChar_gt, hem]

end Mammoth
