/-
  C17 — the public API `mammoth.convert_to_html(package)` taken apart.
-/
import Proofs.C17_Compose
import Proofs.C05_View
import Proofs.C05_Api
namespace Mammoth

/-- the embedded style map `apiConvert` uses -/
def c17_embOf (p : Package) (o : Options) : Option Str :=
  if o.includeEmbedded then
    match readEmbeddedStyleMap p with
    | .ok e => e
    | .error _ => none
  else none

theorem c17_embOf_eq {p : Package} {o : Options} {emb : Option Str}
    (h : (if o.includeEmbedded then readEmbeddedStyleMap p else pure none) = .ok emb) : c17_embOf p o = emb := by
  unfold c17_embOf
  split at h
  · rw [if_pos ‹_›, h]
  · cases h
    exact if_neg ‹_›

/-- the parts of a successful `apiConvert` -/
theorem c17_apiConvert_ok (p : Package) (fuel : Nat) (base : Option Str) (world : Str → Option Bytes)
    (transform : Document → Document) (o : Options) (out : ApiOut)
    (h : apiConvert p fuel base world transform o = .ok out) :
    ∃ doc msgs r, readPackage p fuel = .ok (doc, msgs) ∧
      convertDoc (c05_apiCfg p base world o (c17_embOf p o)) (transform doc) = .ok r ∧
      out.value = writeWith o.format (collapse (stripEmpty r.nodes)) ∧
      out.imageCalls = r.imageCalls ∧ out.nodes = r.nodes ∧ out.document = transform doc := by
  obtain ⟨emb, doc, msgs, r, he, hr, hc, rfl⟩ := c05_apiConvert_ok h
  rw [c17_embOf_eq he]
  exact ⟨doc, msgs, r, hr, hc, rfl, rfl, rfl, rfl⟩

/-- the body reader's run inside `readPackage` -/
theorem c17_readView_ok (v : c05_View) (fuel : Nat) (doc : Document) (msgs : List Str)
    (h : c05_readView v fuel = .ok (doc, msgs)) :
    ∃ r st', readAll { v.shared with rels := v.bodyRels } fuel {} v.body = .ok (r, st') ∧
      doc = ⟨r.elements, doc.notes, doc.comments⟩ := by
  unfold c05_readView at h
  obtain ⟨⟨fns, fm⟩, _, h⟩ := bind_ok h
  obtain ⟨⟨ens, em⟩, _, h⟩ := bind_ok h
  obtain ⟨⟨cms, cm⟩, _, h⟩ := bind_ok h
  obtain ⟨⟨r, st'⟩, hr, h⟩ := bind_ok h
  simp only [pure, Except.pure, Except.ok.injEq, Prod.mk.injEq] at h
  obtain ⟨rfl, _⟩ := h
  exact ⟨r, st', hr, rfl⟩

end Mammoth
