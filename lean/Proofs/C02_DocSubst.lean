/-
  C02 — the converter never inspects the strings of text runs: replacing every `Text.value` of a
  document (body, notes, comments) by another string that is empty exactly when the original is
  yields the same forest up to the strings of its text leaves, the same errors and the same
  warnings.  (A simulation between the two runs of the visitor.)
-/
import Proofs.C01_Refine
import Proofs.C02_Subst
namespace Mammoth

/-! ### substitution of text runs in a document -/

mutual
def c02_mapElem (σ : Str → Str) : Elem → Elem
  | .paragraph p cs => .paragraph p (c02_mapElems σ cs)
  | .run r cs => .run r (c02_mapElems σ cs)
  | .text s => .text (σ s)
  | .hyperlink h cs => .hyperlink h (c02_mapElems σ cs)
  | .checkbox c => .checkbox c
  | .table a b rows => .table a b (c02_mapElems σ rows)
  | .row h cells => .row h (c02_mapElems σ cells)
  | .cell a b c cs => .cell a b c (c02_mapElems σ cs)
  | .brk ty => .brk ty
  | .tab => .tab
  | .image i => .image i
  | .bookmark n => .bookmark n
  | .noteRef ty id => .noteRef ty id
  | .commentRef id => .commentRef id
/-- `σ` applied to the string of every text run (`documents.Text.value`), nothing else changed -/
def c02_mapElems (σ : Str → Str) : List Elem → List Elem
  | [] => []
  | e :: es => c02_mapElem σ e :: c02_mapElems σ es
end

def c02_mapComment (σ : Str → Str) (c : Comment) : Comment := { c with body := c02_mapElems σ c.body }
def c02_mapNote (σ : Str → Str) (n : Note) : Note := { n with body := c02_mapElems σ n.body }

/-- text runs of the body, of every note and of every comment -/
def c02_mapDocText (σ : Str → Str) (d : Document) : Document :=
  { children := c02_mapElems σ d.children, notes := d.notes.map (c02_mapNote σ),
    comments := d.comments.map (c02_mapComment σ) }

/-- the state of the second run: the remembered comments are the substituted comments -/
def c02_mapSt (σ : Str → Str) (s : ConvState) : ConvState :=
  { s with refComments := s.refComments.map fun lc => (lc.1, c02_mapComment σ lc.2) }

/-- the configuration of the second run: the comment table holds the substituted comments -/
def c02_mapCfg (σ : Str → Str) (cfg : Cfg) : Cfg :=
  { cfg with comments := cfg.comments.map (c02_mapComment σ) }

/-! ### forests up to the strings of their text leaves -/

/-- every non-empty text (and separator) becomes `"x"`, empty ones stay empty; attributes are kept -/
def c02_blankSub : c02_Sub := ⟨fun s => if s.isEmpty then [] else ['x'], fun _ v => v⟩

/-- the forest with its text blanked: tags, attributes WITH their values, nesting, and which text
    leaves are empty -/
abbrev c02_blank (ns : List Node) : List Node := c02_mapForest c02_blankSub ns

theorem c02_blankSub_textOk : c02_blankSub.TextOk := by
  intro s; cases s <;> simp [c02_blankSub]

theorem c02_blankSub_attrInj : c02_blankSub.AttrInj := fun _ _ _ h => h

/-- two forests that differ only in the strings of their text leaves (same emptiness) -/
abbrev c02_BR (ns ns' : List Node) : Prop := c02_blank ns' = c02_blank ns

theorem c02_mapForest_wrapElems (σ : c02_Sub) (es : List Tag) (ns : List Node) :
    c02_mapForest σ (wrapElems es ns) = wrapElems (es.map (c02_mapTag σ)) (c02_mapForest σ ns) := by
  induction es with
  | nil => simp [wrapElems]
  | cons t ts ih => simp [wrapElems, ih]

theorem c02_BR_wrapElems (es : List Tag) (ns ns' : List Node) (h : c02_BR ns ns') :
    c02_BR (wrapElems es ns) (wrapElems es ns') := by
  simp only [c02_BR, c02_blank, c02_mapForest_wrapElems] at h ⊢
  rw [h]

theorem c02_BR_wrapAll (ps : List HtmlPath) (ns ns' : List Node) (h : c02_BR ns ns') :
    c02_BR (wrapAll ps ns) (wrapAll ps ns') := by
  induction ps generalizing ns ns' with
  | nil => simpa [wrapAll] using h
  | cons p ps ih =>
    cases p with
    | ignore => exact ih [] [] rfl
    | elements es => simp only [wrapAll]; exact ih _ _ (c02_BR_wrapElems es ns ns' h)

theorem c02_BR_append (a a' b b' : List Node) (ha : c02_BR a a') (hb : c02_BR b b') :
    c02_BR (a ++ b) (a' ++ b') := by
  simp only [c02_BR, c02_blank, c02_mapForest_append] at ha hb ⊢
  rw [ha, hb]

theorem c02_BR_elem (t : Tag) (cs cs' : List Node) (h : c02_BR cs cs') :
    c02_BR [.elem t cs] [.elem t cs'] := by
  simp only [c02_BR, c02_blank] at h
  simp [c02_BR, c02_blank, h]

theorem c02_BR_cons (c : Node) (cs cs' : List Node) (h : c02_BR cs cs') : c02_BR (c :: cs) (c :: cs') := by
  simp only [c02_BR, c02_blank] at h
  simp [c02_BR, c02_blank, h]

/-! ### simulation -/

def c02_simR {α : Type} (σ : Str → Str) (R : α → α → Prop) :
    Except Err (α × ConvState) → Except Err (α × ConvState) → Prop
  | .ok (a, s), .ok (a', s') => R a a' ∧ s' = c02_mapSt σ s
  | .error e, .error e' => e' = e
  | _, _ => False

/-- from a state and its image, `m` and `m'` raise the same error, or both succeed with `R`-related
    results, the second in the image of the first one's final state -/
def c02_sim {α : Type} (σ : Str → Str) (R : α → α → Prop) (m m' : ConvM α) : Prop :=
  ∀ st, c02_simR σ R (m st) (m' (c02_mapSt σ st))

theorem c02_sim_pure {α : Type} {σ : Str → Str} {R : α → α → Prop} {a a' : α} (h : R a a') :
    c02_sim σ R (pure a : ConvM α) (pure a') := fun _ => ⟨h, rfl⟩

theorem c02_sim_throw {α : Type} {σ : Str → Str} (R : α → α → Prop) (e : Err) :
    c02_sim σ R (throw e : ConvM α) (throw e) := fun _ => rfl

theorem c02_sim_bind {α β : Type} {σ : Str → Str} {R : α → α → Prop} {Q : β → β → Prop}
    {m m' : ConvM α} {f f' : α → ConvM β} (hm : c02_sim σ R m m')
    (hf : ∀ a a', R a a' → c02_sim σ Q (f a) (f' a')) : c02_sim σ Q (m >>= f) (m' >>= f') := by
  intro st
  have h := hm st
  rw [app_bind, app_bind]
  cases e : m st with
  | error err =>
    cases e' : m' (c02_mapSt σ st) with
    | error err' => rw [e, e'] at h; exact h
    | ok p' => rw [e, e'] at h; exact h.elim
  | ok p =>
    cases e' : m' (c02_mapSt σ st) with
    | error err' => rw [e, e'] at h; exact h.elim
    | ok p' =>
      rw [e, e'] at h
      obtain ⟨a, s⟩ := p
      obtain ⟨a', s'⟩ := p'
      obtain ⟨hR, hs⟩ := h
      subst hs
      exact hf a a' hR s

theorem c02_sim_modify {σ : Str → Str} (f f' : ConvState → ConvState)
    (h : ∀ s, f' (c02_mapSt σ s) = c02_mapSt σ (f s)) :
    c02_sim σ (fun _ _ => True) (modify f : ConvM PUnit) (modify f') := by
  intro st
  exact ⟨trivial, h st⟩

theorem c02_sim_get {σ : Str → Str} :
    c02_sim σ (fun s s' => s' = c02_mapSt σ s) (get : ConvM ConvState) get := fun _ => ⟨rfl, rfl⟩

theorem c02_sim_warn {σ : Str → Str} (m : Str) : c02_sim σ (fun _ _ => True) (warn m) (warn m) :=
  c02_sim_modify _ _ (fun _ => rfl)

/-! ### the pieces that do not look at the document's text at all -/

theorem c02_findPath_mapCfg (σ : Str → Str) (cfg : Cfg) (t : Target) :
    findPath (c02_mapCfg σ cfg) t = findPath cfg t := rfl

theorem c02_runPropPaths_mapCfg (σ : Str → Str) (cfg : Cfg) (r : RunProps) :
    runPropPaths (c02_mapCfg σ cfg) r = runPropPaths cfg r := rfl

theorem c02_sim_findPathWarn (σ : Str → Str) (cfg : Cfg) (t : Target) (kind : Str)
    (sid sname : Option Str) (dflt : HtmlPath) :
    c02_sim σ Eq (findPathWarn cfg t kind sid sname dflt)
      (findPathWarn (c02_mapCfg σ cfg) t kind sid sname dflt) := by
  intro st
  rw [c01_findPathWarn_run, c01_findPathWarn_run]
  refine ⟨rfl, ?_⟩
  unfold c01_warnState
  rw [c02_findPath_mapCfg]
  split <;> rfl

theorem c02_openImage_mapCfg (σ : Str → Str) (cfg : Cfg) (src : ImageSrc) :
    openImage (c02_mapCfg σ cfg) src = openImage cfg src := rfl

theorem c02_convertImage_mapCfg (σ : Str → Str) (cfg : Cfg) (i : ImageProps) :
    convertImage (c02_mapCfg σ cfg) i = convertImage cfg i := rfl

theorem c02_sim_openImage (σ : Str → Str) (cfg : Cfg) (src : ImageSrc) :
    c02_sim σ Eq (openImage cfg src) (openImage cfg src) := by
  cases src with
  | embedded name =>
    simp only [openImage]
    split
    · exact c02_sim_pure rfl
    · exact c02_sim_throw _ _
  | linked uri =>
    simp only [openImage]
    split
    · refine c02_sim_bind (c02_sim_modify _ _ (fun _ => rfl)) ?_
      intro _ _ _
      split <;> exact c02_sim_pure rfl
    · split
      · refine c02_sim_bind (c02_sim_modify _ _ (fun _ => rfl)) ?_
        intro _ _ _
        split <;> exact c02_sim_pure rfl
      · exact c02_sim_pure rfl

theorem c02_sim_convertImage (σ : Str → Str) (cfg : Cfg) (i : ImageProps) :
    c02_sim σ c02_BR (convertImage cfg i) (convertImage (c02_mapCfg σ cfg) i) := by
  rw [c02_convertImage_mapCfg]
  unfold convertImage
  refine c02_sim_bind (c02_sim_modify _ _ (fun _ => rfl)) ?_
  intro _ _ _
  extract_lets altAttr
  split
  · refine c02_sim_bind (c02_sim_openImage σ cfg i.src) ?_
    intro r r' hr
    subst hr
    split
    · exact c02_sim_pure rfl
    · refine c02_sim_bind (c02_sim_warn _) ?_
      intro _ _ _
      exact c02_sim_pure rfl
  · split
    · refine c02_sim_bind (c02_sim_openImage σ cfg i.src) ?_
      intro r r' hr
      subst hr
      split
      · exact c02_sim_pure rfl
      · refine c02_sim_bind (c02_sim_warn _) ?_
        intro _ _ _
        exact c02_sim_pure rfl
    · exact c02_sim_pure rfl

end Mammoth
