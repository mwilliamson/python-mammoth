/-
  C09, from the XML — validity of a grid, its document grid and what `calculate_row_spans` makes of it do not depend
  on the contents of the cells; so they can be stated on the grid read off the XML alone (`c09x_xmlGrid`).
-/
import Proofs.C09_Xml
import Proofs.C09_DocGrid
import Proofs.C05_Fuel
namespace Mammoth

abbrev c09x_stripRow (row : c09_Row) : c09_Row := row.map c09x_strip
abbrev c09x_stripGrid (rows : List c09_Row) : List c09_Row := rows.map c09x_stripRow

theorem c09x_strip_isCont (c : c09_Cell) : (c09x_strip c).isCont = c.isCont := rfl

theorem c09x_findStart_strip (row : c09_Row) : ∀ (ci s : Nat),
    c09_findStart (c09x_stripRow row) ci s = (c09_findStart row ci s).map c09x_strip := by
  induction row with
  | nil => intro ci s; rfl
  | cons c cs ih =>
    intro ci s
    simp only [c09x_stripRow, List.map_cons, c09_findStart]
    by_cases h : ci = s
    · simp [h]
    · simp only [h, if_false]; exact ih _ s

theorem c09x_rowOkFrom_strip (prev row : c09_Row) : ∀ ci : Nat,
    c09_rowOkFrom (c09x_stripRow prev) (c09x_stripRow row) ci = c09_rowOkFrom prev row ci := by
  induction row with
  | nil => intro ci; rfl
  | cons c cs ih =>
    intro ci
    simp only [c09x_stripRow, List.map_cons, c09_rowOkFrom]
    have := c09x_findStart_strip prev 0 ci
    simp only [c09x_stripRow] at this ih
    rw [this, ih]
    cases c09_findStart prev 0 ci <;> rfl

theorem c09x_width_strip (row : c09_Row) : c09_width (c09x_stripRow row) = c09_width row := by
  induction row with
  | nil => rfl
  | cons c cs ih => exact congrArg (c.span + ·) ih

theorem c09x_validFrom_strip (rows : List c09_Row) : ∀ prev : c09_Row,
    c09_validFrom (c09x_stripRow prev) (c09x_stripGrid rows) = c09_validFrom prev rows := by
  induction rows with
  | nil => intro prev; rfl
  | cons row rest ih =>
    intro prev
    show (_ && _) = (_ && _)
    rw [c09x_rowOkFrom_strip, ih]

theorem c09x_validGrid_strip (rows : List c09_Row) : c09_validGrid (c09x_stripGrid rows) = c09_validGrid rows := by
  unfold c09_validGrid
  have h1 := c09x_validFrom_strip rows []
  simp only [c09x_stripRow, List.map_nil] at h1
  rw [h1]
  cases rows with
  | nil => rfl
  | cons r rs =>
    simp only [c09x_stripGrid, List.map_cons, List.all_map]
    congr 1
    apply List.all_congr rfl
    intro r'
    simp only [Function.comp, c09x_width_strip]

theorem c09x_cellAt_strip (row : c09_Row) : ∀ (ci i x : Nat),
    c09_cellAt (c09x_stripRow row) ci i x = (c09_cellAt row ci i x).map fun p => (p.1, p.2.1, c09x_strip p.2.2) := by
  induction row with
  | nil => intro ci i x; rfl
  | cons c cs ih =>
    intro ci i x
    simp only [c09x_stripRow, List.map_cons, c09_cellAt]
    by_cases h : x < ci + c.span
    · have : x < ci + (c09x_strip c).span := h
      simp [h, this]
    · have : ¬ x < ci + (c09x_strip c).span := h
      simp only [h, this, if_false, c09x_strip_isCont]
      exact ih _ _ x

theorem c09x_docRow_strip (prevOwn : Nat → Option c09_Id) (y : Nat) (row : c09_Row) :
    c09_docRow prevOwn y (c09x_stripRow row) = c09_docRow prevOwn y row := by
  funext x
  simp only [c09_docRow, c09x_cellAt_strip]
  cases c09_cellAt row 0 0 x with
  | none => rfl
  | some p => obtain ⟨a, i, c⟩ := p; rfl

theorem c09x_docRows_strip (rows : List c09_Row) : ∀ (prevOwn : Nat → Option c09_Id) (y : Nat),
    c09_docRows prevOwn y (c09x_stripGrid rows) = c09_docRows prevOwn y rows := by
  induction rows with
  | nil => intro _ _; rfl
  | cons row rest ih =>
    intro prevOwn y
    show _ :: c09_docRows _ _ (c09x_stripGrid rest) = _
    rw [c09x_docRow_strip, ih]
    rfl

theorem c09x_docGrid_strip (rows : List c09_Row) (y x : Nat) :
    c09_docGrid (c09x_stripGrid rows) y x = c09_docGrid rows y x := by
  unfold c09_docGrid; rw [c09x_docRows_strip]

/-! ### the rows that `calculate_row_spans` returns on a valid grid are rows of cells -/

theorem c09x_expectedCells_cells (below : List c09_Row) (row : c09_Row) : ∀ ci : Nat,
    (c09_expectedCells below row ci).all isCell = true := by
  induction row with
  | nil => intro ci; rfl
  | cons c cs ih =>
    intro ci
    simp only [c09_expectedCells]
    split
    · exact ih _
    · simp only [List.all_cons, isCell, Bool.true_and]; exact ih _

theorem c09x_expected_rows (hdr : Nat → Bool) (rows : List c09_Row) : ∀ r : Nat,
    (c09_expectedFrom hdr r rows).all (fun e => isRow e && (rowCells e).all isCell) = true := by
  induction rows with
  | nil => intro r; rfl
  | cons row rest ih =>
    intro r
    simp only [c09_expectedFrom, List.all_cons, isRow, rowCells, Bool.true_and, Bool.and_eq_true]
    exact ⟨c09x_expectedCells_cells rest row 0, ih _⟩

end Mammoth
