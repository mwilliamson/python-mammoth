/-
  C12 helpers: `_add_or_update_element` on ElementTree trees.

  A tree is observed through its list of labels `(tag, attributes)` in document order
  (`c12_labels`).  `eSetFirst` changes exactly one label — the first one satisfying the predicate —
  and nothing else; `addOrUpdate` either does that or appends one label at the very end.
-/
import MammothModel.Embed
namespace Mammoth

abbrev c12_Label := Str × List (Str × Str)

/-- the labels `(tag, attrs)` of `e.iter()`, in document order -/
def c12_labels (e : EElem) : List c12_Label := (eIter e).map fun x => (x.tag, x.attrs)
def c12_labelsL (es : List EElem) : List c12_Label := (eIterL es).map fun x => (x.tag, x.attrs)

theorem c12_labels_mk (t : Str) (as : List (Str × Str)) (cs : List EElem) :
    c12_labels ⟨t, as, cs⟩ = (t, as) :: c12_labelsL cs := by
  simp [c12_labels, c12_labelsL, eIter]

theorem c12_labelsL_nil : c12_labelsL [] = [] := by simp [c12_labelsL, eIterL]

theorem c12_labelsL_cons (c : EElem) (cs : List EElem) :
    c12_labelsL (c :: cs) = c12_labels c ++ c12_labelsL cs := by
  simp [c12_labels, c12_labelsL, eIterL]

theorem c12_labelsL_append (cs ds : List EElem) :
    c12_labelsL (cs ++ ds) = c12_labelsL cs ++ c12_labelsL ds := by
  induction cs with
  | nil => simp [c12_labelsL_nil]
  | cons c cs ih => simp [c12_labelsL_cons, ih]

/-- the test of `_find_child` as a predicate on labels -/
def c12_matchL (name idAttr : Str) (attrs : List (Str × Str)) (l : c12_Label) : Bool :=
  l.1 == name && eAttr? idAttr l.2 == eAttr? idAttr attrs

theorem c12_eMatches_label (name idAttr : Str) (attrs : List (Str × Str)) (e : EElem) :
    eMatches name idAttr attrs e = c12_matchL name idAttr attrs (e.tag, e.attrs) := rfl

/-- an element carrying the new attributes and the searched tag always matches -/
theorem c12_matchL_new (name idAttr : Str) (attrs : List (Str × Str)) :
    c12_matchL name idAttr attrs (name, attrs) = true := by
  simp [c12_matchL]

/-- a matching label still matches after its attributes were replaced by the new ones,
    and its tag is the searched tag -/
theorem c12_matchL_replaced (name idAttr : Str) (attrs : List (Str × Str)) (t : Str)
    (as : List (Str × Str)) (h : c12_matchL name idAttr attrs (t, as) = true) :
    t = name ∧ c12_matchL name idAttr attrs (t, attrs) = true := by
  simp only [c12_matchL, Bool.and_eq_true, beq_iff_eq] at h
  refine ⟨h.1, ?_⟩
  simp [c12_matchL, h.1]

section
set_option linter.unusedSectionVars false
variable (p : EElem → Bool) (q : c12_Label → Bool) (hp : ∀ e, p e = q (e.tag, e.attrs))
variable (attrs : List (Str × Str))
include hp

mutual
/-- `_find_child` finds nothing iff no label matches -/
theorem c12_setFirst_none (e : EElem) :
    eSetFirst p attrs e = none ↔ ∀ l ∈ c12_labels e, q l = false := by
  match e with
  | ⟨t, as, cs⟩ =>
    rw [eSetFirst, c12_labels_mk, List.forall_mem_cons, ← c12_setFirstL_none cs, hp]
    cases q (t, as) <;> cases eSetFirstL p attrs cs <;> simp
theorem c12_setFirstL_none (es : List EElem) :
    eSetFirstL p attrs es = none ↔ ∀ l ∈ c12_labelsL es, q l = false := by
  match es with
  | [] => simp [eSetFirstL, c12_labelsL_nil]
  | c :: cs =>
    rw [eSetFirstL, c12_labelsL_cons, List.forall_mem_append, ← c12_setFirst_none c, ← c12_setFirstL_none cs]
    cases eSetFirst p attrs c <;> cases eSetFirstL p attrs cs <;> simp
end

mutual
/-- `existing_child.attrib = attributes` changes exactly one label: the first matching one -/
theorem c12_setFirst_labels (e e' : EElem) (h : eSetFirst p attrs e = some e') :
    ∃ pre t as post, c12_labels e = pre ++ (t, as) :: post ∧
      c12_labels e' = pre ++ (t, attrs) :: post ∧ q (t, as) = true ∧ ∀ l ∈ pre, q l = false := by
  match e with
  | ⟨t, as, cs⟩ =>
    rw [eSetFirst, hp] at h
    split at h
    next hq =>
      cases h
      exact ⟨[], t, as, c12_labelsL cs, c12_labels_mk .., c12_labels_mk .., hq, by simp⟩
    next hq =>
      split at h
      next cs' hs =>
        cases h
        obtain ⟨pre, t1, as1, post, e1, e2, e3, e4⟩ := c12_setFirstL_labels cs cs' hs
        refine ⟨(t, as) :: pre, t1, as1, post, ?_, ?_, e3, List.forall_mem_cons.mpr ⟨by simpa using hq, e4⟩⟩
        · rw [c12_labels_mk, e1, List.cons_append]
        · rw [c12_labels_mk, e2, List.cons_append]
      next => cases h
theorem c12_setFirstL_labels (es es' : List EElem) (h : eSetFirstL p attrs es = some es') :
    ∃ pre t as post, c12_labelsL es = pre ++ (t, as) :: post ∧
      c12_labelsL es' = pre ++ (t, attrs) :: post ∧ q (t, as) = true ∧ ∀ l ∈ pre, q l = false := by
  match es with
  | [] => cases h
  | c :: cs =>
    rw [eSetFirstL] at h
    split at h
    next c' h1 =>
      cases h
      obtain ⟨pre, t1, as1, post, e1, e2, e3, e4⟩ := c12_setFirst_labels c c' h1
      refine ⟨pre, t1, as1, post ++ c12_labelsL cs, ?_, ?_, e3, e4⟩
      · rw [c12_labelsL_cons, e1, List.append_assoc, List.cons_append]
      · rw [c12_labelsL_cons, e2, List.append_assoc, List.cons_append]
    next h1 =>
      split at h
      next cs' h2 =>
        cases h
        obtain ⟨pre, t1, as1, post, e1, e2, e3, e4⟩ := c12_setFirstL_labels cs cs' h2
        refine ⟨c12_labels c ++ pre, t1, as1, post, ?_, ?_, e3,
          List.forall_mem_append.mpr ⟨(c12_setFirst_none p q hp attrs c).mp h1, e4⟩⟩
        · rw [c12_labelsL_cons, e1, List.append_assoc]
        · rw [c12_labelsL_cons, e2, List.append_assoc]
      next => cases h
end

variable (hq : ∀ t as, q (t, as) = true → q (t, attrs) = true)
include hq

mutual
/-- updating twice is the same as updating once -/
theorem c12_setFirst_idem (e e' : EElem) (h : eSetFirst p attrs e = some e') :
    eSetFirst p attrs e' = some e' := by
  match e with
  | ⟨t, as, cs⟩ =>
    rw [eSetFirst, hp] at h
    split at h
    next hm =>
      cases h
      rw [eSetFirst, hp, if_pos (hq t as hm)]
    next hm =>
      split at h
      next cs' hs =>
        cases h
        rw [eSetFirst, hp, if_neg hm, c12_setFirstL_idem cs cs' hs]
      next => cases h
theorem c12_setFirstL_idem (es es' : List EElem) (h : eSetFirstL p attrs es = some es') :
    eSetFirstL p attrs es' = some es' := by
  match es with
  | [] => cases h
  | c :: cs =>
    rw [eSetFirstL] at h
    split at h
    next c' h1 =>
      cases h
      rw [eSetFirstL, c12_setFirst_idem c c' h1]
    next h1 =>
      split at h
      next cs' h2 =>
        cases h
        rw [eSetFirstL, h1, c12_setFirstL_idem cs cs' h2]
      next => cases h
end
end

/-- nothing found in `cs`: the search continues in what follows -/
theorem c12_setFirstL_append (p : EElem → Bool) (attrs : List (Str × Str)) (cs ds : List EElem)
    (h : eSetFirstL p attrs cs = none) :
    eSetFirstL p attrs (cs ++ ds) = (eSetFirstL p attrs ds).map (cs ++ ·) := by
  induction cs with
  | nil => simp
  | cons c cs ih =>
    unfold eSetFirstL at h
    cases h1 : eSetFirst p attrs c with
    | some c' => rw [h1] at h; cases h
    | none =>
      rw [h1] at h
      cases h2 : eSetFirstL p attrs cs with
      | some cs' => rw [h2] at h; cases h
      | none =>
        rw [List.cons_append, eSetFirstL, h1]
        simp only []
        rw [ih h2]
        cases eSetFirstL p attrs ds <;> simp

/-- `_find_child` returns `None` exactly when the update function finds nothing to update
    (so `addOrUpdate` is "if `_find_child` is None: append, else: set the attributes") -/
theorem c12_findChild_none (r : EElem) (name idAttr : Str) (attrs : List (Str × Str)) :
    findChildE r name idAttr attrs = none ↔
      eSetFirst (eMatches name idAttr attrs) attrs r = none := by
  rw [c12_setFirst_none _ _ (c12_eMatches_label name idAttr attrs) attrs r]
  unfold findChildE c12_labels
  simp only [List.find?_eq_none, List.forall_mem_map, c12_eMatches_label, Bool.not_eq_true]

/-- what `_add_or_update_element` does to the labels: either the first matching label gets the new
    attributes (its tag is the searched one), or — no label matching — one new label is appended at
    the very end (a new last child of the root). -/
theorem c12_addOrUpdate_labels (r : EElem) (name idAttr : Str) (attrs : List (Str × Str)) :
    (∃ pre as post, c12_labels r = pre ++ (name, as) :: post ∧
        c12_labels (addOrUpdate r name idAttr attrs) = pre ++ (name, attrs) :: post ∧
        c12_matchL name idAttr attrs (name, as) = true ∧
        ∀ l ∈ pre, c12_matchL name idAttr attrs l = false)
    ∨ ((∀ l ∈ c12_labels r, c12_matchL name idAttr attrs l = false) ∧
        c12_labels (addOrUpdate r name idAttr attrs) = c12_labels r ++ [(name, attrs)]) := by
  unfold addOrUpdate
  cases h : eSetFirst (eMatches name idAttr attrs) attrs r with
  | some r' =>
    left
    obtain ⟨pre, t, as, post, e1, e2, e3, e4⟩ :=
      c12_setFirst_labels _ _ (c12_eMatches_label name idAttr attrs) attrs r r' h
    have ht := (c12_matchL_replaced name idAttr attrs t as e3).1
    subst ht
    exact ⟨pre, as, post, e1, e2, e3, e4⟩
  | none =>
    right
    have hn := (c12_setFirst_none _ _ (c12_eMatches_label name idAttr attrs) attrs r).mp h
    refine ⟨hn, ?_⟩
    obtain ⟨t, as, cs⟩ := r
    simp only [c12_labels_mk, c12_labelsL_append, c12_labelsL_cons, c12_labelsL_nil,
      List.append_nil, List.cons_append]

/-- all labels that do not match are kept, in order, with their attributes -/
theorem c12_addOrUpdate_others (r : EElem) (name idAttr : Str) (attrs : List (Str × Str)) :
    (c12_labels (addOrUpdate r name idAttr attrs)).filter (fun l => !c12_matchL name idAttr attrs l)
      = (c12_labels r).filter (fun l => !c12_matchL name idAttr attrs l) := by
  have hnew := c12_matchL_new name idAttr attrs
  rcases c12_addOrUpdate_labels r name idAttr attrs with ⟨pre, as, post, e1, e2, e3, _⟩ | ⟨_, e⟩
  · rw [e1, e2]; simp [List.filter_append, e3, hnew]
  · rw [e]; simp [List.filter_append, hnew]

/-- the matching labels afterwards: the first one replaced by the new entry, or the new entry alone -/
theorem c12_addOrUpdate_matching (r : EElem) (name idAttr : Str) (attrs : List (Str × Str)) :
    (c12_labels (addOrUpdate r name idAttr attrs)).filter (c12_matchL name idAttr attrs)
      = (name, attrs) :: ((c12_labels r).filter (c12_matchL name idAttr attrs)).tail := by
  have hnew := c12_matchL_new name idAttr attrs
  rcases c12_addOrUpdate_labels r name idAttr attrs with ⟨pre, as, post, e1, e2, e3, e4⟩ | ⟨h, e⟩
  · have hpre : pre.filter (c12_matchL name idAttr attrs) = [] := by
      rw [List.filter_eq_nil_iff]; intro l hl; simp [e4 l hl]
    rw [e1, e2]; simp [List.filter_append, e3, hnew, hpre]
  · have hall : (c12_labels r).filter (c12_matchL name idAttr attrs) = [] := by
      rw [List.filter_eq_nil_iff]; intro l hl; simp [h l hl]
    rw [e]; simp [List.filter_append, hnew, hall]

/-- with at most one matching entry before, there is exactly one afterwards, and it is the new one -/
theorem c12_addOrUpdate_one (r : EElem) (name idAttr : Str) (attrs : List (Str × Str))
    (h : ((c12_labels r).filter (c12_matchL name idAttr attrs)).length ≤ 1) :
    (c12_labels (addOrUpdate r name idAttr attrs)).filter (c12_matchL name idAttr attrs)
      = [(name, attrs)] := by
  rw [c12_addOrUpdate_matching]
  cases hl : (c12_labels r).filter (c12_matchL name idAttr attrs) with
  | nil => rfl
  | cons x xs =>
    rw [hl] at h
    cases xs with
    | nil => rfl
    | cons y ys => simp at h

/-- `_add_or_update_element` applied twice = applied once -/
theorem c12_addOrUpdate_idem (r : EElem) (name idAttr : Str) (attrs : List (Str × Str)) :
    addOrUpdate (addOrUpdate r name idAttr attrs) name idAttr attrs
      = addOrUpdate r name idAttr attrs := by
  cases h : eSetFirst (eMatches name idAttr attrs) attrs r with
  | some r' =>
    have e : addOrUpdate r name idAttr attrs = r' := by simp [addOrUpdate, h]
    rw [e]
    have := c12_setFirst_idem _ _ (c12_eMatches_label name idAttr attrs) attrs
      (fun t as hm => (c12_matchL_replaced name idAttr attrs t as hm).2) r r' h
    simp [addOrUpdate, this]
  | none =>
    -- neither the root nor a descendant matches; the appended child does, so it is the one found
    obtain ⟨t, as, cs⟩ := r
    have e : addOrUpdate ⟨t, as, cs⟩ name idAttr attrs
        = ⟨t, as, cs ++ [⟨name, attrs, []⟩]⟩ := by simp [addOrUpdate, h]
    rw [e]
    rw [eSetFirst] at h
    split at h
    next => cases h
    next hroot =>
      split at h
      next => cases h
      next hcs =>
        have hroot' : ¬ eMatches name idAttr attrs ⟨t, as, cs ++ [⟨name, attrs, []⟩]⟩ = true := hroot
        have hnew : eMatches name idAttr attrs ⟨name, attrs, []⟩ = true := c12_matchL_new name idAttr attrs
        have hstep : eSetFirst (eMatches name idAttr attrs) attrs ⟨t, as, cs ++ [⟨name, attrs, []⟩]⟩
            = some ⟨t, as, cs ++ [⟨name, attrs, []⟩]⟩ := by
          rw [eSetFirst, if_neg hroot', c12_setFirstL_append _ _ _ _ hcs]
          simp [eSetFirstL, eSetFirst, hnew]
        simp [addOrUpdate, hstep]

end Mammoth
