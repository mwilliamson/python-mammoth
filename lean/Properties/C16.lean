/-
  C16 — everything the converter skips is reported once; clean documents report nothing.
-/
import Proofs.C16_Api
import Proofs.C16_Mono
import Proofs.C16_Clean
import Proofs.C16_Image
import Proofs.C16_ApiSpec
import Proofs.C16_ExampleEval
import Proofs.C16_ConvSpec
import Proofs.Pins
namespace Mammoth

/-! ### `unique`: reported ONCE -/

section
variable {α : Type} [DecidableEq α]

/-- the de-duplicated list has no repetition -/
theorem C16_unique_nodup (l : List α) : (unique l).Nodup := c16_uniqueAux_nodup [] l

/-- nothing is lost and nothing invented -/
theorem C16_unique_mem (l : List α) (x : α) : x ∈ unique l ↔ x ∈ l := mem_unique

/-- the order of first occurrences is kept: `unique l` is a sublist of `l` … -/
theorem C16_unique_order (l : List α) : (unique l).Sublist l := c16_uniqueAux_sublist [] l

/-- … a list without repetition is left alone … -/
theorem C16_unique_of_nodup (l : List α) (h : l.Nodup) : unique l = l :=
  c16_uniqueAux_of_nodup [] l h (fun _ _ hx => by cases hx)

/-- … and a new last element is kept iff it did not occur before (so each element stays at the
    position of its FIRST occurrence) -/
theorem C16_unique_snoc (l : List α) (x : α) :
    unique (l ++ [x]) = if x ∈ l then unique l else unique l ++ [x] := by
  unfold unique
  rw [c16_uniqueAux_append, List.append_nil]
  by_cases h : x ∈ l
  · rw [c16_uniqueAux_cons_mem _ _ _ h]; simp [h, uniqueAux]
  · rw [c16_uniqueAux_cons_not_mem _ _ _ h]; simp [h, uniqueAux]

/-- the nested de-duplications of the code (`Result.map`/`bind`/`combine` each call `unique`)
    compose to a single one -/
theorem C16_unique_append_unique (a b : List α) :
    unique (a ++ unique b) = unique (a ++ b) ∧ unique (unique a ++ b) = unique (a ++ b) := by
  constructor
  · have := c16_unique_mid a b []
    simpa using this
  · exact c16_uniqueAux_unique_append [] a b

theorem C16_unique_idem (l : List α) : unique (unique l) = unique l := by
  have := c16_uniqueAux_unique_append [] l []
  simpa [unique] using this
end

/-! ### what the public entry point reports -/

/-- the messages of `mammoth.convert` are the option (style map) messages, then the reader's,
    then the converter's, de-duplicated -/
theorem C16_api_messages (p : Package) (fuel : Nat) (base : Option Str) (world : Str → Option Bytes)
    (tr : Document → Document) (o : Options) (r : ApiOut)
    (h : apiConvert p fuel base world tr o = .ok r) :
    ∃ embedded doc readMsgs cr,
      (if o.includeEmbedded then readEmbeddedStyleMap p else .ok none) = .ok embedded ∧
      readPackage p fuel = .ok (doc, readMsgs) ∧
      convertDoc (c16_apiCfg p base world o embedded) (tr doc) = .ok cr ∧
      r.messages =
        unique ((readOptions o.styleMap embedded o.includeDefault).2 ++ readMsgs ++ cr.messages) := by
  obtain ⟨embedded, doc, readMsgs, cr, he, hd, hc, rfl⟩ := c05_apiConvert_ok h
  exact ⟨embedded, doc, readMsgs, cr, he, hd, hc, rfl⟩

/-- the converter's own messages are its state's message list, de-duplicated -/
theorem C16_convertDoc_messages (cfg : Cfg) (d : Document) (cr : ConvResult)
    (h : convertDoc cfg d = .ok cr) :
    ∃ nodes st, (visitDocument { cfg with comments := d.comments } d).run {} = .ok (nodes, st) ∧
      cr.messages = unique st.messages := by
  unfold convertDoc at h
  split at h
  · rename_i nodes st hv
    cases h
    exact ⟨nodes, st, hv, rfl⟩
  · cases h

/-- all in all: ONE de-duplication of (warnings of the explicit style map, of the embedded one,
    reader messages, converter messages) — every distinct message exactly once, ordered by first
    occurrence -/
theorem C16_api_messages_flat (p : Package) (fuel : Nat) (base : Option Str)
    (world : Str → Option Bytes) (tr : Document → Document) (o : Options) (r : ApiOut)
    (h : apiConvert p fuel base world tr o = .ok r) :
    ∃ embedded doc readMsgs nodes st,
      (if o.includeEmbedded then readEmbeddedStyleMap p else .ok none) = .ok embedded ∧
      readPackage p fuel = .ok (doc, readMsgs) ∧
      (visitDocument { c16_apiCfg p base world o embedded with comments := (tr doc).comments }
          (tr doc)).run {} = .ok (nodes, st) ∧
      r.messages =
        unique (c16_styleWarnings (o.styleMap.getD []) ++ c16_styleWarnings (embedded.getD []) ++
                readMsgs ++ st.messages) ∧
      r.messages.Nodup := by
  obtain ⟨embedded, doc, readMsgs, cr, he, hd, hc, hm⟩ := C16_api_messages p fuel base world tr o r h
  obtain ⟨nodes, st, hv, hcm⟩ := C16_convertDoc_messages _ _ _ hc
  refine ⟨embedded, doc, readMsgs, nodes, st, he, hd, hv, ?_, ?_⟩
  · rw [hm, hcm]
    show unique (unique ((readStyleMap (o.styleMap.getD [])).2 ++ (readStyleMap (embedded.getD [])).2)
            ++ readMsgs ++ unique st.messages) = _
    rw [c16_readStyleMap_messages, c16_readStyleMap_messages]
    rw [(C16_unique_append_unique _ st.messages).1, List.append_assoc,
      (C16_unique_append_unique _ _).2, List.append_assoc, (C16_unique_append_unique _ _).2,
      c16_unique_mid]
    simp only [List.append_assoc]
  · rw [hm]; exact C16_unique_nodup _

/-! ### the converter only adds messages -/

/-- visiting an element never removes or reorders earlier messages -/
theorem C16_messages_monotone (cfg : Cfg) (hdr : Bool) (e : Elem) (st st' : ConvState)
    (ns : List Node) (h : (visit cfg hdr e).run st = .ok (ns, st')) :
    st.messages <+: st'.messages :=
  c16_CH_mono (c16_visit_events cfg hdr e) st ns st' h

theorem C16_messages_monotone_all (cfg : Cfg) (hdr : Bool) (es : List Elem) (st st' : ConvState)
    (ns : List Node) (h : (visitAll cfg hdr es).run st = .ok (ns, st')) :
    st.messages <+: st'.messages :=
  c16_CH_mono (c16_visitAll_events cfg hdr es) st ns st' h

theorem C16_messages_monotone_rows (cfg : Cfg) (b : Bool) (rs : List Elem) (st st' : ConvState)
    (r : List Node × List Node) (h : (visitRows cfg b rs).run st = .ok (r, st')) :
    st.messages <+: st'.messages :=
  c16_CH_mono (c16_visitRows_events cfg b rs) st r st' h

/-- "Unrecognised paragraph/run style": exactly one message iff no mapping matches and the element
    has a style id; otherwise none -/
theorem C16_unrecognised_style_warns (cfg : Cfg) (t : Target) (kind : Str) (sid sname : Option Str)
    (d : HtmlPath) (st : ConvState) :
    ∃ p st', (findPathWarn cfg t kind sid sname d).run st = .ok (p, st') ∧
      st'.messages = st.messages ++
        (match findStyle cfg.upper cfg.styleMap t, sid with
         | none, some i => [S!"Unrecognised " ++ kind ++ S!" style: " ++ pyOpt sname ++
                              S!" (Style ID: " ++ i ++ S!")"]
         | _, _ => []) ∧
      st'.noteRefs = st.noteRefs ∧ st'.ioTrace = st.ioTrace ∧ st'.imageCalls = st.imageCalls := by
  refine ⟨_, _, c03_findPathWarn_run cfg t kind sid sname d st, ?_⟩
  unfold c03_warnState findPath
  cases findStyle cfg.upper cfg.styleMap t with
  | some s => simp
  | none =>
    cases sid with
    | none => simp
    | some i => simp [c03_styleWarning]

/-- AN IMAGE THAT CANNOT BE OPENED IS REPORTED, an image that can is not: when the image
    converter opens images, converting an image adds exactly the warning of `Image.open`
    (`c16_openError`: "could not open external image …" / "could not find external image …"), if
    there is one, and nothing otherwise; a converter that does not open images adds nothing -/
theorem C16_image_warns (cfg : Cfg) (hdr : Bool) (i : ImageProps) (st st' : ConvState) (ns : List Node)
    (h : (visit cfg hdr (.image i)).run st = .ok (ns, st')) :
    st'.messages = st.messages ++
      (if c16_opens cfg then
        (match c16_openError cfg i.src with
         | some m => [m]
         | none => [])
       else []) := by
  rw [visit] at h
  rw [(c16_CH_convertImage cfg i st ns st' h).msgs, c16_imageEvents]
  cases c16_opens cfg
  · rfl
  · cases c16_openError cfg i.src <;> rfl

/-- …and in the failing case no `img` is produced -/
theorem C16_unopenable_image_dropped (cfg : Cfg) (hdr : Bool) (i : ImageProps) (st : ConvState)
    (m : Str) (ho : c16_opens cfg = true) (he : c16_openError cfg i.src = some m) :
    ∃ st', (visit cfg hdr (.image i)).run st = .ok ([], st') ∧ st'.messages = st.messages ++ [m] := by
  rw [visit]
  exact c16_convertImage_fails cfg i m st ho he

/-! ### clean documents report nothing -/

/-- CLEAN ELEMENTS ARE SILENT.  `c16_cleanL cfg es` (decidable; defined in Proofs/C16_Clean.lean)
    says: every paragraph and run has a matching mapping or no style id, and every image can be
    opened (or the image converter does not open images).  Then converting `es` adds no message. -/
theorem C16_clean_elements_silent (cfg : Cfg) (hdr : Bool) (es : List Elem) (st st' : ConvState)
    (ns : List Node) (hc : c16_cleanL cfg es = true)
    (h : (visitAll cfg hdr es).run st = .ok (ns, st')) : st'.messages = st.messages :=
  (c16_quiet_visitAll cfg hdr es hc st ns st' h).1.1

/-- A CLEAN DOCUMENT (body, notes and comments clean) converts without any message -/
theorem C16_clean_document_silent (cfg : Cfg) (d : Document) (cr : ConvResult)
    (hc : c16_cleanL cfg d.children = true)
    (hn : ∀ n ∈ d.notes, c16_cleanL cfg n.body = true)
    (hcm : ∀ c ∈ d.comments, c16_cleanL cfg c.body = true)
    (h : convertDoc cfg d = .ok cr) : cr.messages = [] := by
  obtain ⟨nodes, st, hv, hm⟩ := C16_convertDoc_messages cfg d cr h
  rw [hm, c16_visitDocument_quiet cfg d st nodes hc hn hcm hv]
  rfl

/-- NOT everything that falls back is reported: a table whose style no mapping matches becomes a
    plain `table` WITHOUT an "Unrecognised table style" warning (the code passes
    `warn_unrecognised=False` for tables) — with clean rows the message list is unchanged whatever
    the table's style id is -/
theorem C16_unmapped_table_style_not_reported (cfg : Cfg) (hdr : Bool) (sid sname : Option Str)
    (rows : List Elem) (st st' : ConvState) (ns : List Node)
    (hrows : c16_cleanL cfg rows = true)
    (h : (visit cfg hdr (.table sid sname rows)).run st = .ok (ns, st')) :
    st'.messages = st.messages :=
  (c16_quiet_visit cfg hdr (.table sid sname rows) (by rw [c16_clean]; exact hrows) st ns st' h).1.1

/-! ### what the reader reports -/

/-- no element name that is silently ignored has a handler -/
theorem C16_ignored_no_handler : ∀ n ∈ Generated.ignored, handlerOf n = none := handlerOf_ignored

/-- an element without handler that is not on the ignore list: one warning naming it, nothing else -/
theorem C16_unknown_element_warns (env : REnv) (f : Nat) (st : RState) (name : Str) (as : Attrs)
    (cs : List XmlNode) (hh : handlerOf name = none) (hi : name ∉ Generated.ignored) :
    readElem env (f + 1) st (.elem name as cs) =
      .ok ({ elements := [], extra := [],
             messages := [S!"An unrecognised element was ignored: " ++ name] }, st) := by
  rw [c05_readElem_unhandled env f st as cs hh, readUnhandled]
  have : Generated.ignored.contains name = false := by simpa using hi
  simp only [this, Bool.false_eq_true, if_false]
  rfl

/-- an element on the ignore list is skipped without any message -/
theorem C16_ignored_element_silent (env : REnv) (f : Nat) (st : RState) (name : Str) (as : Attrs)
    (cs : List XmlNode) (hi : name ∈ Generated.ignored) :
    readElem env (f + 1) st (.elem name as cs) = .ok ({ elements := [], extra := [], messages := [] }, st) := by
  rw [c05_readElem_unhandled env f st as cs (C16_ignored_no_handler name hi), readUnhandled]
  have : Generated.ignored.contains name = true := by simpa using hi
  simp only [this, if_true]

/-- a style reference: the "referenced but not defined" message iff an id is given and the
    table has no entry for it -/
theorem C16_undefined_style_warns (props : List XmlNode) (tag kind : Str)
    (table : List (Option Str × Option Str)) :
    (readStyle props tag kind table).2 =
      match childAttr tag S!"w:val" props with
      | none => []
      | some sid =>
        if lookupLast (some sid) table = none then
          [kind ++ S!" style with ID " ++ sid ++ S!" was referenced but not defined in the document"]
        else [] := by
  unfold readStyle
  cases childAttr tag S!"w:val" props with
  | none => rfl
  | some sid =>
    simp only
    cases h : lookupLast (some sid) table <;> simp

/-- …and the id is kept either way -/
theorem C16_undefined_style_keeps_id (props : List XmlNode) (tag kind : Str)
    (table : List (Option Str × Option Str)) :
    (readStyle props tag kind table).1.1 = childAttr tag S!"w:val" props := by
  unfold readStyle
  cases childAttr tag S!"w:val" props with
  | none => rfl
  | some sid =>
    simp only
    cases h : lookupLast (some sid) table <;> rfl

/-- breaks: an unsupported `w:type` is reported (and produces no element); the supported ones
    (absent, empty, `textWrapping`, `page`, `column`) produce a break and no message -/
theorem C16_break_warns (as : Attrs) :
    readBreak as =
      match attr? S!"w:type" as with
      | none => { elements := [.brk S!"line"], extra := [], messages := [] }
      | some t =>
        if t = [] ∨ t = S!"textWrapping" then { elements := [.brk S!"line"], extra := [], messages := [] }
        else if t = S!"page" then { elements := [.brk S!"page"], extra := [], messages := [] }
        else if t = S!"column" then { elements := [.brk S!"column"], extra := [], messages := [] }
        else { elements := [], extra := [], messages := [S!"Unsupported break type: " ++ t] } := by
  unfold readBreak
  cases attr? S!"w:type" as with
  | none => rfl
  | some t =>
    simp only [List.isEmpty_iff, Bool.or_eq_true, beq_iff_eq, rrElems, rrMsg]

/-- an image is always produced; a warning accompanies it iff its content type is not one of the
    types browsers display -/
theorem C16_image_type_warns (env : REnv) (path : Str) (src : ImageSrc) (alt : Option Str) :
    (readImage env path src alt).elements =
        [.image { altText := alt, contentType := findContentType env.contentTypes path, src := src }] ∧
    (readImage env path src alt).messages =
      if (match findContentType env.contentTypes path with
          | some c => Generated.browserImageTypes.contains c
          | none => false) = true then []
      else [S!"Image of type " ++ pyOpt (findContentType env.contentTypes path) ++
              S!" is unlikely to display in web browsers"] := by
  unfold readImage
  cases findContentType env.contentTypes path with
  | none => exact ⟨rfl, rfl⟩
  | some c =>
    simp only
    cases Generated.browserImageTypes.contains c <;> exact ⟨rfl, rfl⟩

/-- `w:br` is read by `readBreak` (so `C16_break_warns` is what the dispatcher reports) -/
theorem C16_break_element (env : REnv) (f : Nat) (st : RState) (as : Attrs) (cs : List XmlNode) :
    readElem env (f + 1) st (.elem S!"w:br" as cs) = .ok (readBreak as, st) :=
  c05_readElem_handler env f st as cs .break_ (by decide)

/-- `v:imagedata` without `r:id`: skipped with a warning -/
theorem C16_imagedata_without_id_warns (env : REnv) (f : Nat) (st : RState) (as : Attrs)
    (cs : List XmlNode) (h : attr? S!"r:id" as = none) :
    readElem env (f + 1) st (.elem S!"v:imagedata" as cs) =
      .ok ({ elements := [], extra := [],
             messages := [S!"A v:imagedata element without a relationship ID was ignored"] }, st) := by
  rw [c05_readElem_handler env f st as cs .imagedata (by decide)]
  simp only [readHandler, h]
  rfl

/-- `a:blip` with neither `r:embed` nor `r:link`: skipped with a warning -/
theorem C16_blip_without_rel_warns (env : REnv) (as : Attrs) (alt : Option Str)
    (h1 : attr? S!"r:embed" as = none) (h2 : attr? S!"r:link" as = none) :
    readBlip env as alt =
      .ok { elements := [], extra := [], messages := [S!"Could not find image file for a:blip element"] } := by
  unfold readBlip
  rw [h1, h2]
  rfl

/-- `w:sym` without `w:char`: skipped with a warning naming character and font -/
theorem C16_sym_without_char_warns (as : Attrs) (h : attr? S!"w:char" as = none) :
    readSymbol as =
      .ok { elements := [], extra := [],
            messages := [S!"A w:sym element with an unsupported character was ignored: char None in font " ++
                           pyOpt (attr? S!"w:font" as)] } := by
  unfold readSymbol
  simp only [h]
  rfl

/-- the messages of a sequence of nodes are those of the first element followed by those of the
    rest: nothing is dropped or reordered on the way up -/
theorem C16_reader_messages_concat (rd : RState → XmlNode → Except Err (ReadResult × RState))
    (st st1 st2 : RState) (name : Str) (as : Attrs) (cs rest : List XmlNode) (r1 r2 : ReadResult)
    (h1 : rd st (.elem name as cs) = .ok (r1, st1)) (h2 : readAllWith rd st1 rest = .ok (r2, st2)) :
    ∃ r, readAllWith rd st (.elem name as cs :: rest) = .ok (r, st2) ∧
      r.messages = r1.messages ++ r2.messages ∧ r.elements = r1.elements ++ r2.elements := by
  rw [readAllWith]
  · simp only [bind, Except.bind, h1, h2]
    exact ⟨_, rfl, rfl, rfl⟩
  · intro s hs; cases hs

/-! ### examples -/

/-- a linked image and no way to open it: reported -/
example :
    ((visit {} false (.image { src := .linked S!"a.png" })).run {}).toOption.map (·.2.messages) =
      some [S!"could not find external image 'a.png', fileobj has no name"] := by decide +kernel

/-- a clean body, and one that is not (a styled paragraph nobody maps) -/
example : c16_cleanL {} [.paragraph {} [.run { bold := true } [.text S!"x"], .noteRef S!"footnote" S!"1"]] = true := by
  decide +kernel
example : c16_cleanL {} [.paragraph { styleId := some S!"Fancy" } []] = false := by decide +kernel
example : c16_cleanL { styleMap := [⟨.paragraph (some S!"Fancy") none none, .elements []⟩] }
            [.paragraph { styleId := some S!"Fancy" } []] = true := by decide +kernel

example : unique [3, 1, 3, 2, 1] = [3, 1, 2] := by decide +kernel
example : unique ([1, 2] ++ unique [2, 2, 3]) = unique ([1, 2] ++ [2, 2, 3]) := by decide +kernel
example : (readBreak [(S!"w:type", S!"weird")]).messages = [S!"Unsupported break type: weird"] := by decide +kernel
example : (readBreak [(S!"w:type", S!"page")]).messages = [] := by decide +kernel
example : handlerOf S!"w:unknownThing" = none ∧ S!"w:unknownThing" ∉ Generated.ignored := by decide +kernel
example : S!"w:sectPr" ∈ Generated.ignored := by decide +kernel
/-- a styled paragraph without mapping: one warning; twice the same paragraph: the state has the
    message twice, the result of `unique` once -/
example :
    ((visitAll {} false [.paragraph { styleId := some S!"X" } [], .paragraph { styleId := some S!"X" } []]).run
        {}).toOption.map (fun r => (r.2.messages.length, (unique r.2.messages).length)) = some (2, 1) := by
  rfl


/-! ### the GLOBAL statement on the reader side: messages = an independent traversal of the XML -/

/-- THE READER'S MESSAGES ARE THE WARNINGS OF THE SPECIFICATION.  For every environment (styles, numbering,
    relationships, content types), every amount of fuel, every reader state and every XML node: if the
    element reader returns `(r, st')`, then
      * `r.messages` is exactly the list of warnings that `c16_spec` (Proofs/C16_XmlSpec.lean: a structural
        traversal of the tree by element NAMES — unknown elements, undefined paragraph / run / table styles,
        unsupported breaks and symbols, pictures without image or of an unlikely type, `v:imagedata` without
        id, tables with non-rows / rows with non-cells — in reading order) prescribes, run in the field
        state of `st` (`c16_abs st`: the open complex fields and the instruction text, on which it depends
        whether a `w:fldChar end` directly inside a table is a stray check box) and with the buffer that
        stands for the content the reader holds back after deleted paragraph marks (`c16_pend env st.deleted`);
      * the field state afterwards is the one the specification computes;
      * CONSERVATION of deferred content: the content held back afterwards is the buffer the specification
        leaves — what a deleted-mark paragraph contains is reported by the next opened paragraph (after that
        paragraph's own style warning, before its own content), or is still waiting. -/
theorem C16_read_messages_spec (env : REnv) (f : Nat) (st : RState) (n : XmlNode) (r : ReadResult) (st' : RState)
    (h : readElem env f st n = .ok (r, st')) :
    r.messages = ((c16_spec env n (c16_pend env st.deleted)).eff (c16_abs st)).msgs ∧
    c16_abs st' = ((c16_spec env n (c16_pend env st.deleted)).eff (c16_abs st)).fs ∧
    c16_pend env st'.deleted = (c16_spec env n (c16_pend env st.deleted)).buf := by
  have hp := c16_readElem_spec env f st n r st' h
  exact ⟨hp.sum.msgs, hp.fs, hp.buf⟩

/-- …the same for a list of sibling nodes (`read_all`) -/
theorem C16_read_messages_spec_all (env : REnv) (f : Nat) (st : RState) (ns : List XmlNode) (r : ReadResult)
    (st' : RState) (h : readAll env f st ns = .ok (r, st')) :
    r.messages = ((c16_specL env ns (c16_pend env st.deleted)).eff (c16_abs st)).msgs ∧
    c16_abs st' = ((c16_specL env ns (c16_pend env st.deleted)).eff (c16_abs st)).fs ∧
    c16_pend env st'.deleted = (c16_specL env ns (c16_pend env st.deleted)).buf := by
  have hp := c16_readAll_spec env f st ns r st' h
  exact ⟨hp.sum.msgs, hp.fs, hp.buf⟩

/-- …and from the initial state (no open field, nothing held back), which is how every story of a package
    is read: the messages are `c16_xmlWarnings env ns` -/
theorem C16_read_messages_initial (env : REnv) (f : Nat) (ns : List XmlNode) (r : ReadResult) (st' : RState)
    (h : readAll env f {} ns = .ok (r, st')) : r.messages = c16_xmlWarnings env ns :=
  c16_readAll_initial env f ns r st' h

/-- the specification also says what the table reader sees: whether the elements read are all rows made of
    cells (code 0), all rows but one with a non-cell (1), or not all rows (2), and whether they are all cells -/
theorem C16_read_grid_shape (env : REnv) (f : Nat) (st : RState) (n : XmlNode) (r : ReadResult) (st' : RState)
    (h : readElem env f st n = .ok (r, st')) :
    (if !r.elements.all isRow then 2 else if !(r.elements.all fun row => (rowCells row).all isCell) then 1 else 0) =
        ((c16_spec env n (c16_pend env st.deleted)).eff (c16_abs st)).code ∧
    r.elements.all isCell = ((c16_spec env n (c16_pend env st.deleted)).eff (c16_abs st)).cells := by
  have hp := c16_readElem_spec env f st n r st' h
  exact ⟨hp.sum.code, hp.sum.cells⟩

/-- the specification of a paragraph, spelled out: with a deleted mark it reports nothing and its content
    (preceded by what was already waiting) waits at level 0 of the buffer; without, it reports its style
    warning, then what was waiting, then its own content -/
theorem C16_spec_paragraph (env : REnv) (as : Attrs) (cs : List XmlNode) (b : c16_Buf) :
    c16_spec env (.elem S!"w:p" as cs) b =
      if c16_delMark cs then
        ⟨c16_skip, c16_bufCons (c16_seq (c16_bufHead b) (c16_specL env cs (c16_bufTail b)).eff)
                      (c16_specL env cs (c16_bufTail b)).buf⟩
      else
        ⟨c16_box (c16_styleWarn S!"Paragraph" S!"w:pPr" S!"w:pStyle" env.styles.paragraph cs)
            (c16_seq (c16_bufHead b) (c16_specL env cs (c16_bufTail b)).eff),
         (c16_specL env cs (c16_bufTail b)).buf⟩ :=
  c16_spec_paragraph env as cs b (by decide)

/-- the names the specification treats as unknown are exactly the names without a reader
    (`Generated.handlers`); of those, the ones on `Generated.ignored` are silent -/
theorem C16_spec_unknown_iff (name : Str) : c16_kindOf name = .unknown ↔ handlerOf name = none := by
  refine ⟨fun h => ?_, c16_kindOf_none⟩
  cases hg : handlerOf name with
  | none => rfl
  | some g =>
    obtain ⟨k, _, hk⟩ := c16_kindOf_handler hg
    rw [hk] at h
    cases k <;> cases h

/-! ### clean XML is silent; an anomaly at any depth is not -/

/-- CLEAN XML IS READ WITHOUT ANY MESSAGE.  `c16_xmlCleanL env ns` (decidable, Proofs/C16_XmlClean.lean):
    made only of supported constructs — every element has a reader or is on the ignore list, every
    paragraph / run / table style id is defined, breaks and symbols are supported, every picture resolves to
    an image of a type browsers show, tables contain rows and rows contain cells.  Then, for every fuel and
    every reader state whose held-back content is clean as well, reading `ns` gives no message. -/
theorem C16_xml_clean_silent (env : REnv) (f : Nat) (st : RState) (ns : List XmlNode) (r : ReadResult)
    (st' : RState) (hc : c16_xmlCleanL env ns = true) (hd : c16_xmlCleanL env st.deleted = true)
    (h : readAll env f st ns = .ok (r, st')) : r.messages = [] :=
  c16_read_clean_silent env f st ns r st' hc hd h

/-- …in particular from the initial state -/
theorem C16_xml_clean_silent_initial (env : REnv) (f : Nat) (ns : List XmlNode) (r : ReadResult)
    (st' : RState) (hc : c16_xmlCleanL env ns = true)
    (h : readAll env f {} ns = .ok (r, st')) : r.messages = [] :=
  c16_read_clean_silent env f {} ns r st' hc rfl h

/-- AN ANOMALY AT ANY DEPTH YIELDS ITS WARNING.  `c16_occursL p ns`: an element satisfying `p` occurs at a
    position of `ns` that the reader reads (at any depth: body, tables, text boxes, hyperlinks, alternate
    content, structured document tags).  If every such element reports `w` for itself (`c16_ownWarn`), then
    `w` is among the reader's messages — unless the element sits in the content of a deleted-mark paragraph
    that no later paragraph has taken over, in which case it is still in the buffer (`c16_BufHas`). -/
theorem C16_anomaly_any_depth (env : REnv) (p : Str → Attrs → List XmlNode → Bool) (w : Str)
    (hp : ∀ name as cs, p name as cs = true → w ∈ c16_ownWarn env name as cs)
    (f : Nat) (st : RState) (ns : List XmlNode) (r : ReadResult) (st' : RState)
    (h : readAll env f st ns = .ok (r, st'))
    (ho : c16_occursL p ns = true ∨ c16_occursL p st.deleted = true) :
    w ∈ r.messages ∨ c16_BufHas w (c16_pend env st'.deleted) :=
  c16_read_anomaly env p w hp f st ns r st' h ho

/-- …so when nothing is held back at the end, it IS among the messages -/
theorem C16_anomaly_any_depth_reported (env : REnv) (p : Str → Attrs → List XmlNode → Bool) (w : Str)
    (hp : ∀ name as cs, p name as cs = true → w ∈ c16_ownWarn env name as cs)
    (f : Nat) (st : RState) (ns : List XmlNode) (r : ReadResult) (st' : RState)
    (h : readAll env f st ns = .ok (r, st')) (ho : c16_occursL p ns = true) (hend : st'.deleted = []) :
    w ∈ r.messages := by
  rcases c16_read_anomaly env p w hp f st ns r st' h (Or.inl ho) with h1 | h2
  · exact h1
  · rw [hend, c16_pend_nil] at h2
    exact absurd h2 (c16_not_BufHas_noBuf w)

/-- UNKNOWN ELEMENT, any depth: an element named `x` (no reader, not on the ignore list) at a read position -/
theorem C16_unknown_element_any_depth (env : REnv) (x : Str) (hx : handlerOf x = none)
    (hi : x ∉ Generated.ignored) (f : Nat) (st : RState) (ns : List XmlNode) (r : ReadResult) (st' : RState)
    (h : readAll env f st ns = .ok (r, st'))
    (ho : c16_occursL (fun name _ _ => name == x) ns = true) (hend : st'.deleted = []) :
    (S!"An unrecognised element was ignored: " ++ x) ∈ r.messages := by
  refine C16_anomaly_any_depth_reported env _ _ ?_ f st ns r st' h ho hend
  intro name as cs hn
  have : name = x := by simpa using hn
  subst this
  simp [c16_ownWarn, c16_kindOf_none hx, c16_unknownWarn, hi]

/-- UNDEFINED PARAGRAPH STYLE, any depth: a `w:p` (mark not deleted) whose `w:pPr/w:pStyle` is an id that
    `styles.xml` does not define as a paragraph style -/
theorem C16_undefined_paragraph_style_any_depth (env : REnv) (sid : Str)
    (hs : lookupLast (some sid) env.styles.paragraph = none)
    (f : Nat) (st : RState) (ns : List XmlNode) (r : ReadResult) (st' : RState)
    (h : readAll env f st ns = .ok (r, st'))
    (ho : c16_occursL (fun name _ cs => name == S!"w:p" && !c16_delMark cs &&
            (childAttr S!"w:pStyle" S!"w:val" (findChildOrNull S!"w:pPr" cs).2 == some sid)) ns = true)
    (hend : st'.deleted = []) :
    (S!"Paragraph style with ID " ++ sid ++ S!" was referenced but not defined in the document") ∈ r.messages := by
  refine C16_anomaly_any_depth_reported env _ _ ?_ f st ns r st' h ho hend
  intro name as cs hn
  simp only [Bool.and_eq_true, beq_iff_eq, Bool.not_eq_true'] at hn
  obtain ⟨⟨rfl, hd⟩, hsid⟩ := hn
  have hk : c16_kindOf S!"w:p" = .paragraph := by decide
  simp [c16_ownWarn, hk, hd, c16_styleWarn, hsid, hs]

/-- UNDEFINED RUN STYLE, any depth -/
theorem C16_undefined_run_style_any_depth (env : REnv) (sid : Str)
    (hs : lookupLast (some sid) env.styles.character = none)
    (f : Nat) (st : RState) (ns : List XmlNode) (r : ReadResult) (st' : RState)
    (h : readAll env f st ns = .ok (r, st'))
    (ho : c16_occursL (fun name _ cs => name == S!"w:r" &&
            (childAttr S!"w:rStyle" S!"w:val" (findChildOrNull S!"w:rPr" cs).2 == some sid)) ns = true)
    (hend : st'.deleted = []) :
    (S!"Run style with ID " ++ sid ++ S!" was referenced but not defined in the document") ∈ r.messages := by
  refine C16_anomaly_any_depth_reported env _ _ ?_ f st ns r st' h ho hend
  intro name as cs hn
  simp only [Bool.and_eq_true, beq_iff_eq] at hn
  obtain ⟨rfl, hsid⟩ := hn
  have hk : c16_kindOf S!"w:r" = .run := by decide
  simp [c16_ownWarn, hk, c16_styleWarn, hsid, hs]

/-- UNDEFINED TABLE STYLE, any depth -/
theorem C16_undefined_table_style_any_depth (env : REnv) (sid : Str)
    (hs : lookupLast (some sid) env.styles.table = none)
    (f : Nat) (st : RState) (ns : List XmlNode) (r : ReadResult) (st' : RState)
    (h : readAll env f st ns = .ok (r, st'))
    (ho : c16_occursL (fun name _ cs => name == S!"w:tbl" &&
            (childAttr S!"w:tblStyle" S!"w:val" (findChildOrNull S!"w:tblPr" cs).2 == some sid)) ns = true)
    (hend : st'.deleted = []) :
    (S!"Table style with ID " ++ sid ++ S!" was referenced but not defined in the document") ∈ r.messages := by
  refine C16_anomaly_any_depth_reported env _ _ ?_ f st ns r st' h ho hend
  intro name as cs hn
  simp only [Bool.and_eq_true, beq_iff_eq] at hn
  obtain ⟨rfl, hsid⟩ := hn
  have hk : c16_kindOf S!"w:tbl" = .table := by decide
  simp [c16_ownWarn, hk, c16_styleWarn, hsid, hs]

/-! ### composition to the package and to the public entry point -/

/-- THE MESSAGES OF `docx.read` are, for every package and every fuel, the warnings the specification
    prescribes for the four stories of the package — footnotes, endnotes, comments, body, in this order —
    each in its own environment (`c16_pkgStories`, `c16_readerWarnings`: no fuel, no reader state) -/
theorem C16_reader_messages_package (p : Package) (fuel : Nat) (doc : Document) (msgs : List Str)
    (h : readPackage p fuel = .ok (doc, msgs)) : c16_readerWarnings p = .ok msgs :=
  c16_readPackage_messages p fuel doc msgs h

/-- the messages of a whole conversion, reader part specified: `unique` of
      warnings of the explicit style map ++ warnings of the embedded style map
      ++ the reader warnings of the stories (footnotes, endnotes, comments, body; per `c16_xmlWarnings`)
      ++ the messages the converter records while visiting the (transformed) document -/
theorem C16_api_messages_reader_spec (p : Package) (fuel : Nat) (base : Option Str)
    (world : Str → Option Bytes) (tr : Document → Document) (o : Options) (r : ApiOut)
    (h : apiConvert p fuel base world tr o = .ok r) :
    ∃ embedded stories doc nodes st,
      (if o.includeEmbedded then readEmbeddedStyleMap p else .ok none) = .ok embedded ∧
      c16_pkgStories p = .ok stories ∧
      readPackage p fuel = .ok (doc, c16_storiesWarnings stories) ∧
      (visitDocument { c16_apiCfg p base world o embedded with comments := (tr doc).comments }
          (tr doc)).run {} = .ok (nodes, st) ∧
      r.messages =
        unique (c16_styleWarnings (o.styleMap.getD []) ++ c16_styleWarnings (embedded.getD []) ++
                c16_storiesWarnings stories ++ st.messages) := by
  obtain ⟨embedded, doc, readMsgs, nodes, st, he, hd, hv, hm, _⟩ :=
    C16_api_messages_flat p fuel base world tr o r h
  have hw := c16_readPackage_messages p fuel doc readMsgs hd
  unfold c16_readerWarnings at hw
  cases hs : c16_pkgStories p with
  | error e => rw [hs] at hw; cases hw
  | ok stories =>
    rw [hs] at hw
    cases hw
    exact ⟨embedded, stories, doc, nodes, st, he, rfl, hd, hv, hm⟩

/-! ### the converter side: messages = an independent traversal of the document -/

/-- WHAT VISITING AN ELEMENT RECORDS.  For every configuration, element and converter state: the messages
    added are exactly the warnings among `c16_cevs cfg e` (Proofs/C16_ConvSpec.lean: by recursion on the
    document tree — "Unrecognised paragraph/run style" for a paragraph / run that has a style id and no
    matching mapping, the `Image.open` warning of an image that cannot be opened, nothing below an element
    mapped to `!`), the note references and the referenced comments added are the ones among these events -/
theorem C16_visit_records (cfg : Cfg) (hdr : Bool) (e : Elem) (st st' : ConvState) (ns : List Node)
    (h : (visit cfg hdr e).run st = .ok (ns, st')) :
    st'.messages = st.messages ++ c16_cWarns (c16_cevs cfg e) ∧
    st'.noteRefs = st.noteRefs ++ c16_cRefs (c16_cevs cfg e) ∧
    st'.refComments.map Prod.snd = st.refComments.map Prod.snd ++ c16_cComments cfg (c16_cevs cfg e) := by
  have p := c16_visit_events cfg hdr e st ns st' h
  exact ⟨p.msgs, p.refs, p.comments⟩

/-- THE MESSAGES OF THE CONVERTER for a whole document: `unique` of the warnings of the body, then of the
    notes the body references (in order of reference), then of the comments referenced from body and notes
    (`c16_docWarnings`) -/
theorem C16_convert_messages_spec (cfg : Cfg) (d : Document) (cr : ConvResult)
    (h : convertDoc cfg d = .ok cr) : cr.messages = unique (c16_docWarnings cfg d) := by
  obtain ⟨nodes, st, hv, hm⟩ := C16_convertDoc_messages cfg d cr h
  rw [hm, (c16_visitDocument_events _ d {} st nodes rfl rfl hv).msgs]
  rfl

/-- THE MESSAGES OF A WHOLE CONVERSION are `unique` of
      the warnings of the explicit style map ++ the warnings of the embedded style map
      ++ the reader warnings of the stories of the package (footnotes, endnotes, comments, body: `c16_xmlWarnings`)
      ++ the converter warnings of the (transformed) document that was read (`c16_docWarnings`)
    — every distinct warning once, at the position of its first occurrence in this order -/
theorem C16_api_messages_spec (p : Package) (fuel : Nat) (base : Option Str)
    (world : Str → Option Bytes) (tr : Document → Document) (o : Options) (r : ApiOut)
    (h : apiConvert p fuel base world tr o = .ok r) :
    ∃ embedded stories doc,
      (if o.includeEmbedded then readEmbeddedStyleMap p else .ok none) = .ok embedded ∧
      c16_pkgStories p = .ok stories ∧
      readPackage p fuel = .ok (doc, c16_storiesWarnings stories) ∧
      r.messages =
        unique (c16_styleWarnings (o.styleMap.getD []) ++ c16_styleWarnings (embedded.getD []) ++
                c16_storiesWarnings stories ++
                c16_docWarnings (c16_apiCfg p base world o embedded) (tr doc)) ∧
      r.messages.Nodup := by
  obtain ⟨embedded, stories, doc, nodes, st, he, hs, hd, hv, hm⟩ :=
    C16_api_messages_reader_spec p fuel base world tr o r h
  have pv := c16_visitDocument_events _ (tr doc) {} st nodes rfl rfl hv
  refine ⟨embedded, stories, doc, he, hs, hd, ?_, by rw [hm]; exact C16_unique_nodup _⟩
  rw [hm, pv.msgs]
  rfl

/-- A CLEAN PACKAGE CONVERTS WITHOUT ANY MESSAGE: every story is clean XML (`c16_pkgXmlClean`), every line
    of the explicit and of the embedded style map parses (`c16_styleMapOk`), and every styled paragraph / run
    of the document that was read is recognised by a mapping and every image can be opened (`c16_docClean`,
    on the transformed document, under the configuration of this conversion) -/
theorem C16_clean_package_silent (p : Package) (fuel : Nat) (base : Option Str)
    (world : Str → Option Bytes) (tr : Document → Document) (o : Options) (r : ApiOut)
    (embedded : Option Str) (doc : Document) (msgs : List Str)
    (h : apiConvert p fuel base world tr o = .ok r)
    (hx : c16_pkgXmlClean p = true)
    (hs1 : c16_styleMapOk (o.styleMap.getD []) = true)
    (he : (if o.includeEmbedded then readEmbeddedStyleMap p else .ok none) = .ok embedded)
    (hs2 : c16_styleMapOk (embedded.getD []) = true)
    (hd : readPackage p fuel = .ok (doc, msgs))
    (hc : c16_docClean (c16_apiCfg p base world o embedded) (tr doc) = true) :
    r.messages = [] := by
  obtain ⟨embedded', stories, doc', nodes, st, he', hs, hd', hv, hm⟩ :=
    C16_api_messages_reader_spec p fuel base world tr o r h
  rw [he] at he'
  cases he'
  rw [hd] at hd'
  cases hd'
  have hw : c16_storiesWarnings stories = [] := by
    unfold c16_pkgXmlClean at hx
    rw [hs] at hx
    exact c16_storiesWarnings_clean stories hx
  simp only [c16_docClean, Bool.and_eq_true, List.all_eq_true] at hc
  have hq := c16_visitDocument_quiet _ (tr doc) st nodes hc.1.1 hc.1.2 hc.2 hv
  rw [hm, c16_styleMapOk_warn _ hs1, c16_styleMapOk_warn _ hs2, hw, hq]
  rfl

/-! ### examples for the global statements -/

/-- the specification on a small story with every kind of reordering: a deleted-mark paragraph (its unknown
    element and its open FORMCHECKBOX field are read by the next paragraph, which is inside a table cell),
    the field ending directly inside a nested table (a stray check box: "non-row"), a text box ending with
    a deleted mark, and an unsupported symbol -/
example :
    c16_xmlWarnings {} [
      .elem S!"w:p" [] [.elem S!"w:pPr" [] [.elem S!"w:rPr" [] [.elem S!"w:del" [] []]],
        .elem S!"w:r" [] [.elem S!"w:foo" [] []],
        .elem S!"w:r" [] [.elem S!"w:fldChar" [(S!"w:fldCharType", S!"begin")] [],
                          .elem S!"w:instrText" [] [.text S!" FORMCHECKBOX "]]],
      .elem S!"w:tbl" [] [.elem S!"w:tr" [] [.elem S!"w:tc" [] [
        .elem S!"w:p" [] [.elem S!"w:pPr" [] [.elem S!"w:pStyle" [(S!"w:val", S!"X")] []],
                          .elem S!"w:r" [] [.elem S!"w:br" [(S!"w:type", S!"odd")] []]],
        .elem S!"w:tbl" [] [.elem S!"w:fldChar" [(S!"w:fldCharType", S!"end")] [],
                            .elem S!"w:tr" [] [.elem S!"w:bar" [] []]]]]],
      .elem S!"w:p" [] [.elem S!"w:sym" [(S!"w:font", S!"Nope"), (S!"w:char", S!"41")] []]] =
    [S!"Paragraph style with ID X was referenced but not defined in the document",
     S!"An unrecognised element was ignored: w:foo",
     S!"Unsupported break type: odd",
     S!"An unrecognised element was ignored: w:bar",
     S!"unexpected non-row element in table, cell merging may be incorrect",
     S!"A w:sym element with an unsupported character was ignored: char 41 in font Nope"] := by
  decide +kernel

/-- the converter specification on a small document: an unmapped paragraph style, inside it an unmapped run
    style and a linked image that cannot be opened; a paragraph sent to `!` (its styled run is never
    visited: no warning); the same unmapped paragraph style again -/
example :
    c16_docWarnings { styleMap := [⟨.paragraph (some S!"Drop") none none, .ignore⟩] }
      { children := [
          .paragraph { styleId := some S!"P1", styleName := some S!"Para One" } [
            .run { styleId := some S!"R1" } [.text S!"x"], .image { src := .linked S!"a.png" }],
          .paragraph { styleId := some S!"Drop" } [.run { styleId := some S!"R2" } [.text S!"y"]],
          .paragraph { styleId := some S!"P1", styleName := some S!"Para One" } []],
        notes := [], comments := [] } =
    [S!"Unrecognised paragraph style: Para One (Style ID: P1)",
     S!"Unrecognised run style: None (Style ID: R1)",
     S!"could not find external image 'a.png', fileobj has no name",
     S!"Unrecognised paragraph style: Para One (Style ID: P1)"] := by
  decide +kernel

/-- A CONCRETE, NON-TRIVIAL CLEAN PACKAGE (Proofs/C16_Example.lean: styles, a footnote, an image, a table
    with a spanning cell, a text box, a hyperlink, a dingbat, …) satisfies the hypotheses `hx`, `hs1`, `he`, `hc`
    of `C16_clean_package_silent` under the default options (`hs2` is then `hs1`: no embedded style map, and
    no explicit one), and converts with no message -/
example : c16_pkgXmlClean c16_exCleanPkg = true := c16_ex_runs.1.1
example : c16_styleMapOk (({} : Options).styleMap.getD []) = true := by decide +kernel
example : (readEmbeddedStyleMap c16_exCleanPkg).toOption = some none := by decide +kernel
example :
    (match readPackage c16_exCleanPkg 30 with
     | .ok (doc, _) => c16_docClean (c16_apiCfg c16_exCleanPkg none (fun _ => none) {} none) doc
     | .error _ => false) = true := by
  have h := c16_ex_runs.1.2.1
  -- the `match` of `c16_ex_runs` is another auxiliary function than the one here: they agree on constructors
  generalize readPackage c16_exCleanPkg 30 = r at h ⊢
  rcases r with e | ⟨doc, msgs⟩
  · exact h
  · exact h
example :
    ((apiConvert c16_exCleanPkg 30 none (fun _ => none) id {}).toOption.map (·.messages)) = some [] :=
  c16_ex_runs.1.2.2

/-- TWO IDENTICAL ANOMALIES AT DIFFERENT DEPTHS, ONE WARNING: the unknown element `w:foo` inside a run of
    the body and inside a table cell in a text box in the footnote — the reader reports it twice (footnotes
    first), the conversion once -/
example :
    (c16_readerWarnings c16_exAnomalyPkg).toOption =
      some [S!"An unrecognised element was ignored: w:foo", S!"An unrecognised element was ignored: w:foo"] := by
  have h := c16_ex_runs.2.1
  cases hr : readPackage c16_exAnomalyPkg 30 with
  | error e => rw [hr] at h; cases h
  | ok dm =>
    rw [hr] at h
    rw [c16_readPackage_messages _ _ _ _ hr]
    exact h
example :
    ((apiConvert c16_exAnomalyPkg 30 none (fun _ => none) id {}).toOption.map (·.messages)) =
      some [S!"An unrecognised element was ignored: w:foo"] :=
  c16_ex_runs.2.2

/-- the hypotheses of the any-depth theorems on a simplified copy of that package's footnote story: `w:foo`
    occurs (four containers deep), it has no reader and is not ignored -/
example :
    c16_occursL (fun name _ _ => name == S!"w:foo")
      [c16_exFootnotes [c16_exEl S!"w:foo"]] = false ∧      -- the part's root is not a story node …
    c16_occursL (fun name _ _ => name == S!"w:foo")
      (c16_noteNodes S!"footnote" [.elem S!"w:footnote" [(S!"w:id", S!"1")] [
        c16_exPara [c16_exTextBox [c16_exEl S!"w:tbl" [c16_exEl S!"w:tr" [c16_exEl S!"w:tc" [c16_exEl S!"w:foo"]]]]]]]) = true ∧
    handlerOf S!"w:foo" = none ∧ S!"w:foo" ∉ Generated.ignored := by
  decide +kernel

/-- the any-depth theorems are not vacuous: an undefined run style and an unknown element three containers
    deep in a table; the reader ends with nothing held back and reports both -/
example :
    let ns : List XmlNode := [c16_exEl S!"w:tbl" [c16_exEl S!"w:tr" [c16_exEl S!"w:tc" [c16_exPara [
      c16_exRun [c16_exEl S!"w:rPr" [c16_exVal S!"w:rStyle" S!"Ghost"], c16_exEl S!"w:foo"]]]]]]
    c16_occursL (fun name _ _ => name == S!"w:foo") ns = true ∧
    c16_occursL (fun name _ cs => name == S!"w:r" &&
      (childAttr S!"w:rStyle" S!"w:val" (findChildOrNull S!"w:rPr" cs).2 == some S!"Ghost")) ns = true ∧
    lookupLast (some S!"Ghost") ({} : REnv).styles.character = none ∧
    (readAll {} 30 {} ns).toOption.map (fun x => (x.2.deleted.isEmpty, x.1.messages)) =
      some (true, [S!"Run style with ID Ghost was referenced but not defined in the document",
                   S!"An unrecognised element was ignored: w:foo"]) := by
  decide +kernel

/-- …and the second disjunct of `C16_anomaly_any_depth` is needed: an anomaly in a deleted-mark paragraph at
    the END of a story is never read (the reader is left holding the content) — no warning -/
example :
    let ns : List XmlNode := [c16_exPara [c16_exEl S!"w:pPr" [c16_exEl S!"w:rPr" [c16_exEl S!"w:del"]],
                                          c16_exRun [c16_exEl S!"w:foo"]]]
    c16_occursL (fun name _ _ => name == S!"w:foo") ns = true ∧
    (readAll {} 30 {} ns).toOption.map (fun x => (x.2.deleted.length, x.1.messages)) = some (2, []) ∧
    -- followed by any paragraph, it is reported by that paragraph
    (readAll {} 30 {} (ns ++ [c16_exPara []])).toOption.map (fun x => (x.2.deleted.length, x.1.messages)) =
      some (0, [S!"An unrecognised element was ignored: w:foo"]) := by
  decide +kernel

/-- clean and not clean -/
example : c16_xmlCleanL {} (c16_exBody []) = false := by decide +kernel   -- styles undefined in the empty environment
example : c16_xmlCleanL {} [c16_exPara [c16_exTxt S!"x"], c16_exEl S!"w:tbl" [c16_exEl S!"w:tr" [c16_exEl S!"w:tc" [c16_exPara []]]]] = true := by
  decide +kernel
example : c16_xmlCleanL {} [c16_exEl S!"w:tbl" [c16_exEl S!"w:tr" [c16_exPara []]]] = false := by decide +kernel

/-- The extracted tables these theorems consume equal the validated copies in `Proofs/Pins.lean`. -/
theorem C16_tables_as_validated :
    (Generated.handlers = pin_handlers) ∧
    (sameSet Generated.ignored pin_ignored = true) ∧
    (sameSet Generated.browserImageTypes pin_browserImageTypes = true) ∧
    (dingbatSums Generated.dingbats = (1061, 217117, 77998056)) :=
  ⟨pins_handlers, pins_ignored, pins_browserImageTypes, pins_dingbats⟩

end Mammoth
