/-
  C12 — embedding a style map round-trips and preserves the rest of the package.

  Model: `MammothModel/Embed.lean` (`write_style_map`, `read_style_map`, `zips.update_zip`, the file).
  The XML and ZIP codecs are parameters; their round-trip laws (`XmlCodec.Lawful`, `ZipCodec.Lawful`)
  are hypotheses of the theorems that need them.  UTF-8 is implemented and proved.
-/
import Proofs.C12_Embed
import Proofs.C12_Codecs
import Proofs.C12_ConvExample
namespace Mammoth

/-- `bytes.decode("utf8")` inverts `str.encode("utf8")`, for every string (all planes, 1–4 byte forms). -/
theorem C12_utf8_roundtrip (s : Str) : utf8DecodeL (utf8Encode s) = some s := c12_utf8_roundtrip s

/-- After a successful `write_style_map(file, s)`, `read_style_map` returns exactly `s` — for EVERY
    string `s` (empty, non-ASCII, containing newlines, …). -/
theorem C12_embed_read (x : XmlCodec) (a a' : Archive) (s : Str)
    (h : embedArchive x a s = some a') : readEmbedded a' = some s := by
  unfold readEmbedded
  rw [c12_embed_get_sm x a a' s h]
  exact c12_utf8_roundtrip s

/-- Every part other than the three that are set has byte-identical content afterwards (and an absent
    part stays absent); no name disappears: the names of the new archive are the old names together
    with the three; and every name occurs exactly once in the new archive. -/
theorem C12_embed_others (x : XmlCodec) (a a' : Archive) (s : Str)
    (h : embedArchive x a s = some a') :
    (∀ n, n ≠ styleMapPath → n ≠ relsPartPath → n ≠ contentTypesPartPath → a'.get? n = a.get? n) ∧
    (∀ n, n ∈ a'.names ↔
        n ∈ a.names ∨ n = styleMapPath ∨ n = relsPartPath ∨ n = contentTypesPartPath) ∧
    a'.uniqueNames = true := by
  refine ⟨fun n h1 h2 h3 => c12_embed_get_other x a a' s h n (by simp [c12_three, h1, h2, h3]),
    fun n => ?_, c12_embed_unique x a a' s h⟩
  rw [c12_embed_names x a a' s h n]; simp [c12_three]

/-- The embed needs the relationships part and the content-types part: it succeeds iff both are
    present and parse; then the new archive is `update_zip` of the three entries. -/
theorem C12_embed_succeeds_iff (x : XmlCodec) (a : Archive) (s : Str) :
    (embedArchive x a s).isSome = true ↔
      ∃ rb r cb t, a.get? relsPartPath = some rb ∧ x.parse rb = some r ∧
        a.get? contentTypesPartPath = some cb ∧ x.parse cb = some t := by
  constructor
  · intro h
    cases h' : embedArchive x a s with
    | none => rw [h'] at h; cases h
    | some a' =>
      obtain ⟨rb, r, cb, t, h1, h2, h3, h4, _⟩ := c12_embed_inv x a a' s h'
      exact ⟨rb, r, cb, t, h1, h2, h3, h4⟩
  · rintro ⟨rb, r, cb, t, h1, h2, h3, h4⟩
    rw [c12_embed_intro x a s rb cb r t h1 h2 h3 h4]; rfl

/-- `_add_or_update_element` is idempotent, on every tree, for every element name, identifying
    attribute and attribute dictionary (the Python `_find_child` searches the root and ALL
    descendants, and the element it finds is the one updated). -/
theorem C12_addOrUpdate_idempotent (r : EElem) (name idAttr : Str) (attrs : List (Str × Str)) :
    addOrUpdate (addOrUpdate r name idAttr attrs) name idAttr attrs
      = addOrUpdate r name idAttr attrs := c12_addOrUpdate_idem r name idAttr attrs

/-- `addOrUpdate` is the Python control flow: if `_find_child` (search of the root and all its
    descendants) returns `None`, a new child is appended to the ROOT; otherwise the tree keeps its
    shape and only attribute dictionaries change (see `C12_addOrUpdate_spec` for which). -/
theorem C12_addOrUpdate_findChild (r : EElem) (name idAttr : Str) (attrs : List (Str × Str)) :
    (findChildE r name idAttr attrs = none →
      addOrUpdate r name idAttr attrs = { r with children := r.children ++ [⟨name, attrs, []⟩] }) ∧
    (findChildE r name idAttr attrs ≠ none →
      eSetFirst (eMatches name idAttr attrs) attrs r = some (addOrUpdate r name idAttr attrs)) := by
  constructor
  · intro h
    have := (c12_findChild_none r name idAttr attrs).mp h
    simp [addOrUpdate, this]
  · intro h
    cases h' : eSetFirst (eMatches name idAttr attrs) attrs r with
    | none => exact absurd ((c12_findChild_none r name idAttr attrs).mpr h') h
    | some r' => simp [addOrUpdate, h']

/-- One `_add_or_update_element` seen on the labels `(tag, attributes)` of `root.iter()`: every
    non-matching label is kept in place and unchanged; the matching ones become: the new entry in
    place of the first, the remaining ones as they were (so none if there was at most one). -/
theorem C12_addOrUpdate_spec (r : EElem) (name idAttr : Str) (attrs : List (Str × Str)) :
    (c12_labels (addOrUpdate r name idAttr attrs)).filter (fun l => !c12_matchL name idAttr attrs l)
        = (c12_labels r).filter (fun l => !c12_matchL name idAttr attrs l) ∧
    (c12_labels (addOrUpdate r name idAttr attrs)).filter (c12_matchL name idAttr attrs)
        = (name, attrs) :: ((c12_labels r).filter (c12_matchL name idAttr attrs)).tail :=
  ⟨c12_addOrUpdate_others r name idAttr attrs, c12_addOrUpdate_matching r name idAttr attrs⟩

/-- After ANY non-empty sequence of embeds (strings of any lengths, in any order), the relationships
    part is the serialisation of a tree `r'` (namely `relsUpdate r`, `r` the original tree) in which
    * exactly one element is a `Relationship` with `Id="rMammothStyleMap"`, and it carries exactly
      the style-map attributes — provided the original had at most one such element;
    * all other elements are the original ones, in order, with unchanged attributes. -/
theorem C12_one_entry (x : XmlCodec) (hx : x.Lawful) (a a' : Archive) (s : Str) (ss : List Str)
    (rb : Bytes) (r : EElem)
    (hr : a.get? relsPartPath = some rb) (hp : x.parse rb = some r)
    (hone : ((c12_labels r).filter c12_isStyleMapRel).length ≤ 1)
    (h : embedAll x a (s :: ss) = some a') :
    a'.get? relsPartPath = some (x.serialise (relsUpdate r)) ∧
    (c12_labels (relsUpdate r)).filter c12_isStyleMapRel
        = [(relationshipElemName, styleMapRelAttrs)] ∧
    (c12_labels (relsUpdate r)).filter (fun l => !c12_isStyleMapRel l)
        = (c12_labels r).filter (fun l => !c12_isStyleMapRel l) := by
  refine ⟨?_, c12_addOrUpdate_one r relationshipElemName S!"Id" styleMapRelAttrs hone,
    c12_addOrUpdate_others r relationshipElemName S!"Id" styleMapRelAttrs⟩
  obtain ⟨rb', r', _, _, e1, e2, _, _, hparts⟩ := c12_embedAll_partsAre x hx a a' s ss h
  rw [hr] at e1; cases e1
  rw [hp] at e2; cases e2
  exact hparts.1

/-- The same for the content-types part and its `Override PartName="/mammoth/style-map"`. -/
theorem C12_one_entry_override (x : XmlCodec) (hx : x.Lawful) (a a' : Archive) (s : Str)
    (ss : List Str) (cb : Bytes) (t : EElem)
    (hc : a.get? contentTypesPartPath = some cb) (hp : x.parse cb = some t)
    (hone : ((c12_labels t).filter c12_isStyleMapOverride).length ≤ 1)
    (h : embedAll x a (s :: ss) = some a') :
    a'.get? contentTypesPartPath = some (x.serialise (contentTypesUpdate t)) ∧
    (c12_labels (contentTypesUpdate t)).filter c12_isStyleMapOverride
        = [(overrideElemName, styleMapOverrideAttrs)] ∧
    (c12_labels (contentTypesUpdate t)).filter (fun l => !c12_isStyleMapOverride l)
        = (c12_labels t).filter (fun l => !c12_isStyleMapOverride l) := by
  refine ⟨?_, c12_addOrUpdate_one t overrideElemName S!"PartName" styleMapOverrideAttrs hone,
    c12_addOrUpdate_others t overrideElemName S!"PartName" styleMapOverrideAttrs⟩
  obtain ⟨_, _, cb', t', _, _, e3, e4, hparts⟩ := c12_embedAll_partsAre x hx a a' s ss h
  rw [hc] at e3; cases e3
  rw [hp] at e4; cases e4
  exact hparts.2

/-- Through any sequence of embeds every other part keeps its bytes and the set of names is the
    original one plus the three. -/
theorem C12_history_others (x : XmlCodec) (a a' : Archive) (s : Str) (ss : List Str)
    (h : embedAll x a (s :: ss) = some a') :
    (∀ n, n ≠ styleMapPath → n ≠ relsPartPath → n ≠ contentTypesPartPath → a'.get? n = a.get? n) ∧
    (∀ n, n ∈ a'.names ↔
        n ∈ a.names ∨ n = styleMapPath ∨ n = relsPartPath ∨ n = contentTypesPartPath) := by
  refine ⟨fun n h1 h2 h3 => c12_embedAll_other x _ a a' h n (by simp [c12_three, h1, h2, h3]),
    fun n => ?_⟩
  rw [c12_embedAll_names x s ss a a' h n]; simp [c12_three]

/-- A fold of embeds: whatever strings were embedded before (longer or shorter ones), reading returns
    the LAST string. -/
theorem C12_history (x : XmlCodec) (a a' : Archive) (ss : List Str) (s : Str)
    (h : embedAll x a (ss ++ [s]) = some a') : readEmbedded a' = some s := by
  rw [c12_embedAll_snoc] at h
  cases h1 : embedAll x a ss with
  | none => rw [h1] at h; cases h
  | some a1 => rw [h1] at h; exact C12_embed_read x a1 a' s h

/-! ### the file -/

/-- With `fileobj.truncate()` after the copy (zips.py `update_zip`, finding F8 repaired), after a successful `write_style_map` the file holds
    EXACTLY the serialisation of the new archive — whatever the previous length of the file, no
    stale bytes —, it parses back to that archive, and reading the style map from the file returns
    `s`. -/
theorem C12_file_exact (z : ZipCodec) (hz : z.Lawful) (x : XmlCodec) (chunk : Nat)
    (file f' : Bytes) (s : Str) (h : embedFile z x chunk none file s = (f', true)) :
    ∃ a a', z.parse file = some a ∧ embedArchive x a s = some a' ∧
      f' = z.serialise a' ∧ z.parse f' = some a' ∧ readEmbeddedFile z f' = some s := by
  unfold embedFile at h
  cases h1 : z.parse file with
  | none => rw [h1] at h; simp at h
  | some a =>
    rw [h1] at h
    simp only [] at h
    cases h2 : embedArchive x a s with
    | none => rw [h2] at h; simp at h
    | some a' =>
      rw [h2] at h
      simp only [writeOver, if_true, Prod.mk.injEq, and_true] at h
      subst h
      have hp : z.parse (z.serialise a') = some a' := hz a' (c12_embed_unique x a a' s h2)
      refine ⟨a, a', rfl, h2, rfl, hp, ?_⟩
      unfold readEmbeddedFile
      rw [hp]
      exact C12_embed_read x a a' s h2

/-- … and conversely: whenever the file is a zip whose two parts are present and parse, the call
    succeeds and leaves exactly the serialisation of the new archive. -/
theorem C12_file_exact_intro (z : ZipCodec) (x : XmlCodec) (chunk : Nat) (file : Bytes) (s : Str)
    (a a' : Archive) (h1 : z.parse file = some a) (h2 : embedArchive x a s = some a') :
    embedFile z x chunk none file s = (z.serialise a', true) := by
  simp [embedFile, h1, h2, writeOver]

/-- WITHOUT `truncate()` (finding F8: `update_zip` before its repair) the file is NOT the new archive whenever the new
    archive is shorter than the old file: the old tail stays. -/
theorem C12_no_truncate_stale (old new : Bytes) (h : new.length < old.length) :
    writeOver old new false ≠ new := by
  intro e
  have := c12_writeOver_length old new
  rw [e] at this
  omega

/-- … precisely: without truncate the file keeps the old length and the old tail. -/
theorem C12_no_truncate_tail (old new : Bytes) :
    writeOver old new false = new ++ old.drop new.length ∧
    (writeOver old new false).length = max old.length new.length :=
  ⟨by simp [writeOver], c12_writeOver_length old new⟩

/-- with truncate the result never depends on the old content -/
theorem C12_truncate_exact (old new : Bytes) : writeOver old new true = new := by simp [writeOver]

/-- Embeds one after the other on the same file (lengths growing or shrinking): if all succeed,
    the file is a valid archive and the embedded style map is the LAST string. -/
theorem C12_history_file (z : ZipCodec) (hz : z.Lawful) (x : XmlCodec) (chunk : Nat)
    (file f' : Bytes) (ss : List Str) (s : Str)
    (h : embedFileAll z x chunk file (ss ++ [s]) = (f', true)) :
    readEmbeddedFile z f' = some s := by
  induction ss generalizing file with
  | nil =>
    simp only [List.nil_append, embedFileAll] at h
    cases h1 : embedFile z x chunk none file s with
    | mk f1 ok =>
      rw [h1] at h
      cases ok with
      | false => simp at h
      | true =>
        simp only [Prod.mk.injEq, and_true] at h
        subst h
        obtain ⟨_, _, _, _, _, _, hr⟩ := C12_file_exact z hz x chunk file f1 s h1
        exact hr
  | cons s1 ss ih =>
    simp only [List.cons_append, embedFileAll] at h
    cases h1 : embedFile z x chunk none file s1 with
    | mk f1 ok =>
      rw [h1] at h
      cases ok with
      | false => simp at h
      | true => exact ih f1 h

/-- If embedding fails for a reason of its own (not a zip, a part missing, a part that does not
    parse), nothing has been written: the file is byte-for-byte unchanged. -/
theorem C12_failure_unchanged (z : ZipCodec) (x : XmlCodec) (chunk : Nat) (file f' : Bytes)
    (s : Str) (h : embedFile z x chunk none file s = (f', false)) : f' = file := by
  unfold embedFile at h
  cases h1 : z.parse file with
  | none => rw [h1] at h; simp at h; exact h.symm
  | some a =>
    rw [h1] at h
    simp only [] at h
    cases h2 : embedArchive x a s with
    | none => rw [h2] at h; simp at h; exact h.symm
    | some a' => rw [h2] at h; simp at h

/-- A fault (I/O error) at any step before the first write — opening, reading the two parts,
    re-opening, reading all entries, building the new archive in memory, `seek(0)` — leaves the file
    byte-for-byte unchanged, and the call fails. -/
theorem C12_fault_before_write (z : ZipCodec) (x : XmlCodec) (chunk i : Nat) (file : Bytes)
    (s : Str) (hi : i < firstWriteStep) :
    embedFile z x chunk (some i) file s = (file, false) := by
  unfold embedFile
  cases z.parse file with
  | none => rfl
  | some a =>
    simp only []
    cases embedArchive x a s with
    | none => rfl
    | some a' => simp only [hi, if_true]

/-- A fault DURING the write phase (while copying the chunks, or at `truncate()`): here the last
    sentence of the property ("if embedding fails, nothing has been written") does NOT hold and
    cannot hold for an in-place rewrite.  What is left is exactly: the first `k` bytes of the new
    archive followed by the old bytes from offset `k` on, where `k` is the number of bytes of the
    chunks already written (`k = new.length` if the fault is at `truncate()`); the call fails. -/
theorem C12_fault_in_write_partial (z : ZipCodec) (x : XmlCodec) (chunk i : Nat) (hc : 0 < chunk)
    (file : Bytes) (s : Str) (a a' : Archive)
    (hp : z.parse file = some a) (he : embedArchive x a s = some a')
    (h1 : firstWriteStep ≤ i)
    (h2 : i ≤ firstWriteStep + chunkCount chunk (z.serialise a').length) :
    embedFile z x chunk (some i) file s =
      ((z.serialise a').take (min ((i - firstWriteStep) * chunk) (z.serialise a').length)
        ++ file.drop (min ((i - firstWriteStep) * chunk) (z.serialise a').length), false) := by
  unfold embedFile
  rw [hp]; simp only []; rw [he]; simp only []
  have n1 : ¬ i < firstWriteStep := by omega
  rw [if_neg n1]
  by_cases h3 : i < firstWriteStep + chunkCount chunk (z.serialise a').length
  · rw [if_pos h3]
  · have h4 : i = firstWriteStep + chunkCount chunk (z.serialise a').length := by omega
    rw [if_neg h3, if_pos h4]
    have := c12_chunkCount_mul chunk (z.serialise a').length hc
    have hk : min ((i - firstWriteStep) * chunk) (z.serialise a').length
        = (z.serialise a').length := by
      rw [h4]; simp only [Nat.add_sub_cancel_left]; omega
    rw [hk]
    simp [writeOver]

/-- … and that remainder differs from the old file as soon as the bytes written differ from the
    bytes they overwrite: the file is then neither the old archive nor (in general) the new one. -/
theorem C12_fault_in_write_changed (old new : Bytes) (k : Nat) (hk : k ≤ new.length)
    (hk' : k ≤ old.length) (hne : new.take k ≠ old.take k) :
    new.take k ++ old.drop k ≠ old := by
  intro e
  apply hne
  have e2 : new.take k ++ old.drop k = old.take k ++ old.drop k := by
    rw [List.take_append_drop]; exact e
  exact List.append_inj_left e2 (by simp [List.length_take]; omega)

/-! ### examples (non-vacuity) -/

private def c12_exRels : EElem :=
  ⟨S!"Relationships", [], [⟨relationshipElemName, [(S!"Id", S!"rId1"), (S!"Target", S!"styles.xml")], []⟩]⟩

/-- first embed appends the Relationship as last child of the root … -/
example : (relsUpdate c12_exRels == ⟨S!"Relationships", [],
    [⟨relationshipElemName, [(S!"Id", S!"rId1"), (S!"Target", S!"styles.xml")], []⟩,
     ⟨relationshipElemName, styleMapRelAttrs, []⟩]⟩) = true := by decide +kernel

/-- … a stale entry nested somewhere deep (even with other attributes) is found and overwritten in
    place, not duplicated -/
example : (relsUpdate ⟨S!"Relationships", [],
      [⟨S!"x", [], [⟨relationshipElemName, [(S!"Id", S!"rMammothStyleMap"), (S!"Target", S!"old")], []⟩]⟩]⟩
    == ⟨S!"Relationships", [], [⟨S!"x", [], [⟨relationshipElemName, styleMapRelAttrs, []⟩]⟩]⟩) = true := by
  decide +kernel

example : ((c12_labels c12_exRels).filter c12_isStyleMapRel).length ≤ 1 := by decide +kernel

/-- a table codec, enough to run `embedArchive` on a concrete archive -/
private def c12_exCodec : XmlCodec where
  parse b := if b = [1] then some c12_exRels else if b = [2] then some ⟨S!"Types", [], []⟩ else none
  serialise e := if e == relsUpdate c12_exRels then [3] else [4]

private def c12_exArchive : Archive :=
  [(S!"word/document.xml", [9, 9]), (relsPartPath, [1]), (contentTypesPartPath, [2])]

example : embedArchive c12_exCodec c12_exArchive S!"p => h1é" =
    some [(S!"word/document.xml", [9, 9]), (relsPartPath, [3]), (contentTypesPartPath, [4]),
          (styleMapPath, utf8Encode S!"p => h1é")] := by decide +kernel

example : (embedArchive c12_exCodec c12_exArchive S!"p => h1é").bind readEmbedded = some S!"p => h1é" := by
  decide +kernel

/-- a missing part: the embed fails (KeyError) -/
example : embedArchive c12_exCodec [(S!"word/document.xml", [9, 9])] S!"x" = none := by decide +kernel

/-- a table zip codec: the file `[0, 1, 2, 3]` is the example archive; every archive serialises to
    `[5, 5]` (enough to run `embedFile`; not lawful) -/
private def c12_exZip : ZipCodec where
  parse b := if b = [0, 1, 2, 3] then some c12_exArchive else none
  serialise _ := [5, 5]

/-- fault-free: the (shorter) new archive replaces the file completely -/
example : embedFile c12_exZip c12_exCodec 1 none [0, 1, 2, 3] S!"x" = ([5, 5], true) := by decide +kernel
/-- fault while reading: unchanged -/
example : embedFile c12_exZip c12_exCodec 1 (some 4) [0, 1, 2, 3] S!"x" = ([0, 1, 2, 3], false) := by
  decide +kernel
/-- fault after the first one-byte chunk: neither the old nor the new archive -/
example : embedFile c12_exZip c12_exCodec 1 (some 7) [0, 1, 2, 3] S!"x" = ([5, 1, 2, 3], false) := by
  decide +kernel
/-- fault at `truncate()`: new bytes followed by the stale tail -/
example : embedFile c12_exZip c12_exCodec 1 (some 8) [0, 1, 2, 3] S!"x" = ([5, 5, 2, 3], false) := by
  decide +kernel
/-- not a zip: fails, unchanged -/
example : embedFile c12_exZip c12_exCodec 1 none [9] S!"x" = ([9], false) := by decide +kernel

/-- The two codec laws assumed above are satisfiable (witnesses: the toy codecs of
    `Proofs/C12_Codecs.lean`, lawful for every tree / every archive). -/
theorem C12_laws_satisfiable : ∃ (z : ZipCodec) (x : XmlCodec), z.Lawful ∧ x.Lawful :=
  ⟨c12_toyZip, c12_toyXml, c12_toyZip_lawful, c12_toyXml_lawful⟩

/-- a package whose two parts are serialised with the lawful toy codec -/
private def c12_exArchive2 : Archive :=
  [(S!"word/document.xml", [9, 9]), (relsPartPath, c12_toyXml.serialise c12_exRels),
   (contentTypesPartPath, c12_toyXml.serialise ⟨S!"Types", [], []⟩)]

/-- with lawful codecs: on the file holding that package every embed succeeds, for every string -/
example (s : Str) (chunk : Nat) :
    (embedFile c12_toyZip c12_toyXml chunk none (c12_toyZip.serialise c12_exArchive2) s).2 = true := by
  have hp : c12_toyZip.parse (c12_toyZip.serialise c12_exArchive2) = some c12_exArchive2 :=
    c12_toyZip_lawful _ (by decide +kernel)
  have he := c12_embed_intro c12_toyXml c12_exArchive2 s _ _ c12_exRels ⟨S!"Types", [], []⟩
    (by simp [c12_exArchive2, Archive.get?, lookupLast, c12_paths_ne.2.2])
    (c12_toyXml_lawful _)
    (by simp [c12_exArchive2, Archive.get?, lookupLast]) (c12_toyXml_lawful _)
  rw [C12_file_exact_intro _ _ _ _ _ _ _ hp he]

/-- shrinking without truncate leaves stale bytes; with truncate it does not -/
example : writeOver [1, 2, 3, 4, 5] [7, 8] false = [7, 8, 3, 4, 5] := by decide +kernel
example : writeOver [1, 2, 3, 4, 5] [7, 8] true = [7, 8] := by decide +kernel

example : utf8Encode S!"é€𝄞" = [0xC3, 0xA9, 0xE2, 0x82, 0xAC, 0xF0, 0x9D, 0x84, 0x9E] := by decide +kernel
example : utf8DecodeL [0xED, 0xA0, 0x80] = none := by decide +kernel   -- a surrogate
example : utf8DecodeL [0xC0, 0x80] = none := by decide +kernel         -- an overlong form

/-! ### "converting the file equals converting the original with `style_map=s`"

  `c12_embedPkg p s` (Proofs/C12_Convert.lean) is `embed_style_map` on the `Package` the converter reads:
  the relationships part and the content-types part updated by `_add_or_update_element`, the entry
  `mammoth/style-map` set to the UTF-8 bytes of `s`, every other entry untouched; `none` when one of the two
  parts is missing or not XML.  The hypotheses are decidable conditions on the ORIGINAL package
  (Proofs/C12_ConvPackage.lean, Proofs/C12_ConvMain.lean); each is necessary (`C12_embed_convert_necessary`). -/

/-- **Converting the file after `embed_style_map(file, s)` equals converting the original with
    `style_map=s` and `include_embedded_style_map=False`** — the HTML / Markdown value, the messages, the
    generated nodes, the document, the I/O trace and the image-converter calls, or the same error —
    for EVERY package `p` on which the embed succeeds, every string `s`, every option set `o` (both output
    formats, any `id_prefix`, `ignore_empty_paragraphs`, `include_default_style_map`, image converter), every
    `transform_document`, every fuel, base directory and outside world, provided

    1. `c12_relEntryOk p`: the `Relationship` element the embed overwrites (the first element in `iter()` order
       of `word/_rels/document.xml.rels` with `Id="rMammothStyleMap"`, if any) has `Target` and `Type`, and its
       type is not one of the five `_find_part_paths` looks up (comments, endnotes, footnotes, numbering, styles);
    2. `c12_overrideEntryOk p`: the `Override PartName="/mammoth/style-map"` the embed overwrites (if any) has a
       `ContentType`;
    3. `c12_lookupOk p`: `mammoth/style-map` is not a candidate of any part lookup (or exists already), and the
       parts located (main document, comments, endnotes, footnotes, numbering, styles) are none of the three
       entries the embed writes;
    4. `c12_refsOk p`: the XML read with a body reader (body, notes, comments) does not use the relationship id
       `rMammothStyleMap` (where its relationships are `word/_rels/document.xml.rels`), and no image has the
       path `mammoth/style-map`;
    5. `c12_archiveOk p`: the bytes `archiveBytes` reports are those of the last entry of each name (true when
       entry names are unique, `C12_archiveOk_of_unique_names`);
    6. `c12_imagesOk p fuel transform`: the transformed document has no embedded image read from the zip entry
       `mammoth/style-map`.

    When the original ALREADY carries an embedded map `s0` this says: the new map REPLACES it — the right-hand
    side is the conversion with the embedded map `s0` left out (`C12_embed_convert_replaces`). -/
theorem C12_embed_convert (p : Package) (s : Str) (p' : Package) (fuel : Nat) (base : Option Str)
    (world : Str → Option Bytes) (transform : Document → Document) (o : Options)
    (h : c12_embedPkg p s = some p')
    (h1 : c12_relEntryOk p = true) (h2 : c12_overrideEntryOk p = true)
    (h3 : c12_lookupOk p = true) (h4 : c12_refsOk p = true)
    (h5 : c12_archiveOk p = true) (h6 : c12_imagesOk p fuel transform = true) :
    apiConvert p' fuel base world transform { o with styleMap := none, includeEmbedded := true }
      = apiConvert p fuel base world transform { o with styleMap := some s, includeEmbedded := false } :=
  c12_embed_convert p s p' fuel base world transform o h h1 h2 h3 h4 h5 h6

/-- the hypotheses of `C12_embed_convert` are satisfiable: the example package (a `Heading1` paragraph, a
    footnote, a hyperlink, an embedded PNG, styles, content types) satisfies all six, the embed succeeds -/
example : c12_exHyps c12_exPkg = [true, true, true, true, true, true] ∧
    (c12_embedPkg c12_exPkg c12_exMap).isSome = true := ⟨c12_ex_hyps, by decide +kernel⟩

/-- … and on it both conversions evaluate (by kernel computation, not via the theorem) to the same
    non-trivial HTML: `p.Heading1 => h2` gives the `<h2>`, `r => em` the `<em>`s, the default style map the
    rest; the footnote, the hyperlink and the picture are there. -/
example :
    c12_convAfter c12_exPkg S!"p.Heading1 => h2\nr => em" {} = some (.inr (c12_exHtml, [])) ∧
    c12_convBefore c12_exPkg S!"p.Heading1 => h2\nr => em" {} = .inr (c12_exHtml, []) ∧
    c12_exHtml = S!"<h2><em>Title</em></h2><p><em>Hello<sup><a href=\"#footnote-1\" id=\"footnote-ref-1\">[1]</a></sup></em><a href=\"http://example.com/\"><em>link</em></a></p><p><em><img alt=\"pic\" src=\"data:image/png;base64,iVBORw==\" /></em></p><ol><li id=\"footnote-1\"><p><em>Note</em> <a href=\"#footnote-ref-1\">↑</a></p></li></ol>" :=
  ⟨c12_ex_after, c12_ex_before, rfl⟩

/-- unique entry names give hypothesis 5 -/
theorem C12_archiveOk_of_unique_names (p : Package) (h : strsNodup (p.parts.map (·.1)) = true) :
    c12_archiveOk p = true := by
  unfold c12_archiveOk
  rw [List.all_eq_true]
  intro x _
  have := c12_archiveOk_of_nodup p.parts h x.1
  rw [show (⟨p.parts⟩ : Package) = p from rfl] at this
  rw [this]
  exact beq_self_eq_true _

/-- one instance for the observed results, so that the search for the `Decidable` instance of the eight-part
    statement below stays small -/
local instance : DecidableEq (Err ⊕ (Str × List Str)) := inferInstance

/-- **Every hypothesis of `C12_embed_convert` is necessary**: for each there is a concrete package (a variant
    of the example) that violates only it, on which the embed succeeds and the two conversions differ.
    In order: the id `rMammothStyleMap` is taken by the footnotes relationship (another footnote text);
    a `Relationship Id="rMammothStyleMap"` lacks `Target` (KeyError before, fine after); an
    `Override PartName="/mammoth/style-map"` lacks `ContentType` (KeyError before, fine after); a footnotes
    relationship targets `/mammoth/style-map` (skipped before, "not XML" after); the hyperlink uses the id
    `rMammothStyleMap` (KeyError before, a link to the style map after); the picture is the entry
    `mammoth/style-map` (other bytes and content type; this one violates 4 and 6); `transform_document` adds
    an image read from that entry (KeyError before; violates only 6); two entries named
    `word/media/image1.png`, the bytes first and an XML one last (violates only 5; an artefact of the
    model's `archiveBytes`, the library itself reads the last entry both times). -/
theorem C12_embed_convert_necessary :
    (c12_exHyps c12_exIdTaken = [false, true, true, true, true, true] ∧
      c12_convAfter c12_exIdTaken c12_exMap {} ≠ some (c12_convBefore c12_exIdTaken c12_exMap {})) ∧
    (c12_exHyps c12_exIdBroken = [false, true, true, true, true, true] ∧
      c12_convBefore c12_exIdBroken c12_exMap {} = .inl (.key S!"Id/Target/Type") ∧
      c12_convAfter c12_exIdBroken c12_exMap {} = some (.inr (c12_exHtml, []))) ∧
    (c12_exHyps c12_exOverrideBroken = [true, false, true, true, true, true] ∧
      c12_convBefore c12_exOverrideBroken c12_exMap {} = .inl (.key S!"PartName/ContentType") ∧
      c12_convAfter c12_exOverrideBroken c12_exMap {} = some (.inr (c12_exHtml, []))) ∧
    (c12_exHyps c12_exLookup = [true, true, false, true, true, true] ∧
      c12_convBefore c12_exLookup c12_exMap {} = .inr (c12_exHtml, []) ∧
      c12_convAfter c12_exLookup c12_exMap {} = some (.inl (.value S!"not XML: mammoth/style-map"))) ∧
    (c12_exHyps c12_exRefId = [true, true, true, false, true, true] ∧
      c12_convBefore c12_exRefId c12_exMap {} = .inl (.key S!"rMammothStyleMap") ∧
      (c12_convAfter c12_exRefId c12_exMap {}).isSome = true ∧
      c12_convAfter c12_exRefId c12_exMap {} ≠ some (c12_convBefore c12_exRefId c12_exMap {})) ∧
    (c12_exHyps c12_exRefImage = [true, true, true, false, true, false] ∧
      c12_convAfter c12_exRefImage c12_exMap {} ≠ some (c12_convBefore c12_exRefImage c12_exMap {})) ∧
    (c12_imagesOk c12_exPkg 20 c12_exTransform = false ∧
      c12_obs (apiConvert c12_exPkg 20 none (fun _ => none) c12_exTransform
        { styleMap := some c12_exMap, includeEmbedded := false }) = .inl (.key S!"mammoth/style-map") ∧
      ((c12_embedPkg c12_exPkg c12_exMap).map fun p' =>
        (c12_obs (apiConvert p' 20 none (fun _ => none) c12_exTransform
          { styleMap := none, includeEmbedded := true })).isRight) = some true) ∧
    (c12_exHyps c12_exDuplicate = [true, true, true, true, false, true] ∧
      c12_convBefore c12_exDuplicate c12_exMap {} = .inr (c12_exHtml, []) ∧
      c12_convAfter c12_exDuplicate c12_exMap {} = some (.inl (.key S!"word/media/image1.png"))) := by
  -- the embed overwrites the two broken elements: the new file is that of the example
  have he1 : c12_embedPkg c12_exIdBroken c12_exMap = c12_embedPkg c12_exPkg c12_exMap := by c05_kernel_rfl
  have he2 : c12_embedPkg c12_exOverrideBroken c12_exMap = c12_embedPkg c12_exPkg c12_exMap := by
    c05_kernel_rfl
  have ha := c12_ex_after
  unfold c12_convAfter apiConvert readOptions at ha
  unfold c12_convAfter c12_convBefore apiConvert readOptions
  -- the value of the default style map is known: the kernel need not parse its text again
  rw [he1, he2, ha, c08_default_map_value]
  decide +kernel

/-- **The new map replaces an embedded one.**  When the original already carries an embedded style map `s0`,
    the file after `embed_style_map(file, s)` carries `s` instead, and converting it equals converting the
    original with `style_map=s` AND `include_embedded_style_map=False` (same hypotheses as
    `C12_embed_convert`; the property's "converting the original with style_map=s" has to be read this way). -/
theorem C12_embed_convert_replaces (p : Package) (s s0 : Str) (p' : Package) (fuel : Nat) (base : Option Str)
    (world : Str → Option Bytes) (transform : Document → Document) (o : Options)
    (_h0 : readEmbeddedStyleMap p = .ok (some s0))
    (h : c12_embedPkg p s = some p')
    (h1 : c12_relEntryOk p = true) (h2 : c12_overrideEntryOk p = true)
    (h3 : c12_lookupOk p = true) (h4 : c12_refsOk p = true)
    (h5 : c12_archiveOk p = true) (h6 : c12_imagesOk p fuel transform = true) :
    readEmbeddedStyleMap p' = .ok (some s) ∧
    apiConvert p' fuel base world transform { o with styleMap := none, includeEmbedded := true }
      = apiConvert p fuel base world transform { o with styleMap := some s, includeEmbedded := false } := by
  refine ⟨?_, c12_embed_convert p s p' fuel base world transform o h h1 h2 h3 h4 h5 h6⟩
  obtain ⟨r, r', t, t', _, _, _, _, rfl⟩ := c12_embedPkg_inv p s p' h
  exact c12_readEmbeddedStyleMap_embedded p s r' t'

/-- … and it does NOT in general equal converting the original with `style_map=s` and the old embedded map
    still included: the example with `p.Heading1 => h3` embedded satisfies all hypotheses; after embedding
    `r => em` the heading is `<h1>` (default map) — as with the embedded map excluded — whereas
    `style_map="r => em"` with the old map included gives `<h3>`. -/
example :
    c12_exHyps c12_exPkg0 = [true, true, true, true, true, true] ∧
    (readEmbeddedStyleMap c12_exPkg0).toOption = some (some S!"p.Heading1 => h3") ∧
    c12_convAfter c12_exPkg0 S!"r => em" {} = some (c12_convBefore c12_exPkg0 S!"r => em" {}) ∧
    c12_convAfter c12_exPkg0 S!"r => em" {} ≠ some (c12_convBeforeIncl c12_exPkg0 S!"r => em" {}) :=
  c12_ex_replace

/-- **`extract_raw_text` of the file is unchanged by the embed** (raw text never reads the style map):
    for every package on which the embed succeeds, every string and every fuel, under hypotheses 1–4 of
    `C12_embed_convert` (they make `docx.read` of the two files equal; 5 and 6 concern the converter only). -/
theorem C12_embed_raw_text (p : Package) (s : Str) (p' : Package) (fuel : Nat)
    (h : c12_embedPkg p s = some p')
    (h1 : c12_relEntryOk p = true) (h2 : c12_overrideEntryOk p = true)
    (h3 : c12_lookupOk p = true) (h4 : c12_refsOk p = true) :
    apiRawText p' fuel = apiRawText p fuel := by
  unfold apiRawText
  rw [c12_readPackage_embedded p s p' fuel h h1 h2 h3 h4]

set_option maxRecDepth 100000 in
/-- non-vacuity: the raw text of the example, before and after the embed -/
example :
    (apiRawText c12_exPkg 20).toOption = some (S!"Title\n\nHellolink\n\n\n\n", []) ∧
    ((c12_embedPkg c12_exPkg c12_exMap).map fun p' => (apiRawText p' 20).toOption)
      = some (some (S!"Title\n\nHellolink\n\n\n\n", [])) := by decide +kernel

/-- **`c12_embedPkg` refines `embedArchive`** (the archive-level embed of `MammothModel/Embed.lean`) under the
    XML codec law: if the archive and the package hold the same relationships / content-types parts — the
    package the translation `c12_ofE nm` (Clark tags ↦ `prefix:local` names) of what the codec parses —, `nm`
    keeps the names the embed writes, and the `_find_child` tests agree before and after translation on every
    element of the two trees (`c12_agree_of_unique`: attribute keys unique, no other tag / key identified with
    `Relationship` / `Id`, `Override` / `PartName`), then whenever the archive-level embed succeeds the
    package-level one does, the new package again holds the translations of what the codec parses from the
    new archive, the style-map entry holds the same bytes, and all other entries are untouched on both sides. -/
theorem C12_embedPkg_refines (x : XmlCodec) (hx : x.Lawful) (nm : Str → Str) (a a' : Archive) (p : Package)
    (s : Str) (rb cb : Bytes) (re te : EElem)
    (h : embedArchive x a s = some a')
    (hrb : a.get? relsPartPath = some rb) (hre : x.parse rb = some re)
    (hcb : a.get? contentTypesPartPath = some cb) (hte : x.parse cb = some te)
    (hpr : lookupLast relsPartPath p.parts = some (.xml (c12_ofE nm re)))
    (hpt : lookupLast contentTypesPartPath p.parts = some (.xml (c12_ofE nm te)))
    (hn1 : nm relationshipElemName = c12_relName) (hn2 : nm overrideElemName = c12_overrideName)
    (hn3 : nm S!"Id" = S!"Id") (hn4 : nm S!"PartName" = S!"PartName")
    (hn5 : c12_ofAttrs nm styleMapRelAttrs = styleMapRelAttrs)
    (hn6 : c12_ofAttrs nm styleMapOverrideAttrs = styleMapOverrideAttrs)
    (hag1 : c12_agreeAll nm relationshipElemName S!"Id" styleMapRelAttrs re = true)
    (hag2 : c12_agreeAll nm overrideElemName S!"PartName" styleMapOverrideAttrs te = true) :
    ∃ p', c12_embedPkg p s = some p' ∧
      lookupLast styleMapPath p'.parts = some (.bytes (utf8Encode s)) ∧
      a'.get? styleMapPath = some (utf8Encode s) ∧
      (∃ bs e, a'.get? relsPartPath = some bs ∧ x.parse bs = some e ∧
        lookupLast relsPartPath p'.parts = some (.xml (c12_ofE nm e))) ∧
      (∃ bs e, a'.get? contentTypesPartPath = some bs ∧ x.parse bs = some e ∧
        lookupLast contentTypesPartPath p'.parts = some (.xml (c12_ofE nm e))) ∧
      (∀ n, n ≠ styleMapPath → n ≠ relsPartPath → n ≠ contentTypesPartPath →
        a'.get? n = a.get? n ∧ lookupLast n p'.parts = lookupLast n p.parts) :=
  c12_embedPkg_refines x hx nm a a' p s rb cb re te h hrb hre hcb hte hpr hpt hn1 hn2 hn3 hn4 hn5 hn6 hag1 hag2

/-- the name/tree hypotheses of `C12_embedPkg_refines` are satisfiable (a concrete `nm`, a relationships tree
    that already holds a style-map relationship, a content-types tree) -/
example :
    c12_exNm relationshipElemName = c12_relName ∧ c12_exNm overrideElemName = c12_overrideName ∧
    c12_exNm S!"Id" = S!"Id" ∧ c12_exNm S!"PartName" = S!"PartName" ∧
    c12_ofAttrs c12_exNm styleMapRelAttrs = styleMapRelAttrs ∧
    c12_ofAttrs c12_exNm styleMapOverrideAttrs = styleMapOverrideAttrs ∧
    c12_agreeAll c12_exNm relationshipElemName S!"Id" styleMapRelAttrs c12_exRe = true ∧
    c12_agreeAll c12_exNm overrideElemName S!"PartName" styleMapOverrideAttrs c12_exTe = true :=
  c12_ex_refines_hyps


end Mammoth
