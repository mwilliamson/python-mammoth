/-
  C06 — every style mapping the documented syntax can express means what it says.

  `c06_Mapping` (Proofs/C06_Syntax.lean) is an abstract syntax of mappings with ARBITRARY strings as
  style ids, style names, colours, tag names, class names, attribute names/values and separators.
  `c06_print` writes a mapping as text (escaping what has to be escaped), `c06_tokens` is the token
  list the text is meant to have, `c06_denote` is the `Style` the mapping is meant to be.
  The `Bool` argument of `c06_tokens`/`c06_print` says whether a blank is written after `=>`.
  `c06_expressible` : identifiers are non-empty; a list level is ≥ 1 and its decimal form has at most
  4300 digits (CPython's `int(str)` limit, which the parser would turn into an exception).
-/
import Proofs.C06_Parse
import Proofs.C06_Chain
import Proofs.C06_Meaning
import Proofs.C06_Ext7
import Proofs.C07_StyleMap
namespace Mammoth

/-! ### 1. escapes -/

/-- Decoding the identifier form of ANY string gives the string back. -/
theorem C06_decode_printIdent (s : Str) : decodeEscapes (c06_printIdent s) = s :=
  c06_decode_printIdent s

/-- Decoding the text between the quotes of the quoted form of ANY string gives the string back. -/
theorem C06_decode_printString (s : Str) : decodeEscapes (c06_stringBody s) = s :=
  c06_decode_stringBody s

/-- …and `value[1:-1]` of the quoted form is exactly that text, so `parse_string` returns `s`. -/
theorem C06_parseString_print (s : Str) (ts : List Token) :
    parseString (⟨.string, c06_printString s⟩ :: ts) = some (s, ts) :=
  c06_parseString_str s ts

/-! ### 2. the lexer at token boundaries -/

/-- A printed non-empty identifier followed by text that does not start with a letter, digit, `-`,
    `_` or backslash is matched by the IDENTIFIER rule exactly up to its end. -/
theorem C06_lexIdent_print (s rest : Str) (hs : s ≠ []) (h : c06_stop rest = true) :
    lexIdent (c06_printIdent s ++ rest) = some (c06_printIdent s, rest) :=
  c06_lexIdent_print s rest hs h

/-- A printed string followed by ANY text is matched by the STRING rule exactly up to its closing
    quote (never as an unterminated string). -/
theorem C06_lexString_print (s rest : Str) :
    lexString (c06_printString s ++ rest) = some (.string, c06_printString s, rest) :=
  c06_lexString_print s rest

/-- Each of the twelve symbols is matched as itself (and not as an identifier), provided that `=`
    is not followed by `>`. -/
theorem C06_lexSymbol_print (v rest : Str) (hv : v ∈ c06_symbols)
    (h : v = ['='] → c06_headNe (· == '>') rest = true) :
    lexIdent (v ++ rest) = none ∧ lexSymbol (v ++ rest) = some (v, rest) :=
  c06_lexSymbol_of v rest hv h

/-- The decimal form of a number followed by a non-digit is matched by the INTEGER rule, and reading
    it back gives the number. -/
theorem C06_lexInt_print (n : Nat) (rest : Str) (h : c06_headNe isDigit rest = true) :
    lexInt (c06_printNat n ++ rest) = some (c06_printNat n, rest) ∧ digitsToNat (c06_printNat n) = n :=
  ⟨c06_lexInt_digits _ rest (c06_printNat_ne_nil n) (c06_printNat_digits n)
      (by intro c t e; subst e; simpa [c06_headNe] using h), c06_digitsToNat_printNat n⟩

/-- A token list whose every token is what `lexOne` produces at its position tokenises to itself. -/
theorem C06_tokenise_chain (ts : List Token) (h : c06_chain ts []) :
    tokenise (c06_text ts) = some (ts ++ [⟨.end, []⟩]) :=
  c06_tokeniseFuel_chain ts _ (Nat.le_refl _) h

/-- Tokenising the printed text of ANY expressible mapping gives exactly the intended tokens
    followed by END. -/
theorem C06_tokenise_print (sp : Bool) (m : c06_Mapping) (hok : c06_expressible m = true) :
    tokenise (c06_print sp m) = some (c06_tokens sp m ++ [⟨.end, []⟩]) :=
  C06_tokenise_chain _ (c06_chain_tokens sp m hok)

/-! ### 3. the parser on the intended tokens -/

/-- The document-matcher parser reads the matcher tokens as the intended matcher and stops there
    (whatever follows, as long as it is not a symbol). -/
theorem C06_parse_matcher_tokens (m : c06_Matcher) (rest : List Token) (hok : c06_matcherOK m = true)
    (h : c06_headNoSym rest = true) :
    parseDocumentMatcher (c06_matcherToks m ++ rest) = some (c06_denoteMatcher m, rest) :=
  c06_parse_matcher m rest hok h

/-- The HTML-path parser reads the path tokens as the intended path; fuel = number of tokens is
    enough. -/
theorem C06_parse_path_tokens (p : c06_Path) (f : Nat) (hf : (c06_pathToks p).length ≤ f) :
    parseHtmlPath f (c06_pathToks p ++ [⟨.end, []⟩]) = some (c06_denotePath p, [⟨.end, []⟩]) :=
  c06_parse_path p f _ hf rfl

/-- Parsing the intended token list of ANY expressible mapping gives the intended style. -/
theorem C06_parse_tokens (sp : Bool) (m : c06_Mapping) (hok : c06_expressible m = true) :
    parseStyleMapping (c06_tokens sp m ++ [⟨.end, []⟩]) = some (c06_denote m) := by
  show parseStyleMapping (c06_tokens sp m ++ [c06_end]) = _
  simp only [c06_expressible, Bool.and_eq_true] at hok
  have hM := c06_parse_matcher m.matcher
    (c06_sp :: c06_sym ['=', '>'] :: ((if sp then [c06_sp] else []) ++ c06_pathToks m.path) ++ [c06_end])
    hok.1 rfl
  have hP := c06_parse_path m.path (c06_tokens sp m ++ [c06_end]).length [c06_end]
    (by simp [c06_tokens]; omega) rfl
  have hX : (trySkipTy .whitespace ((if sp then [c06_sp] else []) ++ c06_pathToks m.path ++ [c06_end])).getD
      ((if sp then [c06_sp] else []) ++ c06_pathToks m.path ++ [c06_end]) = c06_pathToks m.path ++ [c06_end] := by
    cases sp with
    | true => rfl
    | false =>
      show (trySkipTy .whitespace (c06_pathToks m.path ++ [c06_end])).getD _ = _
      rw [c06_skipWs_path]; rfl
  rw [c06_parseStyleMapping_arrow _ ((if sp then [c06_sp] else []) ++ c06_pathToks m.path ++ [c06_end]) _ (by rw [c06_tokens, List.append_assoc]; exact hM), hX, hP]
  rfl

/-! ### 4. reading the printed text -/

/-- MAIN: reading the text of ANY expressible mapping yields the mapping it says: no payload
    character — `>`, `|`, `=>`, quotes, backslashes, blanks, line breaks, leading digits, non-ASCII —
    can change the structure or the payload. -/
theorem C06_read_print (sp : Bool) (m : c06_Mapping) (hok : c06_expressible m = true) :
    readStyleMapping (c06_print sp m) = some (c06_denote m) := by
  unfold readStyleMapping
  rw [C06_tokenise_print sp m hok]
  exact C06_parse_tokens sp m hok

/-- Hence printing is injective up to meaning: two expressible mappings with the same text denote
    the same style. -/
theorem C06_print_injective (sp sp' : Bool) (m m' : c06_Mapping) (h : c06_expressible m = true)
    (h' : c06_expressible m' = true) (e : c06_print sp m = c06_print sp' m') :
    c06_denote m = c06_denote m' := by
  have := C06_read_print sp m h
  rw [e, C06_read_print sp' m' h'] at this
  exact (Option.some.inj this).symm

/-! ### 5. what the denoted style means -/

/-- A written paragraph matcher matches a paragraph iff the style id is equal (when given), the
    style name is equal / a prefix after upper-casing (when given), and the numbering is the written
    list type with level index `str(n-1)` (when given). -/
theorem C06_denote_matches_paragraph (upper : Str → Str) (sid : Option Str) (sn : Option StrMatch)
    (num : Option c06_Level) (p : ParaProps) :
    matcherMatches upper (c06_denoteMatcher (.paragraph sid sn num)) (.paragraph p) = true ↔
      (∀ v, sid = some v → p.styleId = some v) ∧
      c06_nameSpec upper sn p.styleName ∧
      (∀ l, num = some l → p.numbering = some ⟨natToStr (l.n - 1), l.ordered⟩) := by
  rw [c06_matches_paragraph]
  cases sid <;> cases num <;> simp [c06_idSpec, c06_numSpec]

/-- Complete description for every matcher kind and every target (`c06_matchSpec`): same kind, and
    the written conditions hold; in particular `br[type='page']` matches page breaks only and
    `highlight[color='x']` matches highlight `x` only. -/
theorem C06_denote_matches (upper : Str → Str) (m : c06_Matcher) (t : Target) :
    matcherMatches upper (c06_denoteMatcher m) t = true ↔ c06_matchSpec upper m t :=
  c06_matches_spec upper m t

/-- `.a.b` gives the single attribute `class="a b"`. -/
theorem C06_class_accumulate (a b : Str) (ha : a ≠ []) :
    buildAttrs [] [.cls a, .cls b] = [(S!"class", a ++ [' '] ++ b)] := by
  have := c06_classes_acc [b] a ha
  simpa [buildAttrs, Dict.get?, Dict.insert, c06_spaced] using this

/-- Any number of class names (the first non-empty) accumulate, in order, blank-separated, into one
    `class` attribute. -/
theorem C06_classes_accumulate (c : Str) (cs : List Str) (hc : c ≠ []) :
    buildAttrs [] ((c :: cs).map .cls) = [(S!"class", joinWith [' '] (c :: cs))] := by
  rw [c06_joinWith_cons]
  simpa [buildAttrs, Dict.get?, Dict.insert] using c06_classes_acc cs c hc

/-- The value of any attribute of the element is the left-to-right scan `c06_attrSpec`: explicit
    attributes overwrite (last wins, also for `class`), classes append to a non-empty `class`. -/
theorem C06_attr_value (k : Str) (e : c06_Elem) :
    Dict.get? k (c06_denoteElem e).attrs = c06_attrSpec k none e.events := by
  simpa [c06_denoteElem, Dict.get?] using c06_buildAttrs_get k e.events []

/-! ### 6. examples (hostile payloads) -/

/-- identifiers containing `>`, `|`, `=>`, a quote, a blank, a leading digit, a dot; strings
    containing `'`, `\`, a newline -/
def c06_ex1 : c06_Mapping :=
  ⟨.paragraph (some S!"a>b|c=>1'") (some (.equalTo S!"it's \\ new\nline")) (some ⟨true, 12⟩),
   .elems [⟨S!"1h", [S!"x y"], [.cls S!"a.b", .attr S!"data-x" S!"q'", .cls S!"c"], true, some S!"\n"⟩,
           ⟨S!"li", [], [], false, none⟩]⟩

private theorem c06_ex1_ok : c06_expressible c06_ex1 = true ∧ strip (c06_print true c06_ex1) = c06_print true c06_ex1 := by
  decide +kernel

example : c06_expressible c06_ex1 = true := c06_ex1_ok.1

example : c06_print true c06_ex1 =
    S!"p.a\\>b\\|c\\=\\>1\\'[style-name='it\\'s \\\\ new\\nline']:ordered-list(12) => \\1h|x\\ y.a\\.b[data-x='q\\''].c:fresh:separator('\\n') > li" := by
  decide +kernel

example : readStyleMapping (c06_print true c06_ex1) = some (c06_denote c06_ex1) :=
  C06_read_print true c06_ex1 c06_ex1_ok.1

example : (c06_denote c06_ex1).path = .elements
    [{ name := S!"1h", alts := [S!"x y"], attrs := [(S!"class", S!"a.b c"), (S!"data-x", S!"q'")],
       collapsible := false, separator := some S!"\n" },
     { name := S!"li", collapsible := true }] := by decide +kernel

def c06_ex2 : c06_Mapping :=
  ⟨.run none (some (.startsWith S!"a'b\\")), .elems [⟨S!"span", [], [.cls S!"x", .attr S!"class" S!"y"], false, none⟩]⟩

example : c06_print false c06_ex2 = S!"r[style-name^='a\\'b\\\\'] =>span.x[class='y']" := by decide +kernel

/-- evaluated directly by the model (no theorem involved) -/
example : readStyleMapping S!"r[style-name^='a\\'b\\\\'] =>span.x[class='y']" =
    some ⟨.run none (some (.startsWith S!"a'b\\")),
          .elements [{ name := S!"span", attrs := [(S!"class", S!"y")], collapsible := true }]⟩ := by decide +kernel

example : readStyleMapping S!"br[type='page'] => !" = some ⟨.brk S!"page", .ignore⟩ := by decide +kernel

example : decodeEscapes (c06_printIdent S!"9>|=>'\\ \n\tné") = S!"9>|=>'\\ \n\tné" := by decide +kernel
example : c06_printIdent S!"9>|=>'\\ \n\tné" = S!"\\9\\>\\|\\=\\>\\'\\\\\\ \\n\\tn\\é" := by decide +kernel
example : c06_printString S!"'\\\n x" = S!"'\\'\\\\\\n x'" := by decide +kernel

/-! ### 7. the printed text as a line of a style map; attribute keys; list levels -/

/-- The printed text of ANY mapping (expressible or not, whatever the payloads) contains no raw line break:
    every `\n` of a payload is written as backslash-`n`, so the text is ONE line of a style map. -/
theorem C06_print_one_line (sp : Bool) (m : c06_Mapping) : '\n' ∉ c06_print sp m :=
  c06x7_nl_print sp m

example : '\n' ∈ (S!"it's \\ new\nline" : Str) ∧ '\n' ∉ c06_print true c06_ex1 :=
  ⟨by decide +kernel, C06_print_one_line true c06_ex1⟩

/-- The style-map reader (`_read_style_map`: split at line breaks, trim, drop blank and `#` lines, read each
    line) applied to the printed text of ANY expressible mapping that trimming leaves alone (i.e. whose last
    identifier does not end in an escaped white-space character — the restriction named in the property) yields
    exactly that one mapping, with the written meaning, and no warning: payload `\n`, `#`, blanks never split
    the line, turn it into a comment or drop it. -/
theorem C06_readStyleMap_print (sp : Bool) (m : c06_Mapping) (hok : c06_expressible m = true)
    (hstrip : strip (c06_print sp m) = c06_print sp m) :
    readStyleMap (c06_print sp m) = ([c06_denote m], []) := by
  obtain ⟨c, r, hcr, hc⟩ := c06x7_print_head sp m
  have hl : styleLines (c06_print sp m) = [c06_print sp m] := by
    rw [c07_styleLines_single _ (fun a ha e => c06x7_nl_print sp m (e ▸ ha)), hstrip, hcr]
    simp [startsWith, hc]
  simp [readStyleMap, hl, C06_read_print sp m hok, unique, uniqueAux]

example : c06_expressible c06_ex1 = true ∧ strip (c06_print true c06_ex1) = c06_print true c06_ex1 :=
  c06_ex1_ok

example : readStyleMap (c06_print true c06_ex1) = ([c06_denote c06_ex1], []) :=
  C06_readStyleMap_print true c06_ex1 c06_ex1_ok.1 c06_ex1_ok.2

/-- the hypothesis is needed: an identifier ending in an escaped blank is cut by the trimming and the line
    then reads as a different mapping (class `x` instead of `x `) -/
example : (readStyleMap (c06_print true ⟨.bold, .elems [⟨S!"b", [], [.cls S!"x "], false, none⟩]⟩)).1 ≠
    [c06_denote ⟨.bold, .elems [⟨S!"b", [], [.cls S!"x "], false, none⟩]⟩] := by decide +kernel

/-- An emitted element has attribute `k` iff the written element mentions it: some `[k='…']`, or — for
    `k = class` — some `.name`.  No other key appears, and none that is written is lost. -/
theorem C06_attr_absent_iff (k : Str) (e : c06_Elem) :
    Dict.get? k (c06_denoteElem e).attrs = none ↔ ∀ ev ∈ e.events, c06x7_mentions k ev = false := by
  rw [C06_attr_value]
  exact c06x7_attrSpec_none k e.events

example : Dict.get? S!"class" (c06_denoteElem ⟨S!"a", [], [.attr S!"id" S!"x", .cls S!"c"], false, none⟩).attrs ≠ none ∧
    Dict.get? S!"href" (c06_denoteElem ⟨S!"a", [], [.attr S!"id" S!"x", .cls S!"c"], false, none⟩).attrs = none := by
  decide +kernel

/-- Leading zeros of a written list level do not change the level that is matched: `:ordered-list(007)`
    means level index `6` like `:ordered-list(7)` (Python's `int("007") == 7`). -/
theorem C06_level_leading_zero (ds : Str) : levelIndexOf ('0' :: ds) = levelIndexOf ds := by
  simp [levelIndexOf, digitsToNat]

example : levelIndexOf S!"007" = S!"6" ∧
    (readStyleMapping S!"p:ordered-list(007) => li").map (·.matcher) =
      (readStyleMapping S!"p:ordered-list(7) => li").map (·.matcher) := by decide +kernel

#print axioms C06_print_one_line
#print axioms C06_readStyleMap_print
#print axioms C06_attr_absent_iff
#print axioms C06_level_leading_zero

end Mammoth
