/-
  C01 — all live document text reaches the output exactly once, in order.

  The specification (`c01_elemText`, `c01_elemsText`, `c01_docText` in Proofs/C01_Spec.lean) walks the
  document tree, never an HTML node: text runs give their text, tabs a tab character, a note reference
  the marker `[k]` (k = number of references so far + 1), a mapped comment reference its label; breaks,
  check boxes, bookmarks and images give nothing; a paragraph / run / table / comment reference whose
  style mapping is `!` gives nothing and its content is not even looked at; everything else is the
  concatenation of its children, left to right.  The theorems say that the HTML forest built by the
  converter has exactly that text (and that the converter state and the raised error agree as well),
  and that neither `strip_empty` nor `collapse` changes it.
-/
import Proofs.C01_Doc
import Proofs.C01_NoSep
import Proofs.C01_Raw
import Proofs.C01_Image
import Proofs.C01_Plain
import Proofs.C01_ReadCompose
import Proofs.Pins
import Proofs.Eval
namespace Mammoth

/-! ### wrapping in HTML elements adds no text -/

/-- wrapping nodes in the elements of an HTML path leaves the text unchanged -/
theorem C01_text_wrapElems (es : List Tag) (ns : List Node) : textOfL (wrapElems es ns) = textOfL ns :=
  c01_text_wrapElems es ns

/-- wrapping in a chain of paths none of which is `!` leaves the text unchanged -/
theorem C01_text_wrapAll (paths : List HtmlPath) (ns : List Node)
    (h : paths.any HtmlPath.isIgnore = false) : textOfL (wrapAll paths ns) = textOfL ns :=
  c01_text_wrapAll paths ns h

/-- wrapping nothing gives no text, whatever the paths -/
theorem C01_text_wrapAll_nil (paths : List HtmlPath) : textOfL (wrapAll paths []) = [] :=
  c01_text_wrapAll_nil paths

/-! ### the visitor refines the text specification -/

/-- MAIN RESULT (one element).  For every configuration, header flag, element and start state:
    running the converter on the element and keeping only the text of the produced nodes gives
    exactly what the specification says — same text, same final state, or the same error. -/
theorem C01_text_visit (cfg : Cfg) (hdr : Bool) (e : Elem) (st : ConvState) :
    c01_proj ((visit cfg hdr e).run st) = c01_elemText cfg st e :=
  c01_text_visit cfg hdr e st

/-- the same for a list of sibling elements -/
theorem C01_text_visitAll (cfg : Cfg) (hdr : Bool) (es : List Elem) (st : ConvState) :
    c01_proj ((visitAll cfg hdr es).run st) = c01_elemsText cfg st es :=
  c01_text_visitAll cfg hdr es st

/-- the same for the rows of a table: head nodes followed by body nodes carry the text of the rows
    in document order (header rows are a prefix, so splitting them off reorders nothing) -/
theorem C01_text_visitRows (cfg : Cfg) (inHead : Bool) (rs : List Elem) (st : ConvState) :
    c01_projRows ((visitRows cfg inHead rs).run st) = c01_elemsText cfg st rs :=
  c01_text_visitRows cfg inHead rs st

/-- success form: whenever the converter succeeds on an element, the text of its nodes and its
    final state are those of the specification -/
theorem C01_text_visit_ok (cfg : Cfg) (hdr : Bool) (e : Elem) (st st' : ConvState) (nodes : List Node)
    (h : visit cfg hdr e st = .ok (nodes, st')) : c01_elemText cfg st e = .ok (textOfL nodes, st') :=
  (c01_text_visit cfg hdr e st).symm.trans (congrArg c01_proj h)

/-- failure form: the converter raises exactly when the specification does, with the same error -/
theorem C01_text_visit_error (cfg : Cfg) (hdr : Bool) (e : Elem) (st : ConvState) (err : Err)
    (h : visit cfg hdr e st = .error err) : c01_elemText cfg st e = .error err :=
  (c01_text_visit cfg hdr e st).symm.trans (congrArg c01_proj h)

/-- converse: whenever the specification yields a text, the converter succeeds and its nodes carry it -/
theorem C01_text_visit_complete (cfg : Cfg) (hdr : Bool) (e : Elem) (st st' : ConvState) (t : Str)
    (h : c01_elemText cfg st e = .ok (t, st')) :
    ∃ nodes, visit cfg hdr e st = .ok (nodes, st') ∧ textOfL nodes = t :=
  c01_proj_eq_ok ((c01_text_visit cfg hdr e st).trans h)

/-- the header flag (`th` versus `td`) has no influence on the text -/
theorem C01_text_header_irrelevant (cfg : Cfg) (e : Elem) (st : ConvState) :
    c01_proj (visit cfg true e st) = c01_proj (visit cfg false e st) := by
  rw [c01_text_visit, c01_text_visit]

/-! ### what `!` does, read off the specification -/

/-- a paragraph mapped to `!` contributes no text and changes nothing in the state
    (no note or comment reference inside it is counted) -/
theorem C01_ignored_paragraph (cfg : Cfg) (st : ConvState) (p : ParaProps) (cs : List Elem)
    (h : findPath cfg (.paragraph p) = some .ignore) :
    c01_elemText cfg st (.paragraph p cs) = .ok ([], st) := by
  simp [c01_elemText, c01_path, c01_warnState, h, HtmlPath.isIgnore]

/-- a table mapped to `!` contributes no text and leaves the state alone -/
theorem C01_ignored_table (cfg : Cfg) (st : ConvState) (sid sname : Option Str) (rows : List Elem)
    (h : findPath cfg (.table sid sname) = some .ignore) :
    c01_elemText cfg st (.table sid sname rows) = .ok ([], st) := by
  simp [c01_elemText, c01_path, h, HtmlPath.isIgnore]

/-- a paragraph whose path is not `!` contributes exactly the text of its children -/
theorem C01_live_paragraph (cfg : Cfg) (st : ConvState) (p : ParaProps) (cs : List Elem)
    (h : (c01_path cfg (.paragraph p) (.elements [pathElem S!"p" true])).isIgnore = false) :
    c01_elemText cfg st (.paragraph p cs) =
      c01_elemsText cfg (c01_warnState cfg (.paragraph p) S!"paragraph" p.styleId p.styleName st) cs := by
  simp [c01_elemText, h]

/-- a run none of whose paths is `!` contributes exactly the text of its children -/
theorem C01_live_run (cfg : Cfg) (st : ConvState) (r : RunProps) (cs : List Elem)
    (h : (c01_runPaths cfg r).any HtmlPath.isIgnore = false) :
    c01_elemText cfg st (.run r cs) =
      c01_elemsText cfg (c01_warnState cfg (.run r.styleId r.styleName) S!"run" r.styleId r.styleName st) cs := by
  simp [c01_elemText, h]

/-- an image contributes no text, does not disturb the numbering of notes and comments, and is handed
    to the image converter exactly once -/
theorem C01_image_spec (cfg : Cfg) (st st' : ConvState) (i : ImageProps) (t : Str)
    (h : c01_elemText cfg st (.image i) = .ok (t, st')) :
    t = [] ∧ st'.noteRefs = st.noteRefs ∧ st'.refComments = st.refComments ∧
      st'.imageCalls = st.imageCalls ++ [i] := by
  simp only [c01_elemText] at h
  cases hc : convertImage cfg i st with
  | error e => simp [hc] at h
  | ok p =>
    obtain ⟨ns, s⟩ := p
    simp only [hc, Except.ok.injEq, Prod.mk.injEq] at h
    have := c01_eff_convertImage cfg i st ns s hc
    rw [← h.1, ← h.2]
    exact ⟨rfl, this⟩

/-- the text of a sequence is the concatenation of the texts of its parts (state threaded) -/
theorem C01_elemsText_append (cfg : Cfg) (st : ConvState) (a b : List Elem) :
    c01_elemsText cfg st (a ++ b) =
      match c01_elemsText cfg st a with
      | .error e => .error e
      | .ok (ta, st1) =>
        match c01_elemsText cfg st1 b with
        | .error e => .error e
        | .ok (tb, st2) => .ok (ta ++ tb, st2) := by
  induction a generalizing st with
  | nil =>
    simp only [List.nil_append, c01_elemsText]
    cases c01_elemsText cfg st b with
    | error e => rfl
    | ok p => rfl
  | cons x xs ih =>
    simp only [List.cons_append, c01_elemsText]
    cases c01_elemText cfg st x with
    | error e => rfl
    | ok p =>
      obtain ⟨t, s⟩ := p
      simp only [ih s]
      cases c01_elemsText cfg s xs with
      | error e => rfl
      | ok q =>
        obtain ⟨t2, s2⟩ := q
        simp only []
        cases c01_elemsText cfg s2 b with
        | error e => rfl
        | ok r => simp [List.append_assoc]

/-! ### the whole document -/

/-- the text of `visit_document`'s nodes: body text, then for each note referenced by the body, in
    reference order, its text followed by " ↑", then for each referenced comment "Comment " ++ label ++
    its text ++ " ↑" — with the same final state, or the same error -/
theorem C01_text_document (cfg : Cfg) (d : Document) (st : ConvState) :
    c01_proj ((visitDocument cfg d).run st) = c01_docTextSt cfg d st :=
  c01_text_visitDocument cfg d st

/-- `convert_to_html` before post-processing: the nodes carry exactly the specified text -/
theorem C01_convertDoc_text (cfg : Cfg) (d : Document) (r : ConvResult)
    (h : convertDoc cfg d = .ok r) : c01_docText cfg d = .ok (textOfL r.nodes) := by
  obtain ⟨st, hv, _⟩ := c01_convertDoc_ok h
  unfold c01_docText
  rw [(c01_text_visitDocument _ d {}).symm.trans (congrArg c01_proj hv)]
  rfl

/-- and it fails exactly when the specification does -/
theorem C01_convertDoc_error (cfg : Cfg) (d : Document) (e : Err)
    (h : convertDoc cfg d = .error e) : c01_docText cfg d = .error e := by
  unfold convertDoc at h
  unfold c01_docText
  have key := c01_text_visitDocument { cfg with comments := d.comments } d {}
  cases hv : visitDocument { cfg with comments := d.comments } d {} with
  | error e' =>
    rw [hv] at key
    simp only [StateT.run, hv, Except.error.injEq] at h
    rw [← key, ← h]
    rfl
  | ok p => simp [StateT.run, hv] at h

/-- the reported note references, reads and converter calls are those of the specification's state -/
theorem C01_convertDoc_state (cfg : Cfg) (d : Document) (r : ConvResult)
    (h : convertDoc cfg d = .ok r) :
    ∃ st, c01_docTextSt { cfg with comments := d.comments } d {} = .ok (textOfL r.nodes, st) ∧
      r.noteRefs = st.noteRefs ∧ r.messages = unique st.messages ∧
      r.ioTrace = st.ioTrace ∧ r.imageCalls = st.imageCalls := by
  obtain ⟨st, hv, hs⟩ := c01_convertDoc_ok h
  exact ⟨st, (c01_text_visitDocument _ d {}).symm.trans (congrArg c01_proj hv), hs⟩

/-! ### post-processing keeps the text -/

/-- `strip_empty` then `collapse` keep the text, provided no tag carries a separator -/
theorem C01_render_text (ns : List Node) (h : noSepL ns = true) :
    textOfL (collapse (stripEmpty ns)) = textOfL ns := by
  have h' : noSepL (stripEmpty ns) = true := c01_noSepL_stripList ns h
  rw [text_collapse _ h', text_stripEmpty]

/-- if no style mapping uses a separator, no node produced for an element carries one -/
theorem C01_nodes_noSep (cfg : Cfg) (hm : c01_noSepMap cfg = true) (hdr : Bool) (e : Elem)
    (st st' : ConvState) (nodes : List Node) (h : visit cfg hdr e st = .ok (nodes, st')) :
    noSepL nodes = true :=
  c01_noSep_visit cfg hm hdr e st nodes st' h

/-- nor does any node of the whole converted document -/
theorem C01_document_noSep (cfg : Cfg) (hm : c01_noSepMap cfg = true) (d : Document) (r : ConvResult)
    (h : convertDoc cfg d = .ok r) : noSepL r.nodes = true := by
  obtain ⟨st, hv, _⟩ := c01_convertDoc_ok h
  exact (c01_noSep_closed { cfg with comments := d.comments } hm).visitDocument d {} r.nodes st hv

/-- END TO END.  With a style map free of separators, the text of the forest that is finally written
    (after `strip_empty` and `collapse`) is exactly the specified text of the document. -/
theorem C01_rendered_text (cfg : Cfg) (hm : c01_noSepMap cfg = true) (d : Document) (r : ConvResult)
    (h : convertDoc cfg d = .ok r) :
    c01_docText cfg d = .ok (textOfL (collapse (stripEmpty r.nodes))) := by
  rw [C01_render_text _ (C01_document_noSep cfg hm d r h)]
  exact C01_convertDoc_text cfg d r h

/-! ### extract_raw_text -/

/-- a paragraph's raw text is its inline text followed by exactly two newlines -/
theorem C01_raw_paragraph (p : ParaProps) (cs : List Elem) :
    rawText (.paragraph p cs) = rawTextL cs ++ S!"\n\n" := by simp [rawText]

/-- text runs give their text, a tab gives a tab character -/
theorem C01_raw_leaves (s : Str) : rawText (.text s) = s ∧ rawText .tab = S!"\t" := by
  simp [rawText]

/-- runs, hyperlinks, tables, rows and cells are transparent -/
theorem C01_raw_containers (r : RunProps) (h : LinkProps) (sid sname : Option Str) (hd vm : Bool)
    (c w : Nat) (cs : List Elem) :
    rawText (.run r cs) = rawTextL cs ∧ rawText (.hyperlink h cs) = rawTextL cs ∧
    rawText (.table sid sname cs) = rawTextL cs ∧ rawText (.row hd cs) = rawTextL cs ∧
    rawText (.cell c w vm cs) = rawTextL cs := by
  simp [rawText]

/-- images, breaks, bookmarks, check boxes, note and comment references contribute nothing -/
theorem C01_raw_silent (i : ImageProps) (ty id : Str) (n : Option Str) (b : Bool) :
    rawText (.image i) = [] ∧ rawText (.brk ty) = [] ∧ rawText (.bookmark n) = [] ∧
    rawText (.checkbox b) = [] ∧ rawText (.noteRef ty id) = [] ∧ rawText (.commentRef id) = [] := by
  simp [rawText]

/-- raw text is a homomorphism on sibling lists: nothing is reordered -/
theorem C01_raw_append (a b : List Elem) : rawTextL (a ++ b) = rawTextL a ++ rawTextL b := by
  induction a with
  | nil => simp
  | cons x xs ih => simp [ih, List.append_assoc]

/-- the raw text of a body made of paragraphs: each paragraph's inline text followed by "\n\n" -/
theorem C01_raw_text (ps : List c01_Para) :
    rawTextDoc { children := ps.map c01_paraElem } =
      concatStr (ps.map fun p => rawTextL p.2 ++ S!"\n\n") := by
  show rawTextL (ps.map c01_paraElem) = _
  induction ps with
  | nil => simp [concatStr]
  | cons p ps ih => simp [concatStr, c01_paraElem, rawText, ih]

/-- counting characters: the raw text contains each character exactly as often as the text and tab
    leaves do, plus two newlines for every paragraph (at any depth) -/
theorem C01_raw_count (ch : Char) (d : Document) :
    (rawTextDoc d).count ch =
      c01_leafCountL ch d.children + (if ch = '\n' then 2 * c01_paraCountL d.children else 0) :=
  c01_count_rawTextL ch d.children

/-! ### the simplest reading: no `!` mapping, no references, no images -/

/-- NOTHING LOST, DUPLICATED OR REORDERED, in closed form.  If no style mapping is `!` and the
    elements contain no note reference, comment reference or image, the converter succeeds, only
    adds warnings to its state, and the text of its nodes is exactly the sequence of text and tab
    leaves of the elements, in document order. -/
theorem C01_plain_text (cfg : Cfg) (hm : c01_noIgnoreMap cfg = true) (hdr : Bool) (es : List Elem)
    (hp : c01_plainL es = true) (st : ConvState) :
    ∃ nodes ms, visitAll cfg hdr es st = .ok (nodes, c01_addMsgs st ms) ∧
      textOfL nodes = c01_bodyTextL es := by
  obtain ⟨ms, h⟩ := c01_plain_elemsText cfg hm es hp st
  obtain ⟨nodes, hv, ht⟩ := c01_proj_eq_ok ((c01_text_visitAll cfg hdr es st).trans h)
  exact ⟨nodes, ms, hv, ht⟩

/-- the raw text of an element without paragraphs inside is the same sequence of leaves -/
theorem C01_raw_inline (es : List Elem) (h : c01_paraCountL es = 0) : rawTextL es = c01_bodyTextL es :=
  c01_raw_eq_bodyTextL es h

/-- HTML text versus raw text for a body of paragraphs with inline content only: the HTML carries the
    leaves of every paragraph in order, the raw text the same leaves with "\n\n" after each paragraph -/
theorem C01_html_vs_raw (cfg : Cfg) (hm : c01_noIgnoreMap cfg = true) (ps : List c01_Para)
    (hp : c01_plainL (ps.map c01_paraElem) = true) (hflat : ∀ p ∈ ps, c01_paraCountL p.2 = 0)
    (st : ConvState) :
    (∃ nodes ms, visitAll cfg false (ps.map c01_paraElem) st = .ok (nodes, c01_addMsgs st ms) ∧
      textOfL nodes = concatStr (ps.map fun p => c01_bodyTextL p.2)) ∧
    rawTextDoc { children := ps.map c01_paraElem } =
      concatStr (ps.map fun p => c01_bodyTextL p.2 ++ S!"\n\n") := by
  constructor
  · obtain ⟨nodes, ms, h1, h2⟩ := C01_plain_text cfg hm false _ hp st
    refine ⟨nodes, ms, h1, ?_⟩
    rw [h2]
    clear h1 h2 hp hflat
    induction ps with
    | nil => simp [c01_bodyTextL, concatStr]
    | cons p ps ih => simp [c01_bodyTextL, concatStr, c01_paraElem, c01_bodyText, ih]
  · rw [C01_raw_text]
    clear hp
    induction ps with
    | nil => rfl
    | cons p ps ih =>
      have h1 := hflat p (by simp)
      have h2 := ih (fun q hq => hflat q (by simp [hq]))
      simp only [List.map_cons, concatStr, h2, c01_raw_eq_bodyTextL p.2 h1]

/-! ### a concrete document: note reference, comment reference, `!`-mapped paragraph, table -/

private def c01_exCfg : Cfg :=
  { styleMap := [ { matcher := .paragraph (some S!"Hidden") none none, path := .ignore },
                  { matcher := .commentReference, path := .elements [pathElem S!"sup" false] } ] }

private def c01_exDoc : Document :=
  { children :=
      [ .paragraph {} [.run { bold := true } [.text S!"Hello", .tab, .text S!"world", .noteRef S!"footnote" S!"7"],
                       .commentRef S!"c0"],
        .paragraph { styleId := some S!"Hidden", styleName := some S!"Hidden" }
          [.run {} [.text S!"secret", .noteRef S!"footnote" S!"8"]],
        .table none none
          [ .row true [.cell 1 1 false [.paragraph {} [.text S!"H"]]],
            .row false [.cell 2 1 false [.paragraph {} [.text S!"c", .brk S!"line", .noteRef S!"endnote" S!"1"]]] ] ],
    notes := [ { ty := S!"endnote", id := S!"1", body := [.paragraph {} [.text S!"end"]] },
               { ty := S!"footnote", id := S!"7", body := [.paragraph {} [.text S!"foot"]] } ],
    comments := [ { id := S!"c0", body := [.paragraph {} [.text S!"why?"]], authorInitials := some S!"AB" } ] }

/-- the specified text: body in order with markers `[1]`, `[AB1]`, `[2]`; the hidden paragraph (and
    the note reference inside it) gone; then the two referenced notes in reference order; then the comment -/
example : c01_docText c01_exCfg c01_exDoc =
    .ok S!"Hello\tworld[1][AB1]Hc[2]foot ↑end ↑Comment [AB1]why? ↑" := by decide +kernel

/-- the converter agrees, before and after post-processing -/
example : (convertDoc c01_exCfg c01_exDoc).map (fun r => textOfL r.nodes) =
    .ok S!"Hello\tworld[1][AB1]Hc[2]foot ↑end ↑Comment [AB1]why? ↑" := by decide +kernel
example : (convertDoc c01_exCfg c01_exDoc).map (fun r => textOfL (collapse (stripEmpty r.nodes))) =
    .ok S!"Hello\tworld[1][AB1]Hc[2]foot ↑end ↑Comment [AB1]why? ↑" := by decide +kernel
example : c01_noSepMap c01_exCfg = true := by decide +kernel

/-- the hypotheses of `C01_plain_text` / `C01_html_vs_raw` are satisfiable -/
example : c01_noIgnoreMap {} = true ∧
    c01_plainL ([({}, [Elem.run { italic := true } [.text S!"a", .tab]]), ({}, [.text S!"b"])].map c01_paraElem) = true ∧
    c01_paraCountL [Elem.run { italic := true } [.text S!"a", .tab]] = 0 := by decide +kernel
example : (convertDoc {} { children := [({}, [Elem.run { italic := true } [.text S!"a", .tab]]),
                                        ({}, [.text S!"b"])].map c01_paraElem }).map (fun r => textOfL r.nodes)
    = .ok S!"a\tb" := by decide +kernel

example : c01_docText {} { children := [.paragraph {} [.noteRef S!"footnote" S!"1"]] }
    = .error (.key S!"footnote-1") := by decide +kernel

/-- a note referenced only from inside another note gets its marker `[2]`, but its body is not
    emitted: the notes to emit are fixed before any note is visited (as in the Python code) -/
example : c01_docText {}
    { children := [.paragraph {} [.text S!"a", .noteRef S!"footnote" S!"1"]],
      notes := [ { ty := S!"footnote", id := S!"1", body := [.paragraph {} [.text S!"n1", .noteRef S!"footnote" S!"2"]] },
                 { ty := S!"footnote", id := S!"2", body := [.paragraph {} [.text S!"n2"]] } ] }
    = .ok S!"a[1]n1[2] ↑" := by decide +kernel

/-- raw text of the example document `c01_exDoc`: every paragraph (also the hidden one, also those in cells) ends in "\n\n" -/
example : rawTextDoc c01_exDoc = S!"Hello\tworld\n\nsecret\n\nH\n\nc\n\n" := by decide +kernel

/-! ## The reader half: the document tree carries exactly the live text of the XML

  Specification (Proofs/C01_XmlSpec.lean, Proofs/C01_XmlDefer.lean), by recursion on the XML tree, by
  element *name*, independent of the reader's dispatch table, state and fuel:
  `c01_xmlLive n` = the live leaves of `n` — `w:t` text, tabs, the two hyphens, `w:sym` characters, note and
  comment reference markers — in reading order; `w:del`, `w:instrText`, `w:fldChar`, property elements,
  unknown elements and everything but the `mc:Fallback` of an `mc:AlternateContent` give nothing;
  text boxes (`w:pict`) go to the `extra` channel and a paragraph puts the extra of its content after its
  own in-line leaves.  `c01_xmlLiveD b n` is the same with an explicit buffer `b` of deferred leaves for
  paragraphs whose mark is a tracked deletion.  `c01_elemLeaves` reads the leaves off a document tree.

  Tables: the reader runs `calculate_row_spans` on the rows of each table, which removes the cells it takes
  for vertical-merge continuations together with their content (specified by C09).  `C01_read_presweep`
  is the exact statement for all inputs (the result is the sweep of a tree with exactly the specified
  leaves); the equalities below are for XML without `w:vMerge` continuation cells (`c01_noVMerge`), and
  `C01_read_leaves_sublist` says that in general only leaves of cells can disappear, nothing is added
  or reordered. -/

/-- For an XML tree without deleted paragraph marks (`c05_noDel`) and without
    vertical-merge continuation cells, read in a state with nothing deferred: whenever the reader
    succeeds (any environment, fuel, complex-field state), the leaves of the elements it returns are
    exactly the in-line leaves of the specification, the leaves of its `extra` result are exactly the
    extra leaves, in the same order, and still nothing is deferred.
    (`_partial`: the statement for trees WITH deleted paragraph marks is `C01_read_leaves` below.) -/
theorem C01_read_leaves_partial (env : REnv) (fuel : Nat) (st : RState) (n : XmlNode) (r : ReadResult)
    (st' : RState) (h : readElem env fuel st n = .ok (r, st')) (hd : st.deleted = [])
    (hn : c05_noDel n = true) (hv : c01_noVMerge n = true) :
    c01_elemLeavesL r.elements = (c01_xmlLive n).inline ∧ c01_elemLeavesL r.extra = (c01_xmlLive n).extra ∧
      st'.deleted = [] := by
  have hs := (c01_readElem_liveD env fuel st n r st' h).sim
  rw [hd, c01_pend_nil, c01_xmlLiveD_noDel n hn, hv] at hs
  exact ⟨c01_Pre_eq hs.1, c01_Pre_eq hs.2, (c01_readElem_noDefer env fuel st n hd hn).ok _ h⟩

/-- The same for a story (`read_all` on the children of `w:body`, of a note, of a comment) read from the
    initial state: same hypotheses on every child, same conclusion. -/
theorem C01_read_leaves_partial_readAll (env : REnv) (fuel : Nat) (ns : List XmlNode) (r : ReadResult)
    (st' : RState) (h : readAll env fuel {} ns = .ok (r, st'))
    (hn : c05_noDelL ns = true) (hv : c01_noVMergeL ns = true) :
    c01_elemLeavesL r.elements = (c01_xmlLiveL ns).inline ∧ c01_elemLeavesL r.extra = (c01_xmlLiveL ns).extra ∧
      st'.deleted = [] := by
  have hs := (c01_readAll_liveD env fuel {} ns r st' h).sim
  rw [c01_pend_nil, c01_xmlLiveDL_noDel ns hn, hv] at hs
  exact ⟨c01_Pre_eq hs.1, c01_Pre_eq hs.2,
    (c01_readAllWith_noDefer _ (c01_readElem_noDefer env fuel) ns {} rfl hn).ok _ h⟩

/-- As text: the characters of the text runs and tabs of the tree the reader returns are the
    characters of the specified leaves, in order -/
theorem C01_read_text_partial (env : REnv) (fuel : Nat) (ns : List XmlNode) (r : ReadResult)
    (st' : RState) (h : readAll env fuel {} ns = .ok (r, st'))
    (hn : c05_noDelL ns = true) (hv : c01_noVMergeL ns = true) :
    c01_leavesText (c01_elemLeavesL r.elements) = c01_leavesText (c01_xmlLiveL ns).inline := by
  rw [(C01_read_leaves_partial_readAll env fuel ns r st' h hn hv).1]

/-- With deleted paragraph marks.  Let `b = c01_pend st.deleted` be the buffer that stands for the
    XML nodes the reader holds back when it starts (their leaves).  If neither those nodes nor `n`
    contain a vertical-merge continuation cell, then whenever the reader succeeds the leaves of its
    elements and of its extra result are exactly those of `c01_xmlLiveD b n`, in order, and the buffer the
    specification ends with stands for the nodes the reader holds back at the end. -/
theorem C01_read_leaves (env : REnv) (fuel : Nat) (st : RState) (n : XmlNode) (r : ReadResult)
    (st' : RState) (h : readElem env fuel st n = .ok (r, st'))
    (hvs : c01_noVMergeL st.deleted = true) (hv : c01_noVMerge n = true) :
    c01_elemLeavesL r.elements = (c01_xmlLiveD (c01_pend st.deleted) n).live.inline ∧
    c01_elemLeavesL r.extra = (c01_xmlLiveD (c01_pend st.deleted) n).live.extra ∧
    c01_pend st'.deleted = (c01_xmlLiveD (c01_pend st.deleted) n).buf := by
  have p := c01_readElem_liveD env fuel st n r st' h
  have hs := p.sim
  rw [hvs, hv] at hs
  exact ⟨c01_Pre_eq hs.1, c01_Pre_eq hs.2, p.buf⟩

/-- A story read from the initial state: the leaves of the returned tree are those of the
    specification started with the empty buffer; `c01_pend st'.deleted`, the content of trailing
    paragraphs with a deleted mark that no later paragraph of the story took over, is what the
    specification leaves in its buffer. -/
theorem C01_read_leaves_readAll (env : REnv) (fuel : Nat) (ns : List XmlNode) (r : ReadResult)
    (st' : RState) (h : readAll env fuel {} ns = .ok (r, st')) (hv : c01_noVMergeL ns = true) :
    c01_elemLeavesL r.elements = (c01_xmlLiveDL [] ns).live.inline ∧
    c01_elemLeavesL r.extra = (c01_xmlLiveDL [] ns).live.extra ∧
    c01_pend st'.deleted = (c01_xmlLiveDL [] ns).buf := by
  have p := c01_readAll_liveD env fuel {} ns r st' h
  have hs := p.sim
  have hb := p.buf
  rw [c01_pend_nil] at hs hb
  rw [hv] at hs
  exact ⟨c01_Pre_eq hs.1, c01_Pre_eq hs.2, hb⟩

theorem C01_read_text (env : REnv) (fuel : Nat) (ns : List XmlNode) (r : ReadResult)
    (st' : RState) (h : readAll env fuel {} ns = .ok (r, st')) (hv : c01_noVMergeL ns = true) :
    c01_leavesText (c01_elemLeavesL r.elements) = c01_leavesText (c01_xmlLiveDL [] ns).live.inline := by
  rw [(C01_read_leaves_readAll env fuel ns r st' h hv).1]

/-- EVERY input, tables with merged cells included: the returned elements are the row-span sweep
    (`c01_spansL`: `calculate_row_spans` applied to every table, inner tables first) of a list of elements
    whose leaves are exactly the specified in-line leaves; the same for the extra result. -/
theorem C01_read_presweep (env : REnv) (fuel : Nat) (st : RState) (n : XmlNode) (r : ReadResult)
    (st' : RState) (h : readElem env fuel st n = .ok (r, st')) :
    (∃ pe, c01_spansL pe = r.elements ∧
      c01_elemLeavesL pe = (c01_xmlLiveD (c01_pend st.deleted) n).live.inline) ∧
    (∃ px, c01_spansL px = r.extra ∧
      c01_elemLeavesL px = (c01_xmlLiveD (c01_pend st.deleted) n).live.extra) ∧
    c01_pend st'.deleted = (c01_xmlLiveD (c01_pend st.deleted) n).buf := by
  have p := c01_readElem_liveD env fuel st n r st' h
  obtain ⟨⟨pe, e1, e2, _⟩, ⟨px, x1, x2, _⟩⟩ := p.sim
  exact ⟨⟨pe, e1, e2⟩, ⟨px, x1, x2⟩, p.buf⟩

/-- EVERY input: nothing is added or reordered — the leaves of the returned elements are a subsequence
    of the specified leaves (what is missing is the content of cells removed by `calculate_row_spans`),
    and the deferred buffer is as specified -/
theorem C01_read_leaves_sublist (env : REnv) (fuel : Nat) (ns : List XmlNode) (r : ReadResult)
    (st' : RState) (h : readAll env fuel {} ns = .ok (r, st')) :
    (c01_elemLeavesL r.elements).Sublist (c01_xmlLiveDL [] ns).live.inline ∧
    (c01_elemLeavesL r.extra).Sublist (c01_xmlLiveDL [] ns).live.extra ∧
    c01_pend st'.deleted = (c01_xmlLiveDL [] ns).buf := by
  have p := c01_readAll_liveD env fuel {} ns r st' h
  have hs := p.sim
  have hb := p.buf
  rw [c01_pend_nil] at hs hb
  exact ⟨c01_Pre_sublist hs.1, c01_Pre_sublist hs.2, hb⟩

/-- the sweep can only remove leaves, and removes none from a tree without continuation marks -/
theorem C01_spans_leaves (es : List Elem) :
    (c01_elemLeavesL (c01_spansL es)).Sublist (c01_elemLeavesL es) ∧
    (c01_noVmL es = true → c01_elemLeavesL (c01_spansL es) = c01_elemLeavesL es) :=
  ⟨c01_spansL_sublist es, fun h => (c01_spansL_leaves es h).1⟩

/-- the two specifications agree on trees without deleted paragraph marks: the buffer stays empty -/
theorem C01_spec_agree (ns : List XmlNode) (hn : c05_noDelL ns = true) :
    c01_xmlLiveDL [] ns = ⟨c01_xmlLiveL ns, []⟩ :=
  c01_xmlLiveDL_noDel ns hn

/-- CONSERVATION (a property of the specification alone): deferral moves leaves but never loses or
    duplicates one.  What `c01_xmlLiveD` emits (in line and extra) together with what it leaves in the
    buffer is a permutation of what came in the buffer together with all leaves of the nodes as
    `c01_xmlLive` (which ignores the deletion marks) lists them. -/
theorem C01_deferred_conserved (b : c01_Buf) (ns : List XmlNode) :
    (c01_liveAll (c01_xmlLiveDL b ns).live ++ c01_bufAll (c01_xmlLiveDL b ns).buf).Perm
      (c01_bufAll b ++ c01_liveAll (c01_xmlLiveL ns)) :=
  c01_conserve_perm b ns

/-- NOTHING LOST.  If the story does not end with content deferred by a deleted paragraph mark (the
    specification's buffer is empty at the end — otherwise that content is dropped by the library: no
    later paragraph exists to take it) and has no vertical-merge continuation cells, then the leaves
    of what the reader returns (elements, then extra) are a permutation of ALL live leaves of the XML,
    each exactly once; their order is the one given by `C01_read_leaves_readAll`. -/
theorem C01_read_nothing_lost (env : REnv) (fuel : Nat) (ns : List XmlNode) (r : ReadResult)
    (st' : RState) (h : readAll env fuel {} ns = .ok (r, st')) (hv : c01_noVMergeL ns = true)
    (hb : (c01_xmlLiveDL [] ns).buf = []) :
    (c01_elemLeavesL r.elements ++ c01_elemLeavesL r.extra).Perm
      ((c01_xmlLiveL ns).inline ++ (c01_xmlLiveL ns).extra) := by
  obtain ⟨h1, h2, _⟩ := C01_read_leaves_readAll env fuel ns r st' h hv
  have := c01_conserve_perm [] ns
  rw [hb] at this
  simpa [c01_liveAll, c01_bufAll, h1, h2] using this

/-- BOTH HALVES TOGETHER (state-free case).  Read a story from XML without vertical-merge continuation
    cells, then convert the returned elements under a style map without `!`; if the elements contain no
    note reference, comment reference or image (`c01_plainL`), the converter succeeds, only adds
    warnings, and the text of the HTML nodes is exactly the text of the live leaves of the XML in the
    specified order.  (With references the converter half is `C01_text_visitAll`: the markers are
    numbered by the converter state, leaf by leaf in the same order.) -/
theorem C01_xml_to_html_text (env : REnv) (fuel : Nat) (ns : List XmlNode) (r : ReadResult) (st' : RState)
    (h : readAll env fuel {} ns = .ok (r, st')) (hv : c01_noVMergeL ns = true)
    (cfg : Cfg) (hm : c01_noIgnoreMap cfg = true) (hp : c01_plainL r.elements = true)
    (hdr : Bool) (cst : ConvState) :
    ∃ nodes ms, visitAll cfg hdr r.elements cst = .ok (nodes, c01_addMsgs cst ms) ∧
      textOfL nodes = c01_leavesText (c01_xmlLiveDL [] ns).live.inline := by
  obtain ⟨nodes, ms, h1, h2⟩ := C01_plain_text cfg hm hdr r.elements hp cst
  refine ⟨nodes, ms, h1, ?_⟩
  rw [h2, c01_bodyTextL_leaves, (C01_read_leaves_readAll env fuel ns r st' h hv).1]

/-! ### concrete XML -/

private def c01_x (name : Str) (cs : List XmlNode) : XmlNode := .elem name [] cs
private def c01_xt (s : Str) : XmlNode := c01_x S!"w:r" [c01_x S!"w:t" [.text s]]
private def c01_xfld (ty : Str) : XmlNode := c01_x S!"w:r" [.elem S!"w:fldChar" [(S!"w:fldCharType", ty)] []]
private def c01_xbox (ps : List XmlNode) : XmlNode :=
  c01_x S!"w:r" [c01_x S!"w:pict" [c01_x S!"v:shape" [c01_x S!"v:textbox" [c01_x S!"w:txbxContent" ps]]]]
/-- the computation succeeds and its result satisfies `p` -/
private def c01_okAnd {α} (x : Except Err α) (p : α → Bool) : Bool :=
  match x with
  | .ok a => p a
  | .error _ => false
private def c01_xdelPr : XmlNode := c01_x S!"w:pPr" [c01_x S!"w:rPr" [c01_x S!"w:del" []]]

/-- a paragraph with text, a tab, a tracked deletion, a HYPERLINK complex field, a text box, a note
    reference, a `w:hyperlink`, an insertion and an alternate content; then a table -/
private def c01_exBody1 : List XmlNode :=
  [ c01_x S!"w:p"
      [ c01_x S!"w:r" [c01_x S!"w:t" [.text S!"Hello"], c01_x S!"w:tab" []],
        c01_x S!"w:del" [c01_x S!"w:r" [c01_x S!"w:delText" [.text S!"gone"]]],
        c01_xfld S!"begin", c01_x S!"w:r" [c01_x S!"w:instrText" [.text S!" HYPERLINK \"http://x\" "]],
        c01_xfld S!"separate", c01_xt S!"link", c01_xfld S!"end",
        c01_xbox [c01_x S!"w:p" [c01_xt S!"box"]],
        c01_x S!"w:r" [c01_x S!"w:t" [.text S!"after"], .elem S!"w:footnoteReference" [(S!"w:id", S!"3")] []],
        .elem S!"w:hyperlink" [(S!"w:anchor", S!"a")] [c01_xt S!"hl"],
        c01_x S!"w:ins" [c01_xt S!"ins"],
        c01_x S!"mc:AlternateContent" [c01_x S!"mc:Choice" [c01_xt S!"choice"], c01_x S!"mc:Fallback" [c01_xt S!"fb"]] ],
    c01_x S!"w:tbl" [c01_x S!"w:tr" [c01_x S!"w:tc" [c01_x S!"w:p" [c01_xt S!"c1"]],
                                     c01_x S!"w:tc" [c01_x S!"w:p" [c01_xt S!"c2"]]]],
    c01_x S!"w:sectPr" [] ]

private theorem c01_okAnd_toBool {α} {x : Except Err α} {p : α → Bool} (h : c01_okAnd x p = true) :
    x.toBool = true := by
  cases x with
  | ok a => rfl
  | error e => exact Bool.noConfusion h

private theorem c01_exLive1 : c01_xmlLiveL c01_exBody1 =
    { inline := [.text S!"Hello", .tab, .text S!"link", .text S!"after", .noteRef S!"footnote" S!"3",
                 .text S!"hl", .text S!"ins", .text S!"fb", .text S!"box", .text S!"c1", .text S!"c2"],
      extra := [] } := by decide +kernel
private theorem c01_exRead1 : c01_okAnd (readAll {} 12 {} c01_exBody1)
    (fun p => decide (c01_elemLeavesL p.1.elements = (c01_xmlLiveL c01_exBody1).inline)) = true := by
  rw [c01_exLive1]
  decide +kernel

/-- the hypotheses of `C01_read_leaves_partial_readAll` hold, the reader succeeds, and the specified leaves are: -/
example : c05_noDelL c01_exBody1 = true ∧ c01_noVMergeL c01_exBody1 = true := by decide +kernel
example : (readAll {} 12 {} c01_exBody1).toBool = true := c01_okAnd_toBool c01_exRead1
example : c01_xmlLiveL c01_exBody1 =
    { inline := [.text S!"Hello", .tab, .text S!"link", .text S!"after", .noteRef S!"footnote" S!"3",
                 .text S!"hl", .text S!"ins", .text S!"fb", .text S!"box", .text S!"c1", .text S!"c2"],
      extra := [] } := c01_exLive1
example : c01_leavesText (c01_xmlLiveL c01_exBody1).inline = S!"Hello\tlinkafterhlinsfbboxc1c2" := by
  rw [c01_exLive1]
  decide +kernel
example : c01_okAnd (readAll {} 12 {} c01_exBody1)
    (fun p => decide (c01_elemLeavesL p.1.elements = (c01_xmlLiveL c01_exBody1).inline)) = true := c01_exRead1

/-- two paragraphs with deleted marks (the first with a text box), taken over by the next paragraph
    that is opened, which sits in a table cell; a last paragraph with a deleted mark ends the story -/
private def c01_exBody2 : List XmlNode :=
  [ c01_x S!"w:p" [c01_xt S!"A"],
    c01_x S!"w:p" [c01_xdelPr, c01_xt S!"d1", c01_xbox [c01_x S!"w:p" [c01_xt S!"dbox"]]],
    c01_x S!"w:p" [c01_xdelPr, c01_xt S!"d2"],
    c01_x S!"w:tbl" [c01_x S!"w:tr" [c01_x S!"w:tc" [c01_x S!"w:p" [c01_xt S!"c1", c01_xbox [c01_x S!"w:p" [c01_xt S!"cbox"]]]],
                                     c01_x S!"w:tc" [c01_x S!"w:p" [c01_xt S!"c2"]]]],
    c01_x S!"w:p" [c01_xdelPr, c01_xt S!"lost"] ]

private theorem c01_exLive2 : c01_xmlLiveDL [] c01_exBody2 =
    { live := { inline := [.text S!"A", .text S!"d1", .text S!"d2", .text S!"c1", .text S!"dbox", .text S!"cbox",
                           .text S!"c2"], extra := [] },
      buf := [{ inline := [.text S!"lost"], extra := [] }] } := by decide +kernel
private theorem c01_exRead2 : c01_okAnd (readAll {} 12 {} c01_exBody2) (fun p => decide
      (c01_elemLeavesL p.1.elements = (c01_xmlLiveDL [] c01_exBody2).live.inline ∧
       c01_elemLeavesL p.1.extra = (c01_xmlLiveDL [] c01_exBody2).live.extra ∧
       c01_pend p.2.deleted = (c01_xmlLiveDL [] c01_exBody2).buf)) = true := by
  rw [c01_exLive2]
  decide +kernel

example : c01_noVMergeL c01_exBody2 = true ∧ c05_noDelL c01_exBody2 = false := by decide +kernel
example : (readAll {} 12 {} c01_exBody2).toBool = true := c01_okAnd_toBool c01_exRead2
/-- `d1 d2` open the cell paragraph, the deleted paragraph's text box follows that paragraph, before the
    paragraph's own text box; `lost` stays in the buffer -/
example : c01_xmlLiveDL [] c01_exBody2 =
    { live := { inline := [.text S!"A", .text S!"d1", .text S!"d2", .text S!"c1", .text S!"dbox", .text S!"cbox",
                           .text S!"c2"], extra := [] },
      buf := [{ inline := [.text S!"lost"], extra := [] }] } := c01_exLive2
example : c01_okAnd (readAll {} 12 {} c01_exBody2) (fun p => decide
      (c01_elemLeavesL p.1.elements = (c01_xmlLiveDL [] c01_exBody2).live.inline ∧
       c01_elemLeavesL p.1.extra = (c01_xmlLiveDL [] c01_exBody2).live.extra ∧
       c01_pend p.2.deleted = (c01_xmlLiveDL [] c01_exBody2).buf)) = true := c01_exRead2
/-- without the last paragraph nothing stays deferred: the hypothesis of `C01_read_nothing_lost` holds -/
example : (c01_xmlLiveDL [] c01_exBody2.dropLast).buf = [] ∧ c01_noVMergeL c01_exBody2.dropLast = true ∧
    (readAll {} 12 {} c01_exBody2.dropLast).toBool = true := by decide +kernel
/-- a non-initial state (`C01_read_leaves`): a paragraph read while a run is held back -/
example : c01_okAnd (readElem {} 6 { deleted := [c01_xt S!"held"] } (c01_x S!"w:p" [c01_xt S!"own"]))
      (fun p => decide (c01_elemLeavesL p.1.elements =
          (c01_xmlLiveD (c01_pend [c01_xt S!"held"]) (c01_x S!"w:p" [c01_xt S!"own"])).live.inline ∧
        c01_pend p.2.deleted = [])) = true ∧
    (c01_xmlLiveD (c01_pend [c01_xt S!"held"]) (c01_x S!"w:p" [c01_xt S!"own"])).live.inline =
      [.text S!"held", .text S!"own"] ∧
    c01_noVMergeL [c01_xt S!"held"] = true := by decide +kernel
/-- the hypotheses of `C01_xml_to_html_text` on a body with a text box and a deleted paragraph mark -/
private def c01_exBody3 : List XmlNode :=
  [ c01_x S!"w:p" [c01_xt S!"one", c01_xbox [c01_x S!"w:p" [c01_xt S!"box"]], c01_x S!"w:r" [c01_x S!"w:tab" []]],
    c01_x S!"w:p" [c01_xdelPr, c01_xt S!"two"], c01_x S!"w:p" [c01_xt S!"three"] ]
example : c01_noVMergeL c01_exBody3 = true ∧ c01_noIgnoreMap {} = true ∧
    c01_okAnd (readAll {} 12 {} c01_exBody3) (fun p => c01_plainL p.1.elements) = true ∧
    c01_leavesText (c01_xmlLiveDL [] c01_exBody3).live.inline = S!"one\tboxtwothree" := by decide +kernel
/-- a table with a vertical-merge continuation cell: its content is specified but removed by the sweep
    (the sublist statement is strict here) -/
private def c01_exMerge : List XmlNode :=
  [ c01_x S!"w:tbl"
      [ c01_x S!"w:tr" [c01_x S!"w:tc" [c01_x S!"w:tcPr" [.elem S!"w:vMerge" [(S!"w:val", S!"restart")] []],
                                       c01_x S!"w:p" [c01_xt S!"top"]]],
        c01_x S!"w:tr" [c01_x S!"w:tc" [c01_x S!"w:tcPr" [c01_x S!"w:vMerge" []], c01_x S!"w:p" [c01_xt S!"cont"]]] ] ]
example : c01_noVMergeL c01_exMerge = false ∧
    (c01_xmlLiveDL [] c01_exMerge).live.inline = [.text S!"top", .text S!"cont"] ∧
    c01_okAnd (readAll {} 12 {} c01_exMerge)
      (fun p => decide (c01_elemLeavesL p.1.elements = [.text S!"top"])) = true := by
  decide +kernel

/-- The tables extracted from the library that this property's theorems consume
    equal the validated copies in `Proofs/Pins.lean`. -/
theorem C01_tables_as_validated :
    (Generated.handlers = pin_handlers) ∧
    (sameSet Generated.ignored pin_ignored = true) ∧
    (Generated.escapeTable = pin_escapeTable) ∧
    (dingbatSums Generated.dingbats = (1061, 217117, 77998056)) :=
  ⟨pins_handlers, pins_ignored, pins_escapeTable, pins_dingbats⟩

end Mammoth
