/-
  C05 — the converter stage returns normally when every reference it follows resolves.
-/
import Proofs.C05_Convert
namespace Mammoth

/-- does the image converter call `image.open()`? -/
def c05_opens : ImageConv → Bool
  | .dataUri => true
  | .fixed _ o => o

mutual
/-- every reference the converter follows below this element resolves: note references in `notes`,
    comment references (when a `comment-reference` mapping is in force) in `cfg.comments`, embedded
    image paths (when the image converter opens images) in `cfg.archive` -/
def c05_convOk (cfg : Cfg) (notes : List Note) : Elem → Bool
  | .paragraph _ cs => c05_convOkL cfg notes cs
  | .run _ cs => c05_convOkL cfg notes cs
  | .hyperlink _ cs => c05_convOkL cfg notes cs
  | .table _ _ cs => c05_convOkL cfg notes cs
  | .row _ cs => c05_convOkL cfg notes cs
  | .cell _ _ _ cs => c05_convOkL cfg notes cs
  | .image i =>
    match i.src with
    | .embedded name => !c05_opens cfg.imageConv || (lookupLast name cfg.archive).isSome
    | .linked _ => true
  | .noteRef ty id => (lookupLast (ty, id) (notes.map fun n => ((n.ty, n.id), n))).isSome
  | .commentRef id =>
    match findPath cfg .commentReference with
    | some (.elements _) => (lookupLast id (cfg.comments.map fun c => (c.id, c))).isSome
    | _ => true
  | _ => true
def c05_convOkL (cfg : Cfg) (notes : List Note) : List Elem → Bool
  | [] => true
  | e :: es => c05_convOk cfg notes e && c05_convOkL cfg notes es
end

/-- the hypothesis of `C05_convert_total` -/
def c05_docOk (cfg : Cfg) (d : Document) : Bool :=
  let cfg' := { cfg with comments := d.comments }
  c05_convOkL cfg' d.notes d.children &&
  d.notes.all (fun n => c05_convOkL cfg' d.notes n.body) &&
  d.comments.all (fun c => c05_convOkL cfg' d.notes c.body)

/-- state invariant: every recorded note reference resolves, every recorded comment is one of the
    document's comments -/
def c05_stOk (cfg : Cfg) (notes : List Note) (st : ConvState) : Prop :=
  (∀ r ∈ st.noteRefs, (lookupLast r (notes.map fun n => ((n.ty, n.id), n))).isSome = true) ∧
  (∀ lc ∈ st.refComments, lc.2 ∈ cfg.comments)

structure c05_tot {α} (P : ConvState → Prop) (Q : α → Prop) (m : ConvM α) : Prop where
  h : ∀ st, P st → ∃ a st', m.run st = .ok (a, st') ∧ P st' ∧ Q a

abbrev c05_tot' {α} (P : ConvState → Prop) (m : ConvM α) : Prop := c05_tot P (fun _ => True) m

theorem c05_tot_weaken {α} {P} {Q : α → Prop} {m : ConvM α} (h : c05_tot P Q m) : c05_tot' P m :=
  ⟨fun st hp => by obtain ⟨a, st', h1, h2, _⟩ := h.h st hp; exact ⟨a, st', h1, h2, trivial⟩⟩

theorem c05_tot_pure {α} {P} (a : α) : c05_tot' P (pure a : ConvM α) :=
  ⟨fun st hp => ⟨a, st, by simp [pure, StateT.pure, StateT.run, Except.pure], hp, trivial⟩⟩

theorem c05_tot_pureQ {α} {P} {Q : α → Prop} (a : α) (hq : Q a) : c05_tot P Q (pure a : ConvM α) :=
  ⟨fun st hp => ⟨a, st, by simp [pure, StateT.pure, StateT.run, Except.pure], hp, hq⟩⟩

theorem c05_tot_bindQ {α β} {P} {Q : α → Prop} {R : β → Prop} {m : ConvM α} {f : α → ConvM β}
    (hm : c05_tot P Q m) (hf : ∀ a, Q a → c05_tot P R (f a)) : c05_tot P R (m >>= f) := by
  constructor; intro st hp
  obtain ⟨a, st1, h1, hp1, hq⟩ := hm.h st hp
  obtain ⟨b, st2, h2, hp2, hr⟩ := (hf a hq).h st1 hp1
  refine ⟨b, st2, ?_, hp2, hr⟩
  rw [StateT.run_bind, h1]
  simpa [bind, Except.bind] using h2

theorem c05_tot_bind {α β} {P} {R : β → Prop} {m : ConvM α} {f : α → ConvM β}
    (hm : c05_tot' P m) (hf : ∀ a, c05_tot P R (f a)) : c05_tot P R (m >>= f) :=
  c05_tot_bindQ hm fun a _ => hf a

theorem c05_tot_map {α β} {P} {m : ConvM α} (hm : c05_tot' P m) (g : α → β) :
    c05_tot' P (do let a ← m; pure (g a)) :=
  c05_tot_bind hm fun _ => c05_tot_pure _

theorem c05_tot_modify {P : ConvState → Prop} (g : ConvState → ConvState) (hg : ∀ st, P st → P (g st)) :
    c05_tot' P (modify g : ConvM Unit) :=
  ⟨fun st hp => ⟨(), g st, by simp [modify, modifyGet, MonadStateOf.modifyGet, StateT.modifyGet, StateT.run, pure, Except.pure], hg st hp, trivial⟩⟩

theorem c05_tot_get {P : ConvState → Prop} : c05_tot P P (get : ConvM ConvState) :=
  ⟨fun st hp => ⟨st, st, by simp [get, getThe, MonadStateOf.get, StateT.get, StateT.run, pure, Except.pure], hp, hp⟩⟩

theorem c05_tot_get' {P : ConvState → Prop} : c05_tot' P (get : ConvM ConvState) := c05_tot_weaken c05_tot_get


theorem c05_warn_tot (cfg : Cfg) (notes : List Note) (m : Str) : c05_tot' (c05_stOk cfg notes) (warn m) :=
  c05_tot_modify _ fun _ hp => hp

theorem c05_findPathWarn_tot (cfg : Cfg) (notes : List Note) (t k a b d) :
    c05_tot' (c05_stOk cfg notes) (findPathWarn cfg t k a b d) := by
  unfold findPathWarn
  split
  · exact c05_tot_pure _
  · dsimp only
    split
    · exact c05_tot_map (c05_warn_tot ..) _
    · exact c05_tot_pure _

def c05_srcOk (cfg : Cfg) : ImageSrc → Bool
  | .embedded name => (lookupLast name cfg.archive).isSome
  | .linked _ => true

theorem c05_openImage_tot (cfg : Cfg) (notes : List Note) (src : ImageSrc) (h : c05_srcOk cfg src = true) :
    c05_tot' (c05_stOk cfg notes) (openImage cfg src) := by
  unfold openImage
  cases src with
  | embedded name =>
    dsimp only
    split
    · exact c05_tot_pure _
    · rename_i hn; simp only [c05_srcOk, hn] at h; cases h
  | linked uri =>
    dsimp only
    split
    · refine c05_tot_bind (c05_tot_modify _ fun _ hp => hp) fun _ => ?_
      split <;> exact c05_tot_pure _
    · split
      · refine c05_tot_bind (c05_tot_modify _ fun _ hp => hp) fun _ => ?_
        split <;> exact c05_tot_pure _
      · exact c05_tot_pure _

theorem c05_openImage_bind_tot (cfg : Cfg) (notes : List Note) (src : ImageSrc) (h : c05_srcOk cfg src = true)
    (f : Bytes → List Node) :
    c05_tot' (c05_stOk cfg notes) (do
      match ← openImage cfg src with
      | .ok bytes => pure (f bytes)
      | .error msg => do warn msg; pure []) := by
  refine c05_tot_bind (c05_openImage_tot cfg notes src h) fun r => ?_
  cases r with
  | ok bytes => exact c05_tot_pure _
  | error msg => exact c05_tot_map (c05_warn_tot ..) _

theorem c05_convertImage_tot (cfg : Cfg) (notes : List Note) (i : ImageProps)
    (h : c05_convOk cfg notes (.image i) = true) :
    c05_tot' (c05_stOk cfg notes) (convertImage cfg i) := by
  unfold convertImage
  have hsrc : c05_opens cfg.imageConv = true → c05_srcOk cfg i.src = true := by
    intro ho
    simp only [c05_convOk, ho] at h
    cases hs : i.src with
    | embedded name => rw [hs] at h; simpa [c05_srcOk] using h
    | linked u => rfl
  refine c05_tot_bind (c05_tot_modify _ fun _ hp => hp) fun _ => ?_
  cases hc : cfg.imageConv with
  | dataUri => exact c05_openImage_bind_tot cfg notes i.src (hsrc (by rw [hc]; rfl)) _
  | fixed attrs opens =>
    cases opens with
    | false => exact c05_tot_pure _
    | true => exact c05_openImage_bind_tot cfg notes i.src (hsrc (by rw [hc]; rfl)) _

theorem c05_lookupLast_map_mem {α κ} [DecidableEq κ] (f : α → κ) (k : κ) (l : List α) (x : α)
    (h : lookupLast k (l.map fun a => (f a, a)) = some x) : x ∈ l := by
  induction l with
  | nil => simp [lookupLast] at h
  | cons a l ih =>
    simp only [List.map, lookupLast] at h
    split at h
    · rename_i w hw; cases h; exact List.mem_cons_of_mem _ (ih hw)
    · split at h
      · cases h; exact List.mem_cons_self
      · cases h

macro "c05_and_split" h:ident : tactic =>
  `(tactic| (simp only [c05_convOk, c05_convOkL, Bool.and_eq_true] at $h:ident))

mutual
theorem c05_visit_tot (cfg : Cfg) (notes : List Note) (hdr : Bool) (e : Elem)
    (h : c05_convOk cfg notes e = true) : c05_tot' (c05_stOk cfg notes) (visit cfg hdr e) := by
  match e with
  | .paragraph p cs =>
    rw [visit]
    refine c05_tot_bind (c05_findPathWarn_tot ..) fun path => ?_
    cases path with
    | ignore => exact c05_tot_pure _
    | elements es => exact c05_tot_map (c05_visitAll_tot cfg notes hdr cs h) _
  | .run r cs =>
    rw [visit]
    refine c05_tot_bind (c05_findPathWarn_tot ..) fun sp => ?_
    dsimp only
    split
    · exact c05_tot_pure _
    · exact c05_tot_map (c05_visitAll_tot cfg notes hdr cs h) _
  | .text s => rw [visit]; exact c05_tot_pure _
  | .hyperlink _ cs =>
    rw [visit]
    exact c05_tot_map (c05_visitAll_tot cfg notes hdr cs h) _
  | .checkbox c => rw [visit]; exact c05_tot_pure _
  | .table sid sname rows =>
    rw [visit]
    dsimp only
    split
    · exact c05_tot_pure _
    · exact c05_tot_bind (c05_visitRows_tot cfg notes true rows h) fun (_, _) => c05_tot_pure _
  | .row _ cells =>
    rw [visit]
    exact c05_tot_map (c05_visitAll_tot cfg notes hdr cells h) _
  | .cell _ _ _ cs =>
    rw [visit]
    exact c05_tot_map (c05_visitAll_tot cfg notes hdr cs h) _
  | .brk ty =>
    rw [visit]
    split
    · exact c05_tot_pure _
    · exact c05_tot_pure _
    · split <;> exact c05_tot_pure _
  | .tab => rw [visit]; exact c05_tot_pure _
  | .image i => rw [visit]; exact c05_convertImage_tot cfg notes i h
  | .bookmark name => rw [visit]; exact c05_tot_pure _
  | .noteRef ty id =>
    rw [visit]
    refine c05_tot_bind (c05_tot_modify _ fun st hp => ⟨fun r hr => ?_, hp.2⟩) fun _ =>
      c05_tot_bind c05_tot_get' fun _ => c05_tot_pure _
    rcases List.mem_append.mp hr with hr | hr
    · exact hp.1 r hr
    · rw [List.mem_singleton.mp hr]; exact h
  | .commentRef id =>
    rw [visit]
    rw [c05_convOk] at h
    split
    · exact c05_tot_pure _
    · exact c05_tot_pure _
    · rename_i es hes
      rw [hes] at h
      split
      · rename_i hn; rw [hn] at h; cases h
      · rename_i c hc
        refine c05_tot_bind c05_tot_get' fun _ =>
          c05_tot_bind (c05_tot_modify _ fun st hp => ⟨hp.1, fun lc hlc => ?_⟩) fun _ => c05_tot_pure _
        rcases List.mem_append.mp hlc with hlc | hlc
        · exact hp.2 lc hlc
        · rw [List.mem_singleton.mp hlc]; exact c05_lookupLast_map_mem _ _ _ _ hc
theorem c05_visitAll_tot (cfg : Cfg) (notes : List Note) (hdr : Bool) (es : List Elem)
    (h : c05_convOkL cfg notes es = true) : c05_tot' (c05_stOk cfg notes) (visitAll cfg hdr es) := by
  match es with
  | [] => rw [visitAll]; exact c05_tot_pure _
  | e :: es =>
    rw [visitAll]
    c05_and_split h
    exact c05_tot_bind (c05_visit_tot cfg notes hdr e h.1) fun _ =>
      c05_tot_map (c05_visitAll_tot cfg notes hdr es h.2) _
theorem c05_visitRows_tot (cfg : Cfg) (notes : List Note) (inHead : Bool) (es : List Elem)
    (h : c05_convOkL cfg notes es = true) : c05_tot' (c05_stOk cfg notes) (visitRows cfg inHead es) := by
  match es with
  | [] => rw [visitRows]; exact c05_tot_pure _
  | e :: es =>
    rw [visitRows]
    c05_and_split h
    split
    · exact c05_tot_bind (c05_visit_tot cfg notes true e h.1) fun _ =>
        c05_tot_bind (c05_visitRows_tot cfg notes true es h.2) fun (_, _) => c05_tot_pure _
    · exact c05_tot_bind (c05_visit_tot cfg notes false e h.1) fun _ =>
        c05_tot_bind (c05_visitRows_tot cfg notes false es h.2) fun (_, _) => c05_tot_pure _
end

theorem c05_mapMConcat_tot {α} {P} (f : α → ConvM (List Node)) (xs : List α)
    (hf : ∀ x ∈ xs, c05_tot' P (f x)) : c05_tot' P (mapMConcat f xs) := by
  induction xs with
  | nil => exact c05_tot_pure _
  | cons x xs ih =>
    exact c05_tot_bind (hf x List.mem_cons_self) fun _ =>
      c05_tot_map (ih fun y hy => hf y (List.mem_cons_of_mem _ hy)) _

theorem c05_visitNote_tot (cfg : Cfg) (notes : List Note) (n : Note)
    (h : c05_convOkL cfg notes n.body = true) : c05_tot' (c05_stOk cfg notes) (visitNote cfg n) :=
  c05_tot_map (c05_visitAll_tot cfg notes false _ h) _

theorem c05_visitComment_tot (cfg : Cfg) (notes : List Note) (lc : Str × Comment)
    (h : c05_convOkL cfg notes lc.2.body = true) : c05_tot' (c05_stOk cfg notes) (visitComment cfg lc) :=
  c05_tot_map (c05_visitAll_tot cfg notes false _ h) _

theorem c05_mapM_resolve_ok (notes : List Note) (refs : List (Str × Str))
    (h : ∀ r ∈ refs, (lookupLast r (notes.map fun n => ((n.ty, n.id), n))).isSome = true) :
    ∃ ns, refs.mapM (resolveNote notes) = .ok ns ∧ ∀ n ∈ ns, n ∈ notes := by
  induction refs with
  | nil => exact ⟨[], by simp [pure, Except.pure], by simp⟩
  | cons r rs ih =>
    obtain ⟨ns, hns, hmem⟩ := ih (fun r' hr' => h r' (List.mem_cons_of_mem _ hr'))
    have hr := h r List.mem_cons_self
    cases hl : lookupLast r (notes.map fun n => ((n.ty, n.id), n)) with
    | none => rw [hl] at hr; cases hr
    | some n =>
      refine ⟨n :: ns, ?_, ?_⟩
      · rw [List.mapM_cons, hns]
        simp [resolveNote, hl, bind, Except.bind, pure, Except.pure]
      · intro n' hn'
        rcases List.mem_cons.mp hn' with rfl | hn'
        · exact c05_lookupLast_map_mem _ _ _ _ hl
        · exact hmem _ hn'

theorem c05_visitDocument_tot (cfg : Cfg) (d : Document)
    (hc : cfg.comments = d.comments)
    (h1 : c05_convOkL cfg d.notes d.children = true)
    (h2 : ∀ n ∈ d.notes, c05_convOkL cfg d.notes n.body = true)
    (h3 : ∀ c ∈ d.comments, c05_convOkL cfg d.notes c.body = true) :
    c05_tot' (c05_stOk cfg d.notes) (visitDocument cfg d) := by
  unfold visitDocument
  apply c05_tot_bind
  · exact c05_visitAll_tot cfg d.notes false _ h1
  intro nodes
  apply c05_tot_bindQ (Q := c05_stOk cfg d.notes)
  · exact c05_tot_get
  intro s hs
  dsimp only
  obtain ⟨ns, hns, hmem⟩ := c05_mapM_resolve_ok d.notes s.noteRefs hs.1
  rw [hns]; dsimp only
  apply c05_tot_bindQ (Q := fun ns => ∀ n ∈ ns, n ∈ d.notes)
  · exact c05_tot_pureQ ns hmem
  intro ns' hmem'
  apply c05_tot_bind
  · apply c05_mapMConcat_tot
    intro n hn
    exact c05_visitNote_tot cfg d.notes n (h2 n (hmem' n hn))
  intro noteNodes
  apply c05_tot_bindQ (Q := c05_stOk cfg d.notes)
  · exact c05_tot_get
  intro s2 hs2
  apply c05_tot_bind
  · apply c05_mapMConcat_tot
    intro lc hlc
    exact c05_visitComment_tot cfg d.notes lc (h3 _ (hc ▸ hs2.2 lc hlc))
  intro cn
  apply c05_tot_pure

theorem c05_stOk_init (cfg : Cfg) (notes : List Note) : c05_stOk cfg notes {} := by
  unfold c05_stOk
  exact ⟨fun r hr => absurd hr List.not_mem_nil, fun r hr => absurd hr List.not_mem_nil⟩

theorem c05_convertDoc_ok (cfg : Cfg) (d : Document) (h : c05_docOk cfg d = true) :
    ∃ r, convertDoc cfg d = .ok r := by
  simp only [c05_docOk, Bool.and_eq_true, List.all_eq_true] at h
  obtain ⟨⟨h1, h2⟩, h3⟩ := h
  have := (c05_visitDocument_tot { cfg with comments := d.comments } d rfl h1 h2 h3).h {}
    (c05_stOk_init _ _)
  obtain ⟨a, st', hrun, _, _⟩ := this
  unfold convertDoc
  rw [hrun]
  exact ⟨_, rfl⟩

end Mammoth
