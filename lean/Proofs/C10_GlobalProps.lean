/-
  C10, the whole output forest: reasoning about event lists only — every id is prefixed, the classification of the
  ids (bookmarks / reference ids / referent ids), and which hrefs resolve.
-/
import Proofs.C10_GlobalDoc
namespace Mammoth

/-! ### ids are `id_prefix` + a suffix -/

/-- the reference id of key (type, id) without the prefix: `type-ref-id` -/
def c10_refSfx (k : Str × Str) : Str := k.1 ++ S!"-ref-" ++ k.2
/-- the referent id of key (type, id) without the prefix: `type-id` -/
def c10_itemSfx (k : Str × Str) : Str := k.1 ++ S!"-" ++ k.2

def c10_evSuffix : c10_Ev → List Str
  | .bookmark n => [n]
  | .noteRef ty id => [c10_refSfx (ty, id)]
  | .commentRef id => [c10_refSfx (c10_commentTy, id)]
  | .item ty id => [c10_itemSfx (ty, id)]
  | _ => []
/-- the ids of the output without their prefix, in document order -/
def c10_evSuffixes (evs : List c10_Ev) : List Str := evs.flatMap c10_evSuffix

theorem c10_evIds_eq (cfg : Cfg) (evs : List c10_Ev) :
    c10_evIds cfg evs = (c10_evSuffixes evs).map (cfg.idPrefix ++ ·) := by
  induction evs with
  | nil => rfl
  | cons ev evs ih =>
    simp only [c10_evIds, c10_evSuffixes, List.flatMap_cons, List.map_append] at ih ⊢
    rw [ih]
    cases ev <;>
      simp [c10_evId, c10_evSuffix, htmlId, referenceId, referentId, c10_refSfx, c10_itemSfx, List.append_assoc]

theorem c10_evIds_prefixed (cfg : Cfg) (evs : List c10_Ev) : ∀ x ∈ c10_evIds cfg evs, cfg.idPrefix <+: x := by
  intro x hx
  rw [c10_evIds_eq, List.mem_map] at hx
  obtain ⟨s, _, rfl⟩ := hx
  exact ⟨s, rfl⟩

theorem c10_nodup_map_prefix (p : Str) (l : List Str) : (l.map (p ++ ·)).Nodup ↔ l.Nodup := by
  unfold List.Nodup
  rw [List.pairwise_map]
  constructor
  · intro h; exact h.imp (fun hne e => hne (by rw [e]))
  · intro h; exact h.imp (fun hne e => hne (List.append_cancel_left e))

theorem c10_mem_map_prefix (p a : Str) (l : List Str) : p ++ a ∈ l.map (p ++ ·) ↔ a ∈ l := by
  rw [List.mem_map]
  constructor
  · rintro ⟨b, hb, e⟩; rw [← List.append_cancel_left e]; exact hb
  · intro h; exact ⟨a, h, rfl⟩

/-! ### classifying events -/

def c10_evBookmarks : List c10_Ev → List Str
  | [] => []
  | .bookmark n :: r => n :: c10_evBookmarks r
  | _ :: r => c10_evBookmarks r
/-- the keys of all references: note references as (type, id), comment references as ("comment", id) -/
def c10_evKeys : List c10_Ev → List (Str × Str)
  | [] => []
  | .noteRef ty id :: r => (ty, id) :: c10_evKeys r
  | .commentRef id :: r => (c10_commentTy, id) :: c10_evKeys r
  | _ :: r => c10_evKeys r
/-- the keys of the items (`li`, `dt`) -/
def c10_evItems : List c10_Ev → List (Str × Str)
  | [] => []
  | .item ty id :: r => (ty, id) :: c10_evItems r
  | _ :: r => c10_evItems r

theorem c10_evBookmarks_append (a b : List c10_Ev) :
    c10_evBookmarks (a ++ b) = c10_evBookmarks a ++ c10_evBookmarks b := by
  induction a with
  | nil => rfl
  | cons x xs ih => cases x <;> simp [c10_evBookmarks, ih]
theorem c10_evKeys_append (a b : List c10_Ev) : c10_evKeys (a ++ b) = c10_evKeys a ++ c10_evKeys b := by
  induction a with
  | nil => rfl
  | cons x xs ih => cases x <;> simp [c10_evKeys, ih]
theorem c10_evItems_append (a b : List c10_Ev) : c10_evItems (a ++ b) = c10_evItems a ++ c10_evItems b := by
  induction a with
  | nil => rfl
  | cons x xs ih => cases x <;> simp [c10_evItems, ih]

theorem c10_flatMap_hom {α β} (F : List c10_Ev → List β) (h0 : F [] = [])
    (ha : ∀ a b, F (a ++ b) = F a ++ F b) (f : α → List c10_Ev) (l : List α) :
    F (l.flatMap f) = l.flatMap (fun x => F (f x)) := by
  induction l with
  | nil => simpa using h0
  | cons x xs ih => simp [List.flatMap_cons, ha, ih]

theorem c10_suffixes_perm (evs : List c10_Ev) :
    (c10_evSuffixes evs).Perm
      (c10_evBookmarks evs ++ ((c10_evKeys evs).map c10_refSfx ++ (c10_evItems evs).map c10_itemSfx)) := by
  induction evs with
  | nil => exact List.Perm.refl _
  | cons ev evs ih =>
    cases ev with
    | noteRef | commentRef =>
      simp only [c10_evSuffixes, List.flatMap_cons, c10_evSuffix, c10_evBookmarks, c10_evKeys, c10_evItems,
        List.map_cons, List.cons_append] at ih ⊢
      exact (List.Perm.cons _ ih).trans List.perm_middle.symm
    | item ty id =>
      simp only [c10_evSuffixes, List.flatMap_cons, c10_evSuffix, c10_evBookmarks, c10_evKeys, c10_evItems,
        List.map_cons, List.singleton_append] at ih ⊢
      refine (List.Perm.cons _ ih).trans ?_
      rw [← List.append_assoc, ← List.append_assoc]
      exact List.perm_middle.symm
    | _ => simpa [c10_evSuffixes, c10_evSuffix, c10_evBookmarks, c10_evKeys, c10_evItems] using ih

/-- the reference keys: note keys and comment keys, regrouped -/
theorem c10_keys_perm (evs : List c10_Ev) :
    (c10_evKeys evs).Perm (c10_evRefs evs ++ (c10_evCRefs evs).map (fun i => (c10_commentTy, i))) := by
  induction evs with
  | nil => exact List.Perm.refl _
  | cons ev evs ih =>
    cases ev with
    | commentRef id =>
      simp only [c10_evKeys, c10_evRefs, c10_evCRefs, List.map_cons]
      exact (List.Perm.cons _ ih).trans List.perm_middle.symm
    | _ => simpa [c10_evKeys, c10_evRefs, c10_evCRefs] using ih

theorem c10_mem_evRefs (evs : List c10_Ev) (ty id : Str) : (ty, id) ∈ c10_evRefs evs ↔ .noteRef ty id ∈ evs := by
  induction evs with
  | nil => simp [c10_evRefs]
  | cons ev evs ih => cases ev <;> simp [c10_evRefs, ih]
theorem c10_mem_evCRefs (evs : List c10_Ev) (id : Str) : id ∈ c10_evCRefs evs ↔ .commentRef id ∈ evs := by
  induction evs with
  | nil => simp [c10_evCRefs]
  | cons ev evs ih => cases ev <;> simp [c10_evCRefs, ih]
theorem c10_mem_evBookmarks (evs : List c10_Ev) (n : Str) : n ∈ c10_evBookmarks evs ↔ .bookmark n ∈ evs := by
  induction evs with
  | nil => simp [c10_evBookmarks]
  | cons ev evs ih => cases ev <;> simp [c10_evBookmarks, ih]
theorem c10_mem_evItems (evs : List c10_Ev) (ty id : Str) : (ty, id) ∈ c10_evItems evs ↔ .item ty id ∈ evs := by
  induction evs with
  | nil => simp [c10_evItems]
  | cons ev evs ih => cases ev <;> simp [c10_evItems, ih]

/-! ### the events of the body contain no item and no back-link -/

def c10_isBodyEv : c10_Ev → Bool
  | .item _ _ => false
  | .back _ _ => false
  | _ => true

mutual
theorem c10_evs_body (cfg : Cfg) (e : Elem) : ∀ ev ∈ c10_evs cfg e, c10_isBodyEv ev = true := by
  match e with
  | .paragraph p cs =>
    rw [c10_evs]; split
    · simp
    · exact c10_evsL_body cfg cs
  | .run r cs =>
    rw [c10_evs]; split
    · simp
    · exact c10_evsL_body cfg cs
  | .hyperlink h cs =>
    rw [c10_evs]
    intro ev hev
    rw [List.mem_cons] at hev
    rcases hev with rfl | hev
    · rfl
    · exact c10_evsL_body cfg cs ev hev
  | .table sid sname rows =>
    rw [c10_evs]; split
    · simp
    · exact c10_evsL_body cfg rows
  | .row _ cells => rw [c10_evs]; exact c10_evsL_body cfg cells
  | .cell _ _ _ cs => rw [c10_evs]; exact c10_evsL_body cfg cs
  | .bookmark n => rw [c10_evs]; simp [c10_isBodyEv]
  | .noteRef ty id => rw [c10_evs]; simp [c10_isBodyEv]
  | .commentRef id => rw [c10_evs]; split <;> simp [c10_isBodyEv]
  | .text _ | .checkbox _ | .brk _ | .tab | .image _ => simp [c10_evs]
theorem c10_evsL_body (cfg : Cfg) (es : List Elem) : ∀ ev ∈ c10_evsL cfg es, c10_isBodyEv ev = true := by
  match es with
  | [] => simp [c10_evsL]
  | e :: es =>
    rw [c10_evsL]
    intro ev hev
    rw [List.mem_append] at hev
    exact hev.elim (c10_evs_body cfg e ev) (c10_evsL_body cfg es ev)
end

theorem c10_evItems_body (evs : List c10_Ev) (h : ∀ ev ∈ evs, c10_isBodyEv ev = true) : c10_evItems evs = [] := by
  induction evs with
  | nil => rfl
  | cons ev evs ih =>
    have h1 := h ev (List.mem_cons_self ..)
    have h2 := ih (fun e he => h e (List.mem_cons_of_mem _ he))
    cases ev with
    | item ty id => cases h1
    | _ => exact h2

/-! ### the three parts of a document's events -/

/-- events of the body -/
def c10_E0 (cfg : Cfg) (d : Document) : List c10_Ev := c10_evsL cfg d.children
/-- events of the notes list -/
def c10_E1 (cfg : Cfg) (d : Document) : List c10_Ev := (c10_docNotes cfg d).flatMap (c10_noteEvs cfg)
/-- events of the comments list -/
def c10_E2 (cfg : Cfg) (d : Document) : List c10_Ev := (c10_docComments cfg d).flatMap (c10_commentEvs cfg)

theorem c10_docEvents_eq (cfg : Cfg) (d : Document) :
    c10_docEvents cfg d = c10_E0 cfg d ++ c10_E1 cfg d ++ c10_E2 cfg d := rfl

/-- what a successful conversion tells about the document (all in terms of the input) -/
structure c10_DocOK (cfg : Cfg) (d : Document) : Prop where
  /-- every note reference of the body resolves: the rendered notes have exactly these keys, in order -/
  notes : (c10_docNotes cfg d).map (fun n => (n.ty, n.id)) = c10_evRefs (c10_E0 cfg d)
  /-- every visited comment reference finds its comment -/
  found : ∀ id ∈ c10_evCRefs (c10_docEvents cfg d), (c10_findComment cfg id).isSome = true

theorem c10_filterMap_ids (cfg : Cfg) : ∀ (l : List Str),
    (∀ id ∈ l, (c10_findComment cfg id).isSome = true) →
    (l.filterMap (c10_findComment cfg)).map (·.id) = l
  | [], _ => rfl
  | id :: l, h => by
    have h1 := h id (List.mem_cons_self ..)
    cases hf : c10_findComment cfg id with
    | none => rw [hf] at h1; cases h1
    | some c =>
      have := c10_lookup_key (fun c : Comment => c.id) id cfg.comments c hf
      simp only [List.filterMap_cons, hf, List.map_cons, this]
      rw [c10_filterMap_ids cfg l (fun i hi => h i (List.mem_cons_of_mem _ hi))]

theorem c10_docComments_ids (cfg : Cfg) (d : Document) (ok : c10_DocOK cfg d) :
    (c10_docComments cfg d).map (·.id) = c10_evCRefs (c10_E0 cfg d ++ c10_E1 cfg d) := by
  rw [c10_docComments, c10_evComments]
  apply c10_filterMap_ids
  intro id hid
  apply ok.found
  rw [c10_docEvents_eq, c10_evCRefs_append, List.mem_append]
  exact Or.inl hid

theorem c10_mem_entryEvs (ty id : Str) (body : List c10_Ev) (hb : ∀ e ∈ body, c10_isBodyEv e = true)
    (ev : c10_Ev) (h : ev ∈ .item ty id :: body ++ [.back ty id]) :
    ev = .item ty id ∨ (ev ∈ body ∧ c10_isBodyEv ev = true) ∨ ev = .back ty id := by
  simp only [List.cons_append, List.mem_cons, List.mem_append, List.not_mem_nil, or_false] at h
  exact h.imp_right (Or.imp_left fun h => ⟨h, hb ev h⟩)

theorem c10_mem_noteEvs (cfg : Cfg) (n : Note) (ev : c10_Ev) (h : ev ∈ c10_noteEvs cfg n) :
    ev = .item n.ty n.id ∨ (ev ∈ c10_evsL cfg n.body ∧ c10_isBodyEv ev = true) ∨ ev = .back n.ty n.id :=
  c10_mem_entryEvs _ _ _ (c10_evsL_body cfg n.body) ev h

theorem c10_mem_commentEvs (cfg : Cfg) (c : Comment) (ev : c10_Ev) (h : ev ∈ c10_commentEvs cfg c) :
    ev = .item c10_commentTy c.id ∨ (ev ∈ c10_evsL cfg c.body ∧ c10_isBodyEv ev = true) ∨
      ev = .back c10_commentTy c.id :=
  c10_mem_entryEvs _ _ _ (c10_evsL_body cfg c.body) ev h

theorem c10_mem_evIds (cfg : Cfg) (evs : List c10_Ev) (ev : c10_Ev) (x : Str) (h : ev ∈ evs)
    (hx : x ∈ c10_evId cfg ev) : x ∈ c10_evIds cfg evs :=
  List.mem_flatMap.mpr ⟨ev, h, hx⟩

/-- the `li` of every note the body references is there -/
theorem c10_item_of_ref (cfg : Cfg) (d : Document) (ok : c10_DocOK cfg d) (ty id : Str)
    (h : (ty, id) ∈ c10_evRefs (c10_E0 cfg d)) : .item ty id ∈ c10_E1 cfg d := by
  rw [← ok.notes, List.mem_map] at h
  obtain ⟨n, hn, e⟩ := h
  simp only [Prod.mk.injEq] at e
  rw [c10_E1, List.mem_flatMap]
  refine ⟨n, hn, ?_⟩
  rw [← e.1, ← e.2]
  simp [c10_noteEvs]

/-- every rendered note is referenced from the body -/
theorem c10_ref_of_note (cfg : Cfg) (d : Document) (ok : c10_DocOK cfg d) (n : Note)
    (h : n ∈ c10_docNotes cfg d) : .noteRef n.ty n.id ∈ c10_E0 cfg d := by
  rw [← c10_mem_evRefs, ← ok.notes, List.mem_map]
  exact ⟨n, h, rfl⟩

/-- the `dt` of every comment referenced from the body or a rendered note is there -/
theorem c10_item_of_cref (cfg : Cfg) (d : Document) (ok : c10_DocOK cfg d) (id : Str)
    (h : id ∈ c10_evCRefs (c10_E0 cfg d ++ c10_E1 cfg d)) : .item c10_commentTy id ∈ c10_E2 cfg d := by
  rw [← c10_docComments_ids cfg d ok, List.mem_map] at h
  obtain ⟨c, hc, e⟩ := h
  rw [c10_E2, List.mem_flatMap]
  refine ⟨c, hc, ?_⟩
  rw [← e]
  simp [c10_commentEvs]

/-- every rendered comment is referenced from the body or a rendered note -/
theorem c10_cref_of_comment (cfg : Cfg) (d : Document) (ok : c10_DocOK cfg d) (c : Comment)
    (h : c ∈ c10_docComments cfg d) : .commentRef c.id ∈ c10_E0 cfg d ++ c10_E1 cfg d := by
  rw [← c10_mem_evCRefs, ← c10_docComments_ids cfg d ok, List.mem_map]
  exact ⟨c, h, rfl⟩

/-! ### which hrefs resolve -/

/-- note bodies and comment bodies reference only notes the body references too, and comment bodies
    reference only comments referenced from the body or a rendered note -/
def c10_refsClosed (cfg : Cfg) (d : Document) : Bool :=
  (c10_evRefs (c10_E1 cfg d ++ c10_E2 cfg d)).all (fun r => (c10_evRefs (c10_E0 cfg d)).contains r) &&
  (c10_evCRefs (c10_E2 cfg d)).all (fun i => (c10_evCRefs (c10_E0 cfg d ++ c10_E1 cfg d)).contains i)

/-- the simple sufficient condition: the rendered note and comment bodies contain no note references, the
    rendered comment bodies no comment references -/
def c10_bodiesPlain (cfg : Cfg) (d : Document) : Bool :=
  (c10_evRefs (c10_E1 cfg d ++ c10_E2 cfg d)).isEmpty && (c10_evCRefs (c10_E2 cfg d)).isEmpty

def c10_isLink : c10_Ev → Bool
  | .link _ => true
  | _ => false

/-- back-links always resolve, with no hypothesis on the bodies -/
theorem c10_backlinks_resolve (cfg : Cfg) (d : Document) (ok : c10_DocOK cfg d) (ty id : Str)
    (hev : .back ty id ∈ c10_docEvents cfg d) :
    referenceId cfg ty id ∈ c10_evIds cfg (c10_docEvents cfg d) := by
  have hE := c10_docEvents_eq cfg d
  rw [hE, List.mem_append, List.mem_append] at hev
  rcases hev with (hev | hev) | hev
  · have := c10_evsL_body cfg d.children _ hev
    simp [c10_isBodyEv] at this
  · rw [c10_E1, List.mem_flatMap] at hev
    obtain ⟨n, hn, hmem⟩ := hev
    rcases c10_mem_noteEvs cfg n _ hmem with e | ⟨_, hb⟩ | e
    · cases e
    · simp [c10_isBodyEv] at hb
    · cases e
      refine c10_mem_evIds cfg _ (.noteRef n.ty n.id) _ ?_ (by simp [c10_evId])
      rw [hE]
      exact List.mem_append_left _ (List.mem_append_left _ (c10_ref_of_note cfg d ok n hn))
  · rw [c10_E2, List.mem_flatMap] at hev
    obtain ⟨c, hc, hmem⟩ := hev
    rcases c10_mem_commentEvs cfg c _ hmem with e | ⟨_, hb⟩ | e
    · cases e
    · simp [c10_isBodyEv] at hb
    · cases e
      refine c10_mem_evIds cfg _ (.commentRef c.id) _ ?_ (by simp [c10_evId])
      rw [hE]
      exact List.mem_append_left _ (c10_cref_of_comment cfg d ok c hc)

theorem c10_hrefs_resolve (cfg : Cfg) (d : Document) (ok : c10_DocOK cfg d)
    (hcl : c10_refsClosed cfg d = true) (ev : c10_Ev) (hev : ev ∈ c10_docEvents cfg d)
    (hl : c10_isLink ev = false) (h : Str) (hh : h ∈ c10_evHref cfg ev) :
    ∃ x, h = '#' :: x ∧ x ∈ c10_evIds cfg (c10_docEvents cfg d) := by
  simp only [c10_refsClosed, Bool.and_eq_true, List.all_eq_true, List.contains_iff_mem] at hcl
  obtain ⟨hcl1, hcl2⟩ := hcl
  have hE := c10_docEvents_eq cfg d
  cases ev with
  | link l => simp [c10_isLink] at hl
  | bookmark n => simp [c10_evHref] at hh
  | item ty id => simp [c10_evHref] at hh
  | noteRef ty id =>
    simp only [c10_evHref, List.mem_singleton] at hh
    refine ⟨referentId cfg ty id, by simpa using hh, ?_⟩
    have hr : (ty, id) ∈ c10_evRefs (c10_E0 cfg d) := by
      have : (ty, id) ∈ c10_evRefs (c10_docEvents cfg d) := (c10_mem_evRefs _ ty id).mpr hev
      rw [hE, List.append_assoc, c10_evRefs_append, List.mem_append] at this
      exact this.elim (fun x => x) (hcl1 _)
    refine c10_mem_evIds cfg _ (.item ty id) _ ?_ (by simp [c10_evId])
    rw [hE]
    exact List.mem_append_left _ (List.mem_append_right _ (c10_item_of_ref cfg d ok ty id hr))
  | commentRef id =>
    simp only [c10_evHref, List.mem_singleton] at hh
    refine ⟨referentId cfg c10_commentTy id, by simpa using hh, ?_⟩
    have hr : id ∈ c10_evCRefs (c10_E0 cfg d ++ c10_E1 cfg d) := by
      have : id ∈ c10_evCRefs (c10_docEvents cfg d) := (c10_mem_evCRefs _ id).mpr hev
      rw [hE, c10_evCRefs_append, List.mem_append] at this
      exact this.elim (fun x => x) (hcl2 _)
    refine c10_mem_evIds cfg _ (.item c10_commentTy id) _ ?_ (by simp [c10_evId])
    rw [hE]
    exact List.mem_append_right _ (c10_item_of_cref cfg d ok id hr)
  | back ty id =>
    simp only [c10_evHref, List.mem_singleton] at hh
    refine ⟨referenceId cfg ty id, by simpa using hh, ?_⟩
    exact c10_backlinks_resolve cfg d ok ty id hev

/-! ### internal links -/

/-- the id `prefix ++ a` is in the output iff `a` is the name of a visited bookmark or one of the
    generated reference / referent suffixes -/
theorem c10_internal_target (cfg : Cfg) (evs : List c10_Ev) (a : Str) :
    cfg.idPrefix ++ a ∈ c10_evIds cfg evs ↔
      a ∈ c10_evBookmarks evs ∨ a ∈ (c10_evKeys evs).map c10_refSfx ∨ a ∈ (c10_evItems evs).map c10_itemSfx := by
  rw [c10_evIds_eq, c10_mem_map_prefix, (c10_suffixes_perm evs).mem_iff, List.mem_append, List.mem_append]

end Mammoth
