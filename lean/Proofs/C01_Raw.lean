/-
  C01 — `extract_raw_text`: helper definitions and lemmas.
-/
import MammothModel.Convert
namespace Mammoth

@[simp] theorem c01_rawTextL_nil : rawTextL [] = [] := by simp [rawTextL]
@[simp] theorem c01_rawTextL_cons (e : Elem) (es : List Elem) :
    rawTextL (e :: es) = rawText e ++ rawTextL es := by simp [rawTextL]

/-- a paragraph given as (properties, inline children) -/
abbrev c01_Para := ParaProps × List Elem

def c01_paraElem (p : c01_Para) : Elem := .paragraph p.1 p.2

mutual
/-- number of paragraphs anywhere inside the element -/
def c01_paraCount : Elem → Nat
  | .paragraph _ cs => 1 + c01_paraCountL cs
  | .run _ cs => c01_paraCountL cs
  | .hyperlink _ cs => c01_paraCountL cs
  | .table _ _ cs => c01_paraCountL cs
  | .row _ cs => c01_paraCountL cs
  | .cell _ _ _ cs => c01_paraCountL cs
  | _ => 0
def c01_paraCountL : List Elem → Nat
  | [] => 0
  | e :: es => c01_paraCount e + c01_paraCountL es
end

mutual
/-- number of occurrences of the character `ch` in the text and tab leaves of the element -/
def c01_leafCount (ch : Char) : Elem → Nat
  | .text s => s.count ch
  | .tab => if ch = '\t' then 1 else 0
  | .paragraph _ cs => c01_leafCountL ch cs
  | .run _ cs => c01_leafCountL ch cs
  | .hyperlink _ cs => c01_leafCountL ch cs
  | .table _ _ cs => c01_leafCountL ch cs
  | .row _ cs => c01_leafCountL ch cs
  | .cell _ _ _ cs => c01_leafCountL ch cs
  | _ => 0
def c01_leafCountL (ch : Char) : List Elem → Nat
  | [] => 0
  | e :: es => c01_leafCount ch e + c01_leafCountL ch es
end

mutual
theorem c01_count_rawText (ch : Char) (e : Elem) :
    (rawText e).count ch = c01_leafCount ch e + (if ch = '\n' then 2 * c01_paraCount e else 0) := by
  match e with
  | .text s => simp [rawText, c01_leafCount, c01_paraCount]
  | .tab =>
    simp only [rawText, c01_leafCount, c01_paraCount]
    by_cases h : ch = '\t'
    · subst h; simp
    · have : ¬ ('\t' = ch) := fun h' => h h'.symm
      simp [h, this]
  | .paragraph p cs =>
    simp only [rawText, c01_leafCount, c01_paraCount, List.count_append, c01_count_rawTextL ch cs]
    by_cases h : ch = '\n'
    · subst h; simp; omega
    · have : ¬ ('\n' = ch) := fun h' => h h'.symm
      simp [h, this]
  | .run _ cs | .hyperlink _ cs | .table _ _ cs | .row _ cs | .cell _ _ _ cs =>
    simp only [rawText, c01_leafCount, c01_paraCount, c01_count_rawTextL ch cs]
  | .checkbox _ | .brk _ | .image _ | .bookmark _ | .noteRef _ _ | .commentRef _ =>
    simp [rawText, c01_leafCount, c01_paraCount]
theorem c01_count_rawTextL (ch : Char) (es : List Elem) :
    (rawTextL es).count ch = c01_leafCountL ch es + (if ch = '\n' then 2 * c01_paraCountL es else 0) := by
  match es with
  | [] => simp [c01_leafCountL, c01_paraCountL]
  | e :: es =>
    simp only [c01_rawTextL_cons, List.count_append, c01_count_rawText ch e, c01_count_rawTextL ch es,
      c01_leafCountL, c01_paraCountL]
    split <;> omega
end

end Mammoth
