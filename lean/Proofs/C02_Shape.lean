/-
  C02 — the shape of a forest (all strings erased) and the skeleton of a token list (all strings
  erased); how substitution acts on tokens and on the coalesced token list the lexer returns.
-/
import Proofs.C02_Subst
import Proofs.C02_Tokens
namespace Mammoth

/-! ### the shape of a forest: tag names, attribute names, nesting, position of the text leaves -/

inductive c02_Shape where
  | text
  | mark
  | elem (name : Str) (keys : List Str) (children : List c02_Shape)
deriving Repr, Inhabited

/-- the attribute names, in order -/
def c02_keys : Dict Str → List Str
  | [] => []
  | (k, _) :: r => k :: c02_keys r

mutual
def c02_shapeN : Node → c02_Shape
  | .text _ => .text
  | .forceWrite => .mark
  | .elem t cs => .elem t.name (c02_keys t.attrs) (c02_shape cs)
/-- the forest with every string erased: what is left are the tag names, the attribute names (in
    order), the nesting, and the places of the text leaves and force-write markers -/
def c02_shape : List Node → List c02_Shape
  | [] => []
  | c :: cs => c02_shapeN c :: c02_shape cs
end

theorem c02_keys_mapAttrs (f : Str → Str → Str) (d : Dict Str) : c02_keys (c02_mapAttrs f d) = c02_keys d := by
  induction d with
  | nil => rfl
  | cons kv r ih => obtain ⟨k, v⟩ := kv; simp [c02_mapAttrs, c02_keys, ih]

mutual
theorem c02_shapeN_map (σ : c02_Sub) (n : Node) : c02_shapeN (c02_mapNode σ n) = c02_shapeN n := by
  match n with
  | .text s => simp [c02_shapeN]
  | .forceWrite => simp [c02_shapeN]
  | .elem t cs => simp [c02_shapeN, c02_keys_mapAttrs, c02_shape_map σ cs]
theorem c02_shape_map (σ : c02_Sub) (ns : List Node) : c02_shape (c02_mapForest σ ns) = c02_shape ns := by
  match ns with
  | [] => simp [c02_shape]
  | c :: cs => simp [c02_shape, c02_shapeN_map σ c, c02_shape_map σ cs]
end

/-! ### tokens -/

def c02_mapTok (σ : c02_Sub) : c02_Tok → c02_Tok
  | .start n as => .start n (c02_mapAttrs σ.attr as)
  | .end n => .end n
  | .selfClose n as => .selfClose n (c02_mapAttrs σ.attr as)
  | .text s => .text (σ.text s)

mutual
theorem c02_tokensN_map (σ : c02_Sub) (n : Node) :
    c02_tokensN (c02_mapNode σ n) = (c02_tokensN n).map (c02_mapTok σ) := by
  match n with
  | .text s => simp [c02_mapTok]
  | .forceWrite => simp
  | .elem t cs =>
    rw [c02_mapNode_elem, c02_tokensN_elem, c02_tokensN_elem, c02_isVoid_map, c02_tokens_map σ cs]
    split <;> simp [c02_mapTok]
theorem c02_tokens_map (σ : c02_Sub) (ns : List Node) :
    c02_tokens (c02_mapForest σ ns) = (c02_tokens ns).map (c02_mapTok σ) := by
  match ns with
  | [] => simp
  | c :: cs => simp [c02_tokensN_map σ c, c02_tokens_map σ cs]
end

/-! ### the skeleton of a token list -/

inductive c02_Skel where
  | start (name : Str) (keys : List Str)
  | «end» (name : Str)
  | selfClose (name : Str) (keys : List Str)
  | text
deriving DecidableEq, Repr, Inhabited

def c02_skelTok : c02_Tok → c02_Skel
  | .start n as => .start n (c02_keys as)
  | .end n => .end n
  | .selfClose n as => .selfClose n (c02_keys as)
  | .text _ => .text

/-- the token list with every string erased: tags with their attribute names, and one `text` mark
    per text token -/
def c02_skeleton (ts : List c02_Tok) : List c02_Skel := ts.map c02_skelTok

theorem c02_skelTok_map (σ : c02_Sub) (t : c02_Tok) : c02_skelTok (c02_mapTok σ t) = c02_skelTok t := by
  cases t <;> simp [c02_mapTok, c02_skelTok, c02_keys_mapAttrs]

theorem c02_skeleton_map (σ : c02_Sub) (ts : List c02_Tok) :
    c02_skeleton (ts.map (c02_mapTok σ)) = c02_skeleton ts := by
  simp [c02_skeleton, List.map_map, Function.comp_def, c02_skelTok_map]

theorem c02_skeleton_append (a b : List c02_Tok) : c02_skeleton (a ++ b) = c02_skeleton a ++ c02_skeleton b := by
  simp [c02_skeleton]

theorem c02_skeleton_flush (a b : Str) (h : a.isEmpty = b.isEmpty) :
    c02_skeleton (c02_flush a) = c02_skeleton (c02_flush b) := by
  unfold c02_flush
  rw [h]
  split <;> simp [c02_skeleton, c02_skelTok]

theorem c02_tokMarkup_flush' (acc : Str) : c02_tokMarkup (c02_flush acc) = [] := c02_tokMarkup_flush acc

/-- Coalescing, on substituted tokens: the fold over the substituted list stays related to the fold
    over the original list — same skeleton of what was emitted, and the pending text is empty on both
    sides or on neither. -/
theorem c02_feed_map (σ : c02_Sub) (ht : σ.TextOk) (ts : List c02_Tok)
    (toks toks' : List c02_Tok) (acc acc' : Str)
    (h1 : c02_skeleton toks' = c02_skeleton toks) (h3 : acc'.isEmpty = acc.isEmpty) :
    c02_skeleton (c02_feed (toks', acc') (ts.map (c02_mapTok σ))).1 = c02_skeleton (c02_feed (toks, acc) ts).1 ∧
    (c02_feed (toks', acc') (ts.map (c02_mapTok σ))).2.isEmpty = (c02_feed (toks, acc) ts).2.isEmpty := by
  induction ts generalizing toks toks' acc acc' with
  | nil => exact ⟨h1, h3⟩
  | cons t ts ih =>
    rw [List.map_cons, c02_feed_cons, c02_feed_cons]
    by_cases hx : ∃ s, t = .text s
    · obtain ⟨s, rfl⟩ := hx
      apply ih _ _ _ _ h1
      have := ht s
      cases acc <;> cases acc' <;> simp_all
    · have hx : ∀ s, t ≠ .text s := fun s h => hx ⟨s, h⟩
      have hx' : ∀ s, c02_mapTok σ t ≠ .text s := by
        cases t with
        | text s => exact absurd rfl (hx s)
        | _ => intro s h; cases h
      rw [c02_feedStep_tag _ _ _ hx, c02_feedStep_tag _ _ _ hx']
      apply ih _ _ _ _ _ rfl
      rw [c02_skeleton_append, c02_skeleton_append, c02_skeleton_append, c02_skeleton_append, h1,
        c02_skeleton_flush _ _ h3]
      simp [c02_skeleton, c02_skelTok_map]

/-- the coalesced substituted tokens have the skeleton of the coalesced original tokens -/
theorem c02_skeleton_coalesce_map (σ : c02_Sub) (ht : σ.TextOk) (ts : List c02_Tok) :
    c02_skeleton (c02_coalesce (ts.map (c02_mapTok σ))) = c02_skeleton (c02_coalesce ts) := by
  have := c02_feed_map σ ht ts [] [] [] [] rfl rfl
  simp only [c02_coalesce, c02_skeleton_append, this.1, c02_skeleton_flush _ _ this.2]

/-- ... and their tags (with attributes) are exactly the images of the original tags, in order -/
theorem c02_tokMarkup_coalesce_map (σ : c02_Sub) (ts : List c02_Tok) :
    c02_tokMarkup (c02_coalesce (ts.map (c02_mapTok σ))) = (c02_tokMarkup (c02_coalesce ts)).map (c02_mapTok σ) := by
  rw [c02_tokMarkup_coalesce, c02_tokMarkup_coalesce]
  induction ts with
  | nil => simp [c02_tokMarkup]
  | cons t ts ih => cases t <;> simp [c02_tokMarkup, c02_mapTok, ih]

/-- when no text is empty and no two text tokens are adjacent, substitution keeps it so -/
theorem c02_textSeparated_map (σ : c02_Sub) (ht : σ.TextOk) (ts : List c02_Tok) :
    c02_textSeparated (ts.map (c02_mapTok σ)) = c02_textSeparated ts := by
  induction ts with
  | nil => rfl
  | cons t ts ih =>
    cases t with
    | text s =>
      simp only [List.map_cons, c02_mapTok, c02_textSeparated, ih, ht s]
      cases ts with
      | nil => simp
      | cons u us => cases u <;> simp [c02_mapTok]
    | _ => simpa [c02_mapTok, c02_textSeparated] using ih

end Mammoth
