/-
  C05 — the references the converter follows, traced back to the XML.  The converter can only fail on
  (a) a note reference without note, (b) a comment reference without comment, (c) an embedded image whose
  zip entry is missing (`C05_convert_errors`).  `c05_refsOk` says, on the document read, that all three kinds
  resolve; `c05_xrefs` says the same on the XML tree (every `w:footnoteReference` / `w:endnoteReference` /
  `w:commentReference` id is defined, every `r:embed` / `v:imagedata r:id` relationship target is a zip
  entry), anywhere in the tree.  This file: the definitions and `c05_refsOk ⟹ c05_convOk`.
-/
import Proofs.C05_ConvertTotal
import Proofs.C05_Static
namespace Mammoth

/-- what references may point to: names of zip entries, (type, id) of notes, ids of comments -/
structure c05_Refs where
  arch : List Str := []
  notes : List (Str × Str) := []
  comments : List Str := []

mutual
/-- every reference below this document element resolves in `R` -/
def c05_refsOk (R : c05_Refs) : Elem → Bool
  | .paragraph _ cs => c05_refsOkL R cs
  | .run _ cs => c05_refsOkL R cs
  | .hyperlink _ cs => c05_refsOkL R cs
  | .table _ _ cs => c05_refsOkL R cs
  | .row _ cs => c05_refsOkL R cs
  | .cell _ _ _ cs => c05_refsOkL R cs
  | .image i =>
    match i.src with
    | .embedded name => R.arch.contains name
    | .linked _ => true
  | .noteRef ty id => R.notes.contains (ty, id)
  | .commentRef id => R.comments.contains id
  | _ => true
def c05_refsOkL (R : c05_Refs) : List Elem → Bool
  | [] => true
  | e :: es => c05_refsOk R e && c05_refsOkL R es
end

theorem c05_refsOkL_append (R : c05_Refs) (xs ys : List Elem) :
    c05_refsOkL R (xs ++ ys) = (c05_refsOkL R xs && c05_refsOkL R ys) :=
  andL_append rfl (fun _ _ => rfl) xs ys

/-- the configuration and the notes contain what `R` promises -/
structure c05_RefsIn (R : c05_Refs) (cfg : Cfg) (notes : List Note) : Prop where
  arch : ∀ n ∈ R.arch, n ∈ cfg.archive.map (·.1)
  notes : ∀ k ∈ R.notes, k ∈ notes.map fun n => (n.ty, n.id)
  comments : ∀ c ∈ R.comments, c ∈ cfg.comments.map (·.id)

mutual
theorem c05_convOk_of_refsOk (R : c05_Refs) (cfg : Cfg) (notes : List Note) (hin : c05_RefsIn R cfg notes)
    (e : Elem) (h : c05_refsOk R e = true) : c05_convOk cfg notes e = true := by
  match e with
  | .paragraph _ cs | .run _ cs | .hyperlink _ cs | .table _ _ cs | .row _ cs | .cell _ _ _ cs =>
    exact c05_convOkL_of_refsOkL R cfg notes hin cs h
  | .image i =>
    simp only [c05_refsOk] at h
    simp only [c05_convOk]
    cases hs : i.src with
    | embedded name =>
      rw [hs] at h; dsimp only at h ⊢
      rw [lookupLast_isSome_of_mem name cfg.archive (hin.arch _ (List.contains_iff_mem.mp h))]
      exact Bool.or_true _
    | linked u => rfl
  | .noteRef ty id =>
    simp only [c05_refsOk] at h
    simp only [c05_convOk]
    apply lookupLast_isSome_of_mem
    have := hin.notes _ (List.contains_iff_mem.mp h)
    simpa [List.map_map, Function.comp_def] using this
  | .commentRef id =>
    simp only [c05_refsOk] at h
    simp only [c05_convOk]
    split
    · apply lookupLast_isSome_of_mem
      have := hin.comments _ (List.contains_iff_mem.mp h)
      simpa [List.map_map, Function.comp_def] using this
    · rfl
  | .text _ | .checkbox _ | .brk _ | .tab | .bookmark _ => rfl
theorem c05_convOkL_of_refsOkL (R : c05_Refs) (cfg : Cfg) (notes : List Note) (hin : c05_RefsIn R cfg notes)
    (es : List Elem) (h : c05_refsOkL R es = true) : c05_convOkL cfg notes es = true := by
  match es with
  | [] => rfl
  | e :: es =>
    simp only [c05_refsOkL, Bool.and_eq_true] at h
    simp only [c05_convOkL, Bool.and_eq_true]
    exact ⟨c05_convOk_of_refsOk R cfg notes hin e h.1, c05_convOkL_of_refsOkL R cfg notes hin es h.2⟩
end

/-- a document all of whose references resolve in `R`: the body, every note body, every comment body -/
def c05_docRefsOk (R : c05_Refs) (d : Document) : Bool :=
  c05_refsOkL R d.children && d.notes.all (fun n => c05_refsOkL R n.body) &&
  d.comments.all (fun c => c05_refsOkL R c.body)

/-- `c05_docOk` (the hypothesis of `C05_convert_total`) follows, for EVERY configuration whose archive
    contains `R.arch`, when the document's notes / comments contain `R.notes` / `R.comments` -/
theorem c05_docOk_of_docRefsOk (R : c05_Refs) (cfg : Cfg) (d : Document)
    (harch : ∀ n ∈ R.arch, n ∈ cfg.archive.map (·.1))
    (hnotes : ∀ k ∈ R.notes, k ∈ d.notes.map fun n => (n.ty, n.id))
    (hcomments : ∀ c ∈ R.comments, c ∈ d.comments.map (·.id))
    (h : c05_docRefsOk R d = true) : c05_docOk cfg d = true := by
  have hin : c05_RefsIn R { cfg with comments := d.comments } d.notes := ⟨harch, hnotes, hcomments⟩
  simp only [c05_docRefsOk, Bool.and_eq_true, List.all_eq_true] at h
  simp only [c05_docOk, Bool.and_eq_true, List.all_eq_true]
  exact ⟨⟨c05_convOkL_of_refsOkL R _ _ hin _ h.1.1, fun n hn => c05_convOkL_of_refsOkL R _ _ hin _ (h.1.2 n hn)⟩,
    fun c hc => c05_convOkL_of_refsOkL R _ _ hin _ (h.2 c hc)⟩

/-! ### the same on the XML -/

/-- the relationship `rid`, if defined, targets a zip entry -/
def c05_embedOk (env : REnv) (R : c05_Refs) (rid : Str) : Bool :=
  match lookupLast rid (env.rels.map fun r => (r.id, r.target)) with
  | none => true
  | some t => R.arch.contains (uriToZipEntryName S!"word" t)

/-- the local part: image relationships and note / comment references of this element -/
def c05_xrefOk (env : REnv) (R : c05_Refs) (name : Str) (as : Attrs) (cs : List XmlNode) : Bool :=
  match handlerOf name with
  | none => true
  | some h =>
    if h == S!"inline" then
      (c05_blips cs).all fun b => match attr? S!"r:embed" b.1 with | some rid => c05_embedOk env R rid | none => true
    else if h == S!"read_imagedata" then
      (match attr? S!"r:id" as with | none => true | some rid => c05_embedOk env R rid)
    else if h == S!"note_reference:footnote" || h == S!"note_reference:endnote" then
      (match attr? S!"w:id" as with | none => true | some id => R.notes.contains (h.drop 15, id))
    else if h == S!"read_comment_reference" then
      (match attr? S!"w:id" as with | none => true | some id => R.comments.contains id)
    else true

mutual
/-- every reference in the XML tree resolves in `R` -/
def c05_xrefs (env : REnv) (R : c05_Refs) : XmlNode → Bool
  | .text _ => true
  | .elem name as cs => c05_xrefOk env R name as cs && c05_xrefsL env R cs
def c05_xrefsL (env : REnv) (R : c05_Refs) : List XmlNode → Bool
  | [] => true
  | c :: cs => c05_xrefs env R c && c05_xrefsL env R cs
end

theorem c05_xrefsL_append (env : REnv) (R : c05_Refs) (xs ys : List XmlNode) :
    c05_xrefsL env R (xs ++ ys) = (c05_xrefsL env R xs && c05_xrefsL env R ys) :=
  andL_append rfl (fun _ _ => rfl) xs ys

theorem c05_xrefsL_findChild (env : REnv) (R : c05_Refs) (name : Str) (cs : List XmlNode)
    (h : c05_xrefsL env R cs = true) : c05_xrefsL env R (findChildOrNull name cs).2 = true :=
  andL_findChild (fun _ _ => rfl) (fun _ _ _ => rfl) name cs h

end Mammoth
