/-
  C04 / C11 / C14 — leaves and their chains of enclosing tags.

  `leaves ns` lists the text nodes and force-write markers of a forest in document order, each with the tags of
  its enclosing elements (outermost first).  `collapse` keeps the leaves, in order, and changes a chain only
  position by position into a tag with equal attributes whose name is linked to the original tag's names
  (`tagStep`, possibly several steps: `TagReach`); separators are the only inserted leaves (`LeafEmb`).
  `stripEmpty` keeps exactly the contentful leaves with exactly their chains.
-/
import Proofs.Stable
import Proofs.Strip
namespace Mammoth

/-! ### pointwise relation of two lists (core has no `List.Forall₂`) -/
inductive Forall₂ {α β} (R : α → β → Prop) : List α → List β → Prop where
  | nil : Forall₂ R [] []
  | cons {a b as bs} : R a b → Forall₂ R as bs → Forall₂ R (a :: as) (b :: bs)

theorem Forall₂.refl {α} {R : α → α → Prop} (h : ∀ a, R a a) : ∀ l : List α, Forall₂ R l l
  | [] => .nil
  | a :: l => .cons (h a) (Forall₂.refl h l)

theorem Forall₂.trans {α} {R : α → α → Prop} (h : ∀ a b c, R a b → R b c → R a c)
    {as bs cs : List α} (h1 : Forall₂ R as bs) (h2 : Forall₂ R bs cs) : Forall₂ R as cs := by
  induction h1 generalizing cs with
  | nil => cases h2; exact .nil
  | cons hab _ ih =>
    cases h2 with
    | cons hbc h2' => exact .cons (h _ _ _ hab hbc) (ih h2')

theorem Forall₂.imp {α β} {R Q : α → β → Prop} (h : ∀ a b, R a b → Q a b)
    {as : List α} {bs : List β} (h1 : Forall₂ R as bs) : Forall₂ Q as bs := by
  induction h1 with
  | nil => exact .nil
  | cons hab _ ih => exact .cons (h _ _ hab) ih

theorem Forall₂.length_eq {α β} {R : α → β → Prop} {as : List α} {bs : List β}
    (h : Forall₂ R as bs) : as.length = bs.length := by
  induction h with
  | nil => rfl
  | cons _ _ ih => simp [ih]

theorem Forall₂.append {α β} {R : α → β → Prop} {as cs : List α} {bs ds : List β}
    (h1 : Forall₂ R as bs) (h2 : Forall₂ R cs ds) : Forall₂ R (as ++ cs) (bs ++ ds) := by
  induction h1 with
  | nil => simpa using h2
  | cons hab _ ih => exact .cons hab ih

/-! ### leaves -/
/-- a leaf with the tags of its enclosing elements, outermost first -/
abbrev Leaf := List Tag × Node

def underTag (t : Tag) (ls : List Leaf) : List Leaf := ls.map fun p => (t :: p.1, p.2)

@[simp] theorem underTag_nil (t : Tag) : underTag t [] = [] := rfl
@[simp] theorem underTag_cons (t : Tag) (p : Leaf) (ls : List Leaf) :
    underTag t (p :: ls) = (t :: p.1, p.2) :: underTag t ls := rfl
@[simp] theorem underTag_append (t : Tag) (a b : List Leaf) :
    underTag t (a ++ b) = underTag t a ++ underTag t b := by simp [underTag]

mutual
/-- the text nodes and force-write markers below a node, in order, with their chains -/
def leavesN : Node → List Leaf
  | .text s => [([], .text s)]
  | .forceWrite => [([], .forceWrite)]
  | .elem t cs => underTag t (leavesL cs)
def leavesL : List Node → List Leaf
  | [] => []
  | c :: cs => leavesN c ++ leavesL cs
end

/-- the leaves of a forest -/
def leaves (ns : List Node) : List Leaf := leavesL ns

@[simp] theorem leavesL_nil : leavesL [] = [] := by simp [leavesL]
@[simp] theorem leavesL_cons (c : Node) (cs : List Node) : leavesL (c :: cs) = leavesN c ++ leavesL cs := by
  simp [leavesL]
@[simp] theorem leavesN_text (s : Str) : leavesN (.text s) = [([], .text s)] := by simp [leavesN]
@[simp] theorem leavesN_fw : leavesN .forceWrite = [([], .forceWrite)] := by simp [leavesN]
@[simp] theorem leavesN_elem (t : Tag) (cs : List Node) : leavesN (.elem t cs) = underTag t (leavesL cs) := by
  simp [leavesN]

theorem leavesL_append (a b : List Node) : leavesL (a ++ b) = leavesL a ++ leavesL b := by
  induction a with
  | nil => simp
  | cons x xs ih => simp [ih]

/-! ### the relation between chains -/

/-- one merge step on a tag: `o` is the tag of the element that an element with tag `i` is merged into —
    identical attributes, and `o`'s name is `i`'s name or one of its `|` alternatives -/
def tagStep (i o : Tag) : Prop := o.attrs = i.attrs ∧ o.name ∈ i.names

theorem tagStep_refl (t : Tag) : tagStep t t := ⟨rfl, by simp [Tag.names]⟩

theorem tagStep_of_isMatch (lt t : Tag) (h : isMatch lt t = true) : tagStep t lt := by
  simp only [isMatch, Bool.and_eq_true, List.contains_iff_mem, beq_iff_eq] at h
  exact ⟨h.2, h.1⟩

/-- finitely many merge steps -/
inductive TagReach : Tag → Tag → Prop where
  | refl (t : Tag) : TagReach t t
  | step {i m o : Tag} : TagReach i m → tagStep m o → TagReach i o

theorem TagReach.trans {a b c : Tag} (h1 : TagReach a b) (h2 : TagReach b c) : TagReach a c := by
  induction h2 with
  | refl => exact h1
  | step _ hs ih => exact .step ih hs

theorem TagReach.attrs {i o : Tag} (h : TagReach i o) : o.attrs = i.attrs := by
  induction h with
  | refl => rfl
  | step _ hs ih => exact hs.1.trans ih

/-- chains of equal length, related position by position by one merge step (`inp` is the chain in the input,
    `out` the chain in the output) -/
def chainRel (inp out : List Tag) : Prop := Forall₂ tagStep inp out

/-! ### output leaves = input leaves (chains related by `R`) with separator leaves inserted -/
inductive LeafEmb (R : Tag → Tag → Prop) (Sep : Node → Prop) : List Leaf → List Leaf → Prop where
  | nil : LeafEmb R Sep [] []
  | keep {a b : Leaf} {as bs : List Leaf} :
      Forall₂ R a.1 b.1 → a.2 = b.2 → LeafEmb R Sep as bs → LeafEmb R Sep (a :: as) (b :: bs)
  | ins {b : Leaf} {as bs : List Leaf} : Sep b.2 → LeafEmb R Sep as bs → LeafEmb R Sep as (b :: bs)

section
variable {R : Tag → Tag → Prop} {Sep : Node → Prop}

theorem LeafEmb.refl (hr : ∀ t, R t t) : ∀ l : List Leaf, LeafEmb R Sep l l
  | [] => .nil
  | a :: l => .keep (Forall₂.refl hr a.1) rfl (LeafEmb.refl hr l)

theorem LeafEmb.append {as bs cs ds : List Leaf} (h1 : LeafEmb R Sep as bs) (h2 : LeafEmb R Sep cs ds) :
    LeafEmb R Sep (as ++ cs) (bs ++ ds) := by
  induction h1 with
  | nil => simpa using h2
  | keep hc he _ ih => exact .keep hc he ih
  | ins hs _ ih => exact .ins hs ih

theorem LeafEmb.under {t t' : Tag} (ht : R t t') {as bs : List Leaf} (h : LeafEmb R Sep as bs) :
    LeafEmb R Sep (underTag t as) (underTag t' bs) := by
  induction h with
  | nil => exact .nil
  | keep hc he _ ih => exact .keep (.cons ht hc) he ih
  | ins hs _ ih => exact .ins hs ih

theorem LeafEmb.trans (htr : ∀ a b c, R a b → R b c → R a c) {as bs cs : List Leaf}
    (h1 : LeafEmb R Sep as bs) (h2 : LeafEmb R Sep bs cs) : LeafEmb R Sep as cs := by
  induction h2 generalizing as with
  | nil => cases h1; exact .nil
  | keep hc he _ ih =>
    cases h1 with
    | keep hc' he' h1' => exact .keep (hc'.trans htr hc) (he'.trans he) (ih h1')
    | ins hs h1' => exact .ins (he ▸ hs) (ih h1')
  | ins hs _ ih => exact .ins hs (ih h1)

theorem LeafEmb.imp {R' : Tag → Tag → Prop} {Sep' : Node → Prop} (hR : ∀ a b, R a b → R' a b)
    (hS : ∀ n, Sep n → Sep' n) {as bs : List Leaf} (h : LeafEmb R Sep as bs) : LeafEmb R' Sep' as bs := by
  induction h with
  | nil => exact .nil
  | keep hc he _ ih => exact .keep (hc.imp hR) he ih
  | ins hs _ ih => exact .ins (hS _ hs) ih

/-- without separator leaves the embedding is a pointwise relation -/
theorem LeafEmb.forall₂ (hno : ∀ n, ¬ Sep n) {as bs : List Leaf} (h : LeafEmb R Sep as bs) :
    Forall₂ (fun a b => Forall₂ R a.1 b.1 ∧ a.2 = b.2) as bs := by
  induction h with
  | nil => exact .nil
  | keep hc he _ ih => exact .cons ⟨hc, he⟩ ih
  | ins hs _ _ => exact absurd hs (hno _)

/-- every input leaf is found in the output, under a related chain -/
theorem LeafEmb.mem_left {as bs : List Leaf} (h : LeafEmb R Sep as bs) (a : Leaf) (ha : a ∈ as) :
    ∃ b, b ∈ bs ∧ Forall₂ R a.1 b.1 ∧ a.2 = b.2 := by
  induction h with
  | nil => simp at ha
  | keep hc he _ ih =>
    rcases List.mem_cons.mp ha with rfl | ha'
    · exact ⟨_, List.mem_cons_self, hc, he⟩
    · obtain ⟨b, hb, h⟩ := ih ha'
      exact ⟨b, List.mem_cons_of_mem _ hb, h⟩
  | ins _ _ ih =>
    obtain ⟨b, hb, h⟩ := ih ha
    exact ⟨b, List.mem_cons_of_mem _ hb, h⟩

/-- every output leaf is an inserted separator or an input leaf, whose chain is related to its chain -/
theorem LeafEmb.mem_right {as bs : List Leaf} (h : LeafEmb R Sep as bs) (b : Leaf) (hb : b ∈ bs) :
    Sep b.2 ∨ ∃ a, a ∈ as ∧ Forall₂ R a.1 b.1 ∧ a.2 = b.2 := by
  induction h with
  | nil => simp at hb
  | keep hc he _ ih =>
    rcases List.mem_cons.mp hb with rfl | hb'
    · exact Or.inr ⟨_, List.mem_cons_self, hc, he⟩
    · rcases ih hb' with h | ⟨a, ha, h⟩
      · exact Or.inl h
      · exact Or.inr ⟨a, List.mem_cons_of_mem _ ha, h⟩
  | ins hs _ ih =>
    rcases List.mem_cons.mp hb with rfl | hb'
    · exact Or.inl hs
    · exact ih hb'

/-- the leaf nodes themselves: the input's are a subsequence of the output's -/
theorem LeafEmb.sublist {as bs : List Leaf} (h : LeafEmb R Sep as bs) :
    (as.map Prod.snd).Sublist (bs.map Prod.snd) := by
  induction h with
  | nil => simp
  | keep _ he _ ih => simp only [List.map_cons, he]; exact ih.cons_cons _
  | ins _ _ ih => simp only [List.map_cons]; exact ih.cons _
end

/-! ### a property of all tags of a forest -/
mutual
def AllTags (P : Tag → Prop) : Node → Prop
  | .elem t cs => P t ∧ AllTagsL P cs
  | _ => True
def AllTagsL (P : Tag → Prop) : List Node → Prop
  | [] => True
  | c :: cs => AllTags P c ∧ AllTagsL P cs
end

/-! ### tags of a forest, as a list (for decidable hypotheses) -/
mutual
def tagsOf : Node → List Tag
  | .elem t cs => t :: tagsOfL cs
  | _ => []
def tagsOfL : List Node → List Tag
  | [] => []
  | c :: cs => tagsOf c ++ tagsOfL cs
end

section
variable {P : Tag → Prop}

@[simp] theorem allTagsL_nil : AllTagsL P [] := by simp [AllTagsL]
theorem allTagsL_cons (c : Node) (cs : List Node) : AllTagsL P (c :: cs) ↔ AllTags P c ∧ AllTagsL P cs := by
  simp [AllTagsL]
theorem allTags_elem (t : Tag) (cs : List Node) : AllTags P (.elem t cs) ↔ P t ∧ AllTagsL P cs := by
  simp [AllTags]
@[simp] theorem allTags_text (s : Str) : AllTags P (.text s) := by simp [AllTags]
@[simp] theorem allTags_fw : AllTags P .forceWrite := by simp [AllTags]

theorem allTagsL_append (a b : List Node) : AllTagsL P (a ++ b) ↔ AllTagsL P a ∧ AllTagsL P b := by
  induction a with
  | nil => simp
  | cons x xs ih => simp [allTagsL_cons, ih, and_assoc]

theorem allTagsL_sepText (t : Tag) : AllTagsL P (sepText t) := by
  rcases sepText_cases t with h | ⟨s, _, h⟩ <;> simp [h, allTagsL_cons]

theorem allTagsL_addAllC (acc ns : List Node) (ha : AllTagsL P acc) (hn : AllTagsL P ns) :
    AllTagsL P (addAllC acc ns) := by
  refine addAllC_induct (M := fun acc ns out => AllTagsL P acc → AllTagsL P ns → AllTagsL P out)
    (fun _ ha _ => ha) ?_ ?_ acc ns ha hn
  · intro acc n ns out _ ih ha hn
    rw [allTagsL_cons] at hn
    exact ih ((allTagsL_append _ _).mpr ⟨ha, (allTagsL_cons _ _).mpr ⟨hn.1, allTagsL_nil⟩⟩) hn.2
  · intro init lt lcs t cs ns out _ _ ihc ih ha hn
    rw [allTagsL_append, allTagsL_cons, allTags_elem] at ha
    rw [allTagsL_cons, allTags_elem] at hn
    have hmid := ihc ((allTagsL_append _ _).mpr ⟨ha.2.1.2, allTagsL_sepText t⟩) hn.1.2
    refine ih ?_ hn.2
    rw [allTagsL_append, allTagsL_cons, allTags_elem]
    exact ⟨ha.1, ⟨ha.2.1.1, hmid⟩, allTagsL_nil⟩

theorem allTagsL_addC (acc : List Node) (n : Node) (ha : AllTagsL P acc) (hn : AllTags P n) :
    AllTagsL P (addC acc n) :=
  allTagsL_addAllC acc [n] ha ((allTagsL_cons _ _).mpr ⟨hn, allTagsL_nil⟩)

mutual
theorem allTags_collapseNode (n : Node) (hn : AllTags P n) : AllTags P (collapseNode n) := by
  match n with
  | .text s => simp [collapseNode]
  | .forceWrite => simp [collapseNode]
  | .elem t cs =>
    rw [allTags_elem] at hn
    simp only [collapseNode, allTags_elem]
    exact ⟨hn.1, allTagsL_collapseFrom [] cs (by simp) hn.2⟩
theorem allTagsL_collapseFrom (acc ns : List Node) (ha : AllTagsL P acc) (hn : AllTagsL P ns) :
    AllTagsL P (collapseFrom acc ns) := by
  match ns with
  | [] => simpa [collapseFrom] using ha
  | c :: cs =>
    rw [allTagsL_cons] at hn
    unfold collapseFrom
    exact allTagsL_collapseFrom _ cs (allTagsL_addC acc _ ha (allTags_collapseNode c hn.1)) hn.2
end

mutual
theorem allTags_pruneNode (n : Node) (hn : AllTags P n) : AllTags P (pruneNode n) := by
  match n with
  | .text s => simp [pruneNode]
  | .forceWrite => simp [pruneNode]
  | .elem t cs =>
    rw [allTags_elem] at hn
    simp only [pruneNode, allTags_elem]
    exact ⟨hn.1, allTagsL_prune cs hn.2⟩
theorem allTagsL_prune (ns : List Node) (hn : AllTagsL P ns) : AllTagsL P (prune ns) := by
  match ns with
  | [] => simp [prune]
  | c :: cs =>
    rw [allTagsL_cons] at hn
    unfold prune
    split
    · rw [allTagsL_cons]; exact ⟨allTags_pruneNode c hn.1, allTagsL_prune cs hn.2⟩
    · exact allTagsL_prune cs hn.2
end

mutual
theorem allTags_iff (n : Node) : AllTags P n ↔ ∀ t ∈ tagsOf n, P t := by
  match n with
  | .text s => simp [tagsOf]
  | .forceWrite => simp [tagsOf]
  | .elem t cs => simp [allTags_elem, tagsOf, allTagsL_iff cs]
theorem allTagsL_iff (ns : List Node) : AllTagsL P ns ↔ ∀ t ∈ tagsOfL ns, P t := by
  match ns with
  | [] => simp [tagsOfL]
  | c :: cs => simp [allTagsL_cons, tagsOfL, allTags_iff c, allTagsL_iff cs, or_imp, forall_and]
end

theorem allTags_tagsOf (n : Node) : AllTags (· ∈ tagsOf n) n := (allTags_iff n).mpr fun _ h => h
theorem allTagsL_tagsOfL (ns : List Node) : AllTagsL (· ∈ tagsOfL ns) ns := (allTagsL_iff ns).mpr fun _ h => h

theorem of_allTags {Q : Tag → Prop} (n : Node) (h : AllTags Q n) : ∀ t, t ∈ tagsOf n → Q t := (allTags_iff n).mp h
end

/-- `n` is the separator text node of a collapsible tag satisfying `P` -/
def SepOf (P : Tag → Prop) (n : Node) : Prop := ∃ t, P t ∧ t.collapsible = true ∧ sepText t = [n]

/-! ### `collapse` on leaves

Parameters: `P` holds of every tag of the forest; `R` is reflexive, transitive and contains every merge step
between tags satisfying `P`. -/
section
variable {P : Tag → Prop} {R : Tag → Tag → Prop}

theorem leafEmb_sep (t lt : Tag) (hP : P t) (hc : t.collapsible = true) :
    LeafEmb R (SepOf P) [] (underTag lt (leavesL (sepText t))) := by
  rcases sepText_cases t with h | ⟨s, _, h⟩
  · simp [h]; exact .nil
  · rw [h]
    simp only [leavesL_cons, leavesN_text, leavesL_nil, List.append_nil, underTag_cons, underTag_nil]
    exact .ins ⟨t, hP, hc, h⟩ .nil

/-- the merge step on leaves, with the initial segment `init` as a variable -/
theorem leafEmb_merge (hr : ∀ t, R t t) (htr : ∀ a b c, R a b → R b c → R a c)
    (init lcs cs X : List Node) (lt t : Tag) (hPt : P t) (hc : t.collapsible = true) (hR : R t lt)
    (ih : LeafEmb R (SepOf P) (leavesL (lcs ++ sepText t) ++ leavesL cs) (leavesL X)) :
    LeafEmb R (SepOf P) (leavesL (init ++ [.elem lt lcs]) ++ leavesN (.elem t cs))
      (leavesL (init ++ [.elem lt X])) := by
  simp only [leavesL_append, leavesL_cons, leavesN_elem, leavesL_nil, List.append_nil, List.append_assoc]
  refine LeafEmb.append (LeafEmb.refl hr _) ?_
  -- step 1: retag the merged node's leaves and insert the separator leaf
  have s1 : LeafEmb R (SepOf P) (underTag lt (leavesL lcs) ++ underTag t (leavesL cs))
      (underTag lt (leavesL lcs) ++ (underTag lt (leavesL (sepText t)) ++ underTag lt (leavesL cs))) := by
    refine LeafEmb.append (LeafEmb.refl hr _) ?_
    have := LeafEmb.append (leafEmb_sep (R := R) t lt hPt hc) (LeafEmb.under hR (LeafEmb.refl hr (leavesL cs)))
    simpa using this
  -- step 2: the induction hypothesis below `lt`
  have s2 := LeafEmb.under (hr lt) ih
  simp only [leavesL_append, underTag_append, List.append_assoc] at s2
  exact s1.trans htr s2

theorem leafEmb_addAllC (hr : ∀ t, R t t) (htr : ∀ a b c, R a b → R b c → R a c)
    (hstep : ∀ i o, P i → P o → tagStep i o → R i o)
    (acc ns : List Node) (ha : AllTagsL P acc) (hn : AllTagsL P ns) :
    LeafEmb R (SepOf P) (leavesL acc ++ leavesL ns) (leavesL (addAllC acc ns)) := by
  refine addAllC_induct (M := fun acc ns out => AllTagsL P acc → AllTagsL P ns →
      LeafEmb R (SepOf P) (leavesL acc ++ leavesL ns) (leavesL out))
    (fun _ _ _ => by simpa using LeafEmb.refl hr _) ?_ ?_ acc ns ha hn
  · intro acc n ns out _ ih ha hn
    rw [allTagsL_cons] at hn
    simpa [leavesL_append] using
      ih ((allTagsL_append _ _).mpr ⟨ha, (allTagsL_cons _ _).mpr ⟨hn.1, allTagsL_nil⟩⟩) hn.2
  · intro init lt lcs t cs ns out hc hm ihc ih ha hn
    rw [allTagsL_append, allTagsL_cons, allTags_elem] at ha
    rw [allTagsL_cons, allTags_elem] at hn
    have htl := (allTagsL_append _ _).mpr ⟨ha.2.1.2, allTagsL_sepText t⟩
    have h1 := leafEmb_merge hr htr init lcs cs _ lt t hn.1.1 hc
      (hstep t lt hn.1.1 ha.2.1.1 (tagStep_of_isMatch lt t hm)) (ihc htl hn.1.2)
    have h2 := ih ((allTagsL_append _ _).mpr ⟨ha.1, (allTagsL_cons _ _).mpr
      ⟨(allTags_elem _ _).mpr ⟨ha.2.1.1, allTagsL_addAllC _ _ htl hn.1.2⟩, allTagsL_nil⟩⟩) hn.2
    have h3 := LeafEmb.append h1 (LeafEmb.refl (Sep := SepOf P) hr (leavesL ns))
    simp only [leavesL_cons, List.append_assoc] at h3 ⊢
    exact h3.trans htr h2

theorem leafEmb_addC (hr : ∀ t, R t t) (htr : ∀ a b c, R a b → R b c → R a c)
    (hstep : ∀ i o, P i → P o → tagStep i o → R i o)
    (acc : List Node) (n : Node) (ha : AllTagsL P acc) (hn : AllTags P n) :
    LeafEmb R (SepOf P) (leavesL acc ++ leavesN n) (leavesL (addC acc n)) := by
  simpa using leafEmb_addAllC hr htr hstep acc [n] ha ((allTagsL_cons _ _).mpr ⟨hn, allTagsL_nil⟩)

mutual
theorem leafEmb_collapseNode (hr : ∀ t, R t t) (htr : ∀ a b c, R a b → R b c → R a c)
    (hstep : ∀ i o, P i → P o → tagStep i o → R i o) (n : Node) (hn : AllTags P n) :
    LeafEmb R (SepOf P) (leavesN n) (leavesN (collapseNode n)) := by
  match n with
  | .text s => simpa [collapseNode] using LeafEmb.refl hr _
  | .forceWrite => simpa [collapseNode] using LeafEmb.refl hr _
  | .elem t cs =>
    rw [allTags_elem] at hn
    have := leafEmb_collapseFrom hr htr hstep [] cs (by simp) hn.2
    simp only [collapseNode, leavesN_elem]
    exact LeafEmb.under (hr t) (by simpa using this)
theorem leafEmb_collapseFrom (hr : ∀ t, R t t) (htr : ∀ a b c, R a b → R b c → R a c)
    (hstep : ∀ i o, P i → P o → tagStep i o → R i o)
    (acc ns : List Node) (ha : AllTagsL P acc) (hn : AllTagsL P ns) :
    LeafEmb R (SepOf P) (leavesL acc ++ leavesL ns) (leavesL (collapseFrom acc ns)) := by
  match ns with
  | [] => simpa [collapseFrom] using LeafEmb.refl hr _
  | c :: cs =>
    rw [allTagsL_cons] at hn
    unfold collapseFrom
    have hc' := allTags_collapseNode c hn.1
    have h0 := leafEmb_collapseNode hr htr hstep c hn.1
    have h1 := leafEmb_addC hr htr hstep acc (collapseNode c) ha hc'
    have h2 := leafEmb_collapseFrom hr htr hstep (addC acc (collapseNode c)) cs
      (allTagsL_addC acc _ ha hc') hn.2
    have h01 := (LeafEmb.append (LeafEmb.refl (Sep := SepOf P) hr (leavesL acc)) h0).trans htr h1
    have h3 := LeafEmb.append h01 (LeafEmb.refl (Sep := SepOf P) hr (leavesL cs))
    simp only [leavesL_cons, List.append_assoc] at h3 ⊢
    exact h3.trans htr h2
end

theorem leafEmb_collapse (hr : ∀ t, R t t) (htr : ∀ a b c, R a b → R b c → R a c)
    (hstep : ∀ i o, P i → P o → tagStep i o → R i o) (ns : List Node) (hn : AllTagsL P ns) :
    LeafEmb R (SepOf P) (leaves ns) (leaves (collapse ns)) := by
  have := leafEmb_collapseFrom hr htr hstep [] ns (by simp) hn
  simpa [leaves, collapse] using this
end

/-! ### `stripEmpty` on leaves: exactly the contentful leaves stay, under exactly their chains -/

/-- a leaf that `strip_empty` keeps: a force-write marker or a text node with non-empty text -/
def leafKept (p : Leaf) : Bool := hasContent p.2

theorem filter_underTag (t : Tag) (ls : List Leaf) :
    (underTag t ls).filter leafKept = underTag t (ls.filter leafKept) := by
  -- `leafKept` looks at the node only
  rw [underTag, List.filter_map]
  rfl

mutual
theorem leaves_noContent (n : Node) (h : hasContent n = false) : (leavesN n).filter leafKept = [] := by
  match n with
  | .text s => simpa [leafKept] using h
  | .forceWrite => simp [hasContent] at h
  | .elem t cs =>
    simp only [hasContent, Bool.or_eq_false_iff] at h
    rw [leavesN_elem, filter_underTag, leavesL_noContent cs h.2]; rfl
theorem leavesL_noContent (ns : List Node) (h : anyContent ns = false) : (leavesL ns).filter leafKept = [] := by
  match ns with
  | [] => simp
  | c :: cs =>
    simp only [anyContent, Bool.or_eq_false_iff] at h
    rw [leavesL_cons, List.filter_append, leaves_noContent c h.1, leavesL_noContent cs h.2]; rfl
end

mutual
theorem leaves_pruneNode (n : Node) (h : hasContent n = true) :
    leavesN (pruneNode n) = (leavesN n).filter leafKept := by
  match n with
  | .text s => simp [pruneNode, leafKept, h]
  | .forceWrite => simp [pruneNode, leafKept, h]
  | .elem t cs =>
    simp only [pruneNode, leavesN_elem]
    rw [filter_underTag, leavesL_prune cs]
theorem leavesL_prune (ns : List Node) : leavesL (prune ns) = (leavesL ns).filter leafKept := by
  match ns with
  | [] => simp [prune]
  | c :: cs =>
    unfold prune
    rw [leavesL_cons, List.filter_append]
    by_cases hc : hasContent c = true
    · simp only [hc, if_true, leavesL_cons]
      rw [leaves_pruneNode c hc, leavesL_prune cs]
    · simp only [Bool.not_eq_true] at hc
      simp only [hc, Bool.false_eq_true, if_false]
      rw [leaves_noContent c hc, leavesL_prune cs]; rfl
end

theorem leaves_stripEmpty (ns : List Node) : leaves (stripEmpty ns) = (leaves ns).filter leafKept := by
  simp only [leaves, stripEmpty, stripList_eq, leavesL_prune]

mutual
theorem sepText_of_noSep (n : Node) (h : noSep n = true) : AllTags (fun t => sepText t = []) n := by
  match n with
  | .text s => simp
  | .forceWrite => simp
  | .elem t cs =>
    simp only [noSep, Bool.and_eq_true] at h
    rw [allTags_elem]
    exact ⟨List.isEmpty_iff.mp h.1, sepText_of_noSepL cs h.2⟩
theorem sepText_of_noSepL (ns : List Node) (h : noSepL ns = true) : AllTagsL (fun t => sepText t = []) ns := by
  match ns with
  | [] => simp
  | c :: cs =>
    simp only [noSepL, Bool.and_eq_true] at h
    rw [allTagsL_cons]
    exact ⟨sepText_of_noSep c h.1, sepText_of_noSepL cs h.2⟩
end

/-- the names of the tags in `S` are linked transitively: whenever `m`'s name is a name of `i` and `o`'s name is
    a name of `m`, `o`'s name is a name of `i` (true e.g. when no tag has alternatives, or for
    `ul|ol`, `ul`, `ol`; false for `a|b`, `b|c`, `c`) -/
def namesTrans (S : List Tag) : Bool :=
  S.all fun i => S.all fun m => S.all fun o =>
    decide (m.name ∈ i.names → o.name ∈ m.names → o.name ∈ i.names)

theorem namesTrans_spec (S : List Tag) (h : namesTrans S = true) (i m o : Tag)
    (hi : i ∈ S) (hm : m ∈ S) (ho : o ∈ S) (h1 : m.name ∈ i.names) (h2 : o.name ∈ m.names) :
    o.name ∈ i.names := by
  simp only [namesTrans, List.all_eq_true, decide_eq_true_eq] at h
  exact h i hi m hm o ho h1 h2

/-- one step between tags of `S`, or none -/
def stepIn (S : List Tag) (i o : Tag) : Prop := i = o ∨ (i ∈ S ∧ o ∈ S ∧ tagStep i o)

theorem stepIn_trans (S : List Tag) (h : namesTrans S = true) (a b c : Tag)
    (h1 : stepIn S a b) (h2 : stepIn S b c) : stepIn S a c := by
  rcases h1 with rfl | ⟨ha, hb, s1⟩
  · exact h2
  · rcases h2 with rfl | ⟨_, hc, s2⟩
    · exact Or.inr ⟨ha, hb, s1⟩
    · exact Or.inr ⟨ha, hc, s2.1.trans s1.1, namesTrans_spec S h a b c ha hb hc s1.2 s2.2⟩

theorem tagStep_of_stepIn (S : List Tag) (i o : Tag) (h : stepIn S i o) : tagStep i o := by
  rcases h with rfl | ⟨_, _, s⟩
  · exact tagStep_refl _
  · exact s

/-! ### packaged statements -/

/-- the separator leaves that can be inserted into `ns`: separator text of a collapsible tag of `ns` -/
abbrev SepIn (ns : List Node) : Node → Prop := SepOf (· ∈ tagsOfL ns)

theorem sepIn_false_of_noSep (ns : List Node) (h : noSepL ns = true) (n : Node) : ¬ SepIn ns n := by
  rintro ⟨t, ht, _, hs⟩
  rw [(allTagsL_iff ns).mp (sepText_of_noSepL ns h) t ht] at hs
  cases hs

/-- ALL forests: leaves kept in order, chains related position by position by finitely many merge steps,
    separators of collapsible tags of the forest are the only new leaves -/
theorem leaves_collapse_reach (S ns : List Node) (hS : AllTagsL (· ∈ tagsOfL S) ns) :
    LeafEmb TagReach (SepIn S) (leaves ns) (leaves (collapse ns)) :=
  leafEmb_collapse (P := (· ∈ tagsOfL S)) TagReach.refl (fun _ _ _ => TagReach.trans)
    (fun i _ _ _ h => .step (.refl i) h) ns hS

/-- when the names of the forest's tags are linked transitively: exactly one merge step (or none) per position -/
theorem leaves_collapse_step (S ns : List Node) (hS : AllTagsL (· ∈ tagsOfL S) ns)
    (h : namesTrans (tagsOfL S) = true) :
    LeafEmb tagStep (SepIn S) (leaves ns) (leaves (collapse ns)) :=
  (leafEmb_collapse (P := (· ∈ tagsOfL S)) (R := stepIn (tagsOfL S)) (fun _ => Or.inl rfl)
    (stepIn_trans _ h) (fun _ _ hi ho hs => Or.inr ⟨hi, ho, hs⟩) ns hS).imp
    (tagStep_of_stepIn _) (fun _ h => h)

end Mammoth
