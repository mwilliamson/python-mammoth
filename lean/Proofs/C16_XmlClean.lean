/-
  C16, reader half — clean XML is silent.

  `c16_xmlClean env n` is a decidable predicate on the XML tree: the tree is made only of supported
  constructs (every element has a reader or is on the ignore list), every paragraph / run / table style id
  is defined in `styles.xml`, breaks and symbols are supported, every picture resolves to an image of a
  type browsers show, and the direct content of every table is rows, of every row cells (judged statically
  by `c16_gridOk`, which does not accept field characters there).

  `c16_xmlQuiet`: on a clean tree the specification reports nothing, in every field state and with every
  silent buffer, and leaves a silent buffer.
-/
import Proofs.C16_ReadSpec
namespace Mammoth

/-! ### the predicate -/

def c16_xStyleOk (propsTag tag : Str) (table : List (Option Str × Option Str)) (cs : List XmlNode) : Bool :=
  match childAttr tag S!"w:val" (findChildOrNull propsTag cs).2 with
  | none => true
  | some sid => (lookupLast (some sid) table).isSome

def c16_breakOk (as : Attrs) : Bool :=
  match attr? S!"w:type" as with
  | none => true
  | some t => decide (t = [] ∨ t = S!"textWrapping" ∨ t = S!"page" ∨ t = S!"column")

def c16_xImageOk (env : REnv) (path : Str) : Bool :=
  match findContentType env.contentTypes path with
  | some c => decide (c ∈ Generated.browserImageTypes)
  | none => false

def c16_embeddedOk (env : REnv) (rid : Str) : Bool :=
  match env.rels.targetById rid with
  | .ok target => c16_xImageOk env (uriToZipEntryName S!"word" target)
  | .error _ => false

def c16_blipOk (env : REnv) (as : Attrs) : Bool :=
  match attr? S!"r:embed" as with
  | some rid => c16_embeddedOk env rid
  | none =>
    match attr? S!"r:link" as with
    | some rid =>
      (match env.rels.targetById rid with
       | .ok target => c16_xImageOk env target
       | .error _ => false)
    | none => false

def c16_imagedataOk (env : REnv) (as : Attrs) : Bool :=
  match attr? S!"r:id" as with
  | none => false
  | some rid => c16_embeddedOk env rid

mutual
/-- read as the content of a table (`cells = false`) or of a row (`cells = true`), the node contributes
    only rows / only cells — or nothing: judged from the element names alone -/
def c16_gridOk (cells : Bool) : XmlNode → Bool
  | .text _ => true
  | .elem name as cs =>
    match c16_kindOf name with
    | .unknown => true
    | .instrText => true
    | .pict => true
    | .row => !cells
    | .cell => cells
    | .through => c16_gridOkL cells cs
    | .hyperlink => !((attr? S!"r:id" as).isSome || (attr? S!"w:anchor" as).isSome) && c16_gridOkL cells cs
    | .alt => c16_gridOkIn cells S!"mc:Fallback" cs
    | .sdt => !c16_isCheckboxSdt cs && c16_gridOkIn cells S!"w:sdtContent" cs
    | _ => false
def c16_gridOkL (cells : Bool) : List XmlNode → Bool
  | [] => true
  | c :: cs => c16_gridOk cells c && c16_gridOkL cells cs
def c16_gridOkIn (cells : Bool) (child : Str) : List XmlNode → Bool
  | [] => true
  | .text _ :: rest => c16_gridOkIn cells child rest
  | .elem n _ cs :: rest => if n = child then c16_gridOkL cells cs else c16_gridOkIn cells child rest
end

mutual
/-- MADE ONLY OF SUPPORTED CONSTRUCTS WITH DEFINED STYLES -/
def c16_xmlClean (env : REnv) : XmlNode → Bool
  | .text _ => true
  | .elem name as cs =>
    match c16_kindOf name with
    | .unknown => decide (name ∈ Generated.ignored)
    | .atom => true
    | .sym => (c16_symChar as).isSome
    | .br => c16_breakOk as
    | .bookmark => true
    | .fldChar => true
    | .instrText => true
    | .inline => (c16_blips cs).all (c16_blipOk env)
    | .imagedata => c16_imagedataOk env as
    | .run => c16_xStyleOk S!"w:rPr" S!"w:rStyle" env.styles.character cs && c16_xmlCleanL env cs
    | .paragraph => c16_xStyleOk S!"w:pPr" S!"w:pStyle" env.styles.paragraph cs && c16_xmlCleanL env cs
    | .table =>
      c16_xStyleOk S!"w:tblPr" S!"w:tblStyle" env.styles.table cs && c16_xmlCleanL env cs && c16_gridOkL false cs
    | .row => c16_xmlCleanL env cs && c16_gridOkL true cs
    | .cell => c16_xmlCleanL env cs
    | .through => c16_xmlCleanL env cs
    | .pict => c16_xmlCleanL env cs
    | .hyperlink => c16_xmlCleanL env cs
    | .alt => c16_xmlCleanIn env S!"mc:Fallback" cs
    | .sdt => c16_isCheckboxSdt cs || c16_xmlCleanIn env S!"w:sdtContent" cs
def c16_xmlCleanL (env : REnv) : List XmlNode → Bool
  | [] => true
  | c :: cs => c16_xmlClean env c && c16_xmlCleanL env cs
def c16_xmlCleanIn (env : REnv) (child : Str) : List XmlNode → Bool
  | [] => true
  | .text _ :: rest => c16_xmlCleanIn env child rest
  | .elem n _ cs :: rest => if n = child then c16_xmlCleanL env cs else c16_xmlCleanIn env child rest
end

theorem c16_xmlCleanL_append (env : REnv) (a b : List XmlNode) :
    c16_xmlCleanL env (a ++ b) = (c16_xmlCleanL env a && c16_xmlCleanL env b) :=
  andL_append rfl (fun _ _ => rfl) a b

/-! ### local conditions imply no local warning -/

theorem c16_xStyleOk_warn (kind propsTag tag : Str) (table : List (Option Str × Option Str)) (cs : List XmlNode)
    (h : c16_xStyleOk propsTag tag table cs = true) : c16_styleWarn kind propsTag tag table cs = [] := by
  unfold c16_xStyleOk at h
  unfold c16_styleWarn
  split
  · rfl
  · rename_i sid hs
    rw [hs] at h
    simp only at h
    rw [if_pos h]

theorem c16_breakOk_warn (as : Attrs) (h : c16_breakOk as = true) : c16_breakWarn as = [] := by
  unfold c16_breakOk at h
  unfold c16_breakWarn
  split
  · rfl
  · rename_i t ht
    rw [ht] at h
    simp only [decide_eq_true_eq] at h
    rw [if_pos h]

theorem c16_xImageOk_warn (env : REnv) (path : Str) (h : c16_xImageOk env path = true) : c16_imageWarn env path = [] := by
  unfold c16_xImageOk at h
  unfold c16_imageWarn
  split
  · rename_i c hc
    rw [hc] at h
    simp only [decide_eq_true_eq] at h
    rw [if_pos h]
  · rename_i hc
    rw [hc] at h; cases h

theorem c16_embeddedOk_warn (env : REnv) (rid : Str) (h : c16_embeddedOk env rid = true) :
    c16_embeddedWarn env rid = [] := by
  unfold c16_embeddedOk at h
  unfold c16_embeddedWarn
  split
  · rename_i t ht
    rw [ht] at h
    exact c16_xImageOk_warn env _ h
  · rfl

theorem c16_blipOk_warn (env : REnv) (as : Attrs) (h : c16_blipOk env as = true) : c16_blipWarn env as = [] := by
  unfold c16_blipOk at h
  unfold c16_blipWarn
  split
  · rename_i rid hr
    rw [hr] at h
    exact c16_embeddedOk_warn env rid h
  · rename_i hr
    rw [hr] at h
    split
    · rename_i rid hl
      rw [hl] at h
      simp only at h
      split
      · rename_i t ht
        rw [ht] at h
        exact c16_xImageOk_warn env _ h
      · rfl
    · rename_i hl
      rw [hl] at h; cases h

theorem c16_blipsOk_warn (env : REnv) (bl : List Attrs) (h : bl.all (c16_blipOk env) = true) :
    c16_blipsWarn env bl = [] := by
  induction bl with
  | nil => rfl
  | cons a bl ih =>
    simp only [List.all_cons, Bool.and_eq_true] at h
    simp [c16_blipsWarn, c16_blipOk_warn env a h.1, ih h.2]

theorem c16_imagedataOk_warn (env : REnv) (as : Attrs) (h : c16_imagedataOk env as = true) :
    c16_imagedataWarn env as = [] := by
  unfold c16_imagedataOk at h
  unfold c16_imagedataWarn
  split
  · rename_i hr
    rw [hr] at h; cases h
  · rename_i rid hr
    rw [hr] at h
    exact c16_embeddedOk_warn env rid h

/-! ### clean trees are silent -/

/-- nothing deferred reports anything -/
def c16_BufSilent (b : c16_Buf) : Prop := ∀ k fs, (b k fs).msgs = []

theorem c16_BufSilent_noBuf : c16_BufSilent c16_noBuf := fun _ _ => rfl

theorem c16_BufSilent_cons {e : c16_Eff} {b : c16_Buf} (he : ∀ fs, (e fs).msgs = []) (h : c16_BufSilent b) :
    c16_BufSilent (c16_bufCons e b) := by
  intro k fs
  cases k with
  | zero => exact he fs
  | succ k => exact h k fs

/-- the step reports nothing, leaves nothing that reports, and — where the grid flags say so — yields
    only rows of cells / only cells -/
structure c16_XQuiet (s : c16_Step) (g0 g1 : Bool) : Prop where
  msgs : ∀ fs, (s.eff fs).msgs = []
  buf : c16_BufSilent s.buf
  rows : g0 = true → ∀ fs, (s.eff fs).code = 0
  cells : g1 = true → ∀ fs, (s.eff fs).cells = true

theorem c16_XQuiet_emit_one (b : c16_Buf) (hb : c16_BufSilent b) :
    c16_XQuiet ⟨c16_emit [] true, b⟩ false false :=
  ⟨fun _ => rfl, hb, (fun h => by cases h), (fun h => by cases h)⟩

theorem c16_XQuiet_seq {a s : c16_Step} {g0 g1 h0 h1 : Bool} (ha : c16_XQuiet a g0 g1) (hs : c16_XQuiet s h0 h1) :
    c16_XQuiet ⟨c16_seq a.eff s.eff, s.buf⟩ (g0 && h0) (g1 && h1) := by
  refine ⟨fun fs => ?_, hs.buf, fun hg fs => ?_, fun hg fs => ?_⟩
  · simp [c16_seq, ha.msgs, hs.msgs]
  · simp only [Bool.and_eq_true] at hg
    simp [c16_seq, ha.rows hg.1, hs.rows hg.2]
  · simp only [Bool.and_eq_true] at hg
    simp [c16_seq, ha.cells hg.1, hs.cells hg.2]

theorem c16_XQuiet_weaken {s : c16_Step} {g0 g1 h0 h1 : Bool} (h : c16_XQuiet s g0 g1)
    (i0 : h0 = true → g0 = true) (i1 : h1 = true → g1 = true) : c16_XQuiet s h0 h1 :=
  ⟨h.msgs, h.buf, fun hg => h.rows (i0 hg), fun hg => h.cells (i1 hg)⟩

mutual
theorem c16_xmlQuiet (env : REnv) (n : XmlNode) (b : c16_Buf) (hc : c16_xmlClean env n = true)
    (hb : c16_BufSilent b) : c16_XQuiet (c16_spec env n b) (c16_gridOk false n) (c16_gridOk true n) := by
  match n with
  | .text s =>
    rw [c16_spec_text]
    exact ⟨fun _ => rfl, hb, fun _ _ => rfl, fun _ _ => rfl⟩
  | .elem name as cs =>
    rw [c16_xmlClean] at hc
    rw [c16_gridOk, c16_gridOk]
    generalize hk : c16_kindOf name = k at hc ⊢
    cases k with
    | unknown =>
      rw [c16_spec_unknown env as cs b hk, c16_unknownWarn, if_pos (of_decide_eq_true hc)]
      exact ⟨fun _ => rfl, hb, fun _ _ => rfl, fun _ _ => rfl⟩
    | atom =>
      rw [c16_spec_atom env as cs b hk]
      exact c16_XQuiet_emit_one b hb
    | sym =>
      dsimp only at hc
      rw [c16_spec_sym env as cs b hk, c16_symWarn, if_pos hc, hc]
      exact c16_XQuiet_emit_one b hb
    | br =>
      rw [c16_spec_br env as cs b hk, c16_breakOk_warn as hc]
      exact c16_XQuiet_emit_one b hb
    | bookmark =>
      rw [c16_spec_bookmark env as cs b hk]
      exact ⟨fun _ => rfl, hb, nofun, nofun⟩
    | fldChar =>
      rw [c16_spec_fldChar env as cs b hk]
      refine ⟨fun fs => ?_, hb, nofun, nofun⟩
      unfold c16_fldChar
      dsimp only
      repeat' split
      all_goals rfl
    | instrText =>
      rw [c16_spec_instrText env as cs b hk]
      exact ⟨fun _ => rfl, hb, fun _ _ => rfl, fun _ _ => rfl⟩
    | inline =>
      rw [c16_spec_inline env as cs b hk, c16_blipsOk_warn env _ hc]
      exact ⟨fun _ => rfl, hb, nofun, nofun⟩
    | imagedata =>
      rw [c16_spec_imagedata env as cs b hk, c16_imagedataOk_warn env _ hc]
      exact ⟨fun _ => rfl, hb, nofun, nofun⟩
    | run =>
      obtain ⟨hs, hcs⟩ := Bool.and_eq_true_iff.mp hc
      have ih := c16_xmlQuietL env cs b hcs hb
      rw [c16_spec_run env as cs b hk, c16_xStyleOk_warn _ _ _ _ _ hs]
      exact ⟨fun fs => ih.msgs fs, ih.buf, nofun, nofun⟩
    | paragraph =>
      obtain ⟨hs, hcs⟩ := Bool.and_eq_true_iff.mp hc
      have ih := c16_xmlQuietL env cs (c16_bufTail b) hcs (fun k fs => hb (k + 1) fs)
      have hall : ∀ fs, (c16_seq (c16_bufHead b) (c16_specL env cs (c16_bufTail b)).eff fs).msgs = [] := by
        intro fs
        simp only [c16_seq, c16_bufHead, hb 0 fs, ih.msgs, List.append_nil]
      rw [c16_spec_paragraph env as cs b hk, c16_xStyleOk_warn _ _ _ _ _ hs]
      split
      · exact ⟨fun _ => rfl, c16_BufSilent_cons hall ih.buf, nofun, nofun⟩
      · exact ⟨fun fs => hall fs, ih.buf, nofun, nofun⟩
    | table =>
      obtain ⟨hc, hg⟩ := Bool.and_eq_true_iff.mp hc
      obtain ⟨hs, hcs⟩ := Bool.and_eq_true_iff.mp hc
      have ih := c16_xmlQuietL env cs b hcs hb
      rw [c16_spec_table env as cs b hk, c16_xStyleOk_warn _ _ _ _ _ hs]
      refine ⟨fun fs => ?_, ih.buf, nofun, nofun⟩
      simp [c16_tableEff, ih.msgs, ih.rows hg, c16_gridWarn]
    | row =>
      obtain ⟨hcs, hg⟩ := Bool.and_eq_true_iff.mp hc
      have ih := c16_xmlQuietL env cs b hcs hb
      rw [c16_spec_row env as cs b hk]
      refine ⟨fun fs => ih.msgs fs, ih.buf, fun _ fs => ?_, nofun⟩
      simp [c16_rowEff, ih.cells hg]
    | cell =>
      have ih := c16_xmlQuietL env cs b hc hb
      rw [c16_spec_cell env as cs b hk]
      exact ⟨fun fs => ih.msgs fs, ih.buf, nofun, fun _ _ => rfl⟩
    | through =>
      rw [c16_spec_through env as cs b hk]
      exact c16_xmlQuietL env cs b hc hb
    | pict =>
      have ih := c16_xmlQuietL env cs b hc hb
      rw [c16_spec_pict env as cs b hk]
      exact ⟨fun fs => ih.msgs fs, ih.buf, fun _ _ => rfl, fun _ _ => rfl⟩
    | hyperlink =>
      have ih := c16_xmlQuietL env cs b hc hb
      rw [c16_spec_hyperlink env as cs b hk]
      dsimp only
      split
      · rename_i hw
        rw [hw]
        exact ⟨fun fs => ih.msgs fs, ih.buf, nofun, nofun⟩
      · rename_i hw
        rw [Bool.not_eq_true] at hw
        rw [hw]
        exact ih
    | alt =>
      simp only [c16_spec, hk]
      exact c16_xmlQuietIn env S!"mc:Fallback" cs b hc hb
    | sdt =>
      simp only [c16_spec, hk]
      split
      · rename_i hcb
        rw [hcb]
        exact c16_XQuiet_emit_one b hb
      · rename_i hcb
        rw [Bool.not_eq_true] at hcb
        rw [hcb] at hc ⊢
        exact c16_xmlQuietIn env S!"w:sdtContent" cs b hc hb
theorem c16_xmlQuietL (env : REnv) (ns : List XmlNode) (b : c16_Buf) (hc : c16_xmlCleanL env ns = true)
    (hb : c16_BufSilent b) : c16_XQuiet (c16_specL env ns b) (c16_gridOkL false ns) (c16_gridOkL true ns) := by
  match ns with
  | [] =>
    rw [c16_specL_nil]
    exact ⟨fun _ => rfl, hb, fun _ _ => rfl, fun _ _ => rfl⟩
  | n :: ns =>
    simp only [c16_xmlCleanL, Bool.and_eq_true] at hc
    have h1 := c16_xmlQuiet env n b hc.1 hb
    have h2 := c16_xmlQuietL env ns _ hc.2 h1.buf
    rw [c16_specL_cons]
    simp only [c16_gridOkL]
    exact c16_XQuiet_seq h1 h2
theorem c16_xmlQuietIn (env : REnv) (child : Str) (ns : List XmlNode) (b : c16_Buf)
    (hc : c16_xmlCleanIn env child ns = true) (hb : c16_BufSilent b) :
    c16_XQuiet (c16_specIn env child ns b) (c16_gridOkIn false child ns) (c16_gridOkIn true child ns) := by
  match ns with
  | [] =>
    simp only [c16_specIn]
    exact ⟨fun _ => rfl, hb, fun _ _ => rfl, fun _ _ => rfl⟩
  | .text s :: rest =>
    simp only [c16_xmlCleanIn] at hc
    simp only [c16_specIn, c16_gridOkIn]
    exact c16_xmlQuietIn env child rest b hc hb
  | .elem n as cs :: rest =>
    simp only [c16_xmlCleanIn] at hc
    simp only [c16_specIn, c16_gridOkIn]
    split
    · rename_i hn
      rw [if_pos hn] at hc
      exact c16_xmlQuietL env cs b hc hb
    · rename_i hn
      rw [if_neg hn] at hc
      exact c16_xmlQuietIn env child rest b hc hb
end

/-- CLEAN XML IS READ WITHOUT ANY MESSAGE (whatever the field state; the nodes already held back must be
    clean as well, since they are read with the next paragraph) -/
theorem c16_read_clean_silent (env : REnv) (f : Nat) (st : RState) (ns : List XmlNode) (r : ReadResult)
    (st' : RState) (hc : c16_xmlCleanL env ns = true) (hd : c16_xmlCleanL env st.deleted = true)
    (h : readAll env f st ns = .ok (r, st')) : r.messages = [] := by
  have hp := c16_readAll_spec env f st ns r st' h
  -- the nodes held back, being clean, stand for a silent buffer
  have qd := c16_xmlQuietL env st.deleted c16_noBuf hd c16_BufSilent_noBuf
  have q := c16_xmlQuietL env ns _ hc (c16_BufSilent_cons qd.msgs qd.buf)
  rw [hp.sum.msgs]
  exact q.msgs _

end Mammoth
