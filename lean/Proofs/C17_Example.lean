/-
  C17 — a concrete package with three images:
    * a DrawingML `wp:inline` (alt from `descr`), part `media/image1.png`, typed by a `Default` for `png`;
    * a VML `v:imagedata` inside a TEXT BOX that precedes the inline image in the XML of the same paragraph
      (so it comes after it in reading order), part `media/image3.bin`, typed by an `Override`;
    * a DrawingML `wp:anchor` (blank `descr`, alt from `title`) inside a TABLE cell, absolute target
      `/word/media/image2.JPG`, typed by the built-in table through the lower-cased extension.
-/
import Proofs.C17_Package
namespace Mammoth

def c17_x (name : Str) (cs : List XmlNode) : XmlNode := .elem name [] cs

def c17_exGraphic (rid : Str) : XmlNode :=
  c17_x S!"a:graphic" [c17_x S!"a:graphicData" [c17_x S!"pic:pic" [c17_x S!"pic:blipFill" [
    .elem S!"a:blip" [(S!"r:embed", rid)] []]]]]

def c17_exInlineImg : XmlNode :=
  c17_x S!"w:r" [c17_x S!"w:drawing" [c17_x S!"wp:inline" [
    .elem S!"wp:docPr" [(S!"descr", S!"first"), (S!"title", S!"unused")] [], c17_exGraphic S!"rId1"]]]

def c17_exAnchorImg : XmlNode :=
  c17_x S!"w:r" [c17_x S!"w:drawing" [c17_x S!"wp:anchor" [
    .elem S!"wp:docPr" [(S!"descr", S!"  "), (S!"title", S!"second")] [], c17_exGraphic S!"rId2"]]]

def c17_exVml : XmlNode :=
  c17_x S!"w:r" [c17_x S!"w:pict" [c17_x S!"v:shape" [
    .elem S!"v:imagedata" [(S!"r:id", S!"rId3"), (S!"o:title", S!"third")] []]]]

/-- a text box whose only paragraph holds the VML image -/
def c17_exTextBox : XmlNode :=
  c17_x S!"w:r" [c17_x S!"w:pict" [c17_x S!"v:shape" [c17_x S!"v:textbox" [c17_x S!"w:txbxContent" [
    c17_x S!"w:p" [c17_exVml]]]]]]

def c17_exBody : List XmlNode :=
  [ c17_x S!"w:p" [c17_exTextBox, c17_x S!"w:r" [c17_x S!"w:t" [.text S!"see "]], c17_exInlineImg],
    c17_x S!"w:tbl" [c17_x S!"w:tr" [c17_x S!"w:tc" [c17_x S!"w:p" [c17_exAnchorImg]]]],
    c17_x S!"w:sectPr" [] ]

def c17_exRel (id ty target : Str) : XmlNode :=
  .elem S!"relationships:Relationship" [(S!"Id", id), (S!"Type", relTypePrefix ++ ty), (S!"Target", target)] []

def c17_exPng : Bytes := [137, 80, 78, 71]
def c17_exJpg : Bytes := [255, 216, 255]
def c17_exGif : Bytes := [71, 73, 70]

def c17_exPackage : Package :=
  { parts := [
      (S!"[Content_Types].xml", .xml (c17_x S!"content-types:Types" [
        .elem S!"content-types:Default" [(S!"Extension", S!"png"), (S!"ContentType", S!"image/png")] [],
        .elem S!"content-types:Override" [(S!"PartName", S!"/word/media/image3.bin"), (S!"ContentType", S!"image/gif")] []])),
      (S!"_rels/.rels", .xml (c17_x S!"relationships:Relationships" [
        c17_exRel S!"rId1" S!"officeDocument" S!"word/document.xml"])),
      (S!"word/_rels/document.xml.rels", .xml (c17_x S!"relationships:Relationships" [
        c17_exRel S!"rId1" S!"image" S!"media/image1.png",
        c17_exRel S!"rId2" S!"image" S!"/word/media/image2.JPG",
        c17_exRel S!"rId3" S!"image" S!"media/image3.bin"])),
      (S!"word/document.xml", .xml (c17_x S!"w:document" [c17_x S!"w:body" c17_exBody])),
      (S!"word/media/image1.png", .bytes c17_exPng),
      (S!"word/media/image2.JPG", .bytes c17_exJpg),
      (S!"word/media/image3.bin", .bytes c17_exGif) ] }

/-- options without the built-in style map -/
def c17_exOptions : Options := { includeDefault := false, styleMap := some S!"p.Heading1 => h1:fresh" }

/-- the environment the body reader runs in for this package -/
def c17_exEnv : REnv :=
  { contentTypes := { defaults := [(S!"png", S!"image/png")], overrides := [(S!"word/media/image3.bin", S!"image/gif")] },
    rels := [⟨S!"rId1", S!"media/image1.png", relTypePrefix ++ S!"image"⟩,
             ⟨S!"rId2", S!"/word/media/image2.JPG", relTypePrefix ++ S!"image"⟩,
             ⟨S!"rId3", S!"media/image3.bin", relTypePrefix ++ S!"image"⟩] }

/-- the computation succeeds and its result satisfies `p` -/
def c17_okAnd {α} (x : Except Err α) (p : α → Bool) : Bool :=
  match x with
  | .ok a => p a
  | .error _ => false

/-- the three images, in reading order -/
def c17_exImages : List ImageProps :=
  [ { altText := some S!"first", contentType := some S!"image/png", src := .embedded S!"word/media/image1.png" },
    { altText := some S!"third", contentType := some S!"image/gif", src := .embedded S!"word/media/image3.bin" },
    { altText := some S!"second", contentType := some S!"image/jpeg", src := .embedded S!"word/media/image2.JPG" } ]

end Mammoth
