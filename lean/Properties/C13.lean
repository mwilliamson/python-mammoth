/-
  C13 — conversion depends on what the package says, not on how it spells it.

  The pipeline reads a part in two steps: `parse_xml` turns the namespace-resolved DOM of
  `xml.dom.minidom` into `XmlNode`s (`MammothModel/Dom.lean`), and everything downstream
  (`office_xml`, the body reader, the part lookup) only ever sees those `XmlNode`s.  So a spelling
  difference that `convertNode` erases cannot influence the output or the messages; the first group
  of theorems shows which differences it erases.  The second group is about spelling differences
  that survive into the `XmlNode`s (text chunking, white space between elements, ignored elements,
  absolute vs. relative relationship targets) and are erased by the reader / the part lookup.
-/
import Proofs.C03_Lemmas
import Proofs.C13_Dom
import Proofs.C13_Reader
import Proofs.C13_Container
import Proofs.Pins
import Proofs.Eval
namespace Mammoth

/-! ## 1. what `parse_xml` erases -/

/-- Prefixes and default namespaces.  `parse_xml` reads `namespaceURI` and `localName` only, never
    `prefix`/`nodeName`; the model's `DomNode` therefore has no prefix field, and THAT modelling
    decision (checked against the code by differential testing of `convertNode`) is where
    independence from the choice of prefixes, including the use of a default namespace, lives.
    What is proved here is only the bookkeeping consequence: take a DOM that does carry prefixes
    (`c13_PNode`), relabel all prefixes by an arbitrary function `r` (elements and attributes;
    `r _ = none` is "use a default namespace"), and the converted tree is the same, because the
    prefix-free view `c13_erasePrefix` that `convertNode` consumes is the same. -/
theorem C13_prefix_free (T : List (Str × Str)) (r : Option Str → Option Str) (d : c13_PNode) :
    convertNode T (c13_erasePrefix (c13_relabel r d)) = convertNode T (c13_erasePrefix d) := by
  rw [c13_erase_relabel]

/-- Strict vs. Transitional.  `c13_swapNs` exchanges the two URIs that `office_xml._namespaces`
    lists under the same prefix (for `w`, `r`, `wp`, `a`, `pic`) and fixes every other string.
    Rewriting EVERY namespace URI of ANY DOM tree (element names and attribute names, at every
    depth) with it does not change the parse result.  No hypothesis on the tree is needed: URIs
    outside the table are fixed by the swap, URIs inside have the same prefix as their image. -/
theorem C13_strict_transitional (d : DomNode) : parseXml (c13_mapNs c13_swapNs d) = parseXml d :=
  c13_convertNode_swap d

/-- the swap is an involution (so the previous theorem covers both directions) … -/
theorem C13_swap_involutive (uri : Str) : c13_swapNs (c13_swapNs uri) = uri := by
  rcases c13_swap_cases uri with h | h
  · rw [h, h]
  · exact h.2.2.1

/-- … and it really moves the five WordprocessingML/DrawingML namespaces -/
example : c13_swapNs S!"http://schemas.openxmlformats.org/wordprocessingml/2006/main"
    = S!"http://purl.oclc.org/ooxml/wordprocessingml/main" := by decide +kernel
example : c13_swapNs S!"http://purl.oclc.org/ooxml/officeDocument/relationships"
    = S!"http://schemas.openxmlformats.org/officeDocument/2006/relationships" := by decide +kernel
example : c13_swapNs S!"http://schemas.openxmlformats.org/drawingml/2006/picture"
    = S!"http://purl.oclc.org/ooxml/drawingml/picture" := by decide +kernel
example : c13_swapNs S!"urn:schemas-microsoft-com:vml" = S!"urn:schemas-microsoft-com:vml" := by decide +kernel
example : (Generated.namespaces.filter fun pu => c13_swapNs pu.2 != pu.2).length = 10 := by decide +kernel

/-- Comments and processing instructions, anywhere: deleting all of them at every depth
    (`c13_stripNoise`) does not change the converted tree … -/
theorem C13_comments_pis_invisible (T : List (Str × Str)) (d : DomNode) :
    convertNode T (c13_stripNoise d) = convertNode T d := c13_convertNode_stripNoise T d

/-- … the same for a list of siblings, either recursively or just at this level (`filter`) … -/
theorem C13_comments_pis_invisible_list (T : List (Str × Str)) (ds : List DomNode) :
    convertNodes T (c13_stripNoiseL ds) = convertNodes T ds
    ∧ convertNodes T (ds.filter c13_notCommentOrPi) = convertNodes T ds := by
  refine ⟨c13_convertNodes_stripNoise T ds, ?_⟩
  induction ds with
  | nil => rfl
  | cons c cs ih =>
    cases c <;> simp [List.filter_cons, c13_notCommentOrPi, c13_convertNodes_cons, ih]

/-- … and inserting ONE comment or PI `x` between any two siblings changes nothing. -/
theorem C13_comment_pi_insert (T : List (Str × Str)) (a b : List DomNode) (x : DomNode)
    (hx : c13_notCommentOrPi x = false) : convertNodes T (a ++ x :: b) = convertNodes T (a ++ b) := by
  cases x <;> simp_all [c13_notCommentOrPi, c13_convertNodes_append, c13_convertNodes_cons]

/-- A CDATA section converts exactly like a text node with the same characters … -/
theorem C13_cdata_as_text (T : List (Str × Str)) (s : Str) :
    convertNode T (.cdata s) = convertNode T (.text s) := by simp

/-- … hence replacing every CDATA section of a tree by a text node changes nothing. -/
theorem C13_cdata_as_text_deep (T : List (Str × Str)) (d : DomNode) :
    convertNode T (c13_cdataToText d) = convertNode T d := c13_convertNode_cdataToText T d

/-- Namespace declarations (`xmlns="…"`, `xmlns:p="…"`; in the DOM: attributes in the xmlns
    namespace) are dropped: adding one to any element changes nothing … -/
theorem C13_xmlns_dropped (T : List (Str × Str)) (ns : Option Str) (l : Str) (a b : List DomAttr)
    (x : DomAttr) (hx : x.ns = some xmlnsUri) (cs : List DomNode) :
    convertNode T (.elem ns l (a ++ x :: b) cs) = convertNode T (.elem ns l (a ++ b) cs) := by
  have : (x.ns != some xmlnsUri) = false := by simp [hx]
  simp [convertAttrs, convertAttrPairs, List.filter_append, this]

/-- … and removing all of them from a whole tree changes nothing. -/
theorem C13_xmlns_dropped_deep (T : List (Str × Str)) (d : DomNode) :
    convertNode T (c13_stripXmlns d) = convertNode T d := c13_convertNode_stripXmlns T d

/-! ## 2. what the reader erases -/

/-- Text chunking: `_inner_text` (used for `w:t` and `w:instrText`) of a node list does not change
    when two adjacent text nodes are merged into one (or one is split in two) anywhere … -/
theorem C13_text_split (a b : List XmlNode) (s t : Str) :
    innerTextL (a ++ [.text s, .text t] ++ b) = innerTextL (a ++ [.text (s ++ t)] ++ b) := by
  simp [c13_innerTextL_append, List.append_assoc]

/-- … nor when ALL runs of adjacent text nodes, at every depth, are merged. -/
theorem C13_text_merge (ns : List XmlNode) : innerTextL (c13_mergeTextL ns) = innerTextL ns :=
  c13_innerTextL_merge ns

/-- an empty text node contributes nothing -/
theorem C13_text_empty (a b : List XmlNode) : innerTextL (a ++ .text [] :: b) = innerTextL (a ++ b) := by
  simp [c13_innerTextL_append]

/-- White space (indeed any text) between elements: `_read_xml_elements` only dispatches on
    elements, for every element reader `rd` and state. -/
theorem C13_whitespace_between_elements (rd : RState → XmlNode → Except Err (ReadResult × RState))
    (st : RState) (ns : List XmlNode) :
    readAllWith rd st (ns.filter c13_isElem) = readAllWith rd st ns := by
  induction ns generalizing st with
  | nil => rfl
  | cons c cs ih =>
    cases c with
    | text s => simp [c13_isElem, c13_readAllWith_text, ih]
    | elem n as cs' =>
      simp only [List.filter_cons, c13_isElem, if_true, c13_readAllWith_elem]
      cases rd st (.elem n as cs') with
      | error e => rfl
      | ok p => simp [bind, Except.bind, ih]

/-- An element whose name is in the ignore list (`w:sectPr`, `w:proofErr`, `w:bookmarkEnd`,
    `w:commentRangeEnd`, …; none of them has a handler — checked on the extracted tables) is read
    as the empty result — no element, no message — and leaves the reader state untouched,
    whatever its attributes and content. -/
theorem C13_ignored_element_empty (env : REnv) (f : Nat) (st : RState) (name : Str) (as : Attrs)
    (cs : List XmlNode) (h : Generated.ignored.contains name = true) :
    readElem env (f + 1) st (.elem name as cs) = .ok ({}, st) := c13_readElem_ignored env f st name as cs h

/-- General form: a node that the element reader maps to the empty result without touching the
    state may be inserted between, or removed from between, any siblings. -/
theorem C13_neutral_node_invisible (rd : RState → XmlNode → Except Err (ReadResult × RState))
    (n : XmlNode) (hn : ∀ st, rd st n = .ok ({}, st)) (a b : List XmlNode) (st : RState) :
    readAllWith rd st (a ++ [n] ++ b) = readAllWith rd st (a ++ b) := by
  simpa using c13_readAllWith_insert rd n hn a b st

/-- Hence an ignored element among the children handed to the dispatcher loop (with the fuel the
    loop has whenever it runs at all) is invisible: same elements, same messages, same state. -/
theorem C13_ignored_elements_invisible (env : REnv) (f : Nat) (st : RState) (name : Str) (as : Attrs)
    (cs : List XmlNode) (h : Generated.ignored.contains name = true) (a b : List XmlNode) :
    readAllWith (readElem env (f + 1)) st (a ++ [.elem name as cs] ++ b)
      = readAllWith (readElem env (f + 1)) st (a ++ b) :=
  C13_neutral_node_invisible _ _ (fun st' => c13_readElem_ignored env f st' name as cs h) a b st

/-- One level down: an ignored element `x` as a CHILD of any element `nm` that the reader handles
    (paragraph, run, hyperlink, table, row, cell, drawing, text box, smart tag, sdt, …).  If `x`'s name
    is not one of the ten names handlers look up among their element's children (`c13_lookedUp`:
    `w:pPr`, `w:rPr`, `w:tblPr`, … — these are in the ignore list too, but they are read by their
    parent) and `x` contains no text, then the parent reads the same with or without `x`: same elements,
    messages and state.  Two handlers keep the raw child list for later and are therefore excluded:
    `w:fldChar` (`hfld`) and a paragraph marked as deleted (`hdel`). -/
theorem C13_ignored_child_invisible (env : REnv) (f : Nat) (st : RState) (nm : Str) (as : Attrs)
    (xn : Str) (xas : Attrs) (xcs : List XmlNode) (a b : List XmlNode)
    (hi : Generated.ignored.contains xn = true) (hl : c13_lookedUp.contains xn = false)
    (ht : innerTextL xcs = [])
    (hfld : handlerOf nm ≠ some S!"read_fld_char")
    (hdel : handlerOf nm = some S!"paragraph" →
      (findChild S!"w:del" (findChildOrNull S!"w:rPr" (findChildOrNull S!"w:pPr" (a ++ b)).2).2).isSome = false) :
    readElem env (f + 2) st (.elem nm as (a ++ [.elem xn xas xcs] ++ b))
      = readElem env (f + 2) st (.elem nm as (a ++ b)) := by
  simpa using c13_container env f st nm as xn xas xcs a b hi hl ht hfld hdel

/-- the marker elements of the property statement qualify -/
example : [S!"w:sectPr", S!"w:proofErr", S!"w:bookmarkEnd", S!"w:commentRangeStart", S!"w:commentRangeEnd",
           S!"w:lastRenderedPageBreak"].all
    (fun n => Generated.ignored.contains n && !c13_lookedUp.contains n) = true := by decide +kernel

/-- `<w:p><w:r>…</w:r><w:proofErr w:type="spellEnd"/></w:p>` reads like `<w:p><w:r>…</w:r></w:p>` -/
example (env : REnv) (st : RState) (rcs : List XmlNode) :
    readElem env 5 st (.elem S!"w:p" [] ([.elem S!"w:r" [] rcs] ++ [.elem S!"w:proofErr" [(S!"w:type", S!"spellEnd")] []] ++ []))
      = readElem env 5 st (.elem S!"w:p" [] ([.elem S!"w:r" [] rcs] ++ [])) :=
  C13_ignored_child_invisible env 3 st _ _ _ _ _ _ _ (by decide +kernel) (by decide +kernel) rfl (by decide +kernel) (fun _ => by rfl)

/-! ## 3. parts located through relationships -/

/-- `_find_part_path` picks the first relationship target of the requested type (in document
    order, after normalisation) that exists in the package, and the fallback name otherwise;
    it looks at the package only through `exists`. -/
theorem C13_part_lookup (p : Package) (rels : Rels) (ty base fb : Str) :
    findPartPath p rels ty base fb
      = (((rels.targetsByType ty).map (c13_normTarget base)).find? p.exists).getD fb := by
  unfold findPartPath
  have : (List.map (fun t => lstripChar '/' (joinPath [base, t])) (rels.targetsByType ty))
       = (rels.targetsByType ty).map (c13_normTarget base) := rfl
  rw [this]
  generalize (rels.targetsByType ty).map (c13_normTarget base) = xs
  induction xs with
  | nil => rfl
  | cons x xs ih =>
    by_cases hx : p.exists x = true
    · simp [hx]
    · simp only [List.filter_cons, hx, List.find?_cons]
      exact ih

/-- spelled out: the first existing target wins, whatever follows it … -/
theorem C13_part_lookup_first (p : Package) (rels : Rels) (ty base fb : Str) (pre post : List Str) (t : Str)
    (hts : rels.targetsByType ty = pre ++ t :: post)
    (hpre : pre.all (fun x => !p.exists (c13_normTarget base x)) = true)
    (ht : p.exists (c13_normTarget base t) = true) :
    findPartPath p rels ty base fb = c13_normTarget base t := by
  have hnone : (pre.map (c13_normTarget base)).find? p.exists = none := by
    simpa [List.all_eq_true] using hpre
  rw [C13_part_lookup, hts, List.map_append, List.find?_append, hnone, List.map_cons,
    List.find?_cons_of_pos ht]
  rfl

/-- … and without an existing target the conventional name is used. -/
theorem C13_part_lookup_fallback (p : Package) (rels : Rels) (ty base fb : Str)
    (hnone : (rels.targetsByType ty).all (fun x => !p.exists (c13_normTarget base x)) = true) :
    findPartPath p rels ty base fb = fb := by
  have h : ((rels.targetsByType ty).map (c13_normTarget base)).find? p.exists = none := by
    simpa [List.all_eq_true] using hnone
  rw [C13_part_lookup, h]
  rfl

/-! ## 3b. relationship types of Strict Open XML (repair F13) -/

/-- A relationship type written with the Strict prefix is read as the Transitional type with the same last segment, and a
    Transitional type is read as it is: `http://purl.oclc.org/ooxml/officeDocument/relationships/styles` and
    `http://schemas.openxmlformats.org/officeDocument/2006/relationships/styles` are the same type to the reader. -/
theorem C13_strict_relationship_type (name : Str) :
    normRelType (relTypeStrict ++ name) = relTypeTransitional ++ name ∧
    normRelType (relTypeTransitional ++ name) = relTypeTransitional ++ name := by
  constructor
  · have h : startsWith (relTypeStrict ++ name) relTypeStrict = true :=
      (startsWith_iff _ _).mpr ⟨name, rfl⟩
    rw [normRelType, h, if_pos rfl, List.drop_left]
  · -- the two prefixes differ at their eighth character, which evaluation finds without looking at `name`
    have h : startsWith (relTypeTransitional ++ name) relTypeStrict = false := rfl
    rw [normRelType, h]
    rfl

/-- a `Relationship` element with the given id, target and type -/
def c13_relEl (pre : Str) (r : Str × Str × Str) : XmlNode :=
  .elem S!"relationships:Relationship" [(S!"Id", r.1), (S!"Target", r.2.1), (S!"Type", pre ++ r.2.2)] []

/-- what the reader makes of a list of such elements: one relationship each, the type normalised -/
theorem C13_read_relationships (pre : Str) (rs : List (Str × Str × Str)) :
    readRelsXml (rs.map (c13_relEl pre)) = .ok (rs.map fun r => ⟨r.1, r.2.1, normRelType (pre ++ r.2.2)⟩) := by
  unfold readRelsXml
  induction rs with
  | nil => rfl
  | cons r rs ih =>
    have h : findChildren S!"relationships:Relationship" (List.map (c13_relEl pre) (r :: rs))
        = ([(S!"Id", r.1), (S!"Target", r.2.1), (S!"Type", pre ++ r.2.2)], [])
          :: findChildren S!"relationships:Relationship" (List.map (c13_relEl pre) rs) := rfl
    rw [h, List.mapM_cons, ih]
    have h1 : attr? S!"Id" [(S!"Id", r.1), (S!"Target", r.2.1), (S!"Type", pre ++ r.2.2)] = some r.1 := rfl
    have h2 : attr? S!"Target" [(S!"Id", r.1), (S!"Target", r.2.1), (S!"Type", pre ++ r.2.2)] = some r.2.1 := rfl
    have h3 : attr? S!"Type" [(S!"Id", r.1), (S!"Target", r.2.1), (S!"Type", pre ++ r.2.2)] = some (pre ++ r.2.2) := rfl
    simp only [h1, h2, h3]
    rfl

/-- Hence a relationships part whose `Type` attributes are spelled Strict reads to the same relationships as the one spelled
    Transitional (same ids and targets), for every list of relationships: parts are located through relationships in Strict
    packages exactly as in Transitional ones (`C13_part_lookup` is about the relationships as read). -/
theorem C13_strict_relationships_same (rs : List (Str × Str × Str)) :
    readRelsXml (rs.map (c13_relEl relTypeStrict)) = readRelsXml (rs.map (c13_relEl relTypeTransitional)) := by
  simp only [C13_read_relationships, C13_strict_relationship_type]

example : readRelsXml [.elem S!"relationships:Relationship"
      [(S!"Id", S!"r1"), (S!"Target", S!"styles2.xml"), (S!"Type", S!"http://purl.oclc.org/ooxml/officeDocument/relationships/styles")] []]
    = .ok [⟨S!"r1", S!"styles2.xml", relTypePrefix ++ S!"styles"⟩] := by rfl

/-- A relative target `x` and the absolute target `/base/x` name the same part (`base`, `x`
    non-empty and not starting with `/`), namely `base/x`. -/
theorem C13_part_relative_absolute (base x : Str) (hb : base.isEmpty = false) (hx : x.isEmpty = false)
    (hbs : startsWith base ['/'] = false) (hxs : startsWith x ['/'] = false) :
    c13_normTarget base x = base ++ ['/'] ++ x
    ∧ c13_normTarget base ('/' :: (base ++ ['/'] ++ x)) = base ++ ['/'] ++ x := by
  have h1 : startsWith (base ++ ['/'] ++ x) ['/'] = false := by
    rw [List.append_assoc, c13_startsWith_append base _ '/' hb]; exact hbs
  constructor
  · unfold c13_normTarget
    rw [c13_joinPath_relative base x hb hx hxs]
    exact c13_lstripChar_id '/' _ h1
  · unfold c13_normTarget
    rw [c13_joinPath_absolute]
    have : lstripChar '/' ('/' :: (base ++ ['/'] ++ x)) = lstripChar '/' (base ++ ['/'] ++ x) := by
      simp [lstripChar]
    rw [this]
    exact c13_lstripChar_id '/' _ h1

/-! ## 4. end to end -/

/-- Two packages whose XML parts differ only by respellings — Strict instead of Transitional
    namespaces, comments/PIs removed, CDATA turned into text, namespace declarations removed, in any
    combination and differently for each part (`f name` is the rewrite applied to part `name`) —
    become the SAME model package, so `convert` (value and messages, HTML or Markdown, any options)
    and `extract_raw_text` give identical results.  Adding instead of removing is the same statement
    read from right to left. -/
theorem C13_respelled_package_same_output (f : Str → DomNode → DomNode) (hf : ∀ n, c13_Respelling (f n))
    (dp : DomPackage) :
    (c13_mapParts f dp).toPackage = dp.toPackage
    ∧ ∀ fuel base world tr o,
        c13_convertDom (c13_mapParts f dp) fuel base world tr o = c13_convertDom dp fuel base world tr o := by
  have h : (c13_mapParts f dp).toPackage = dp.toPackage := by
    unfold DomPackage.toPackage
    rw [c13_parseParts_mapParts f (fun n d => c13_respelling_parse (hf n) d)]
  exact ⟨h, fun _ _ _ _ _ => by unfold c13_convertDom; rw [h]⟩

/-! ## examples (non-vacuity) -/

private def c13_wT : Str := S!"http://schemas.openxmlformats.org/wordprocessingml/2006/main"
private def c13_wS : Str := S!"http://purl.oclc.org/ooxml/wordprocessingml/main"

/-- `<w:p xmlns:w=T><!--c--><w:r w:val="1"><![CDATA[a]]>b</w:r><?pi x?></w:p>` -/
private def c13_doc (w : Str) : DomNode :=
  .elem (some w) S!"p" [⟨some xmlnsUri, S!"w", S!"(the URI)"⟩]
    [.comment S!"c", .elem (some w) S!"r" [⟨some w, S!"val", S!"1"⟩] [.cdata S!"a", .text S!"b"], .pi S!"pi" S!"x"]

example : parseXml (c13_doc c13_wT)
    = some (.elem S!"w:p" [] [.elem S!"w:r" [(S!"w:val", S!"1")] [.text S!"a", .text S!"b"]]) := by decide +kernel
example : parseXml (c13_doc c13_wS) = parseXml (c13_doc c13_wT) := by decide +kernel
example : c13_mapNs c13_swapNs (c13_doc c13_wT) = c13_doc c13_wS := by rfl
example : parseXml (.elem (some S!"urn:x") S!"a" [⟨none, S!"k", S!"v"⟩, ⟨some S!"urn:y", S!"k", S!"w"⟩] [])
    = some (.elem S!"{urn:x}a" [(S!"k", S!"v"), (S!"{urn:y}k", S!"w")] []) := by decide +kernel
/-- Transitional and Strict spelling of the same attribute on one element: one dictionary entry,
    the later value -/
example : parseXml (.elem none S!"a" [⟨some c13_wT, S!"val", S!"1"⟩, ⟨some c13_wS, S!"val", S!"2"⟩] [])
    = some (.elem S!"a" [(S!"w:val", S!"2")] []) := by decide +kernel

example : c13_mapParts (fun n => if n = S!"word/document.xml" then c13_mapNs c13_swapNs ∘ c13_stripNoise else id)
      [(S!"word/document.xml", .xml (c13_doc c13_wT)), (S!"word/x.xml", .xml (c13_doc c13_wT)), (S!"word/media/i.png", .bytes [1])]
    = [(S!"word/document.xml", .xml (c13_mapNs c13_swapNs (c13_stripNoise (c13_doc c13_wT)))),
       (S!"word/x.xml", .xml (c13_doc c13_wT)), (S!"word/media/i.png", .bytes [1])] := by rfl

example : Generated.ignored.contains S!"w:sectPr" = true ∧ Generated.ignored.contains S!"w:proofErr" = true
    ∧ Generated.ignored.contains S!"w:bookmarkEnd" = true ∧ Generated.ignored.contains S!"w:commentRangeEnd" = true := by
  decide +kernel

example : c13_normTarget S!"word" S!"styles2.xml" = S!"word/styles2.xml"
    ∧ c13_normTarget S!"word" S!"/word/styles2.xml" = S!"word/styles2.xml" := by decide +kernel

example : innerTextL [.text S!"a", .elem S!"x" [] [.text S!"b", .text S!"c"], .text S!"d"]
    = innerTextL (c13_mergeTextL [.text S!"a", .elem S!"x" [] [.text S!"bc"], .text S!"d"]) := by decide +kernel

/-- The extracted tables these theorems consume (the reader's dispatch table; the set of deliberately ignored elements;
    the namespace URI -> prefix table) equal the validated copies in `Proofs/Pins.lean`. -/
theorem C13_tables_as_validated :
    (Generated.handlers = pin_handlers) ∧
    (sameSet Generated.ignored pin_ignored = true) ∧
    (sameSet Generated.namespaces pin_namespaces = true) :=
  ⟨pins_handlers, pins_ignored, pins_namespaces⟩

end Mammoth
