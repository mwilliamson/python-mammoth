/-
  C07 — progress / totality of the tokeniser model (`lexOne`, `tokenise`).
  Every lexer function splits its input into (matched, rest) with `matched ++ rest = input`,
  and every rule that matches consumes at least one character.
-/
import MammothModel.Dsl
namespace Mammoth

theorem c07_lexIdentRest_split (s : Str) : (lexIdentRest s).1 ++ (lexIdentRest s).2 = s := by
  fun_induction lexIdentRest s <;> simp_all

theorem c07_spanP_split (p : Char → Bool) (s : Str) : (spanP p s).1 ++ (spanP p s).2 = s := by
  fun_induction spanP p s <;> simp_all

theorem c07_lexStringBody_split (s : Str) : (lexStringBody s).1 ++ (lexStringBody s).2 = s := by
  fun_induction lexStringBody s <;> simp_all

theorem c07_lexIdent_split (s m r : Str) : lexIdent s = some (m, r) → m ++ r = s ∧ m ≠ [] := by
  fun_cases lexIdent s
  case case1 c cs h m' r' hx =>
    intro e; simp at e; obtain ⟨rfl, rfl⟩ := e
    have := c07_lexIdentRest_split cs; rw [hx] at this; simp_all
  case case3 c cs _ h m' r' hx =>
    intro e; simp at e; obtain ⟨rfl, rfl⟩ := e
    have := c07_lexIdentRest_split cs; rw [hx] at this; simp_all
  all_goals simp

theorem c07_lexSymbol_split (s m r : Str) : lexSymbol s = some (m, r) → m ++ r = s ∧ m ≠ [] := by
  fun_cases lexSymbol s
  case case13 => nofun
  all_goals
    intro e
    obtain ⟨rfl, rfl⟩ := Prod.mk.inj (Option.some.inj e)
    exact ⟨rfl, nofun⟩

theorem c07_spanOpt_split (p : Char → Bool) (s m r : Str) :
    (match spanP p s with | ([], _) => none | (m, r) => some (m, r)) = some (m, r) →
    m ++ r = s ∧ m ≠ [] := by
  have := c07_spanP_split p s
  split
  · simp
  · rename_i x m' r' hne heq
    intro e; simp at e; obtain ⟨rfl, rfl⟩ := e
    rw [heq] at this
    exact ⟨this, fun h => hne h⟩

theorem c07_lexWs_split (s m r : Str) : lexWs s = some (m, r) → m ++ r = s ∧ m ≠ [] :=
  c07_spanOpt_split isSpace s m r

theorem c07_lexInt_split (s m r : Str) : lexInt s = some (m, r) → m ++ r = s ∧ m ≠ [] :=
  c07_spanOpt_split isDigit s m r

theorem c07_lexString_split (s m r : Str) (ty : TokTy) :
    lexString s = some (ty, m, r) → m ++ r = s ∧ m ≠ [] := by
  fun_cases lexString s
  case case1 cs m' r' hx =>
    intro e; simp at e; obtain ⟨_, rfl, rfl⟩ := e
    have := c07_lexStringBody_split cs; rw [hx] at this; simp_all
  case case2 cs m' r' _ hx =>
    intro e; simp at e; obtain ⟨_, rfl, rfl⟩ := e
    have := c07_lexStringBody_split cs; rw [hx] at this; simp_all
  all_goals simp

theorem c07_lexString_other (s : Str) (h : ∀ cs, s ≠ '\'' :: cs) : lexString s = none := by
  unfold lexString
  split
  · rename_i cs; exact absurd rfl (h cs)
  · rfl

/-- whatever rule fires, the token value is a non-empty prefix of the input and the rest follows it -/
theorem c07_lexOne_split (s r : Str) (t : Token) :
    lexOne s = some (t, r) → t.val ++ r = s ∧ t.val ≠ [] := by
  unfold lexOne
  split
  · rename_i m r' h; intro e; simp at e; obtain ⟨rfl, rfl⟩ := e; exact c07_lexIdent_split _ _ _ h
  split
  · rename_i m r' h; intro e; simp at e; obtain ⟨rfl, rfl⟩ := e; exact c07_lexSymbol_split _ _ _ h
  split
  · rename_i m r' h; intro e; simp at e; obtain ⟨rfl, rfl⟩ := e; exact c07_lexWs_split _ _ _ h
  split
  · rename_i ty m r' h; intro e; simp at e; obtain ⟨rfl, rfl⟩ := e
    exact c07_lexString_split _ _ _ _ h
  split
  · rename_i m r' h; intro e; simp at e; obtain ⟨rfl, rfl⟩ := e; exact c07_lexInt_split _ _ _ h
  split
  · split
    · intro e; simp at e; obtain ⟨rfl, rfl⟩ := e; simp
    · simp
  · simp

theorem c07_lexOne_shorter (s r : Str) (t : Token) (h : lexOne s = some (t, r)) :
    r.length < s.length := by
  obtain ⟨h1, h2⟩ := c07_lexOne_split s r t h
  have : (t.val ++ r).length = s.length := by rw [h1]
  have : 0 < t.val.length := List.length_pos_iff.mpr h2
  simp at *; omega

/-- the catch-all rule: `lexOne` fails only on the empty input or on a newline that the whitespace
    rule did not take (which cannot happen, see `c07_lexOne_ne_none`) -/
theorem c07_lexOne_none (s : Str) (h : lexOne s = none) :
    s = [] ∨ ∃ cs, s = '\n' :: cs := by
  cases s with
  | nil => exact Or.inl rfl
  | cons c cs =>
    right
    unfold lexOne at h
    split at h; · simp at h
    split at h; · simp at h
    split at h; · simp at h
    split at h; · simp at h
    split at h; · simp at h
    simp [isDot] at h
    exact ⟨cs, by rw [h]⟩

/-- in fact the newline is white space, so `lexOne` fails on the empty input only -/
theorem c07_lexOne_ne_none (c : Char) (cs : Str) : lexOne (c :: cs) ≠ none := by
  intro h
  rcases c07_lexOne_none _ h with h' | ⟨cs', h'⟩
  · simp at h'
  · simp at h'
    obtain ⟨rfl, rfl⟩ := h'
    unfold lexOne at h
    have hid : lexIdent ('\n' :: cs) = none := by
      unfold lexIdent; simp; decide
    have hsym : lexSymbol ('\n' :: cs) = none := by
      unfold lexSymbol; simp
    have hws : ∃ m r, lexWs ('\n' :: cs) = some (m, r) := by
      unfold lexWs
      have : spanP isSpace ('\n' :: cs) = ('\n' :: (spanP isSpace cs).1, (spanP isSpace cs).2) := by
        rw [spanP]; simp; decide
      rw [this]; simp
    obtain ⟨m, r, hws⟩ := hws
    simp [hid, hsym, hws] at h

theorem c07_lexOne_progress' (s : Str) (hne : s ≠ []) :
    ∃ t r, lexOne s = some (t, r) ∧ r.length < s.length := by
  cases s with
  | nil => exact absurd rfl hne
  | cons c cs =>
    cases h : lexOne (c :: cs) with
    | none => exact absurd h (c07_lexOne_ne_none c cs)
    | some p => exact ⟨p.1, p.2, rfl, c07_lexOne_shorter _ _ _ h⟩

theorem c07_tokeniseFuel_cons (f : Nat) (c : Char) (cs : Str) :
    tokeniseFuel (f+1) (c :: cs) =
      match lexOne (c :: cs) with
      | some (t, r) => (tokeniseFuel f r).map (t :: ·)
      | none => none := by
  rfl

/-- fuel at least the length of the input is enough; the token list ends with END and the token
    values concatenate to the input -/
theorem c07_tokeniseFuel_total (f : Nat) : ∀ s : Str, s.length ≤ f →
    ∃ ts, tokeniseFuel f s = some ts ∧ ts.getLast? = some ⟨.end, []⟩ ∧
      (ts.map (·.val)).flatten = s := by
  induction f with
  | zero =>
    intro s hs
    have : s = [] := List.eq_nil_of_length_eq_zero (by omega)
    subst this
    exact ⟨_, rfl, rfl, rfl⟩
  | succ f ih =>
    intro s hs
    cases s with
    | nil => exact ⟨_, rfl, rfl, rfl⟩
    | cons c cs =>
      obtain ⟨t, r, h1, h2⟩ := c07_lexOne_progress' (c :: cs) (by simp)
      obtain ⟨ts, h3, h4, h5⟩ := ih r (by simp at hs h2; omega)
      refine ⟨t :: ts, ?_, ?_, ?_⟩
      · rw [c07_tokeniseFuel_cons]; simp [h1, h3]
      · cases ts with
        | nil => simp at h4
        | cons a as => simpa [List.getLast?_cons_cons] using h4
      · simp [h5, (c07_lexOne_split _ _ _ h1).1]

/-- fuel does not matter once it covers the input -/
theorem c07_tokeniseFuel_stable (f g : Nat) (s : Str) (hf : s.length ≤ f) (hg : s.length ≤ g) :
    tokeniseFuel f s = tokeniseFuel g s := by
  induction f generalizing g s with
  | zero =>
    have : s = [] := List.eq_nil_of_length_eq_zero (by omega)
    subst this
    cases g <;> rfl
  | succ f ih =>
    cases s with
    | nil => cases g <;> rfl
    | cons c cs =>
      cases g with
      | zero => simp at hg
      | succ g =>
        rw [c07_tokeniseFuel_cons, c07_tokeniseFuel_cons]
        cases h : lexOne (c :: cs) with
        | none => rfl
        | some p =>
          obtain ⟨t, r⟩ := p
          have := c07_lexOne_shorter _ _ _ h
          simp only
          rw [ih g r (by simp at hf this; omega) (by simp at hg this; omega)]

end Mammoth
