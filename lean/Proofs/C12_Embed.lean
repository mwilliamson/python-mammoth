/-
  C12 helpers: `write_style_map` on archives and on the file.
-/
import Proofs.C12_Archive
import Proofs.C12_Xml
namespace Mammoth

/-- the three parts `write_style_map` sets -/
def c12_three : List Str := [styleMapPath, relsPartPath, contentTypesPartPath]

/-- the dictionary handed to `update_zip` -/
def c12_files (x : XmlCodec) (s : Str) (r t : EElem) : List (Str × Bytes) :=
  [(styleMapPath, utf8Encode s), (relsPartPath, x.serialise (relsUpdate r)),
   (contentTypesPartPath, x.serialise (contentTypesUpdate t))]

theorem c12_files_keys (x : XmlCodec) (s : Str) (r t : EElem) :
    (c12_files x s r t).map (·.1) = c12_three := rfl

theorem c12_paths_ne : styleMapPath ≠ relsPartPath ∧ styleMapPath ≠ contentTypesPartPath ∧
    relsPartPath ≠ contentTypesPartPath := by decide

theorem c12_files_get_sm (x : XmlCodec) (s : Str) (r t : EElem) :
    lookupLast styleMapPath (c12_files x s r t) = some (utf8Encode s) := by
  obtain ⟨h1, h2, _⟩ := c12_paths_ne
  simp [c12_files, lookupLast, h1, h2]

theorem c12_files_get_rels (x : XmlCodec) (s : Str) (r t : EElem) :
    lookupLast relsPartPath (c12_files x s r t) = some (x.serialise (relsUpdate r)) := by
  obtain ⟨_, _, h3⟩ := c12_paths_ne
  simp [c12_files, lookupLast, h3]

theorem c12_files_get_ct (x : XmlCodec) (s : Str) (r t : EElem) :
    lookupLast contentTypesPartPath (c12_files x s r t)
      = some (x.serialise (contentTypesUpdate t)) := by
  simp [c12_files, lookupLast]

theorem c12_files_get_other (x : XmlCodec) (s : Str) (r t : EElem) (n : Str) (h : n ∉ c12_three) :
    lookupLast n (c12_files x s r t) = none := by
  rw [c12_lookupLast_none, c12_files_keys]; exact h

/-- a successful embed, taken apart -/
theorem c12_embed_inv (x : XmlCodec) (a a' : Archive) (s : Str) (h : embedArchive x a s = some a') :
    ∃ rb r cb t, a.get? relsPartPath = some rb ∧ x.parse rb = some r ∧
      a.get? contentTypesPartPath = some cb ∧ x.parse cb = some t ∧
      a' = updateZip a (c12_files x s r t) := by
  unfold embedArchive at h
  cases h1 : a.get? relsPartPath with
  | none => rw [h1] at h; cases h
  | some rb =>
    rw [h1] at h
    simp only [generateRelationshipsXml, generateContentTypesXml] at h
    cases h2 : x.parse rb with
    | none => rw [h2] at h; cases h
    | some r =>
      rw [h2] at h
      simp only [Option.map_some] at h
      cases h3 : a.get? contentTypesPartPath with
      | none => rw [h3] at h; cases h
      | some cb =>
        rw [h3] at h
        simp only [] at h
        cases h4 : x.parse cb with
        | none => rw [h4] at h; cases h
        | some t =>
          rw [h4] at h
          simp only [Option.map_some, Option.some.injEq] at h
          exact ⟨rb, r, cb, t, rfl, h2, rfl, h4, h.symm⟩

/-- and put together again -/
theorem c12_embed_intro (x : XmlCodec) (a : Archive) (s : Str) (rb cb : Bytes) (r t : EElem)
    (h1 : a.get? relsPartPath = some rb) (h2 : x.parse rb = some r)
    (h3 : a.get? contentTypesPartPath = some cb) (h4 : x.parse cb = some t) :
    embedArchive x a s = some (updateZip a (c12_files x s r t)) := by
  unfold embedArchive
  simp [h1, h2, h3, h4, generateRelationshipsXml, generateContentTypesXml, c12_files]

theorem c12_embed_get_sm (x : XmlCodec) (a a' : Archive) (s : Str)
    (h : embedArchive x a s = some a') : a'.get? styleMapPath = some (utf8Encode s) := by
  obtain ⟨rb, r, cb, t, _, _, _, _, rfl⟩ := c12_embed_inv x a a' s h
  rw [c12_updateZip_get, c12_files_get_sm]

theorem c12_embed_get_other (x : XmlCodec) (a a' : Archive) (s : Str)
    (h : embedArchive x a s = some a') (n : Str) (hn : n ∉ c12_three) :
    a'.get? n = a.get? n := by
  obtain ⟨rb, r, cb, t, _, _, _, _, rfl⟩ := c12_embed_inv x a a' s h
  rw [c12_updateZip_get, c12_files_get_other x s r t n hn]

theorem c12_embed_names (x : XmlCodec) (a a' : Archive) (s : Str)
    (h : embedArchive x a s = some a') (n : Str) :
    n ∈ a'.names ↔ n ∈ a.names ∨ n ∈ c12_three := by
  obtain ⟨rb, r, cb, t, _, _, _, _, rfl⟩ := c12_embed_inv x a a' s h
  rw [c12_updateZip_names_mem, c12_files_keys]

theorem c12_embed_unique (x : XmlCodec) (a a' : Archive) (s : Str)
    (h : embedArchive x a s = some a') : a'.uniqueNames = true := by
  obtain ⟨rb, r, cb, t, _, _, _, _, rfl⟩ := c12_embed_inv x a a' s h
  exact c12_updateZip_unique _ _

/-- the two XML parts hold the once-updated trees `relsUpdate r`, `contentTypesUpdate t` -/
def c12_partsAre (x : XmlCodec) (a : Archive) (r t : EElem) : Prop :=
  a.get? relsPartPath = some (x.serialise (relsUpdate r)) ∧
  a.get? contentTypesPartPath = some (x.serialise (contentTypesUpdate t))

theorem c12_embed_parts_first (x : XmlCodec) (a a' : Archive) (s : Str)
    (rb cb : Bytes) (r t : EElem)
    (h1 : a.get? relsPartPath = some rb) (h2 : x.parse rb = some r)
    (h3 : a.get? contentTypesPartPath = some cb) (h4 : x.parse cb = some t)
    (h : embedArchive x a s = some a') : c12_partsAre x a' r t := by
  rw [c12_embed_intro x a s rb cb r t h1 h2 h3 h4] at h
  simp only [Option.some.injEq] at h
  subst h
  exact ⟨by rw [c12_updateZip_get, c12_files_get_rels], by rw [c12_updateZip_get, c12_files_get_ct]⟩

theorem c12_relsUpdate_idem (r : EElem) : relsUpdate (relsUpdate r) = relsUpdate r :=
  c12_addOrUpdate_idem r _ _ _

theorem c12_contentTypesUpdate_idem (t : EElem) :
    contentTypesUpdate (contentTypesUpdate t) = contentTypesUpdate t :=
  c12_addOrUpdate_idem t _ _ _

theorem c12_embed_parts_step (x : XmlCodec) (hx : x.Lawful) (a a' : Archive) (s : Str)
    (r t : EElem) (hp : c12_partsAre x a r t) (h : embedArchive x a s = some a') :
    c12_partsAre x a' r t := by
  have := c12_embed_parts_first x a a' s _ _ _ _ hp.1 (hx _) hp.2 (hx _) h
  unfold c12_partsAre at this
  rw [c12_relsUpdate_idem, c12_contentTypesUpdate_idem] at this
  exact this

theorem c12_embedAll_cons (x : XmlCodec) (a a' : Archive) (s : Str) (ss : List Str)
    (h : embedAll x a (s :: ss) = some a') :
    ∃ a1, embedArchive x a s = some a1 ∧ embedAll x a1 ss = some a' := by
  unfold embedAll at h
  cases h1 : embedArchive x a s with
  | none => rw [h1] at h; cases h
  | some a1 => rw [h1] at h; exact ⟨a1, rfl, h⟩

theorem c12_embedAll_parts (x : XmlCodec) (hx : x.Lawful) (ss : List Str) (a a' : Archive)
    (r t : EElem) (hp : c12_partsAre x a r t) (h : embedAll x a ss = some a') :
    c12_partsAre x a' r t := by
  induction ss generalizing a with
  | nil => simp only [embedAll, Option.some.injEq] at h; subst h; exact hp
  | cons s ss ih =>
    obtain ⟨a1, h1, h2⟩ := c12_embedAll_cons x a a' s ss h
    exact ih a1 (c12_embed_parts_step x hx a a1 s r t hp h1) h2

/-- after a non-empty sequence of embeds the two XML parts hold the once-updated ORIGINAL trees -/
theorem c12_embedAll_partsAre (x : XmlCodec) (hx : x.Lawful) (a a' : Archive) (s : Str) (ss : List Str)
    (h : embedAll x a (s :: ss) = some a') :
    ∃ rb r cb t, a.get? relsPartPath = some rb ∧ x.parse rb = some r ∧
      a.get? contentTypesPartPath = some cb ∧ x.parse cb = some t ∧ c12_partsAre x a' r t := by
  obtain ⟨a1, h1, h2⟩ := c12_embedAll_cons x a a' s ss h
  obtain ⟨rb, r, cb, t, e1, e2, e3, e4, _⟩ := c12_embed_inv x a a1 s h1
  exact ⟨rb, r, cb, t, e1, e2, e3, e4,
    c12_embedAll_parts x hx ss a1 a' r t (c12_embed_parts_first x a a1 s rb cb r t e1 e2 e3 e4 h1) h2⟩

theorem c12_embedAll_other (x : XmlCodec) (ss : List Str) (a a' : Archive)
    (h : embedAll x a ss = some a') (n : Str) (hn : n ∉ c12_three) : a'.get? n = a.get? n := by
  induction ss generalizing a with
  | nil => simp only [embedAll, Option.some.injEq] at h; subst h; rfl
  | cons s ss ih =>
    obtain ⟨a1, h1, h2⟩ := c12_embedAll_cons x a a' s ss h
    rw [ih a1 h2, c12_embed_get_other x a a1 s h1 n hn]

theorem c12_embedAll_names (x : XmlCodec) (s : Str) (ss : List Str) (a a' : Archive)
    (h : embedAll x a (s :: ss) = some a') (n : Str) :
    n ∈ a'.names ↔ n ∈ a.names ∨ n ∈ c12_three := by
  induction ss generalizing a s with
  | nil =>
    obtain ⟨a1, h1, h2⟩ := c12_embedAll_cons x a a' s [] h
    simp only [embedAll, Option.some.injEq] at h2
    subst h2
    exact c12_embed_names x a a1 s h1 n
  | cons s2 ss ih =>
    obtain ⟨a1, h1, h2⟩ := c12_embedAll_cons x a a' s _ h
    rw [ih s2 a1 h2, c12_embed_names x a a1 s h1 n, or_assoc, or_self]

theorem c12_embedAll_snoc (x : XmlCodec) (ss : List Str) (s : Str) (a : Archive) :
    embedAll x a (ss ++ [s]) =
      match embedAll x a ss with
      | none => none
      | some a1 => embedArchive x a1 s := by
  induction ss generalizing a with
  | nil => simp only [List.nil_append, embedAll]; cases embedArchive x a s <;> rfl
  | cons s1 ss ih =>
    simp only [List.cons_append, embedAll]
    cases embedArchive x a s1 with
    | none => rfl
    | some a1 => exact ih a1

/-! ### the file -/

theorem c12_writeOver_length (old new : Bytes) :
    (writeOver old new false).length = max old.length new.length := by
  simp [writeOver]; omega

theorem c12_chunkCount_mul (chunk len : Nat) (h : 0 < chunk) : len ≤ chunkCount chunk len * chunk := by
  unfold chunkCount
  have h1 := Nat.div_add_mod (len + chunk - 1) chunk
  have h2 := Nat.mod_lt (len + chunk - 1) h
  rw [Nat.mul_comm] at h1
  omega

/-! ### the two entries the property talks about -/

/-- a `Relationship` element with `Id="rMammothStyleMap"` -/
def c12_isStyleMapRel (l : c12_Label) : Bool :=
  l.1 == relationshipElemName && eAttr? S!"Id" l.2 == some S!"rMammothStyleMap"

/-- an `Override` element with `PartName="/mammoth/style-map"` -/
def c12_isStyleMapOverride (l : c12_Label) : Bool :=
  l.1 == overrideElemName && eAttr? S!"PartName" l.2 == some S!"/mammoth/style-map"

theorem c12_isStyleMapRel_eq :
    c12_isStyleMapRel = c12_matchL relationshipElemName S!"Id" styleMapRelAttrs := rfl

theorem c12_isStyleMapOverride_eq :
    c12_isStyleMapOverride = c12_matchL overrideElemName S!"PartName" styleMapOverrideAttrs := rfl

end Mammoth
