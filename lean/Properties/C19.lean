/-
  C19 — document transforms visit each target once and leave everything else alone.

  `transforms.paragraph(f)` / `transforms.run(f)` / `element_of_type(T, f)` build a function that
  walks the document post-order: children first (left to right), the element rebuilt with the new
  children, then `f` on the rebuilt element if it is of the target type.  `isT` is the type test
  (`isParagraph`, `isRun`), `transform isT f` the walk for a pure `f`, `transformM isT f` the same
  walk for a callback with effects in a monad.
-/
import Proofs.C19_Transforms
import Proofs.C19_Ext7
import MammothModel.Package
namespace Mammoth

/-! ## which calls are made, with what, in which order -/

/-- The exact call sequence, for ANY pure answer function `g`: run the monadic walk with the callback
    "append the argument to the log, answer `g argument`".  The result is the pure walk's result and
    the log grows by exactly `c19_calls isT g e`: for each node in post-order, after all calls for
    its children, the node rebuilt with its already transformed children — if that is a target. -/
theorem C19_calls_logged (isT : Elem → Bool) (g : Elem → Elem) (e : Elem) (log : List Elem) :
    (transformM isT (c19_logged g) e).run log = (transform isT g e, log ++ c19_calls isT g e) :=
  c19_transformM_logged isT g e log

/-- Record-only callback (logs its argument, returns it unchanged): the tree comes back unchanged
    and the log is exactly the post-order list of ALL nodes of `e` (`e` included, last) filtered by
    the target test — every target once, at its post-order position, nothing else. -/
theorem C19_calls_postorder (isT : Elem → Bool) (e : Elem) :
    (transformM isT (c19_logged id) e).run [] = (e, (c19_postorder e).filter isT) := by
  rw [c19_transformM_logged, c19_transform_id, (c19_calls_id_both isT).1, List.nil_append]

/-- For a type test that does not look at children (`isParagraph`, `isRun`, any `isinstance` test)
    and any `g`: the calls correspond one-to-one, in order, to the target nodes of the ORIGINAL tree
    in post-order; the k-th call receives the k-th target with its children replaced by their
    transformed versions (`c19_view`).  In particular the number of calls is the number of targets. -/
theorem C19_calls_each_target_once (isT : Elem → Bool) (g : Elem → Elem) (hT : c19_shapeOnly isT) (e : Elem) :
    c19_calls isT g e = ((c19_postorder e).filter isT).map (c19_view isT g)
    ∧ (c19_calls isT g e).length = ((c19_postorder e).filter isT).length := by
  have h := (c19_calls_shape_both isT g hT).1 e
  exact ⟨h, by rw [h, List.length_map]⟩

/-- `isinstance(_, Paragraph)` and `isinstance(_, Run)` are such tests -/
theorem C19_type_tests_shape_only : c19_shapeOnly isParagraph ∧ c19_shapeOnly isRun :=
  ⟨fun e _ => by cases e <;> rfl, fun e _ => by cases e <;> rfl⟩

/-- the walk in the identity monad is the pure walk (so the two model functions agree) -/
theorem C19_monadic_pure_agree (isT : Elem → Bool) (f : Elem → Elem) (e : Elem) :
    Id.run (transformM (m := Id) isT (fun x => pure (f x)) e) = transform isT f e := by
  rw [(c19_transformM_pure_both isT f).1]
  rfl

/-! ## what is left alone -/

/-- the identity transform changes nothing, whatever the target type -/
theorem C19_transform_id (isT : Elem → Bool) (e : Elem) : transform isT id e = e := c19_transform_id isT e

/-- one step of the walk, uniformly for every node: rebuild with transformed children, then apply
    `f` iff the rebuilt node is a target.  (`withChildren` keeps all own fields.) -/
theorem C19_step (isT : Elem → Bool) (f : Elem → Elem) (e : Elem) :
    transform isT f e = applyIf isT f (e.withChildren (transformL isT f e.children)) :=
  c19_transform_step isT f e

/-- `f` receives the element with ALREADY transformed children -/
theorem C19_children_first (isT : Elem → Bool) (f : Elem → Elem) (p : ParaProps) (cs : List Elem)
    (h : isT (.paragraph p (transformL isT f cs)) = true) :
    transform isT f (.paragraph p cs) = f (.paragraph p (transformL isT f cs)) := by
  simp [transform, applyIf, h]

theorem C19_children_first_run (isT : Elem → Bool) (f : Elem → Elem) (r : RunProps) (cs : List Elem)
    (h : isT (.run r (transformL isT f cs)) = true) :
    transform isT f (.run r cs) = f (.run r (transformL isT f cs)) := by
  simp [transform, applyIf, h]

/-- a node that is not a target keeps its class and all its own fields; only its children are
    replaced by their transforms (and a leaf is returned as it is) -/
theorem C19_non_target_node (isT : Elem → Bool) (f : Elem → Elem) (e : Elem)
    (h : isT (e.withChildren (transformL isT f e.children)) = false) :
    transform isT f e = e.withChildren (transformL isT f e.children) := by
  rw [c19_transform_step]; simp [applyIf, h]

/-- instances: a hyperlink under `transforms.paragraph`, a table cell under `transforms.run`, … -/
theorem C19_hyperlink_kept (f : Elem → Elem) (h : LinkProps) (cs : List Elem) :
    transform isParagraph f (.hyperlink h cs) = .hyperlink h (transformL isParagraph f cs) := by
  simp [transform, applyIf, isParagraph]

theorem C19_cell_kept (f : Elem → Elem) (c r : Nat) (v : Bool) (cs : List Elem) :
    transform isRun f (.cell c r v cs) = .cell c r v (transformL isRun f cs) := by
  simp [transform, applyIf, isRun]

/-- siblings are transformed independently, order and number kept -/
theorem C19_siblings (isT : Elem → Bool) (f : Elem → Elem) (cs : List Elem) :
    transformL isT f cs = cs.map (transform isT f) := c19_transformL_eq_map isT f cs

/-- a tree without any target node comes back unchanged, whatever `f` is -/
theorem C19_non_targets_unchanged (isT : Elem → Bool) (f : Elem → Elem) (e : Elem)
    (h : (c19_postorder e).all (fun x => !isT x) = true) : transform isT f e = e :=
  (c19_transform_noTarget_both isT f).1 e h

/-- the result depends on the callback only through its answers on the arguments it is actually
    called with: two callbacks that agree on those give the same tree (so nothing but the targets,
    seen with their transformed children, can influence the outcome) -/
theorem C19_only_calls_matter (isT : Elem → Bool) (f g : Elem → Elem) (e : Elem)
    (h : ∀ x ∈ c19_calls isT f e, f x = g x) : transform isT f e = transform isT g e :=
  (c19_transform_congr_both isT f g).1 e h

/-- the document-level function keeps notes and comments (their bodies are not traversed) and
    transforms exactly the body children -/
theorem C19_doc_notes_comments_untouched (isT : Elem → Bool) (f : Elem → Elem) (d : Document) :
    (transformDoc isT f d).notes = d.notes ∧ (transformDoc isT f d).comments = d.comments
    ∧ (transformDoc isT f d).children = d.children.map (transform isT f) := by
  simp [transformDoc, transformDocWith, c19_transformL_eq_map]

/-- the identity transform on a document is the identity … -/
theorem C19_transformDoc_id (isT : Elem → Bool) : transformDoc isT id = id := by
  funext d
  simp [transformDoc, transformDocWith, c19_transformL_id]

/-- … so converting with `transform_document=paragraph(lambda p: p)` (or `run(…)`) gives the very
    same result — value, messages, everything — as converting without a transform. -/
theorem C19_identity_conversion_unchanged (isT : Elem → Bool) (p : Package) (fuel : Nat) (base : Option Str)
    (world : Str → Option Bytes) (o : Options) :
    apiConvert p fuel base world (transformDoc isT id) o = apiConvert p fuel base world id o := by
  rw [C19_transformDoc_id]

/-! ## `get_descendants` -/

/-- the descendants of an element are, child by child, the child's descendants followed by the
    child (post-order, the element itself excluded; `[]` for an element without children) -/
theorem C19_descendants_postorder (e : Elem) :
    descendants e = e.children.flatMap (fun c => descendants c ++ [c]) := by
  rw [c19_descendants_children, c19_descendantsL_flatMap]

/-- … i.e. all nodes in post-order without the last one, the element itself -/
theorem C19_descendants_strict (e : Elem) : c19_postorder e = descendants e ++ [e] := c19_postorder_eq e

/-- every strict descendant appears at exactly one position: the list has `size e - 1` entries -/
theorem C19_descendants_count (e : Elem) : (descendants e).length + 1 = c19_size e :=
  c19_descendants_length e

/-- `get_descendants_of_type` is the sub-list of `get_descendants` passing the type test: same
    order, and it decomposes child by child like `get_descendants` -/
theorem C19_descendants_of_type (isT : Elem → Bool) (e : Elem) :
    descendantsOfType isT e
      = e.children.flatMap (fun c => descendantsOfType isT c ++ (if isT c then [c] else []))
    ∧ ∀ x, x ∈ descendantsOfType isT e ↔ (x ∈ descendants e ∧ isT x = true) := by
  constructor
  · unfold descendantsOfType
    rw [C19_descendants_postorder, List.filter_flatMap]
    congr 1
    funext c
    simp [List.filter_cons]
  · intro x; simp [descendantsOfType]

/-- `get_descendants(document)` for the whole document -/
theorem C19_descendants_doc (d : Document) :
    descendantsDoc d = d.children.flatMap (fun c => descendants c ++ [c]) := by
  unfold descendantsDoc; rw [c19_descendantsL_flatMap]

/-- the targets a transform visits inside `e` are `get_descendants_of_type(e, T)` plus `e` itself -/
theorem C19_targets_are_descendants_of_type (isT : Elem → Bool) (e : Elem) :
    (c19_postorder e).filter isT = descendantsOfType isT e ++ (if isT e then [e] else []) := by
  rw [c19_postorder_eq, List.filter_append]; simp [descendantsOfType, List.filter_cons]

/-! ## examples -/

private def c19_r (s : Str) : Elem := .run {} [.text s]
private def c19_doc : Elem :=
  .paragraph {} [c19_r S!"a", .hyperlink {} [c19_r S!"b"], .table none none [.row false [.cell 1 1 false [.paragraph {} [c19_r S!"c"]]]]]

example : (transformM isRun (c19_logged id) c19_doc).run [] = (c19_doc, [c19_r S!"a", c19_r S!"b", c19_r S!"c"]) := by rfl
example : (c19_postorder c19_doc).filter isParagraph = [.paragraph {} [c19_r S!"c"], c19_doc] := by rfl
/-- nested paragraphs, callback answering `tab`: the inner paragraph is passed first, then the outer one with
    its child already replaced by the answer -/
example : c19_calls isParagraph (fun _ => .tab) (.paragraph {} [.paragraph {} []]) = [.paragraph {} [], .paragraph {} [.tab]] := by rfl
example : transform isRun (fun _ => .tab) c19_doc =
    .paragraph {} [.tab, .hyperlink {} [.tab], .table none none [.row false [.cell 1 1 false [.paragraph {} [.tab]]]]] := by rfl
example : (descendants c19_doc).length = 11 ∧ c19_size c19_doc = 12 := by decide +kernel
example : descendants (.paragraph {} [c19_r S!"a", .tab]) = [.text S!"a", c19_r S!"a", .tab] := by rfl
example : (c19_postorder (.hyperlink {} [.text S!"x", .tab])).all (fun x => !isRun x) = true := by decide +kernel

/-! ## nesting of descendants, the document-level call log, size under restyling -/

/-- `get_descendants` is closed and contiguous under nesting: if `x` is a descendant of `e`, then
    `x` preceded by ALL of `x`'s own descendants, in their own order, occupies one contiguous block
    `get_descendants(x) ++ [x]` of `get_descendants(e)` (for some prefix `s` and suffix `t`); in
    particular every descendant of a descendant is a descendant, and it comes before it. -/
theorem C19_descendants_nested_block (e x : Elem) (hx : x ∈ descendants e) :
    (∃ s t, descendants e = s ++ descendants x ++ x :: t) ∧ ∀ y ∈ descendants x, y ∈ descendants e := by
  have hb := c19_descendants_block e x hx
  refine ⟨hb, fun y hy => ?_⟩
  obtain ⟨s, t, h⟩ := hb
  rw [h]
  simp [hy]

#print axioms C19_descendants_nested_block

private theorem c19_r_c_mem : c19_r S!"c" ∈ descendants c19_doc := by
  simp [c19_doc, c19_r, descendants, descendantsL]
example : ∃ s t, descendants c19_doc = s ++ descendants (c19_r S!"c") ++ c19_r S!"c" :: t :=
  (C19_descendants_nested_block c19_doc (c19_r S!"c") c19_r_c_mem).1
/-- the block concretely: 5 nodes before, the text `c` and its run, then paragraph, cell, row, table -/
example : descendants c19_doc = (descendants c19_doc).take 5 ++ descendants (c19_r S!"c") ++ c19_r S!"c" ::
    [.paragraph {} [c19_r S!"c"], .cell 1 1 false [.paragraph {} [c19_r S!"c"]],
     .row false [.cell 1 1 false [.paragraph {} [c19_r S!"c"]]],
     .table none none [.row false [.cell 1 1 false [.paragraph {} [c19_r S!"c"]]]]] := by rfl

/-- The whole document body, for ANY answer function `g`: walking the body children with the logging
    callback yields exactly the children of `transformDoc isT g d`, and the log grows by the calls
    of the first body child, then those of the second, … (`flatMap`, body order) — nothing is
    logged for the document itself, and notes/comments contribute no call. -/
theorem C19_doc_calls_logged (isT : Elem → Bool) (g : Elem → Elem) (d : Document) (log : List Elem) :
    (transformLM isT (c19_logged g) d.children).run log
      = ((transformDoc isT g d).children, log ++ d.children.flatMap (c19_calls isT g)) := by
  rw [(c19_transformM_logged_both isT g).2, c19_callsL_flatMap]
  rfl

#print axioms C19_doc_calls_logged

example : (transformLM isRun (c19_logged (fun _ => .tab)) (Document.mk [c19_doc, c19_r S!"d"] [] []).children).run []
    = ([.paragraph {} [.tab, .hyperlink {} [.tab], .table none none [.row false [.cell 1 1 false [.paragraph {} [.tab]]]]], .tab],
       [c19_r S!"a", c19_r S!"b", c19_r S!"c", c19_r S!"d"]) := by rfl

/-- `get_descendants_of_type(document, T)`: the body children in order, each preceded by its own
    descendants of the type, a child itself listed iff it passes the test; membership is exactly
    "is in `get_descendants(document)` and passes the test". -/
theorem C19_descendants_of_type_doc (isT : Elem → Bool) (d : Document) :
    descendantsOfTypeDoc isT d
      = d.children.flatMap (fun c => descendantsOfType isT c ++ (if isT c then [c] else []))
    ∧ ∀ x, x ∈ descendantsOfTypeDoc isT d ↔ (x ∈ descendantsDoc d ∧ isT x = true) := by
  constructor
  · unfold descendantsOfTypeDoc descendantsOfType
    rw [C19_descendants_doc, List.filter_flatMap]
    congr 1
    funext c
    simp [List.filter_cons]
  · intro x; simp [descendantsOfTypeDoc]

#print axioms C19_descendants_of_type_doc

example : descendantsOfTypeDoc isRun (Document.mk [c19_doc, c19_r S!"d"] [] [])
    = [c19_r S!"a", c19_r S!"b", c19_r S!"c", c19_r S!"d"] := by rfl

/-- Restyling callbacks (any `f` that returns an element with the same children as its argument,
    e.g. "set the style of paragraphs matching a predicate"): the transformed tree has exactly as
    many nodes as the original, so `get_descendants` of the result has the same length — no node is
    dropped, duplicated or visited into a different shape, whatever the target test. -/
theorem C19_restyle_keeps_node_count (isT : Elem → Bool) (f : Elem → Elem)
    (hf : ∀ x, (f x).children = x.children) (e : Elem) :
    c19_size (transform isT f e) = c19_size e
    ∧ (descendants (transform isT f e)).length = (descendants e).length := by
  have h := (c19_transform_size_both isT f hf).1 e
  refine ⟨h, ?_⟩
  have h1 := c19_descendants_length (transform isT f e)
  have h2 := c19_descendants_length e
  omega

#print axioms C19_restyle_keeps_node_count

/-- a restyling callback: runs become bold, children kept -/
private def c19_bold : Elem → Elem
  | .run r cs => .run { r with bold := true } cs
  | e => e
example : ∀ x, (c19_bold x).children = x.children := by
  intro x; cases x <;> rfl
example : transform isRun c19_bold (c19_r S!"a") = .run { bold := true } [.text S!"a"]
    ∧ c19_size (transform isRun c19_bold c19_doc) = 12 := ⟨by rfl, by decide +kernel⟩

end Mammoth
