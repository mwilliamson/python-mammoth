/-
  C02 — the converter takes its tag names and attribute names from three places only: the style
  map's paths, the attribute names returned by the image converter, and a fixed set of literals
  (`p a table tr td … href id src alt …`).  So if the first two are plain names, every tag of the
  produced forest has a plain name and plain attribute names, and the lexer theorems apply to real
  conversions.
-/
import Proofs.VisitPost
import Proofs.C02_AllTags
import Proofs.C15_Dict
namespace Mammoth

/-! ### the hypothesis on the configuration -/

/-- every tag of the path has a plain name and plain attribute names -/
def c02_plainPath : HtmlPath → Bool
  | .elements es => es.all c02_plainTag
  | .ignore => true

/-- every style mapping's path consists of plain tags -/
def c02_plainMap (cfg : Cfg) : Bool := cfg.styleMap.all fun s => c02_plainPath s.path

/-- all attribute names of the list are plain -/
def c02_plainKVs (kvs : List (Str × Str)) : Bool := kvs.all fun kv => c02_plainName kv.1

/-- the attribute names that the image converter returns are plain (`data_uri` returns `src` only) -/
def c02_plainConv : ImageConv → Bool
  | .dataUri => true
  | .fixed attrs _ => c02_plainKVs attrs

/-- the names that come from the options are plain: style-map paths and image-converter attributes -/
def c02_plainCfg (cfg : Cfg) : Bool := c02_plainMap cfg && c02_plainConv cfg.imageConv

/-! ### the literal names of conversion.py / images.py -/

theorem c02_plain_visitName {n : Str} (h : VisitName n) : c02_plainName n = true := by
  cases h <;> decide +kernel

theorem c02_plain_visitKey {k : Str} (h : VisitKey k) : c02_plainName k = true := by
  cases h <;> decide +kernel

@[simp] theorem c02_pn_img : c02_plainName S!"img" = true := by decide +kernel
@[simp] theorem c02_pn_alt : c02_plainName S!"alt" = true := by decide +kernel
@[simp] theorem c02_pn_src : c02_plainName S!"src" = true := by decide +kernel
@[simp] theorem c02_pn_data_len : c02_plainName S!"data-len" = true := by decide +kernel

/-! ### dictionaries -/

theorem c02_plainAttrs_insert (k v : Str) (d : Dict Str) (hk : c02_plainName k = true)
    (hd : c02_plainAttrs d = true) : c02_plainAttrs (Dict.insert k v d) = true := by
  simp only [c02_plainAttrs, List.all_eq_true] at hd ⊢
  intro q hq
  rcases c15_mem_insert k v d q hq with rfl | hq
  · exact hk
  · exact hd q hq

theorem c02_plainAttrs_foldl (kvs : List (Str × Str)) (d : Dict Str) (hk : c02_plainKVs kvs = true)
    (hd : c02_plainAttrs d = true) :
    c02_plainAttrs (kvs.foldl (fun d kv => Dict.insert kv.1 kv.2 d) d) = true := by
  induction kvs generalizing d with
  | nil => exact hd
  | cons kv r ih =>
    simp only [c02_plainKVs, List.all_cons, Bool.and_eq_true] at hk
    exact ih _ hk.2 (c02_plainAttrs_insert _ _ _ hk.1 hd)

theorem c02_plainAttrs_ofList (kvs : List (Str × Str)) (hk : c02_plainKVs kvs = true) :
    c02_plainAttrs (Dict.ofList kvs) = true :=
  c02_plainAttrs_foldl kvs [] hk rfl

theorem c02_plainKVs_append (a b : List (Str × Str)) :
    c02_plainKVs (a ++ b) = (c02_plainKVs a && c02_plainKVs b) := by
  simp [c02_plainKVs, List.all_append]

/-! ### building blocks -/

theorem c02_plainNames_append (a b : List Node) :
    c02_plainNames (a ++ b) = (c02_plainNames a && c02_plainNames b) := by
  simp only [c02_plainNames_eq, c02_allTags_append]

theorem c02_plainKVs_visitAttrs {a : List (Str × Str)} (h : VisitAttrs a) : c02_plainKVs a = true := by
  induction h with
  | nil => rfl
  | cons hk _ ih => exact Bool.and_eq_true_iff.mpr ⟨c02_plain_visitKey hk, ih⟩

theorem c02_PN_elem (n : Str) (a : List (Str × Str)) (c : Bool) (cs : List Node) (hn : c02_plainName n = true)
    (ha : c02_plainKVs a = true) (hc : c02_plainNames cs = true) :
    c02_plainNames [.elem { name := n, attrs := Dict.ofList a, collapsible := c } cs] = true := by
  simp [c02_plainNames, c02_plainNamesN, hn, c02_plainAttrs_ofList a ha, hc]

theorem c02_plainNames_wrapElems (es : List Tag) (ns : List Node)
    (he : c02_plainPath (.elements es) = true) (hn : c02_plainNames ns = true) :
    c02_plainNames (wrapElems es ns) = true := by
  induction es with
  | nil => simpa [wrapElems] using hn
  | cons t ts ih =>
    simp only [c02_plainPath, List.all_cons, Bool.and_eq_true] at he
    have h1 := he.1
    simp only [c02_plainTag, Bool.and_eq_true] at h1
    simp only [wrapElems, c02_plainNames, c02_plainNamesN, Bool.and_eq_true, and_true]
    exact ⟨⟨h1.1, h1.2⟩, ih (by simpa [c02_plainPath] using he.2)⟩

/-! ### the visitor -/

/-- every tag name and attribute name of the forest is plain -/
abbrev c02_PN (ns : List Node) : Prop := c02_plainNames ns = true

theorem c02_plain_convertImage (cfg : Cfg) (hc : c02_plainConv cfg.imageConv = true) (i : ImageProps) :
    c01_post c02_PN (convertImage cfg i) := by
  unfold convertImage
  refine c01_post_bind_any _ _ _ ?_; intro _
  extract_lets altAttr
  have halt : c02_plainKVs altAttr = true := by
    simp only [altAttr]
    split
    · split <;> simp [c02_plainKVs]
    · simp [c02_plainKVs]
  have hel : ∀ a, c02_plainKVs a = true → c02_PN [el S!"img" a []] := by
    intro a ha
    exact c02_PN_elem _ _ false _ c02_pn_img ha rfl
  split
  · refine c01_post_bind_any _ _ _ ?_; intro r
    split
    · exact c01_post_pure _ _ (hel _ (by rw [c02_plainKVs_append, halt]; simp [c02_plainKVs]))
    · refine c01_post_bind_any _ _ _ ?_; intro _
      exact c01_post_pure _ _ rfl
  · rename_i attrs opens hconv
    have hattrs : c02_plainKVs attrs = true := by simpa [hconv, c02_plainConv] using hc
    split
    · refine c01_post_bind_any _ _ _ ?_; intro r
      split
      · exact c01_post_pure _ _ (hel _ (by
          rw [c02_plainKVs_append, c02_plainKVs_append, halt, hattrs]; simp [c02_plainKVs]))
      · refine c01_post_bind_any _ _ _ ?_; intro _
        exact c01_post_pure _ _ rfl
    · exact c01_post_pure _ _ (hel _ (by rw [c02_plainKVs_append, halt, hattrs]; rfl))

/-- conversion.py's own names are plain; the style map's and the image converter's are by hypothesis -/
theorem c02_plain_closed (cfg : Cfg) (hm : c02_plainMap cfg = true) (hc : c02_plainConv cfg.imageConv = true) :
    VisitClosed cfg c02_PN where
  nil := rfl
  append ha hb := by simp [c02_PN, c02_plainNames_append, ha, hb]
  text _ := rfl
  forceWrite := rfl
  elem := fun c hn ha hcs => c02_PN_elem _ _ c _ (c02_plain_visitName hn) (c02_plainKVs_visitAttrs ha) hcs
  found := Wraps.of_map (P := c02_PN) c02_plainPath hm rfl c02_plainNames_wrapElems
  image := c02_plain_convertImage cfg hc

theorem c02_plain_visit (cfg : Cfg) (hm : c02_plainMap cfg = true) (hc : c02_plainConv cfg.imageConv = true)
    (hdr : Bool) (e : Elem) : c01_post c02_PN (visit cfg hdr e) :=
  (c02_plain_closed cfg hm hc).visit hdr e

theorem c02_plain_visitRows (cfg : Cfg) (hm : c02_plainMap cfg = true) (hc : c02_plainConv cfg.imageConv = true)
    (inHead : Bool) (rs : List Elem) :
    c01_post (fun p => c02_PN p.1 ∧ c02_PN p.2) (visitRows cfg inHead rs) :=
  (c02_plain_closed cfg hm hc).visitRows inHead rs

/-- whatever `convert_document_element_to_html` produces for a document has plain names only, when
    the names supplied by the options are plain -/
theorem c02_plain_convertDoc (cfg : Cfg) (h : c02_plainCfg cfg = true) (d : Document) (r : ConvResult)
    (hr : convertDoc cfg d = .ok r) : c02_plainNames r.nodes = true := by
  simp only [c02_plainCfg, Bool.and_eq_true] at h
  unfold convertDoc at hr
  split at hr
  · rename_i nodes st hrun
    cases hr
    exact (c02_plain_closed { cfg with comments := d.comments } h.1 h.2).visitDocument d _ _ _ hrun
  · cases hr

end Mammoth
