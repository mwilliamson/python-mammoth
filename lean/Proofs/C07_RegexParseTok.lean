/-
  C07 — the regex-driven tokeniser `c07_tokeniseRx` (the rules parsed from the source of
  tokeniser.py, tried in order with the backtracking matcher, first match wins) computes exactly
  what the hand-written lexer `tokenise` computes.  Each rule is tied to its lexer function together
  with its cost (`c07_ruleOK`), so one pass over the rule list gives both the token of a round and
  the steps all its attempts took.
-/
import Proofs.C07_RegexParse
namespace Mammoth

theorem c07_firstMatch_snd (ty : TokTy) (r : C07Regex) (rest : List (TokTy × C07Regex)) (s : Str) :
    (c07_firstMatch ((ty, r) :: rest) s).2 =
      match (r.exec s).2 with
      | some s' => some (⟨ty, s.take (s.length - s'.length)⟩, s')
      | none => (c07_firstMatch rest s).2 := by
  simp only [c07_firstMatch]
  generalize r.exec s = R
  obtain ⟨n, o⟩ := R
  cases o <;> rfl

theorem c07_firstMatch_fst (ty : TokTy) (r : C07Regex) (rest : List (TokTy × C07Regex)) (s : Str) :
    (c07_firstMatch ((ty, r) :: rest) s).1 =
      match (r.exec s).2 with
      | some _ => r.steps s
      | none => r.steps s + (c07_firstMatch rest s).1 := by
  simp only [c07_firstMatch, C07Regex.steps]
  generalize r.exec s = R
  obtain ⟨n, o⟩ := R
  cases o <;> rfl

theorem c07_firstMatch_nil (s : Str) : c07_firstMatch [] s = (0, none) := rfl

/-- STRING then UNTERMINATED_STRING inside the rule list is `c07_lexStringRx` -/
theorem c07_string_steps_of_rx (s : Str) (X : Option (Token × Str)) :
    (match (c07_stringRuleNew.exec s).2 with
     | some s' => some ((⟨.string, s.take (s.length - s'.length)⟩ : Token), s')
     | none =>
       match (c07_unterminatedRule.exec s).2 with
       | some s' => some (⟨.unterminated, s.take (s.length - s'.length)⟩, s')
       | none => X) =
    match c07_lexStringRx s with
    | some (ty, m, r) => some (⟨ty, m⟩, r)
    | none => X := by
  unfold c07_lexStringRx
  cases (c07_stringRuleNew.exec s).2 with
  | some s' => rfl
  | none =>
    cases (c07_unterminatedRule.exec s).2 with
    | some s' => rfl
    | none => rfl

def c07_ruleOK (r : C07Regex) (L : Str → Option (Str × Str)) (a b : Nat) : Prop :=
  ∀ s, r.steps s ≤ a * ((L s).map (·.1.length)).getD 0 + b ∧ (r.exec s).2 = (L s).map (·.2) ∧
    ∀ m r', L s = some (m, r') → m ++ r' = s ∧ m ≠ []

theorem c07_firstMatch_step {r : C07Regex} {L : Str → Option (Str × Str)} {a b : Nat} (h : c07_ruleOK r L a b)
    (ty : TokTy) (rest : List (TokTy × C07Regex)) (s : Str) (X : Option (Token × Str)) (B : Nat)
    (ha : a ≤ 12) (hB : a + b + B ≤ 48)
    (hrest : L s = none → (c07_firstMatch rest s).2 = X ∧ ∀ t r', X = some (t, r') →
      (c07_firstMatch rest s).1 + (B + b) ≤ 12 * t.val.length + 36) :
    (c07_firstMatch ((ty, r) :: rest) s).2 =
      (match L s with | some (m, r') => some (⟨ty, m⟩, r') | none => X) ∧
    ∀ t r', (match L s with | some (m, r') => some (⟨ty, m⟩, r') | none => X) = some (t, r') →
      (c07_firstMatch ((ty, r) :: rest) s).1 + B ≤ 12 * t.val.length + 36 := by
  obtain ⟨h1, h2, h3⟩ := h s
  rw [c07_firstMatch_fst, c07_firstMatch_snd, h2]
  cases hL : L s with
  | none =>
    obtain ⟨e, hc⟩ := hrest hL
    rw [hL] at h1
    refine ⟨e, fun t r' ht => ?_⟩
    have := hc t r' ht
    simp only [Option.map_none, Option.getD_none] at h1
    show r.steps s + (c07_firstMatch rest s).1 + B ≤ _
    omega
  | some p =>
    obtain ⟨hs, hne⟩ := h3 p.1 p.2 hL
    rw [hL] at h1
    refine ⟨by simp [c07_take_of_split p.1 p.2 s hs], fun t r' ht => ?_⟩
    obtain ⟨rfl, _⟩ := Prod.mk.inj (Option.some.inj ht)
    obtain ⟨n, hn⟩ := Nat.exists_eq_succ_of_ne_zero (mt List.eq_nil_of_length_eq_zero hne)
    have := Nat.mul_le_mul_right n ha
    simp only [Option.map_some, Option.getD_some, hn, Nat.mul_succ] at h1
    show r.steps s + B ≤ 12 * p.1.length + 36
    omega

theorem c07_ruleOK_linear {r : C07Regex} {L : Str → Option (Str × Str)} {a b : Nat} (h : c07_ruleOK r L a b)
    (s : Str) : r.steps s ≤ a * s.length + b := by
  obtain ⟨h1, _, h3⟩ := h s
  cases hL : L s with
  | none =>
    rw [hL] at h1
    exact Nat.le_trans h1 (Nat.add_le_add_right (Nat.zero_le _) b)
  | some p =>
    have := congrArg List.length (h3 p.1 p.2 hL).1
    rw [hL] at h1
    rw [← this, List.length_append, Nat.mul_add]
    exact Nat.le_trans h1 (Nat.add_le_add_right (Nat.le_add_right _ _) b)

theorem c07_ident_ok : c07_ruleOK c07_identRule lexIdent 8 8 := fun s =>
  ⟨(c07_ident_agrees s).1, (c07_ident_agrees s).2, c07_lexIdent_split s⟩

theorem c07_symbol_ok : c07_ruleOK c07_symbolRule lexSymbol 0 25 := fun s =>
  ⟨by simpa using c07_symbol_steps s, c07_symbol_result s, c07_lexSymbol_split s⟩

theorem c07_plusChr_ok (p : C07Class) : c07_ruleOK (C07Regex.plus (.chr p))
    (fun s => if (spanP p.test s).1 = [] then none else some (spanP p.test s)) 2 1 := by
  intro s
  unfold C07Regex.steps
  dsimp only
  rw [c07_plusChr_exec]
  split
  · exact ⟨Nat.le_refl _, rfl, nofun⟩
  · rename_i hne
    refine ⟨Nat.le_refl _, rfl, fun m r h => ?_⟩
    obtain ⟨rfl, rfl⟩ := Prod.mk.inj (Option.some.inj h).symm
    exact ⟨c07_spanP_split p.test s, hne⟩

theorem c07_ws_ok : c07_ruleOK c07_wsRule lexWs 2 1 := fun s => by
  rw [c07_lexWs_eq, ← c07_test_space]
  exact c07_plusChr_ok c07_ccSpace s

theorem c07_int_ok : c07_ruleOK c07_intRule lexInt 2 1 := fun s => by
  rw [c07_lexInt_eq, ← c07_test_digit']
  exact c07_plusChr_ok c07_ccDigit s

theorem c07_unknown_ok : c07_ruleOK c07_unknownRule
    (fun s => match s with | c :: cs => if isDot c then some ([c], cs) else none | [] => none) 0 1 := by
  intro s
  unfold C07Regex.steps
  rw [c07_unknownRule_exec]
  cases s with
  | nil => exact ⟨Nat.le_refl _, rfl, nofun⟩
  | cons c cs =>
    by_cases h : isDot c = true
    · simp [h]
    · simp [h]

theorem c07_string_steps_quote (cs : Str) :
    c07_stringRuleNew.steps ('\'' :: cs) ≤ 6 * (lexStringBody cs).1.length + 7 := by
  unfold C07Regex.steps c07_stringRuleNew
  rw [c07_stringRule_exec]
  have := (c07_newLoop_kq cs).1
  simp only [c07_tick_fst]
  omega

theorem c07_unterminated_steps_quote (cs : Str) :
    c07_unterminatedRule.steps ('\'' :: cs) ≤ 6 * (lexStringBody cs).1.length + 7 := by
  unfold C07Regex.steps
  rw [c07_unterminated_exec]
  have := (c07_newLoop_k0 cs).1
  simp only [c07_tick_fst]
  omega

/-- a failing STRING attempt scans the body up to the end of the input; UNTERMINATED_STRING then
    consumes that same stretch: together at most 12 steps per character of the token -/
theorem c07_string_pair_steps (s m r : Str) (ty : TokTy) (h : lexString s = some (ty, m, r)) :
    c07_stringRuleNew.steps s + c07_unterminatedRule.steps s ≤ 12 * m.length + 2 := by
  cases s with
  | nil => simp [lexString] at h
  | cons c cs =>
    by_cases hc : c = '\''
    · subst hc
      have h1 := c07_string_steps_quote cs
      have h2 := c07_unterminated_steps_quote cs
      rw [c07_lexString_quote] at h
      have hm : (lexStringBody cs).1.length + 1 ≤ m.length := by
        split at h
        · simp at h; obtain ⟨_, rfl, _⟩ := h; simp
        · simp at h; obtain ⟨_, rfl, _⟩ := h; simp
      omega
    · rw [c07_lexString_other _ (fun cs' e => hc (by simp at e; exact e.1))] at h
      simp at h

theorem c07_string_steps_none (s : Str) (h : lexString s = none) :
    c07_stringRuleNew.steps s = 1 ∧ c07_unterminatedRule.steps s = 1 := by
  unfold C07Regex.steps c07_stringRuleNew
  rw [c07_stringRule_exec, c07_unterminated_exec]
  split
  · rename_i cs; simp [lexString] at h
    generalize lexStringBody cs = p at h
    obtain ⟨m, r⟩ := p
    cases r with
    | nil => simp at h
    | cons d ds => split at h <;> simp at h
  · exact ⟨rfl, rfl⟩

theorem c07_firstMatch_fst_some (ty : TokTy) (r : C07Regex) (rest : List (TokTy × C07Regex)) (s s' : Str)
    (h : (r.exec s).2 = some s') : (c07_firstMatch ((ty, r) :: rest) s).1 = r.steps s := by
  rw [c07_firstMatch_fst, h]

theorem c07_firstMatch_fst_none (ty : TokTy) (r : C07Regex) (rest : List (TokTy × C07Regex)) (s : Str)
    (h : (r.exec s).2 = none) :
    (c07_firstMatch ((ty, r) :: rest) s).1 = r.steps s + (c07_firstMatch rest s).1 := by
  rw [c07_firstMatch_fst, h]

theorem c07_stringRx_none (s : Str) (h : lexString s = none) :
    (c07_stringRuleNew.exec s).2 = none ∧ (c07_unterminatedRule.exec s).2 = none := by
  have hx := c07_lexStringRx_eq s
  unfold c07_lexStringRx at hx
  rw [h] at hx
  cases hq : (c07_stringRuleNew.exec s).2 with
  | some _ => rw [hq] at hx; simp at hx
  | none =>
    rw [hq] at hx
    cases hu : (c07_unterminatedRule.exec s).2 with
    | some _ => rw [hu] at hx; simp at hx
    | none => exact ⟨rfl, rfl⟩

theorem c07_stringRx_some (s m r : Str) (ty : TokTy) (h : lexString s = some (ty, m, r)) :
    (∃ s', (c07_stringRuleNew.exec s).2 = some s') ∨
    ((c07_stringRuleNew.exec s).2 = none ∧ ∃ s', (c07_unterminatedRule.exec s).2 = some s') := by
  have hx := c07_lexStringRx_eq s
  unfold c07_lexStringRx at hx
  rw [h] at hx
  cases hq : (c07_stringRuleNew.exec s).2 with
  | some s' => exact Or.inl ⟨s', rfl⟩
  | none =>
    rw [hq] at hx
    cases hu : (c07_unterminatedRule.exec s).2 with
    | some s' => exact Or.inr ⟨rfl, s', rfl⟩
    | none => rw [hu] at hx; simp at hx

/-- a failing STRING attempt is paid for by the token that UNTERMINATED_STRING then reads -/
theorem c07_firstMatch_string (rest : List (TokTy × C07Regex)) (s : Str) (X : Option (Token × Str)) (B : Nat)
    (hB : B ≤ 34)
    (hrest : lexString s = none → (c07_firstMatch rest s).2 = X ∧ ∀ t r', X = some (t, r') →
      (c07_firstMatch rest s).1 + (B + 2) ≤ 12 * t.val.length + 36) :
    (c07_firstMatch ((.string, c07_stringRuleNew) :: (.unterminated, c07_unterminatedRule) :: rest) s).2 =
      (match lexString s with | some (ty, m, r') => some (⟨ty, m⟩, r') | none => X) ∧
    ∀ t r', (match lexString s with | some (ty, m, r') => some (⟨ty, m⟩, r') | none => X) = some (t, r') →
      (c07_firstMatch ((.string, c07_stringRuleNew) :: (.unterminated, c07_unterminatedRule) :: rest) s).1 + B ≤
        12 * t.val.length + 36 := by
  rw [c07_firstMatch_snd, c07_firstMatch_snd, c07_string_steps_of_rx, c07_lexStringRx_eq]
  cases h4 : lexString s with
  | some p =>
    obtain ⟨ty, m, r'⟩ := p
    refine ⟨rfl, fun t r'' ht => ?_⟩
    obtain ⟨rfl, _⟩ := Prod.mk.inj (Option.some.inj ht)
    have c4 := c07_string_pair_steps s m r' ty h4
    rcases c07_stringRx_some s m r' ty h4 with ⟨s', hs⟩ | ⟨hs, s', hu⟩
    · rw [c07_firstMatch_fst_some _ _ _ s s' hs]
      show _ ≤ 12 * m.length + 36
      omega
    · rw [c07_firstMatch_fst_none _ _ _ s hs, c07_firstMatch_fst_some _ _ _ s s' hu]
      show _ ≤ 12 * m.length + 36
      omega
  | none =>
    obtain ⟨e, hc⟩ := hrest h4
    have c4 := c07_string_steps_none s h4
    have hsu := c07_stringRx_none s h4
    refine ⟨e, fun t r' ht => ?_⟩
    have := hc t r' ht
    rw [c07_firstMatch_fst_none _ _ _ s hsu.1, c07_firstMatch_fst_none _ _ _ s hsu.2]
    omega

theorem c07_firstMatch_spec (s : Str) :
    (c07_firstMatch c07_handRules s).2 = lexOne s ∧
    ∀ t r, lexOne s = some (t, r) → (c07_firstMatch c07_handRules s).1 ≤ 12 * t.val.length + 36 := by
  unfold c07_handRules lexOne
  refine c07_firstMatch_step c07_ident_ok _ _ s _ 0 (by omega) (by omega) fun _ => ?_
  refine c07_firstMatch_step c07_symbol_ok _ _ s _ 8 (by omega) (by omega) fun _ => ?_
  refine c07_firstMatch_step c07_ws_ok _ _ s _ 33 (by omega) (by omega) fun _ => ?_
  refine c07_firstMatch_string _ s _ 34 (by omega) fun _ => ?_
  refine c07_firstMatch_step c07_int_ok _ _ s _ 36 (by omega) (by omega) fun _ => ?_
  have h := c07_firstMatch_step c07_unknown_ok .unknown [] s none 37 (by omega) (by omega) fun _ => ⟨rfl, nofun⟩
  cases s with
  | nil => exact h
  | cons c cs => cases hd : isDot c <;> simp only [hd] at h ⊢ <;> exact h

theorem c07_firstMatch_lexOne (s : Str) : (c07_firstMatch c07_handRules s).2 = lexOne s :=
  (c07_firstMatch_spec s).1

theorem c07_firstMatch_cost (s r : Str) (t : Token) (h : lexOne s = some (t, r)) :
    (c07_firstMatch c07_handRules s).1 ≤ 12 * t.val.length + 36 :=
  (c07_firstMatch_spec s).2 t r h

theorem c07_tokeniseRxFuel_cons (rules : List (TokTy × C07Regex)) (f : Nat) (c : Char) (cs : Str) :
    c07_tokeniseRxFuel rules (f+1) (c :: cs) =
      match c07_firstMatch rules (c :: cs) with
      | (n, some (t, r)) => (n + (c07_tokeniseRxFuel rules f r).1, (c07_tokeniseRxFuel rules f r).2.map (t :: ·))
      | (n, none) => (n, none) := by
  rfl

/-- with the same fuel the regex-driven loop and the hand-written loop give the same tokens -/
theorem c07_tokeniseRxFuel_eq (f : Nat) : ∀ s : Str,
    (c07_tokeniseRxFuel c07_handRules f s).2 = tokeniseFuel f s := by
  induction f with
  | zero => intro s; cases s <;> rfl
  | succ f ih =>
    intro s
    cases s with
    | nil => rfl
    | cons c cs =>
      rw [c07_tokeniseRxFuel_cons, c07_tokeniseFuel_cons, ← c07_firstMatch_lexOne]
      generalize c07_firstMatch c07_handRules (c :: cs) = R
      obtain ⟨n, o⟩ := R
      cases o with
      | none => rfl
      | some p =>
        obtain ⟨t, r⟩ := p
        simp only [ih r]

/-- fuel does not matter for the regex-driven loop either (tokens AND steps) once it covers the
    input: every successful match consumes a character -/
theorem c07_tokeniseRxFuel_stable (f : Nat) : ∀ (g : Nat) (s : Str), s.length ≤ f → s.length ≤ g →
    c07_tokeniseRxFuel c07_handRules f s = c07_tokeniseRxFuel c07_handRules g s := by
  induction f with
  | zero =>
    intro g s hf _
    have : s = [] := List.eq_nil_of_length_eq_zero (by omega)
    subst this
    cases g <;> rfl
  | succ f ih =>
    intro g s hf hg
    cases s with
    | nil => cases g <;> rfl
    | cons c cs =>
      cases g with
      | zero => simp at hg
      | succ g =>
        rw [c07_tokeniseRxFuel_cons, c07_tokeniseRxFuel_cons]
        have hl := c07_firstMatch_lexOne (c :: cs)
        generalize c07_firstMatch c07_handRules (c :: cs) = R at hl ⊢
        obtain ⟨n, o⟩ := R
        cases o with
        | none => rfl
        | some p =>
          obtain ⟨t, r⟩ := p
          have := c07_lexOne_shorter _ _ _ hl.symm
          simp only
          rw [ih g r (by simp at hf this; omega) (by simp at hg this; omega)]

end Mammoth
