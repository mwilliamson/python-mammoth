/-
  C09 — "Tables keep their grid".

  Reader side (`calculateRowSpans`, the model of `calculate_row_spans` in docx/body_xml.py):
  rows and header flags are preserved, only continuation cells can disappear, and on a well-formed
  grid exactly the continuation cells disappear while every other cell gets
  rowspan = 1 + the length of the vertical-merge chain below it.
  Layout: laying the (colspan, rowspan) cells that `calculateRowSpans` returns out by the HTML table
  algorithm (`c09_htmlLayout`) puts on every grid position exactly the cell that owns it in the
  document (`c09_docGrid`), and nothing outside the grid.
  Converter side (`visit` on `.table` / `.row` / `.cell`): `thead`/`tbody` split at `bodyIndex`,
  one `tr` per row, one `th`/`td` per cell with `colspan`/`rowspan` attributes present iff ≠ 1.
-/
import Proofs.C09_Rebuild
import Proofs.C09_General
import Proofs.C09_Convert
import Proofs.C09_DocGrid
import Proofs.C09_XmlGrid
import Proofs.C09_Ext7
import Proofs.Eval
namespace Mammoth

/-! ## 1. `calculate_row_spans` on a well-formed grid -/

/-- On a well-formed grid (`c09_validGrid`: spans ≥ 1, equal row widths, every continuation cell has
    directly above it a `restart`/`cont` cell with the same start column and span) `calculate_row_spans`
    emits no warning and returns, row by row (header flags `hdr i` unchanged), exactly the
    non-continuation cells in order, each with `colspan = span`, its content, and
    `rowspan = 1 + c09_chain below startColumn`, the number of consecutive following rows that have a
    continuation cell at the same start column. -/
theorem C09_rowspans_spec (hdr : Nat → Bool) (rows : List c09_Row) (h : c09_validGrid rows = true) :
    calculateRowSpans (c09_toElems hdr rows) = (c09_expected hdr rows, []) := by
  unfold c09_toElems c09_expected
  rw [(c09e7_cases _).2.2 (c09_toElems_shape hdr rows 0),
    c09_rebuild_rows hdr rows [] 0 {} c09_fresh_init (c09_validGrid_from h)
      (fun s h => by simp [c09_findStart] at h)]

/-! ## 2. `calculate_row_spans` on any input -/

/-- For every list of table children, position by position (`c09_rowKept`): a non-row is returned
    unchanged; a row keeps its header flag and its cells form a subsequence of the original cells
    (same order, colspan and content unchanged — `c09_cellKey` forgets only rowspan and the `_vmerge`
    mark) that contains every cell that is not a continuation cell: only continuation cells are
    ever removed. -/
theorem C09_kept_cells (rows : List Elem) :
    c09_Forall2 c09_rowKept rows (calculateRowSpans rows).1 := by
  unfold calculateRowSpans
  split
  · exact c09_Forall2_refl c09_rowKept_refl rows
  · split
    · exact c09_Forall2_refl c09_rowKept_refl rows
    · apply c09_rebuildRows_kept
      intro j h cells i c rs ch hj hi hmem
      have := c09_drops_are_vm rows _ hmem
      simp [c09_vmAt, hj, hi] at this

/-- For every list of table children: the result has the same length and, position by position, the same
    kind (row / not a row) and the same header flag. -/
theorem C09_rows_preserved (rows : List Elem) :
    (calculateRowSpans rows).1.length = rows.length ∧
    (calculateRowSpans rows).1.map c09_rowFlag = rows.map c09_rowFlag := by
  have h := C09_kept_cells rows
  exact ⟨h.length_eq.symm, c09_Forall2_map_eq c09_rowFlag (fun _ _ => c09_rowKept_flag) h⟩

/-- the kept cells of a row are exactly the cells whose position is not in the sweep's drop list
    (and all those positions hold continuation cells, `c09_drops_are_vm`) -/
theorem C09_dropped_are_continuations (rows : List Elem) (r pos : Nat)
    (h : (r, pos) ∈ (sweepRows rows 0 {}).drops) : c09_vmAt rows r pos = true :=
  c09_drops_are_vm rows (r, pos) h


/-! ## 3. the HTML layout of the result is the document grid -/

/-- On a well-formed grid, lay out the rows returned by `calculate_row_spans` (their cells' colspan and
    rowspan, in order) by the HTML table algorithm (`c09_htmlLayout`: each cell takes the next column of
    its row not occupied by a cell growing down from above, and occupies colspan columns × rowspan rows).
    Then for every row `y` and column `x` the list of HTML cells lying on slot (y, x) is exactly the owner
    of that position in the document (`c09_docGrid`: a continuation cell's columns belong to the owner of
    the same columns in the row above; identities are (row, index among the row's kept cells)) — a
    one-element list where the document has an owner, the empty list where it has none. -/
theorem C09_layout_eq (hdr : Nat → Bool) (rows : List c09_Row) (h : c09_validGrid rows = true) (y x : Nat) :
    c09_htmlLayout (c09_cellsOf (calculateRowSpans (c09_toElems hdr rows)).1) y x
      = (c09_docGrid rows y x).toList := by
  rw [C09_rowspans_spec hdr rows h]
  show c09_htmlLayout (c09_cellsOf (c09_expectedFrom hdr 0 rows)) y x = _
  rw [c09_cellsOf_expected]
  exact c09_layout_eq_spec rows (c09_validGrid_from h) y x

/-- no gap, no overlap: every position inside the grid (row `y` exists, `x` is less than its width) is
    covered by exactly one HTML cell, the document owner of the position -/
theorem C09_layout_inside (hdr : Nat → Bool) (rows : List c09_Row) (h : c09_validGrid rows = true)
    (y x : Nat) (row : c09_Row) (hy : rows[y]? = some row) (hx : x < c09_width row) :
    ∃ id, c09_docGrid rows y x = some id ∧
      c09_htmlLayout (c09_cellsOf (calculateRowSpans (c09_toElems hdr rows)).1) y x = [id] := by
  have hs := (c09_docGrid_isSome rows (c09_validGrid_from h) y x).mpr ⟨row, hy, hx⟩
  cases hd : c09_docGrid rows y x with
  | none => simp [hd] at hs
  | some id => exact ⟨id, rfl, by rw [C09_layout_eq hdr rows h y x, hd]; rfl⟩

/-- nothing is laid out outside the grid -/
theorem C09_layout_outside (hdr : Nat → Bool) (rows : List c09_Row) (h : c09_validGrid rows = true)
    (y x : Nat) (hout : ∀ row, rows[y]? = some row → c09_width row ≤ x) :
    c09_htmlLayout (c09_cellsOf (calculateRowSpans (c09_toElems hdr rows)).1) y x = [] := by
  rw [C09_layout_eq hdr rows h y x]
  cases hd : c09_docGrid rows y x with
  | none => rfl
  | some id =>
    obtain ⟨row, hy, hx⟩ := (c09_docGrid_isSome rows (c09_validGrid_from h) y x).mp (by simp [hd])
    have := hout row hy; omega

/-- in a well-formed grid all rows have the width of the first row -/
theorem C09_valid_width (rows : List c09_Row) (h : c09_validGrid rows = true) (r0 row : c09_Row) (y : Nat)
    (h0 : rows[0]? = some r0) (hy : rows[y]? = some row) : c09_width row = c09_width r0 := by
  cases rows with
  | nil => simp at h0
  | cons r rs =>
    simp only [List.getElem?_cons_zero, Option.some.injEq] at h0; subst h0
    cases y with
    | zero => simp at hy; rw [hy]
    | succ y =>
      simp only [c09_validGrid, Bool.and_eq_true, List.all_eq_true] at h
      simp only [List.getElem?_cons_succ] at hy
      have := h.2 row (List.mem_of_getElem? hy)
      simpa using this

/-! ## 4. the converter: `thead`/`tbody`, `tr`, `th`/`td` -/

/-- `body_index` is the length of the maximal prefix of header rows, and splits the rows there -/
theorem C09_bodyIndex (rows : List Elem) :
    bodyIndex rows = (rows.takeWhile isHeaderRow).length ∧
    rows.take (bodyIndex rows) = rows.takeWhile isHeaderRow ∧
    rows.drop (bodyIndex rows) = rows.dropWhile isHeaderRow :=
  ⟨c09_bodyIndex_eq rows, c09_take_bodyIndex rows, c09_drop_bodyIndex rows⟩

/-- `bodyIndex rows = 0` iff there is no first row or the first row is not a header row -/
theorem C09_bodyIndex_zero (rows : List Elem) :
    bodyIndex rows = 0 ↔ (rows.head?.map isHeaderRow).getD false = false := by
  cases rows with
  | nil => simp [bodyIndex]
  | cons r rs => by_cases h : isHeaderRow r = true <;> simp [bodyIndex, h]

/-- a cell becomes one `th` (header context) or `td` element with attributes `cellAttrs colspan rowspan`,
    whose first child is the force-write marker, followed by the converted content -/
theorem C09_visit_cell (cfg : Cfg) (hdr : Bool) (colspan rowspan : Nat) (vm : Bool) (cs : List Elem) :
    visit cfg hdr (.cell colspan rowspan vm cs) =
      (do let ns ← visitAll cfg hdr cs
          pure [el (if hdr then S!"th" else S!"td") (cellAttrs colspan rowspan) (.forceWrite :: ns)]) :=
  c09_visit_cell cfg hdr colspan rowspan vm cs

/-- the `colspan` / `rowspan` attributes are present iff the value is not 1, in this order -/
theorem C09_cellAttrs (colspan rowspan : Nat) :
    cellAttrs colspan rowspan =
      (if colspan = 1 then [] else [(S!"colspan", natToStr colspan)]) ++
      (if rowspan = 1 then [] else [(S!"rowspan", natToStr rowspan)]) := by
  by_cases h1 : colspan = 1 <;> by_cases h2 : rowspan = 1 <;> simp [cellAttrs, h1, h2]

/-- a row becomes one `tr` element: the force-write marker, then the converted cells -/
theorem C09_visit_row (cfg : Cfg) (hdr h : Bool) (cells : List Elem) :
    visit cfg hdr (.row h cells) =
      (do let ns ← visitAll cfg hdr cells
          pure [el S!"tr" [] (.forceWrite :: ns)]) :=
  c09_visit_row cfg hdr h cells

/-- a table (not mapped to `!`): the first `bodyIndex rows` rows are visited in header context, the others
    in body context; without header rows the `tr`s are the table's children, otherwise they are grouped in
    `thead` / `tbody`; the force-write marker comes first -/
theorem C09_visit_table (cfg : Cfg) (hdr : Bool) (sid sname : Option Str) (rows : List Elem) (es : List Tag)
    (hpath : (findPath cfg (.table sid sname)).getD (.elements [pathElem S!"table" true]) = .elements es) :
    visit cfg hdr (.table sid sname rows) =
      (do let head ← visitAll cfg true (rows.take (bodyIndex rows))
          let body ← visitAll cfg false (rows.drop (bodyIndex rows))
          pure (wrapElems es (.forceWrite ::
            (if bodyIndex rows == 0 then body else [el S!"thead" [] head, el S!"tbody" [] body])))) := by
  rw [c09_visit_table, hpath, c09_visitRows_true]
  simp

/-- Structure of a converted table.  If all children of the table are rows of cells and the conversion
    succeeds, the emitted nodes are the table path wrapped around: the force-write marker, then either the
    body `tr`s (no leading header row) or `thead` with the `tr`s of the first `bodyIndex rows` rows and
    `tbody` with the others; row by row and cell by cell (`c09_rowRel`, `c09_cellRel`): one `tr` per
    row, one `th` (head part) / `td` (body part) per cell, in order, each with attributes
    `cellAttrs colspan rowspan` and a leading force-write marker. -/
theorem C09_table_structure (cfg : Cfg) (hdr : Bool) (sid sname : Option Str) (rows : List Elem)
    (es : List Tag) (s s' : ConvState) (nodes : List Node)
    (hrows : rows.all (fun r => isRow r && (rowCells r).all isCell) = true)
    (hpath : (findPath cfg (.table sid sname)).getD (.elements [pathElem S!"table" true]) = .elements es)
    (hrun : (visit cfg hdr (.table sid sname rows)).run s = .ok (nodes, s')) :
    ∃ headNs bodyNs,
      nodes = wrapElems es (.forceWrite ::
        (if bodyIndex rows = 0 then bodyNs else [el S!"thead" [] headNs, el S!"tbody" [] bodyNs])) ∧
      c09_Forall2 (c09_rowRel true) (rows.take (bodyIndex rows)) headNs ∧
      c09_Forall2 (c09_rowRel false) (rows.drop (bodyIndex rows)) bodyNs := by
  rw [C09_visit_table cfg hdr sid sname rows es hpath, run_bind_ok] at hrun
  obtain ⟨headNs, s1, h1, hrun⟩ := hrun
  rw [run_bind_ok] at hrun
  obtain ⟨bodyNs, s2, h2, hrun⟩ := hrun
  rw [run_pure_ok] at hrun
  have hall := List.all_eq_true.mp hrows
  refine ⟨headNs, bodyNs, ?_, ?_, ?_⟩
  · rw [← hrun.1]; by_cases hb : bodyIndex rows = 0 <;> simp [hb]
  · exact c09_visitAll_rows cfg true _
      (List.all_eq_true.mpr fun x hx => hall x (List.mem_of_mem_take hx)) s s1 headNs h1
  · exact c09_visitAll_rows cfg false _
      (List.all_eq_true.mpr fun x hx => hall x (List.mem_of_mem_drop hx)) s1 s2 bodyNs h2

/-! ## 5. examples (non-vacuity) -/

-- `c09_ex` (Proofs/C09_Grid.lean): a 3×3 grid; column 0 of rows 0–1 is one vertically merged cell,
-- columns 1–2 of row 0 are one wide cell

example : c09_validGrid c09_ex = true := by decide +kernel

example : calculateRowSpans (c09_toElems (fun i => i == 0) c09_ex) =
    ([.row true [.cell 1 2 false [.text S!"a"], .cell 2 1 false [.text S!"b"]],
      .row false [.cell 1 1 false [], .cell 1 1 false []],
      .row false [.cell 1 1 false [], .cell 1 1 false [], .cell 1 1 false []]], []) := by rfl

example : c09_expected (fun i => i == 0) c09_ex =
    [.row true [.cell 1 2 false [.text S!"a"], .cell 2 1 false [.text S!"b"]],
     .row false [.cell 1 1 false [], .cell 1 1 false []],
     .row false [.cell 1 1 false [], .cell 1 1 false [], .cell 1 1 false []]] := by rfl

/-- the layout of the example: slot by slot the owning HTML cell (row, index) -/
example : (List.range 4).map (fun y => (List.range 4).map fun x =>
      c09_htmlLayout (c09_cellsOf (calculateRowSpans (c09_toElems (fun i => i == 0) c09_ex)).1) y x) =
    [[[(0, 0)], [(0, 1)], [(0, 1)], []],
     [[(0, 0)], [(1, 0)], [(1, 1)], []],
     [[(2, 0)], [(2, 1)], [(2, 2)], []],
     [[], [], [], []]] := by decide +kernel

example : (List.range 4).map (fun y => (List.range 4).map fun x => c09_docGrid c09_ex y x) =
    [[some (0, 0), some (0, 1), some (0, 1), none],
     [some (0, 0), some (1, 0), some (1, 1), none],
     [some (2, 0), some (2, 1), some (2, 2), none],
     [none, none, none, none]] := by decide +kernel

/-- the layout function does see overlaps and gaps in ill-formed HTML tables: here the second cell of
    row 0 grows down into column 1 of row 1, where the wide cell of row 1 also lies; column 2 is empty -/
example : (List.range 3).map (fun x => c09_htmlLayout [[(1, 1), (1, 2)], [(2, 1)]] 1 x) =
    [[(1, 0)], [(0, 1), (1, 0)], []] := by decide +kernel

/-- CAVEAT (not covered by `C09_layout_eq`, which lays all rows out as one row group): the converter
    puts the leading header rows in `thead` and the others in `tbody`, and HTML cuts every rowspan at the
    end of its row group.  A vertical merge that starts in a header row and continues into a body row
    therefore does not keep the grid in a browser: here (2×2, column 0 merged over both rows, row 0 a
    header row) the only cell of the body row lands in column 0 instead of column 1, and column 1 of row 1
    stays empty. -/
example :
    let rows : List c09_Row := [[⟨1, .restart, []⟩, ⟨1, .none, []⟩], [⟨1, .cont, []⟩, ⟨1, .none, []⟩]]
    let out := (calculateRowSpans (c09_toElems (fun i => i == 0) rows)).1
    c09_validGrid rows = true ∧ bodyIndex out = 1 ∧
    (List.range 2).map (fun x => c09_htmlLayoutGroups (c09_cellsOf out) (bodyIndex out) 1 x) = [[(1, 0)], []] ∧
    (List.range 2).map (fun x => c09_docGrid rows 1 x) = [some (0, 0), some (1, 0)] ∧
    (List.range 2).map (fun x => c09_htmlLayout (c09_cellsOf out) 1 x) = [[(0, 0)], [(1, 0)]] := by
  decide +kernel

example : bodyIndex (calculateRowSpans (c09_toElems (fun i => i == 0) c09_ex)).1 = 1 := by decide +kernel

/-- the converted example: `thead` with one `tr` of two `th`, `tbody` with two `tr`s of `td`s -/
example : ((visit {} false (.table none none (calculateRowSpans (c09_toElems (fun i => i == 0) c09_ex)).1)).run {}).toOption.map (·.1) =
    some [el S!"table" []
      [.forceWrite,
       el S!"thead" [] [el S!"tr" [] [.forceWrite,
          el S!"th" [(S!"rowspan", S!"2")] [.forceWrite, .text S!"a"],
          el S!"th" [(S!"colspan", S!"2")] [.forceWrite, .text S!"b"]]],
       el S!"tbody" []
         [el S!"tr" [] [.forceWrite, el S!"td" [] [.forceWrite], el S!"td" [] [.forceWrite]],
          el S!"tr" [] [.forceWrite, el S!"td" [] [.forceWrite], el S!"td" [] [.forceWrite],
            el S!"td" [] [.forceWrite]]]]] := by c05_kernel_rfl

/-! ## 6. END TO END: from the XML of a table

Specification functions on the XML (Proofs/C09_Xml.lean, written with `c11x_named` / `c11x_propVal`, not with the
reader's helpers): `c09x_gridSpan tcPr` — `w:gridSpan/@w:val` as a decimal number, 1 if absent; `c09x_merge tcPr` — no
`w:vMerge`: none; `w:vMerge` without value, with an empty value or `continue`: continuation; any other value
(`restart`): restart; `c09x_isHeader` — the row's `w:trPr` has a `w:tblHeader`; `c09x_xmlGrid cs` — one row per `w:tr`
child of the table, one cell (span, merge kind, no content) per `w:tc` child of the row; `c09x_xmlHdr cs` — the header
flags of the rows.  `c09x_tableShape cs`: every element child of the `w:tbl` is a `w:tr` or has no handler (`w:tblPr`,
`w:tblGrid`, unknown elements), every element child of such a `w:tr` is a `w:tc` or has no handler (`w:trPr`, …);
the content of the cells is arbitrary.
`c09x_readRows env f st cs`: the grid with the cells' contents as the element reader (fuel `f`) reads them, in document
order, threading the reader state; with the extra elements and messages of the contents (plus the messages about
unknown elements). -/

/-- the reader's view of a cell: colspan = grid span, rowspan 1, the `_vmerge` mark iff the merge kind read off the
    XML is "continuation"; the mark is what `read_vmerge` computes -/
theorem C09_xml_cell_props (tcPr : List XmlNode) :
    readVmerge tcPr = (c09x_merge tcPr == .cont) ∧
    (∀ n, c09x_spanE tcPr = .ok n → c09x_gridSpan tcPr = some n) ∧
    (childAttr S!"w:gridSpan" S!"w:val" tcPr = none → c09x_gridSpan tcPr = some 1) := by
  refine ⟨c09x_readVmerge tcPr, fun n h => c09x_spanE_ok h, fun h => ?_⟩
  rw [c11x_childAttr] at h
  simp [c09x_gridSpan, h]

/-- READER HALF.  For a `w:tbl` (any attributes) whose children `cs` have the table shape, the element reader with
    fuel `f+3` returns — or fails — exactly as the structured reading `c09x_readRows` of the rows with fuel `f` for the
    cell contents does; on success the result is ONE table element
    `.table styleId styleName (calculateRowSpans (c09_toElems hdr grid)).1`, where `grid` is the grid read
    (`c09_toElems`: one `.row` per `w:tr` with its header flag, one `.cell span 1 isContinuation content` per `w:tc`),
    with the contents' extra elements and the messages (style warning, contents, `calculate_row_spans`). -/
theorem C09_read_table (env : REnv) (f : Nat) (st : RState) (as : Attrs) (cs : List XmlNode)
    (hshape : c09x_tableShape cs = true) :
    readElem env (f+3) st (.elem S!"w:tbl" as cs) =
      (c09x_readRows env f st cs).map fun p =>
        ({ elements := [.table (c09x_tblStyle env cs).1.1 (c09x_tblStyle env cs).1.2
              (calculateRowSpans (c09_toElems (c09x_hdrFn (p.1.1.map (·.1))) (p.1.1.map (·.2)))).1],
           extra := p.1.2.1,
           messages := (c09x_tblStyle env cs).2 ++ (p.1.2.2 ++
              (calculateRowSpans (c09_toElems (c09x_hdrFn (p.1.1.map (·.1))) (p.1.1.map (·.2)))).2) }, p.2) :=
  c09x_read_table env f st as cs hshape

/-- the grid that is read is, cell contents apart, the grid read off the XML alone, with the XML's header flags -/
theorem C09_read_grid_is_xml_grid (env : REnv) (f : Nat) (st : RState) (cs : List XmlNode)
    (p : c09x_Res (List (Bool × c09_Row))) (hread : c09x_readRows env f st cs = .ok p) :
    (p.1.1.map (·.2)).map (fun row => row.map c09x_strip) = c09x_xmlGrid cs ∧ p.1.1.map (·.1) = c09x_xmlHdr cs := by
  obtain ⟨h1, h2⟩ := c09x_readRows_grid env f cs st p hread
  exact ⟨by rw [← h1]; simp [List.map_map, Function.comp], h2⟩

/-- validity and the document grid do not look at the contents of the cells -/
theorem C09_grid_content_irrelevant (rows : List c09_Row) (y x : Nat) :
    c09_validGrid (rows.map fun row => row.map c09x_strip) = c09_validGrid rows ∧
    c09_docGrid (rows.map fun row => row.map c09x_strip) y x = c09_docGrid rows y x :=
  ⟨c09x_validGrid_strip rows, c09x_docGrid_strip rows y x⟩

/-- FROM THE XML TO THE LAYOUT.  Hypotheses, all on the XML: the children `cs` of the `w:tbl` have the table shape
    (`hshape`); the grid read off the XML is well-formed (`hvalid`: every `w:gridSpan` is a number ≥ 1, all rows have
    the same total width, every continuation cell has directly above it a restart/continuation cell with the same
    start column and span); and the element reader (ANY fuel `g`) succeeds on the table (`hread`).
    Then the result is one table element whose rows are `c09_expected hdr grid` for a grid that is the XML grid with
    contents filled in — one row per `w:tr` with its header flag, in it one cell per `w:tc` that is not a
    continuation, colspan = `w:gridSpan`, rowspan = 1 + the number of continuation cells below it — and laying these
    rows out by the HTML table algorithm puts on every slot (y, x) exactly the owner of that position in the XML
    grid (`c09_docGrid`), and nothing where the XML grid has no cell. -/
theorem C09_xml_table_layout (env : REnv) (g : Nat) (st st1 : RState) (as : Attrs) (cs : List XmlNode)
    (rr : ReadResult)
    (hshape : c09x_tableShape cs = true)
    (hvalid : c09_validGrid (c09x_xmlGrid cs) = true)
    (hread : readElem env g st (.elem S!"w:tbl" as cs) = .ok (rr, st1)) :
    ∃ grid : List c09_Row,
      grid.map (fun row => row.map c09x_strip) = c09x_xmlGrid cs ∧
      c09_validGrid grid = true ∧
      rr.elements = [.table (c09x_tblStyle env cs).1.1 (c09x_tblStyle env cs).1.2
                      (c09_expected (c09x_hdrFn (c09x_xmlHdr cs)) grid)] ∧
      ∀ y x, c09_htmlLayout (c09_cellsOf (c09_expected (c09x_hdrFn (c09x_xmlHdr cs)) grid)) y x =
               (c09_docGrid (c09x_xmlGrid cs) y x).toList := by
  have h3 := (c05_readElem_le2_add env g 3 st _).ok _ hread
  rw [c09x_read_table env g st as cs hshape] at h3
  cases hp : c09x_readRows env g st cs with
  | error e => rw [hp] at h3; cases h3
  | ok p =>
    rw [hp] at h3
    simp only [Except.map, Except.ok.injEq] at h3
    obtain ⟨hg, hh⟩ := C09_read_grid_is_xml_grid env g st cs p hp
    have hv : c09_validGrid (p.1.1.map (·.2)) = true := by
      rw [← (C09_grid_content_irrelevant _ 0 0).1, hg]
      exact hvalid
    rw [c09x_tableResult, hh, C09_rowspans_spec _ _ hv] at h3
    refine ⟨p.1.1.map (·.2), hg, hv, ?_, ?_⟩
    · rw [← (Prod.mk.inj h3).1]
    · intro y x
      have := C09_layout_eq (c09x_hdrFn (c09x_xmlHdr cs)) _ hv y x
      rw [C09_rowspans_spec _ _ hv] at this
      rw [this, ← hg]
      exact congrArg Option.toList (c09x_docGrid_strip _ y x).symm

/-- …AND TO THE HTML.  Under the same hypotheses, if the table is not mapped to `!` (`hpath`) and converting the
    element(s) read succeeds (`hrun`), the nodes are the table path around: the force-write marker, then the `tr`s
    (or `thead` / `tbody` of `tr`s when the first row is a header row), one `tr` per row and, per row, one `th`/`td`
    per cell of `c09_expected hdr grid` with attributes `cellAttrs colspan rowspan` (`c09_rowRel`) — the cells whose
    HTML layout is the document grid by `C09_xml_table_layout`. -/
theorem C09_xml_table_html (env : REnv) (g : Nat) (st st1 : RState) (as : Attrs) (cs : List XmlNode)
    (rr : ReadResult) (cfg : Cfg) (hdr : Bool) (es : List Tag) (s s' : ConvState) (nodes : List Node)
    (hshape : c09x_tableShape cs = true)
    (hvalid : c09_validGrid (c09x_xmlGrid cs) = true)
    (hread : readElem env g st (.elem S!"w:tbl" as cs) = .ok (rr, st1))
    (hpath : (findPath cfg (.table (c09x_tblStyle env cs).1.1 (c09x_tblStyle env cs).1.2)).getD
                (.elements [pathElem S!"table" true]) = .elements es)
    (hrun : (visitAll cfg hdr rr.elements).run s = .ok (nodes, s')) :
    ∃ (grid : List c09_Row) (rows : List Elem) (headNs bodyNs : List Node),
      grid.map (fun row => row.map c09x_strip) = c09x_xmlGrid cs ∧
      rows = c09_expected (c09x_hdrFn (c09x_xmlHdr cs)) grid ∧
      (∀ y x, c09_htmlLayout (c09_cellsOf rows) y x = (c09_docGrid (c09x_xmlGrid cs) y x).toList) ∧
      nodes = wrapElems es (.forceWrite ::
        (if bodyIndex rows = 0 then bodyNs else [el S!"thead" [] headNs, el S!"tbody" [] bodyNs])) ∧
      c09_Forall2 (c09_rowRel true) (rows.take (bodyIndex rows)) headNs ∧
      c09_Forall2 (c09_rowRel false) (rows.drop (bodyIndex rows)) bodyNs := by
  obtain ⟨grid, hg, _, hel, hlay⟩ := C09_xml_table_layout env g st st1 as cs rr hshape hvalid hread
  rw [hel, c09_visitAll_cons, run_bind_ok] at hrun
  obtain ⟨a, s1, h1, hrun⟩ := hrun
  rw [c09_visitAll_nil, run_bind_ok] at hrun
  obtain ⟨b, s2, h2, hrun⟩ := hrun
  rw [run_pure_ok] at h2 hrun
  obtain ⟨headNs, bodyNs, hn, hh, hb⟩ := C09_table_structure cfg hdr _ _ _ es s s1 a
    (c09x_expected_rows _ grid 0) hpath h1
  refine ⟨grid, _, headNs, bodyNs, hg, rfl, hlay, ?_, hh, hb⟩
  rw [← hrun.1, ← h2.1, List.append_nil, hn]
  rfl

/-! example: the grid `c09_ex` as XML —
    `<w:tbl><w:tblPr/><w:tblGrid/>
       <w:tr><w:trPr><w:tblHeader/></w:trPr>
             <w:tc><w:tcPr><w:vMerge w:val="restart"/></w:tcPr><w:p><w:r><w:t>a</w:t></w:r></w:p></w:tc>
             <w:tc><w:tcPr><w:gridSpan w:val="2"/></w:tcPr><w:p><w:r><w:t>b</w:t></w:r></w:p></w:tc></w:tr>
       <w:tr><w:tc><w:tcPr><w:vMerge/></w:tcPr></w:tc><w:tc/><w:tc/></w:tr>
       <w:tr><w:tc/><w:tc><w:tcPr><w:gridSpan w:val="1"/></w:tcPr></w:tc><w:tc/></w:tr></w:tbl>` -/
private def c09x_para (t : Str) : XmlNode :=
  .elem S!"w:p" [] [.elem S!"w:r" [] [.elem S!"w:t" [] [.text t]]]
private def c09x_tc (tcPr : List XmlNode) (content : List XmlNode) : XmlNode :=
  .elem S!"w:tc" [] (.elem S!"w:tcPr" [] tcPr :: content)
private def c09x_exTbl : List XmlNode :=
  [.elem S!"w:tblPr" [] [], .elem S!"w:tblGrid" [] [],
   .elem S!"w:tr" [] [.elem S!"w:trPr" [] [.elem S!"w:tblHeader" [] []],
      c09x_tc [.elem S!"w:vMerge" [(S!"w:val", S!"restart")] []] [c09x_para S!"a"],
      c09x_tc [.elem S!"w:gridSpan" [(S!"w:val", S!"2")] []] [c09x_para S!"b"]],
   .elem S!"w:tr" [] [c09x_tc [.elem S!"w:vMerge" [] []] [], .elem S!"w:tc" [] [], .elem S!"w:tc" [] []],
   .elem S!"w:tr" [] [.elem S!"w:tc" [] [], c09x_tc [.elem S!"w:gridSpan" [(S!"w:val", S!"1")] []] [],
      .elem S!"w:tc" [] []]]

example : c09x_tableShape c09x_exTbl = true := by decide +kernel
/-- its XML grid is `c09_ex` without the contents, its first row is a header row -/
example : c09x_xmlGrid c09x_exTbl = c09_ex.map (fun row => row.map c09x_strip) ∧
    c09x_xmlHdr c09x_exTbl = [true, false, false] := ⟨by c05_kernel_rfl, by decide +kernel⟩
example : c09_validGrid (c09x_xmlGrid c09x_exTbl) = true := by decide +kernel
/-- the reader succeeds on it (fuel 6), without a message -/
example : ∃ rr st1, readElem {} 6 {} (.elem S!"w:tbl" [] c09x_exTbl) = .ok (rr, st1) ∧ rr.messages = [] := by
  have h : (readElem {} 6 {} (.elem S!"w:tbl" [] c09x_exTbl)).toOption.map (·.1.messages) = some [] := by
    decide +kernel
  cases hr : readElem {} 6 {} (.elem S!"w:tbl" [] c09x_exTbl) with
  | error e => rw [hr] at h; cases h
  | ok p => rw [hr] at h; exact ⟨p.1, p.2, rfl, Option.some.inj h⟩
/-- read and converted -/
example :
    (match readElem {} 6 {} (.elem S!"w:tbl" [] c09x_exTbl) with
      | .ok (rr, _) => ((visitAll {} false rr.elements).run {}).toOption.map (·.1)
      | .error _ => none) =
    some [el S!"table" []
      [.forceWrite,
       el S!"thead" [] [el S!"tr" [] [.forceWrite,
          el S!"th" [(S!"rowspan", S!"2")] [.forceWrite, el S!"p" [] [.text S!"a"]],
          el S!"th" [(S!"colspan", S!"2")] [.forceWrite, el S!"p" [] [.text S!"b"]]]],
       el S!"tbody" []
         [el S!"tr" [] [.forceWrite, el S!"td" [] [.forceWrite], el S!"td" [] [.forceWrite]],
          el S!"tr" [] [.forceWrite, el S!"td" [] [.forceWrite], el S!"td" [] [.forceWrite],
            el S!"td" [] [.forceWrite]]]]] := by decide +kernel
/-- a `w:gridSpan` that is not a number is a ValueError of the reader; the XML grid then has span 0 and is not valid -/
example : (match readElem {} 6 {} (.elem S!"w:tbl" []
      [.elem S!"w:tr" [] [c09x_tc [.elem S!"w:gridSpan" [(S!"w:val", S!"x")] []] []]]) with
    | .error (.value v) => some v | _ => none) = some S!"x" := by decide +kernel
example : c09_validGrid (c09x_xmlGrid
    [.elem S!"w:tr" [] [c09x_tc [.elem S!"w:gridSpan" [(S!"w:val", S!"x")] []] []]]) = false := by decide +kernel

/-! ## 7. warnings, unmerged tables, the head/body split point, ignored tables -/

/-- The warnings of `calculate_row_spans`, for every list of table children.  (a) If some child is not a row, the
    children are returned UNCHANGED with exactly the one "non-row" warning; (b) if all are rows but some row has a
    child that is not a cell, they are returned unchanged with exactly the one "non-cell" warning; (c) there is no
    message at all iff every child is a row all of whose children are cells (`c09e7_shape`). -/
theorem C09_rowspans_warnings (rows : List Elem) :
    (rows.all isRow = false → calculateRowSpans rows =
        (rows, [S!"unexpected non-row element in table, cell merging may be incorrect"])) ∧
    (rows.all isRow = true → (rows.all fun r => (rowCells r).all isCell) = false → calculateRowSpans rows =
        (rows, [S!"unexpected non-cell element in table row, cell merging may be incorrect"])) ∧
    ((calculateRowSpans rows).2 = [] ↔ c09e7_shape rows = true) := by
  obtain ⟨hrow, hcell, hok⟩ := c09e7_cases rows
  refine ⟨hrow, hcell, fun h => ?_, fun h => by rw [hok h]⟩
  cases h1 : rows.all isRow with
  | false =>
    rw [hrow h1] at h
    cases h
  | true =>
    cases h2 : (rows.all fun r => (rowCells r).all isCell) with
    | false =>
      rw [hcell h1 h2] at h
      cases h
    | true => exact (c09e7_shape_iff rows).mpr ⟨h1, h2⟩

example : c09e7_shape (c09_toElems (fun i => i == 0) c09_ex) = true := by decide +kernel
example : calculateRowSpans [.row false [.cell 1 1 true []], .tab] =
    ([.row false [.cell 1 1 true []], .tab],
     [S!"unexpected non-row element in table, cell merging may be incorrect"]) := by rfl
example : calculateRowSpans [.row false [.cell 1 1 true [], .tab]] =
    ([.row false [.cell 1 1 true [], .tab]],
     [S!"unexpected non-cell element in table row, cell merging may be incorrect"]) := by rfl

/-- A table without vertical merges is left alone: if every child is a row whose children are all cells WITHOUT the
    continuation mark (`c09e7_plainRow`; any colspans, any rowspans already present, any contents, rows of any and
    unequal widths), `calculate_row_spans` returns exactly the same rows — no cell dropped, no rowspan changed — and
    no message.  In particular it is the identity on its own results. -/
theorem C09_rowspans_unmerged_identity (rows : List Elem) (h : rows.all c09e7_plainRow = true) :
    calculateRowSpans rows = (rows, []) := by
  rw [(c09e7_cases rows).2.2 (c09e7_plain_shape rows h)]
  have hs := c09e7_sweepRows_plain rows h 0 {}
  rw [c09e7_rebuildRows_plain _ hs.1 hs.2 rows h 0]

example : [Elem.row true [.cell 2 3 false [.text S!"a"]], .row false [.cell 1 1 false [], .cell 1 5 false []]].all
    c09e7_plainRow = true := by decide +kernel
/-- the rows `calculate_row_spans` returns for the example grid are such rows -/
example : (calculateRowSpans (c09_toElems (fun i => i == 0) c09_ex)).1.all c09e7_plainRow = true := by decide +kernel

/-- The `thead`/`tbody` split point is decided by the document's header flags alone.  For every list of table
    children, `body_index` of what `calculate_row_spans` returns equals `body_index` of what it was given (dropping
    continuation cells never changes which rows are leading header rows); and for a grid `rows` with header flags
    `hdr` (any grid, well-formed or not) it is `c09e7_lead hdr 0 rows.length`, the number of consecutive row
    indices 0, 1, … below the number of rows at which `hdr` holds. -/
theorem C09_bodyIndex_rowspans (rows : List Elem) (hdr : Nat → Bool) (grid : List c09_Row) :
    bodyIndex (calculateRowSpans rows).1 = bodyIndex rows ∧
    bodyIndex (calculateRowSpans (c09_toElems hdr grid)).1 = c09e7_lead hdr 0 grid.length := by
  have h (rows : List Elem) : bodyIndex (calculateRowSpans rows).1 = bodyIndex rows :=
    c09e7_bodyIndex_flags rows _ (C09_rows_preserved rows).2
  rw [h, h]
  exact ⟨rfl, c09e7_bodyIndex_toElemsFrom hdr grid 0⟩

/-- header rows 0 and 1, then a body row, then a row flagged header again: only the leading two count -/
example : c09e7_lead (fun i => i != 2) 0 4 = 2 := by decide +kernel
example : bodyIndex (calculateRowSpans (c09_toElems (fun i => i != 2) (c09_ex ++ c09_ex))).1 = 2 := by decide +kernel

/-- A table whose style mapping is `!` (ignore) produces no HTML node at all and its rows are never visited: the
    conversion is `pure []`, so it cannot fail and leaves the converter state (note numbering, comment references,
    messages, image calls) untouched, whatever the rows contain. -/
theorem C09_visit_table_ignored (cfg : Cfg) (hdr : Bool) (sid sname : Option Str) (rows : List Elem) (s : ConvState)
    (hpath : findPath cfg (.table sid sname) = some .ignore) :
    (visit cfg hdr (.table sid sname rows)).run s = .ok ([], s) := by
  rw [c09_visit_table, hpath]
  rfl

example : findPath { styleMap := [⟨.table none none, .ignore⟩] } (.table none none) = some .ignore :=
  by decide +kernel
/-- the note reference inside the ignored table is not counted; without the mapping it is -/
example : (((visit { styleMap := [⟨.table none none, .ignore⟩] } false
      (.table none none [.row false [.cell 1 1 false [.noteRef S!"footnote" S!"1"]]])).run {}).toOption.map
        fun p => (p.1, p.2.noteRefs)) = some ([], []) ∧
    (((visit {} false (.table none none [.row false [.cell 1 1 false [.noteRef S!"footnote" S!"1"]]])).run
        {}).toOption.map fun p => p.2.noteRefs) = some [(S!"footnote", S!"1")] := by decide +kernel

#print axioms C09_rowspans_warnings
#print axioms C09_rowspans_unmerged_identity
#print axioms C09_bodyIndex_rowspans
#print axioms C09_visit_table_ignored

end Mammoth
