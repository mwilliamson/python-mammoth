/-
  C18 — "Conversion reads nothing outside the given file except linked images".

  The converter's only channel to the outside world is `Cfg.world`, and every use of it is logged in
  `ConvState.ioTrace` (`openImage`).  The theorems below bound that trace by the linked images of the
  document, describe the non-raising failure modes of `Files.open`, and record that the reader
  (`readPackage`) has no channel to the outside at all.

  NOT covered by proof: that the XML parser (expat, via `xml.dom.minidom`/`xml.sax`) does not fetch
  DTDs / external entities.  That part of the property concerns the Python runtime below the model's
  `XmlNode` input and is OBSERVED by the test harness, not proved here.
-/
import Proofs.C18_Doc
import Proofs.C18_Image
import Proofs.C18_SimDoc
import Proofs.C18_Ext7
import Proofs.Eval
namespace Mammoth

/-- Every external read performed by a successful `convertDoc` is a read on behalf of one of the
    linked images (`.image` with `src = .linked uri`) occurring in the document body, a note body or
    a comment body: `urlopen uri` when `uri` is absolute, or opening `os.path.join(base, uri)` when
    it is relative and the input has a directory `base`. -/
theorem C18_io_only_linked_images (cfg : Cfg) (d : Document) (r : ConvResult)
    (h : convertDoc cfg d = .ok r) :
    ∀ op ∈ r.ioTrace, c18_opOk cfg.base (c18_docLinked d) op :=
  fun op hop => (c18_convertDoc cfg d r h op hop).2

/-- The same at the level of the public API `mammoth.convert`: the document that was converted is
    `transform` applied to what the reader produced from the package alone, and every external read
    is one allowed for a linked image of that document, relative to the `base` directory passed in. -/
theorem C18_io_only_linked_images_api (p : Package) (fuel : Nat) (base : Option Str)
    (world : Str → Option Bytes) (transform : Document → Document) (o : Options) (out : ApiOut)
    (h : apiConvert p fuel base world transform o = .ok out) :
    (∃ doc msgs, readPackage p fuel = .ok (doc, msgs) ∧ out.document = transform doc) ∧
    ∀ op ∈ out.ioTrace, c18_opOk base (c18_docLinked out.document) op := by
  unfold apiConvert at h
  dsimp only at h
  split at h <;>
  · obtain ⟨emb, _, h⟩ := bind_ok h
    generalize readOptions o.styleMap emb o.includeDefault = ro at h
    obtain ⟨sm, om⟩ := ro
    dsimp only at h
    obtain ⟨⟨doc, msgs⟩, hread, h⟩ := bind_ok h
    dsimp only at h
    obtain ⟨r, hconv, h⟩ := bind_ok h
    cases h
    exact ⟨⟨doc, msgs, hread, rfl⟩, C18_io_only_linked_images _ _ r hconv⟩

/-- A document without linked images (all images embedded in the package) is converted without any
    external read. -/
theorem C18_embedded_no_io (cfg : Cfg) (d : Document) (r : ConvResult)
    (hd : c18_docLinked d = []) (h : convertDoc cfg d = .ok r) : r.ioTrace = [] := by
  refine List.eq_nil_iff_forall_not_mem.mpr fun op hop => c18_opOk_nil cfg.base op ?_
  rw [← hd]
  exact C18_io_only_linked_images cfg d r h op hop

/-- With an image converter that never opens the image (`img_element(f)` with an `f` that does not
    call `image.open()`), nothing is read whatever the document contains. -/
theorem C18_no_open_no_io (cfg : Cfg) (attrs : List (Str × Str)) (d : Document) (r : ConvResult)
    (hc : cfg.imageConv = .fixed attrs false) (h : convertDoc cfg d = .ok r) : r.ioTrace = [] := by
  refine List.eq_nil_iff_forall_not_mem.mpr fun op hop => ?_
  have := (c18_convertDoc cfg d r h op hop).1
  simp [c18_opens, hc] at this

/-- A relative linked image when the input is an anonymous file object (`base = none`), with an
    image converter that opens the image: nothing is read, no exception is raised, the result is
    no node at all and exactly one warning "could not find external image '…', fileobj has no name". -/
theorem C18_no_name_warning (cfg : Cfg) (a ct : Option Str) (uri : Str) (st : ConvState)
    (habs : isAbsoluteUri uri = false) (hb : cfg.base = none) (ho : c18_opens cfg = true) :
    (convertImage cfg { altText := a, contentType := ct, src := .linked uri }).run st =
      .ok ([], { st with
        imageCalls := st.imageCalls ++ [{ altText := a, contentType := ct, src := .linked uri }],
        messages := st.messages ++
          [S!"could not find external image '" ++ uri ++ S!"', fileobj has no name"] }) :=
  c18_convertImage_warn cfg _ st { st with imageCalls := st.imageCalls ++ [_] } _ ho
    (c18_openImage_noname cfg uri _ habs hb)

/-- `C18_no_name_warning` for the default converter `mammoth.images.data_uri`. -/
theorem C18_no_name_warning_dataUri (cfg : Cfg) (a ct : Option Str) (uri : Str) (st : ConvState)
    (habs : isAbsoluteUri uri = false) (hb : cfg.base = none) (hc : cfg.imageConv = .dataUri) :
    (convertImage cfg { altText := a, contentType := ct, src := .linked uri }).run st =
      .ok ([], { st with
        imageCalls := st.imageCalls ++ [{ altText := a, contentType := ct, src := .linked uri }],
        messages := st.messages ++
          [S!"could not find external image '" ++ uri ++ S!"', fileobj has no name"] }) :=
  C18_no_name_warning cfg a ct uri st habs hb (by simp [c18_opens, hc])

/-- `C18_no_name_warning` for `img_element(f)` with an `f` that opens the image. -/
theorem C18_no_name_warning_fixed (cfg : Cfg) (attrs : List (Str × Str)) (a ct : Option Str)
    (uri : Str) (st : ConvState)
    (habs : isAbsoluteUri uri = false) (hb : cfg.base = none) (hc : cfg.imageConv = .fixed attrs true) :
    (convertImage cfg { altText := a, contentType := ct, src := .linked uri }).run st =
      .ok ([], { st with
        imageCalls := st.imageCalls ++ [{ altText := a, contentType := ct, src := .linked uri }],
        messages := st.messages ++
          [S!"could not find external image '" ++ uri ++ S!"', fileobj has no name"] }) :=
  C18_no_name_warning cfg a ct uri st habs hb (by simp [c18_opens, hc])

/-- Absolute uri whose `urlopen` fails (`world uri = none`): not an error; no node; exactly the one
    read `urlopen uri` is logged and exactly one warning
    "could not open external image: '…' (document directory: '…')" is added. -/
theorem C18_open_failure_warning_abs (cfg : Cfg) (a ct : Option Str) (uri : Str) (st : ConvState)
    (habs : isAbsoluteUri uri = true) (hw : cfg.world uri = none) (ho : c18_opens cfg = true) :
    (convertImage cfg { altText := a, contentType := ct, src := .linked uri }).run st =
      .ok ([], { st with
        imageCalls := st.imageCalls ++ [{ altText := a, contentType := ct, src := .linked uri }],
        ioTrace := st.ioTrace ++ [.urlopen uri],
        messages := st.messages ++
          [S!"could not open external image: '" ++ uri ++ S!"' (document directory: '" ++
            pyOpt cfg.base ++ S!"')"] }) := by
  refine c18_convertImage_warn cfg _ st
    { st with imageCalls := st.imageCalls ++ [_], ioTrace := st.ioTrace ++ [.urlopen uri] } _ ho ?_
  rw [c18_openImage_abs cfg uri _ habs, hw]
  rfl

/-- Relative uri, input with directory `b`, and opening `os.path.join(b, uri)` fails: not an error;
    no node; exactly the one read `open(join(b, uri))` is logged and one warning is added. -/
theorem C18_open_failure_warning_rel (cfg : Cfg) (a ct : Option Str) (uri b : Str) (st : ConvState)
    (habs : isAbsoluteUri uri = false) (hb : cfg.base = some b)
    (hw : cfg.world (osPathJoin b uri) = none) (ho : c18_opens cfg = true) :
    (convertImage cfg { altText := a, contentType := ct, src := .linked uri }).run st =
      .ok ([], { st with
        imageCalls := st.imageCalls ++ [{ altText := a, contentType := ct, src := .linked uri }],
        ioTrace := st.ioTrace ++ [.openFile (osPathJoin b uri)],
        messages := st.messages ++
          [S!"could not open external image: '" ++ uri ++ S!"' (document directory: '" ++
            b ++ S!"')"] }) := by
  refine c18_convertImage_warn cfg _ st
    { st with imageCalls := st.imageCalls ++ [_],
              ioTrace := st.ioTrace ++ [.openFile (osPathJoin b uri)] } _ ho ?_
  rw [c18_openImage_rel cfg uri b _ habs hb, hw]
  rfl

/-- Converting a linked image never raises, whatever the configuration, the world and the uri. -/
theorem C18_linked_never_raises (cfg : Cfg) (i : ImageProps) (uri : Str) (st : ConvState)
    (hs : i.src = .linked uri) : ∃ r, (convertImage cfg i).run st = .ok r := by
  refine c18_convertImage_ok_of_open cfg i st fun s => ?_
  rw [hs]
  obtain ⟨x, s', h, _⟩ := c18_quiet_openImage_linked cfg uri s
  exact ⟨_, h⟩

/-- The reader has no channel to the outside world: `readPackage : Package → Nat → Except Err
    (Document × List Str)` takes neither `world` nor `base`.  Checkable form: whether
    `mammoth.convert` succeeds, the error it raises otherwise, and the document it converted are the
    same whatever the input's directory and whatever the outside world contains. -/
theorem C18_reader_no_io (p : Package) (fuel : Nat) (base base' : Option Str)
    (world world' : Str → Option Bytes) (transform : Document → Document) (o : Options) :
    (apiConvert p fuel base world transform o).map (·.document) =
      (apiConvert p fuel base' world' transform o).map (·.document) :=
  c18_apiConvert_reworld p fuel base base' world world' transform o

/-- Converter level: success or failure of `convertDoc` (with the very same error) and the note
    references it collects do not depend on the input's directory nor on the outside world —
    a failing or succeeding external read never changes the control flow, only the `<img>` node
    or warning produced for that image. -/
theorem C18_outcome_independent_of_world (cfg : Cfg) (b : Option Str) (w : Str → Option Bytes)
    (d : Document) :
    (convertDoc cfg d).map (·.noteRefs) =
      (convertDoc { cfg with base := b, world := w } d).map (·.noteRefs) :=
  c18_convertDoc_reworld cfg b w d

/-- The document converted by a successful `mammoth.convert` is `transform` applied to the reader's
    result, which is a function of the package (and fuel) only. -/
theorem C18_document_from_reader (p : Package) (fuel : Nat) (base : Option Str)
    (world : Str → Option Bytes) (transform : Document → Document) (o : Options) (out : ApiOut)
    (h : apiConvert p fuel base world transform o = .ok out) :
    ∃ doc msgs, readPackage p fuel = .ok (doc, msgs) ∧ out.document = transform doc :=
  (C18_io_only_linked_images_api p fuel base world transform o out h).1

/-- `mammoth.extract_raw_text` is a function of the reader's result only (no converter, hence no
    `world`, no `base`, no external read at all). -/
theorem C18_rawtext_no_io (p : Package) (fuel : Nat) :
    apiRawText p fuel = (readPackage p fuel).map (fun dm => (rawTextDoc dm.1, unique dm.2)) := by
  unfold apiRawText
  cases readPackage p fuel with
  | error e => rfl
  | ok dm => rfl

/-! ### examples -/

/-- one relative linked image, input file in `/tmp`: exactly `/tmp/a.png` is opened -/
example :
    (convertDoc { base := some S!"/tmp", world := fun _ => some [1, 2, 3], imageConv := .fixed [] true }
      { children := [.paragraph {} [.image { src := .linked S!"a.png" }]] }).map (·.ioTrace)
      = .ok [.openFile S!"/tmp/a.png"] := by decide +kernel

/-- one absolute linked image: exactly that URL is opened (and fails: still no error) -/
example :
    (convertDoc { base := some S!"/tmp", imageConv := .fixed [] true }
      { children := [.paragraph {} [.image { src := .linked S!"http://x/a.png" }]] }).map
        (fun r => (r.ioTrace, r.messages.length))
      = .ok ([.urlopen S!"http://x/a.png"], 1) := by decide +kernel

/-- an embedded image: nothing is read from outside -/
example :
    (convertDoc { base := some S!"/tmp", archive := [(S!"word/media/i.png", [7])] }
      { children := [.paragraph {} [.image { src := .embedded S!"word/media/i.png" }]] }).map
        (·.ioTrace) = .ok [] := by decide +kernel

/-- a linked image inside a referenced comment body is read too (and is in `c18_docLinked`) -/
example :
    c18_docLinked
      { children := [.image { src := .linked S!"a" }],
        notes := [⟨S!"footnote", S!"1", [.image { src := .linked S!"b" }]⟩],
        comments := [{ id := S!"0", body := [.image { src := .embedded S!"z" }, .image { src := .linked S!"c" }] }] }
      = [S!"a", S!"b", S!"c"] := by decide +kernel

/-- a linked image in the body of a referenced footnote is read (after the one of the body) -/
example :
    (convertDoc { base := some S!"/d/", world := fun _ => some [], imageConv := .fixed [] true }
      { children := [.image { src := .linked S!"a" }, .noteRef S!"footnote" S!"1"],
        notes := [⟨S!"footnote", S!"1", [.image { src := .linked S!"file:b" }]⟩] }).map (·.ioTrace)
      = .ok [.openFile S!"/d/a", .urlopen S!"file:b"] := by decide +kernel

/-- relative uri, no directory: no read, one warning, no error -/
example :
    (convertDoc { base := none }
      { children := [.image { src := .linked S!"a.png" }] }).map
        (fun r => (r.ioTrace, r.messages))
      = .ok ([], [S!"could not find external image 'a.png', fileobj has no name"]) := by decide +kernel

/-- the converter that does not open: no read even for a linked image -/
example :
    (convertDoc { base := some S!"/tmp", world := fun _ => some [1], imageConv := .fixed [] false }
      { children := [.image { src := .linked S!"a.png" }] }).map (·.ioTrace) = .ok [] := by decide +kernel

/-! ### exact reads of one image conversion, the success case, the resolved target -/

/-- One call of the image converter (`visit_image`), for ALL configurations, images and states: if
    it succeeds, the external-read trace grows by EXACTLY `c18_imageOps base opens src` — nothing
    when the converter does not open the image, nothing for an embedded image, `urlopen uri` for an
    absolute uri, `open(join(base, uri))` for a relative uri of a named input, nothing for a
    relative uri of an anonymous input — whether or not the read succeeds (`cfg.world` does not
    occur on the right-hand side); and the converter was called with exactly this image. -/
theorem C18_image_reads_exact (cfg : Cfg) (i : ImageProps) (st st' : ConvState) (ns : List Node)
    (h : (convertImage cfg i).run st = .ok (ns, st')) :
    st'.ioTrace = st.ioTrace ++ c18_imageOps cfg.base (c18_opens cfg) i.src ∧
    st'.imageCalls = st.imageCalls ++ [i] :=
  c18_convertImage_trace cfg i st st' ns h
#print axioms C18_image_reads_exact

example :
    ((convertImage { base := some S!"/d", imageConv := .fixed [] true }
        { src := .linked S!"a.png" }).run {}).map (fun r => (r.1, r.2.ioTrace))
      = .ok ([], [.openFile S!"/d/a.png"]) := by decide +kernel
example : c18_imageOps (some S!"/d") true (.linked S!"a.png") = [.openFile S!"/d/a.png"] := by decide +kernel
example : c18_imageOps none true (.linked S!"a.png") = [] := by decide +kernel
example : c18_imageOps none true (.linked S!"http://x/a") = [.urlopen S!"http://x/a"] := by decide +kernel

/-- One call of the image converter performs at most one external read, and the old trace is kept
    as a prefix (nothing already logged is dropped or reordered). -/
theorem C18_image_at_most_one_read (cfg : Cfg) (i : ImageProps) (st st' : ConvState)
    (ns : List Node) (h : (convertImage cfg i).run st = .ok (ns, st')) :
    ∃ ops, st'.ioTrace = st.ioTrace ++ ops ∧ ops.length ≤ 1 := by
  refine ⟨_, (C18_image_reads_exact cfg i st st' ns h).1, ?_⟩
  unfold c18_imageOps
  split
  · simp
  · simp
  · split <;> simp
#print axioms C18_image_at_most_one_read

example :
    ∃ ns st', (convertImage { base := some S!"/d", imageConv := .fixed [] true }
        { src := .linked S!"a.png" }).run { ioTrace := [.urlopen S!"x:y"] } = .ok (ns, st') ∧
      st'.ioTrace = [.urlopen S!"x:y", .openFile S!"/d/a.png"] := ⟨_, _, rfl, rfl⟩

/-- Success case, absolute uri, default converter `data_uri`: when `urlopen uri` yields `bytes`,
    the result is exactly one `<img>` with the optional non-empty `alt` followed by
    `src="data:<content type>;base64,<bytes>"`; exactly the one read `urlopen uri` is logged and no
    warning is added. -/
theorem C18_open_success_abs_dataUri (cfg : Cfg) (a ct : Option Str) (uri : Str) (bytes : Bytes)
    (st : ConvState) (habs : isAbsoluteUri uri = true) (hw : cfg.world uri = some bytes)
    (hc : cfg.imageConv = .dataUri) :
    (convertImage cfg { altText := a, contentType := ct, src := .linked uri }).run st =
      .ok ([el S!"img" ((match a with
                          | some a => if a.isEmpty then [] else [(S!"alt", a)]
                          | none => []) ++
              [(S!"src", S!"data:" ++ pyOpt ct ++ S!";base64," ++ b64encode bytes)]) []],
           { st with
             imageCalls := st.imageCalls ++ [{ altText := a, contentType := ct, src := .linked uri }],
             ioTrace := st.ioTrace ++ [.urlopen uri] }) := by
  refine c18_convertImage_dataUri_ok cfg _ st _ bytes hc ?_
  rw [c18_openImage_abs cfg uri _ habs, hw]
#print axioms C18_open_success_abs_dataUri

/-- the hypotheses are satisfiable; the trace and warnings of that instance, computed -/
example : isAbsoluteUri S!"http://x/a" = true ∧
    ({ world := fun _ => some [1, 2, 3] } : Cfg).world S!"http://x/a" = some [1, 2, 3] ∧
    ((convertImage { world := fun _ => some [1, 2, 3] }
        { altText := some S!"x", contentType := some S!"image/png",
          src := .linked S!"http://x/a" }).run {}).map
        (fun r => (r.1.length, r.2.ioTrace, r.2.messages))
      = .ok (1, [.urlopen S!"http://x/a"], []) := ⟨by decide +kernel, rfl, by rfl⟩

/-- Success case, relative uri, input with directory `b`, default converter: exactly the one read
    `open(os.path.join(b, uri))` is logged, no warning, and the `<img>` carries the bytes that this
    very target yielded. -/
theorem C18_open_success_rel_dataUri (cfg : Cfg) (a ct : Option Str) (uri b : Str) (bytes : Bytes)
    (st : ConvState) (habs : isAbsoluteUri uri = false) (hb : cfg.base = some b)
    (hw : cfg.world (osPathJoin b uri) = some bytes) (hc : cfg.imageConv = .dataUri) :
    (convertImage cfg { altText := a, contentType := ct, src := .linked uri }).run st =
      .ok ([el S!"img" ((match a with
                          | some a => if a.isEmpty then [] else [(S!"alt", a)]
                          | none => []) ++
              [(S!"src", S!"data:" ++ pyOpt ct ++ S!";base64," ++ b64encode bytes)]) []],
           { st with
             imageCalls := st.imageCalls ++ [{ altText := a, contentType := ct, src := .linked uri }],
             ioTrace := st.ioTrace ++ [.openFile (osPathJoin b uri)] }) := by
  refine c18_convertImage_dataUri_ok cfg _ st _ bytes hc ?_
  rw [c18_openImage_rel cfg uri b _ habs hb, hw]
#print axioms C18_open_success_rel_dataUri

/-- the hypotheses are satisfiable; the trace and warnings of that instance, computed -/
example : isAbsoluteUri S!"a.png" = false ∧
    ((convertImage { base := some S!"/d",
                     world := fun p => if p = S!"/d/a.png" then some [1, 2, 3] else none }
        { contentType := some S!"image/png", src := .linked S!"a.png" }).run {}).map
        (fun r => (r.1.length, r.2.ioTrace, r.2.messages))
      = .ok (1, [.openFile S!"/d/a.png"], []) := ⟨by decide +kernel, by rfl⟩

/-- "Only that target resolved against the input file's directory": for a uri that does not start
    with `/`, the opened path is the directory, at most one separating `/`, then the uri verbatim
    (the separator is omitted exactly when the directory is empty or already ends in `/`); a uri
    that starts with `/` is opened as it is (POSIX `os.path.join`). -/
theorem C18_target_resolved_against_directory (b uri : Str) :
    (startsWith uri ['/'] = false →
      osPathJoin b uri = (if b.isEmpty || b.getLast? == some '/' then b ++ uri
                          else b ++ ['/'] ++ uri)) ∧
    (startsWith uri ['/'] = true → osPathJoin b uri = uri) := by
  unfold osPathJoin
  constructor
  · intro h
    rw [h]
    rfl
  · intro h
    rw [h]
    rfl
#print axioms C18_target_resolved_against_directory

example : startsWith S!"a.png" ['/'] = false ∧ osPathJoin S!"/d" S!"a.png" = S!"/d/a.png" ∧
    osPathJoin S!"/d/" S!"a.png" = S!"/d/a.png" ∧ osPathJoin S!"" S!"a.png" = S!"a.png" := by decide +kernel
example : startsWith S!"/etc/x" ['/'] = true ∧ osPathJoin S!"/d" S!"/etc/x" = S!"/etc/x" := by decide +kernel

end Mammoth
