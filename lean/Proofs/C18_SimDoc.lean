/-
  C18 — the simulation for notes, comments, `visitDocument`, `convertDoc`, `apiConvert`.
-/
import Proofs.C18_SimVisit
import Proofs.C05_Api
namespace Mammoth

theorem c18_sim_visitNote (cfg : Cfg) (b : Option Str) (w : Str → Option Bytes) (n : Note) :
    c18_sim c18_any (visitNote cfg n) (visitNote (c18_reworld cfg b w) n) := by
  unfold visitNote
  exact c18_sim_then_pure (c18_sim_visitAll cfg b w false n.body) (fun _ _ => c18_sim_pure_any)

theorem c18_sim_visitComment (cfg : Cfg) (b : Option Str) (w : Str → Option Bytes)
    (lc : Str × Comment) :
    c18_sim c18_any (visitComment cfg lc) (visitComment (c18_reworld cfg b w) lc) := by
  unfold visitComment
  exact c18_sim_then_pure (c18_sim_visitAll cfg b w false lc.2.body) (fun _ _ => c18_sim_pure_any)

theorem c18_sim_mapMConcat {α : Type} (f f' : α → ConvM (List Node)) (xs : List α)
    (h : ∀ x, c18_sim c18_any (f x) (f' x)) :
    c18_sim c18_any (mapMConcat f xs) (mapMConcat f' xs) := by
  induction xs with
  | nil => simp only [mapMConcat]; exact c18_sim_pure_any
  | cons x xs ih =>
    simp only [mapMConcat]
    refine c18_sim_then_pure (h x) ?_
    intro a a'
    exact c18_sim_then_pure ih (fun _ _ => c18_sim_pure_any)

theorem c18_sim_visitDocument (cfg : Cfg) (b : Option Str) (w : Str → Option Bytes)
    (d : Document) :
    c18_sim c18_any (visitDocument cfg d) (visitDocument (c18_reworld cfg b w) d) := by
  unfold visitDocument
  refine c18_sim_then_pure (c18_sim_visitAll cfg b w false d.children) ?_
  intro nodes nodes'
  refine c18_sim_bind c18_sim_get ?_
  intro s s' hs
  dsimp only
  rw [hs.1]
  generalize List.mapM (resolveNote d.notes) s'.noteRefs = res
  cases res with
  | error e =>
    dsimp only
    exact c18_sim_bind (c18_sim_throw (fun _ _ => False) e) (fun _ _ h => h.elim)
  | ok notes =>
    dsimp only
    refine c18_sim_bind (c18_sim_pure (R := Eq) rfl) ?_
    intro ns ns' e
    subst e
    refine c18_sim_then_pure (c18_sim_mapMConcat _ _ ns (c18_sim_visitNote cfg b w)) ?_
    intro nn nn'
    refine c18_sim_bind c18_sim_get ?_
    intro t t' ht
    rw [ht.2]
    refine c18_sim_then_pure (c18_sim_mapMConcat _ _ _ (c18_sim_visitComment cfg b w)) ?_
    intro cn cn'
    exact c18_sim_pure_any

/-- Success or failure of `convertDoc` (with the very same error), and the note references it
    collects, do not depend on the input's directory nor on the outside world. -/
theorem c18_convertDoc_reworld (cfg : Cfg) (b : Option Str) (w : Str → Option Bytes)
    (d : Document) :
    (convertDoc cfg d).map (·.noteRefs) = (convertDoc (c18_reworld cfg b w) d).map (·.noteRefs) := by
  have h := c18_sim_visitDocument { cfg with comments := d.comments } b w d {} {} ⟨rfl, rfl⟩
  unfold convertDoc
  change c18_simR c18_any ((visitDocument { cfg with comments := d.comments } d).run {})
    ((visitDocument { c18_reworld cfg b w with comments := d.comments } d).run {}) at h
  revert h
  cases (visitDocument { cfg with comments := d.comments } d).run {} with
  | error err =>
    cases (visitDocument { c18_reworld cfg b w with comments := d.comments } d).run {} with
    | error err' => exact congrArg Except.error
    | ok p' => exact False.elim
  | ok p =>
    cases (visitDocument { c18_reworld cfg b w with comments := d.comments } d).run {} with
    | error err' => exact False.elim
    | ok p' =>
      intro h
      exact congrArg Except.ok h.2.1

theorem c18_convertDoc_reworld_cases (cfg : Cfg) (b : Option Str) (w : Str → Option Bytes)
    (d : Document) :
    (∃ e, convertDoc cfg d = .error e ∧ convertDoc (c18_reworld cfg b w) d = .error e) ∨
    (∃ r r', convertDoc cfg d = .ok r ∧ convertDoc (c18_reworld cfg b w) d = .ok r') := by
  have h := c18_convertDoc_reworld cfg b w d
  cases e : convertDoc cfg d with
  | error err =>
    cases e' : convertDoc (c18_reworld cfg b w) d with
    | error err' => rw [e, e'] at h; cases h; exact Or.inl ⟨_, rfl, rfl⟩
    | ok r' => rw [e, e'] at h; cases h
  | ok r =>
    cases e' : convertDoc (c18_reworld cfg b w) d with
    | error err' => rw [e, e'] at h; cases h
    | ok r' => exact Or.inr ⟨r, r', rfl, rfl⟩

theorem c18_apiRest_reworld (p : Package) (fuel : Nat) (base base' : Option Str)
    (world world' : Str → Option Bytes) (transform : Document → Document) (o : Options) (emb : Option Str) :
    Except.map (·.document) (c05_apiRest p fuel base world transform o emb) =
      Except.map (·.document) (c05_apiRest p fuel base' world' transform o emb) := by
  cases hr : readPackage p fuel with
  | error e => simp only [bind, Except.bind, c05_apiRest, hr]
  | ok dm =>
    rcases c18_convertDoc_reworld_cases (c05_apiCfg p base world o emb)
        base' world' (transform dm.fst) with
      ⟨e, h1, h2⟩ | ⟨r, r', h1, h2⟩
    · have h2' : convertDoc (c05_apiCfg p base' world' o emb) (transform dm.fst) = .error e := h2
      simp only [bind, Except.bind, c05_apiRest, hr, h1, h2']
    · have h2' : convertDoc (c05_apiCfg p base' world' o emb) (transform dm.fst) = .ok r' := h2
      simp only [bind, Except.bind, c05_apiRest, c05_apiOut, hr, h1, h2', pure, Except.pure, Except.map]

theorem c18_map_bind_congr {α β γ : Type} (f : β → γ) (x : Except Err α) (g g' : α → Except Err β)
    (h : ∀ a, Except.map f (g a) = Except.map f (g' a)) :
    Except.map f (x >>= g) = Except.map f (x >>= g') := by
  cases x with
  | error e => rfl
  | ok a => exact h a

theorem c18_apiConvert_reworld (p : Package) (fuel : Nat) (base base' : Option Str)
    (world world' : Str → Option Bytes) (transform : Document → Document) (o : Options) :
    (apiConvert p fuel base world transform o).map (·.document) =
      (apiConvert p fuel base' world' transform o).map (·.document) := by
  rw [c05_apiConvert_eq, c05_apiConvert_eq]
  exact c18_map_bind_congr ApiOut.document _ _ _
    (c18_apiRest_reworld p fuel base base' world world' transform o)

end Mammoth
