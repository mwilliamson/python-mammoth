/-
  C14 — whole documents: the stripped output is, in order, what is left of each body element; a body
  paragraph or table is there (as one element with the first tag of its path) exactly when the
  specification `c14_weight` says `full`; fresh top-level elements are never merged by `collapse`.
-/
import Proofs.C14_Table
import Proofs.Stable
namespace Mammoth

/-! ### the body: one part per element -/

/-- `part` is what some successful visit of `e` returned -/
def c14_partRel (cfg : Cfg) (hdr : Bool) (e : Elem) (part : List Node) : Prop :=
  ∃ s s', visit cfg hdr e s = .ok (part, s')

theorem c14_visitAll_parts (cfg : Cfg) (hdr : Bool) (es : List Elem) :
    ∀ (st st' : ConvState) (ns : List Node), visitAll cfg hdr es st = .ok (ns, st') →
      ∃ parts, ns = parts.flatten ∧ c09_Forall2 (c14_partRel cfg hdr) es parts := by
  induction es with
  | nil =>
    intro st st' ns h
    simp only [visitAll, app_pure, Except.ok.injEq, Prod.mk.injEq] at h
    exact ⟨[], by simp [← h.1], .nil⟩
  | cons e es ih =>
    intro st st' ns h
    simp only [visitAll] at h
    obtain ⟨a, s1, h1, h2⟩ := app_bind_ok h
    obtain ⟨b, s2, h3, h4⟩ := app_bind_ok h2
    simp only [app_pure, Except.ok.injEq, Prod.mk.injEq] at h4
    obtain ⟨parts, hp, hf⟩ := ih s1 s2 b h3
    exact ⟨a :: parts, by simp [← h4.1, hp], .cons ⟨st, s1, h1⟩ hf⟩

/-- strip each part and concatenate -/
def c14_stripParts : List (List Node) → List Node
  | [] => []
  | p :: ps => stripEmpty p ++ c14_stripParts ps

theorem c14_stripEmpty_flatten (parts : List (List Node)) :
    stripEmpty parts.flatten = c14_stripParts parts := by
  induction parts with
  | nil => rfl
  | cons p ps ih => simp only [List.flatten_cons, stripEmpty_append, ih, c14_stripParts]

/-! ### blocks -/

/-- the path of a body-level block (paragraph or table) -/
def c14_blockPath (cfg : Cfg) : Elem → Option HtmlPath
  | .paragraph p _ => some (c01_path cfg (.paragraph p) (.elements [pathElem S!"p" true]))
  | .table sid sname _ => some (c01_path cfg (.table sid sname) (.elements [pathElem S!"table" true]))
  | _ => none

/-- a paragraph or table whose path is `!` or has at least one element -/
def c14_isBlock (cfg : Cfg) (e : Elem) : Bool :=
  match c14_blockPath cfg e with
  | some .ignore => true
  | some (.elements (_ :: _)) => true
  | _ => false

/-- the outermost tags of the blocks that are written: one per block whose weight is `full` -/
def c14_heads (cfg : Cfg) : List Elem → List Tag
  | [] => []
  | e :: es =>
    match c14_blockPath cfg e with
    | some (.elements (t :: _)) => if c14_weight cfg e = .full then t :: c14_heads cfg es else c14_heads cfg es
    | _ => c14_heads cfg es

/-- `n` is an element with tag `t` -/
def c14_hasTag (t : Tag) (n : Node) : Prop := ∃ kids, n = .elem t kids

theorem c14_forall2_append {α β} {R : α → β → Prop} {as as' : List α} {bs bs' : List β}
    (h : c09_Forall2 R as bs) (h' : c09_Forall2 R as' bs') : c09_Forall2 R (as ++ as') (bs ++ bs') := by
  induction h with
  | nil => simpa using h'
  | cons hab _ ih => exact .cons hab ih

/-- what is left of one block: nothing, or one element with the first tag of the path -/
theorem c14_block_part (cfg : Cfg) (hdr : Bool) (e : Elem) (part : List Node)
    (hb : c14_isBlock cfg e = true) (hr : c14_partRel cfg hdr e part) :
    c09_Forall2 c14_hasTag (c14_heads cfg [e]) (stripEmpty part) := by
  obtain ⟨s, s', hv⟩ := hr
  have hw := c14_weight_visit cfg hdr e s part s' hv
  have hnil := stripEmpty_eq_nil_iff part
  rw [hw] at hnil
  -- in both block cases `part = wrapElems es X` when the path is `elements es`, `[]` when it is `!`
  have key : ∀ path, c14_blockPath cfg e = some path →
      (path = .ignore → part = []) ∧ (∀ es, path = .elements es → ∃ X, part = wrapElems es X) := by
    intro path hpath
    cases e with
    | paragraph p cs =>
      simp only [c14_blockPath, Option.some.injEq] at hpath
      refine ⟨fun hi => c14_visit_paragraph_ignore cfg hdr p cs s s' part (hpath.trans hi) hv, ?_⟩
      intro es he
      obtain ⟨content, _, hn⟩ := c14_visit_paragraph cfg hdr p cs es s s' part (hpath.trans he) hv
      exact ⟨_, hn⟩
    | table sid sname rows =>
      simp only [c14_blockPath, Option.some.injEq] at hpath
      have hv' : (visit cfg hdr (.table sid sname rows)).run s = .ok (part, s') := hv
      rw [c09_visit_table] at hv'
      have hp : (findPath cfg (.table sid sname)).getD (.elements [pathElem S!"table" true]) = path := hpath
      rw [hp] at hv'
      refine ⟨?_, ?_⟩
      · intro hi
        subst hi
        simp only [] at hv'
        rw [run_pure_ok] at hv'
        exact hv'.1.symm
      · intro es he
        subst he
        simp only [] at hv'
        rw [run_bind_ok] at hv'
        obtain ⟨⟨hd, bd⟩, s1, _, h2⟩ := hv'
        simp only [] at h2
        rw [run_pure_ok] at h2
        exact ⟨_, h2.1.symm⟩
    | _ => simp [c14_blockPath] at hpath
  unfold c14_isBlock at hb
  unfold c14_heads
  cases hpath : c14_blockPath cfg e with
  | none => simp [hpath] at hb
  | some path =>
    obtain ⟨k1, k2⟩ := key path hpath
    cases path with
    | ignore =>
      simp only [k1 rfl]
      exact .nil
    | elements es =>
      cases es with
      | nil => simp [hpath] at hb
      | cons t ts =>
        simp only []
        obtain ⟨X, hX⟩ := k2 _ rfl
        by_cases hf : c14_weight cfg e = .full
        · simp only [hf, if_true, c14_heads]
          rw [hX, stripEmpty_wrapElems]
          have : (weightOf X).wrap (t :: ts) = .full := by
            rw [← weightOf_wrapElems, ← hX, hw, hf]
          simp only [this, if_true, wrapElems]
          exact .cons ⟨_, rfl⟩ .nil
        · simp only [hf, if_false, c14_heads]
          rw [hnil.mpr hf]
          exact .nil

theorem c14_heads_cons (cfg : Cfg) (e : Elem) (es : List Elem) :
    c14_heads cfg (e :: es) = c14_heads cfg [e] ++ c14_heads cfg es := by
  simp only [c14_heads]
  split
  · split <;> simp
  · simp

/-- a body made of blocks: after `strip_empty`, exactly one element per written block, in order -/
theorem c14_blocks_parts (cfg : Cfg) (hdr : Bool) (es : List Elem) (parts : List (List Node))
    (hb : es.all (c14_isBlock cfg) = true) (h : c09_Forall2 (c14_partRel cfg hdr) es parts) :
    c09_Forall2 c14_hasTag (c14_heads cfg es) (c14_stripParts parts) := by
  induction h with
  | nil => exact .nil
  | cons hab _ ih =>
    simp only [List.all_cons, Bool.and_eq_true] at hb
    rw [c14_heads_cons]
    simp only [c14_stripParts]
    exact c14_forall2_append (c14_block_part cfg hdr _ _ hb.1 hab) (ih hb.2)

/-! ### the document -/

theorem c14_visitDocument (cfg : Cfg) (d : Document) (st st' : ConvState) (nodes : List Node)
    (h : visitDocument cfg d st = .ok (nodes, st')) :
    ∃ body st1 noteNodes commentNodes,
      visitAll cfg false d.children st = .ok (body, st1) ∧
      nodes = body ++ [el S!"ol" [] noteNodes, el S!"dl" [] commentNodes] := by
  simp only [visitDocument] at h
  obtain ⟨body, s1, h1, h2⟩ := app_bind_ok h
  obtain ⟨g, s2, _, h3⟩ := app_bind_ok h2
  cases hm : List.mapM (resolveNote d.notes) g.noteRefs with
  | ok ns0 =>
    simp only [hm] at h3
    obtain ⟨_, s3, _, h4⟩ := app_bind_ok h3
    obtain ⟨nn, s4, _, h5⟩ := app_bind_ok h4
    obtain ⟨_, s5, _, h6⟩ := app_bind_ok h5
    obtain ⟨cn, s6, _, h7⟩ := app_bind_ok h6
    simp only [app_pure, Except.ok.injEq, Prod.mk.injEq] at h7
    exact ⟨body, s1, nn, cn, h1, h7.1.symm⟩
  | error e =>
    simp only [hm] at h3
    obtain ⟨_, s3, h4, _⟩ := app_bind_ok h3
    simp at h4

theorem c14_convertDoc (cfg : Cfg) (d : Document) (r : ConvResult) (h : convertDoc cfg d = .ok r) :
    ∃ st', visitDocument { cfg with comments := d.comments } d {} = .ok (r.nodes, st') := by
  unfold convertDoc at h
  cases hv : (visitDocument { cfg with comments := d.comments } d).run {} with
  | error e => simp [hv] at h
  | ok p =>
    obtain ⟨nodes, st⟩ := p
    simp only [hv, Except.ok.injEq] at h
    exact ⟨st, by rw [← h]; exact hv⟩

/-! ### fresh top-level elements are not merged -/

/-- no top-level element is collapsible -/
def topFresh : List Node → Bool
  | [] => true
  | .elem t _ :: ns => !t.collapsible && topFresh ns
  | _ :: ns => topFresh ns

/-- collapse every node on its own -/
def collapseEach : List Node → List Node
  | [] => []
  | n :: ns => collapseNode n :: collapseEach ns

theorem collapseFrom_topFresh (acc ns : List Node) (h : topFresh ns = true) :
    collapseFrom acc ns = acc ++ collapseEach ns := by
  induction ns generalizing acc with
  | nil => simp [collapseFrom, collapseEach]
  | cons n ns ih =>
    unfold collapseFrom
    cases n with
    | text s =>
      simp only [topFresh] at h
      rw [ih _ h]; simp [collapseNode, addC_text, collapseEach]
    | forceWrite =>
      simp only [topFresh] at h
      rw [ih _ h]; simp [collapseNode, addC_fw, collapseEach]
    | elem t cs =>
      simp only [topFresh, Bool.and_eq_true, Bool.not_eq_true'] at h
      rw [ih _ h.2]
      have : addC acc (collapseNode (.elem t cs)) = acc ++ [collapseNode (.elem t cs)] := by
        apply addC_of_not_mergeable
        intro l _
        cases l <;> simp [collapseNode, mergeable, h.1]
      rw [this]; simp [collapseEach]

theorem collapse_topFresh (ns : List Node) (h : topFresh ns = true) : collapse ns = collapseEach ns := by
  simpa [collapse] using collapseFrom_topFresh [] ns h

theorem topFresh_append (a b : List Node) : topFresh (a ++ b) = (topFresh a && topFresh b) := by
  induction a with
  | nil => simp [topFresh]
  | cons x xs ih => cases x <;> simp [topFresh, ih, Bool.and_assoc]

theorem topFresh_prune (ns : List Node) (h : topFresh ns = true) : topFresh (prune ns) = true := by
  induction ns with
  | nil => simp [prune, topFresh]
  | cons x xs ih =>
    cases x with
    | text s =>
      simp only [topFresh] at h
      by_cases hc : hasContent (.text s) = true <;> simp [prune, hc, pruneNode, topFresh, ih h]
    | forceWrite =>
      simp only [topFresh] at h
      simp [prune, hasContent, pruneNode, topFresh, ih h]
    | elem t cs =>
      simp only [topFresh, Bool.and_eq_true] at h
      by_cases hc : hasContent (.elem t cs) = true
      · simp only [prune, hc, if_true, pruneNode, topFresh, Bool.and_eq_true]; exact ⟨h.1, ih h.2⟩
      · simp only [prune, hc]; exact ih h.2

theorem collapseEach_append (a b : List Node) : collapseEach (a ++ b) = collapseEach a ++ collapseEach b := by
  induction a with
  | nil => rfl
  | cons x xs ih => simp [collapseEach, ih]

theorem c14_hasTag_collapseEach (ts : List Tag) (ns : List Node) (h : c09_Forall2 c14_hasTag ts ns) :
    c09_Forall2 c14_hasTag ts (collapseEach ns) := by
  induction h with
  | nil => exact .nil
  | cons hab _ ih =>
    obtain ⟨kids, hn⟩ := hab
    subst hn
    exact .cons ⟨_, rfl⟩ ih

/-- elements with non-collapsible tags form a `topFresh` forest -/
theorem c14_topFresh_of_heads (ts : List Tag) (ns : List Node) (h : c09_Forall2 c14_hasTag ts ns)
    (hf : ts.all (fun t => !t.collapsible) = true) : topFresh ns = true := by
  induction h with
  | nil => rfl
  | cons hab _ ih =>
    obtain ⟨kids, hn⟩ := hab
    subst hn
    simp only [List.all_cons, Bool.and_eq_true] at hf
    simp only [topFresh, Bool.and_eq_true]
    exact ⟨hf.1, ih hf.2⟩

/-! ### whole documents -/

theorem c14_topFresh_tail (a b : List Node) : topFresh (stripEmpty [el S!"ol" [] a, el S!"dl" [] b]) = true := by
  simp only [stripEmpty, stripList_eq]
  exact topFresh_prune _ (by simp [el, topFresh])

end Mammoth
