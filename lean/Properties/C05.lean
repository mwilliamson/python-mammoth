/-
  C05 — "Converting any supported document returns a result instead of raising".

  In the model every Python operation that can raise is an explicit `Err` constructor.  The theorems
  below say which of them remain possible on which inputs:

  * reader (`readElem`/`readAll`): on STATICALLY well-formed XML (`c05_static`: relationship ids resolve,
    note/comment references carry `w:id`, `w:gridSpan` is decimal, `w:sym/@w:char` is hex; everything else —
    style ids, numbering ids, image-less drawings, unknown elements, unknown break types — is unconstrained)
    the only failures are the model's own fuel and `pop()` on an empty complex-field stack (unbalanced
    `w:fldChar`, outside the domain);
  * fuel: more fuel never changes a result;
  * converter (`convertDoc`): it can only fail with a `KeyError` (unresolvable note reference,
    unresolvable comment reference under a `comment-reference` mapping, missing zip entry of an embedded
    image), and it returns normally when all of these resolve (`c05_docOk`);
  * writer: `collapse`, `stripEmpty`, `writeHtml`, `writeMarkdown` are total functions, so every error
    of `apiConvert` is an error of the embedded-style-map reader, of `readPackage` or of `convertDoc`.

  Messages are plain strings appended by `warn` (type `List Str`): a message can never be an exception —
  this is by construction of the model and needs no theorem.

  The reader theorems come in two strengths.  Those up to the first examples assume that the environment has no
  `w:numStyleLink` (`c05_noStyleLinks`) and, for balance and totality, no deleted paragraph marks (`c05_noDel`).
  From "The reader, in full" on:

  * `w:numStyleLink` chains: the hypothesis is the necessary and sufficient `c05_linksAcyclic`
    (links may dangle, only cycles are excluded): `C05_findLevel_total_iff`, `C05_readElem_errors_acyclic`, …;
  * deleted paragraph marks: fuel for ALL trees (`C05_fuel_enough_all`), balanced fields measured in READING
    order (`C05_balanced_no_index`), reader totality `C05_readAll_total`;
  * the API: `C05_api_total`, `C05_rawText_total` on the decidable domain `c05_inDomain`, with an example in
    the domain and, for each clause, a variant outside it on which the model fails.

  Helper definitions and lemmas: Proofs/C05_*.lean.
-/
import Proofs.C05_ReadSpec
import Proofs.C05_Fuel
import Proofs.C05_FuelEnough
import Proofs.C05_Api
import Proofs.C05_Links
import Proofs.C05_ApiTotal
import Proofs.C05_ViewNec
import Proofs.C05_Example
import Proofs.Pins
import Proofs.C05_ExampleEval
namespace Mammoth

/-! ### the reader -/

/-- On statically well-formed input (`c05_static env n`, and the deferred content of deleted paragraphs
    `st.deleted` also statically well-formed), in an environment without `w:numStyleLink`s, reading an
    element — with ANY fuel, from ANY reader state — can only fail by running out of model fuel or by
    popping the empty complex-field stack (`IndexError`, unbalanced `w:fldChar`). -/
theorem C05_readElem_errors (env : REnv) (hn : c05_noStyleLinks env = true) (fuel : Nat) (st : RState)
    (n : XmlNode) (e : Err) (hs : c05_static env n = true) (hd : c05_staticL env st.deleted = true)
    (h : readElem env fuel st n = .error e) : e = .fuel ∨ ∃ w, e = .index w :=
  (c05_track_spec (c05_readElem_track env (c05_numOk_of_noStyleLinks env hn) fuel st n hs hd)).err e h

/-- the invariant that makes `C05_readElem_errors` inductive: the content of deleted paragraphs that is
    carried over to the next paragraph stays statically well-formed -/
theorem C05_readElem_static_preserved (env : REnv) (hn : c05_noStyleLinks env = true) (fuel : Nat) (st : RState)
    (n : XmlNode) (r : ReadResult) (st' : RState) (hs : c05_static env n = true)
    (hd : c05_staticL env st.deleted = true) (h : readElem env fuel st n = .ok (r, st')) :
    c05_staticL env st'.deleted = true :=
  (c05_readElem_track env (c05_numOk_of_noStyleLinks env hn) fuel st n hs hd).ok _ h |>.1

/-- the same for a list of nodes (`body_reader.read_all`) -/
theorem C05_readAll_errors (env : REnv) (hn : c05_noStyleLinks env = true) (fuel : Nat) (st : RState)
    (ns : List XmlNode) (e : Err) (hs : c05_staticL env ns = true) (hd : c05_staticL env st.deleted = true)
    (h : readAll env fuel st ns = .error e) : e = .fuel ∨ ∃ w, e = .index w :=
  (c05_track_spec (c05_readAll_track env (c05_numOk_of_noStyleLinks env hn) fuel ns st hs hd)).err e h

/-- a body read from a fresh reader state (`{}`: empty field stack, nothing deferred), as `readPackage` does
    for the document body, the notes and the comments -/
theorem C05_readAll_fresh_errors (env : REnv) (hn : c05_noStyleLinks env = true) (fuel : Nat)
    (ns : List XmlNode) (e : Err) (hs : c05_staticL env ns = true)
    (h : readAll env fuel {} ns = .error e) : e = .fuel ∨ ∃ w, e = .index w :=
  C05_readAll_errors env hn fuel {} ns e hs rfl h

/-! ### balanced complex fields -/

/- The two theorems of this section carry two hypotheses that make "reading order" = document order: nothing
   is deferred on entry (`st.deleted = []`) and no paragraph carries a deletion mark `w:pPr/w:rPr/w:del`
   (`c05_noDel`) — a deleted paragraph mark moves the paragraph's content into the next paragraph, i.e. reorders
   the reading, and the depth function `c05_depth` does not follow that.  For EVERY statically well-formed tree,
   with the depth measured in reading order: `C05_balanced_no_index`. -/

/-- BALANCED FIELDS (partial: no deleted paragraph marks).  `c05_depth fuel d n` computes the depth of the
    complex-field stack after reading `n` from depth `d` (`begin` pushes, `end` pops, `separate` replaces
    the top; `none` on underflow).  If it does not underflow — the fields are balanced — then reading a
    statically well-formed tree without deletion marks cannot fail with `IndexError` either: the only
    failure left is the model's fuel, and on success the stack has exactly the computed depth. -/
theorem C05_balanced_no_index_partial (env : REnv) (hn : c05_noStyleLinks env = true) (fuel : Nat) (st : RState)
    (n : XmlNode) (k : Nat) (hs : c05_static env n = true) (hnd : c05_noDel n = true) (hd : st.deleted = [])
    (hb : c05_depth fuel st.stack.length n = some k) :
    (∀ e, readElem env fuel st n = .error e → e = .fuel) ∧
    (∀ r st', readElem env fuel st n = .ok (r, st') → st'.stack.length = k ∧ st'.deleted = []) :=
  have hb' : c05_rdepth fuel (st.stack.length, st.deleted) n = some (k, []) := by
    rw [hd, c05_rdepth_noDel fuel _ n hnd, hb]; rfl
  c05_track_some (c05_readElem_track env (c05_numOk_of_noStyleLinks env hn) fuel st n hs (hd ▸ rfl)) hb'

/-- the same for a body (list of nodes) read from the fresh state, as `readPackage` does -/
theorem C05_balanced_no_index_readAll_partial (env : REnv) (hn : c05_noStyleLinks env = true) (fuel : Nat)
    (ns : List XmlNode) (k : Nat) (hs : c05_staticL env ns = true) (hnd : c05_noDelL ns = true)
    (hb : c05_depthAllWith (c05_depth fuel) 0 ns = some k) (e : Err)
    (h : readAll env fuel {} ns = .error e) : e = .fuel :=
  have hb' : c05_rdepthL fuel (0, []) ns = some (k, []) := by
    rw [c05_rdepthL, c05_rdepthAllWith_noDel _ _ (c05_rdepth_noDel fuel) ns 0 hnd, hb]; rfl
  (c05_track_some (c05_readAll_track env (c05_numOk_of_noStyleLinks env hn) fuel ns {} hs rfl) hb').1 e h

/-! ### fuel -/

/-- more fuel never changes a result: one more unit … -/
theorem C05_fuel_mono (env : REnv) (f : Nat) (st : RState) (n : XmlNode) (r : ReadResult × RState)
    (h : readElem env f st n = .ok r) : readElem env (f+1) st n = .ok r :=
  (c05_readElem_le2_succ env f st n).ok r h

/-- … hence any larger amount of fuel -/
theorem C05_fuel_mono_le (env : REnv) (f f' : Nat) (hf : f ≤ f') (st : RState) (n : XmlNode)
    (r : ReadResult × RState) (h : readElem env f st n = .ok r) : readElem env f' st n = .ok r := by
  obtain ⟨k, rfl⟩ := Nat.exists_eq_add_of_le hf
  exact (c05_readElem_le2_add env f k st n).ok r h

/-- the same for lists of nodes -/
theorem C05_fuel_mono_readAll (env : REnv) (f f' : Nat) (hf : f ≤ f') (st : RState) (ns : List XmlNode)
    (r : ReadResult × RState) (h : readAll env f st ns = .ok r) : readAll env f' st ns = .ok r :=
  (c05_readAll_le2 env f f' hf st ns).ok r h

/-- consequently a `.fuel` failure is never "hidden" by a success at smaller fuel: if some fuel succeeds,
    every failure at larger fuel is impossible -/
theorem C05_fuel_no_late_failure (env : REnv) (f f' : Nat) (hf : f ≤ f') (st : RState) (n : XmlNode)
    (r : ReadResult × RState) (e : Err) (h : readElem env f st n = .ok r) :
    readElem env f' st n ≠ .error e := by
  rw [C05_fuel_mono_le env f f' hf st n r h]; intro h'; cases h'

/-- FUEL IS ENOUGH (no deleted paragraph marks): with fuel at least `xmlSize n` the reader never runs out
    of fuel, whatever else happens (no static hypothesis needed).  `C05_fuel_enough_all` below counts the
    deferred content, which a later paragraph reads besides its own subtree, in the bound. -/
theorem C05_fuel_enough (env : REnv) (fuel : Nat) (st : RState) (n : XmlNode) (e : Err)
    (hnd : c05_noDel n = true) (hd : st.deleted = []) (hf : xmlSize n ≤ fuel)
    (h : readElem env fuel st n = .error e) : e ≠ .fuel :=
  (c05_readElem_nofuelA env fuel st n (by rw [hd]; exact hf)).err e h

/-- the same for a body read from the fresh state -/
theorem C05_fuel_enough_readAll (env : REnv) (fuel : Nat) (ns : List XmlNode) (e : Err)
    (hnd : c05_noDelL ns = true) (hf : xmlSizeL ns ≤ fuel)
    (h : readAll env fuel {} ns = .error e) : e ≠ .fuel :=
  (c05_readAllWith_nofuelA _ fuel (c05_readElem_nofuelA env fuel) ns {} hf).err e h

/-- READER TOTALITY on the domain (partial: no deleted paragraph marks, no `w:numStyleLink`): a body that
    is statically well-formed, has balanced complex fields and no deletion marks is read WITHOUT ANY ERROR
    as soon as the fuel is at least its size. -/
theorem C05_readAll_total_partial (env : REnv) (hn : c05_noStyleLinks env = true) (fuel : Nat)
    (ns : List XmlNode) (k : Nat) (hs : c05_staticL env ns = true) (hnd : c05_noDelL ns = true)
    (hb : c05_depthAllWith (c05_depth fuel) 0 ns = some k) (hf : xmlSizeL ns ≤ fuel) :
    ∃ r, readAll env fuel {} ns = .ok r := by
  cases h : readAll env fuel {} ns with
  | ok r => exact ⟨r, rfl⟩
  | error e =>
    exact absurd (C05_balanced_no_index_readAll_partial env hn fuel ns k hs hnd hb e h)
      (C05_fuel_enough_readAll env fuel ns e hnd hf h)

/-! ### the converter -/

/-- `convertDoc` can only fail with a `KeyError`: an unresolvable note reference, an unresolvable comment
    reference under a `comment-reference` mapping, or a missing zip entry for an embedded image — for ALL
    documents and configurations. -/
theorem C05_convert_errors (cfg : Cfg) (d : Document) (e : Err) (h : convertDoc cfg d = .error e) :
    ∃ w, e = .key w := by
  unfold convertDoc at h
  split at h
  · cases h
  · rename_i e' he
    injection h with h; subst h
    exact (c05_visitDocument_keyOnly _ d).h _ _ he

/-- If every `.noteRef` in the body and in the note/comment bodies resolves in `d.notes`, every `.commentRef`
    id is in `d.comments` or there is no `comment-reference` mapping, and every embedded image path is in
    `cfg.archive` or the image converter does not open images (all of this is the decidable `c05_docOk`),
    then `convertDoc` returns normally. -/
theorem C05_convert_total (cfg : Cfg) (d : Document) (h : c05_docOk cfg d = true) :
    ∃ r, convertDoc cfg d = .ok r :=
  c05_convertDoc_ok cfg d h

/-- in particular a document without note references, comment references and embedded images always converts -/
theorem C05_convert_total_linked_only (cfg : Cfg) (uri : Str) (alt ct : Option Str) :
    ∃ r, convertDoc cfg { children := [.paragraph {} [.run {} [.image ⟨alt, ct, .linked uri⟩]]] } = .ok r :=
  c05_convertDoc_ok cfg _ rfl

/-! ### the writer stage and the API -/

/-- The writer stage cannot fail: `stripEmpty`, `collapse`, `writeHtml`, `writeMarkdown` are total functions
    (`List Node → List Node`, `List Node → Str`), so an error of `apiConvert` is an error of reading the
    embedded style map, of the reader `readPackage`, or of the converter `convertDoc` on the document read. -/
theorem C05_value_total (p : Package) (fuel : Nat) (base : Option Str) (world : Str → Option Bytes)
    (transform : Document → Document) (o : Options) (e : Err)
    (h : apiConvert p fuel base world transform o = .error e) :
    (o.includeEmbedded = true ∧ readEmbeddedStyleMap p = .error e) ∨
    readPackage p fuel = .error e ∨
    ∃ emb doc msgs, readPackage p fuel = .ok (doc, msgs) ∧
      convertDoc (c05_apiCfg p base world o emb) (transform doc) = .error e := by
  rw [c05_apiConvert_eq] at h
  rcases bind_err h with h1 | ⟨emb, _, h2⟩
  · left
    split at h1
    · exact ⟨‹_›, h1⟩
    · cases h1
  · right
    rcases bind_err h2 with h3 | ⟨⟨doc, msgs⟩, h3, h4⟩
    · exact .inl h3
    · rcases bind_err h4 with h5 | ⟨r, _, h6⟩
      · exact .inr ⟨emb, doc, msgs, h3, h5⟩
      · cases h6

/-- hence: once the package has been read, `apiConvert` can only fail with a `KeyError` of the converter -/
theorem C05_api_errors_after_reading (p : Package) (fuel : Nat) (base : Option Str) (world : Str → Option Bytes)
    (transform : Document → Document) (o : Options) (e : Err) (dm : Document × List Str)
    (hr : readPackage p fuel = .ok dm)
    (hs : o.includeEmbedded = false ∨ ∃ s, readEmbeddedStyleMap p = .ok s)
    (h : apiConvert p fuel base world transform o = .error e) : ∃ w, e = .key w := by
  rcases C05_value_total p fuel base world transform o e h with ⟨h1, h2⟩ | h2 | ⟨emb, doc, msgs, _, h3⟩
  · rcases hs with hs | ⟨s, hs⟩
    · rw [hs] at h1; cases h1
    · rw [hs] at h2; cases h2
  · rw [hr] at h2; cases h2
  · exact C05_convert_errors _ _ e h3

/-! ### examples -/

/-- a paragraph with a dangling style id, an unknown element, an unknown break type, a drawing without
    image and a hex symbol is statically well-formed … -/
def c05_exampleNode : XmlNode :=
  .elem S!"w:p" [] [
    .elem S!"w:pPr" [] [.elem S!"w:pStyle" [(S!"w:val", S!"NoSuchStyle")] [],
                        .elem S!"w:numPr" [] [.elem S!"w:numId" [(S!"w:val", S!"77")] [],
                                              .elem S!"w:ilvl" [(S!"w:val", S!"0")] []]],
    .elem S!"w:r" [] [.elem S!"w:t" [] [.text S!"hi"], .elem S!"w:br" [(S!"w:type", S!"weird")] [],
                      .elem S!"w:unknown" [] [], .elem S!"w:sym" [(S!"w:font", S!"Wingdings"), (S!"w:char", S!"F04A")] [],
                      .elem S!"w:drawing" [] [.elem S!"wp:inline" [] []]],
    .elem S!"w:hyperlink" [(S!"r:id", S!"rId1")] [.elem S!"w:r" [] [.elem S!"w:t" [] [.text S!"x"]]]]

def c05_exampleEnv : REnv := { rels := [⟨S!"rId1", S!"http://example.com", S!"hyperlink"⟩] }

example : c05_static c05_exampleEnv c05_exampleNode = true := by decide +kernel
example : c05_noStyleLinks c05_exampleEnv = true := by decide +kernel
/-- … and is read without error -/
example : (readElem c05_exampleEnv 10 {} c05_exampleNode).toBool = true := by decide +kernel
/-- with a dangling relationship id it is not static, and the reader raises `KeyError` -/
example : c05_static {} c05_exampleNode = false := by decide +kernel
example : (readElem {} 10 {} c05_exampleNode).toBool = false := by decide +kernel
/-- an unbalanced `w:fldChar` is statically fine but pops the empty stack -/
example : c05_static {} (.elem S!"w:fldChar" [(S!"w:fldCharType", S!"end")] []) = true := by decide +kernel
example : (readElem {} 3 {} (.elem S!"w:fldChar" [(S!"w:fldCharType", S!"end")] [])) = .error (.index S!"pop from empty list") := by
  rfl
/-- non-numeric gridSpan / non-hex symbol are not static -/
example : c05_static {} (.elem S!"w:tc" [] [.elem S!"w:tcPr" [] [.elem S!"w:gridSpan" [(S!"w:val", S!"2x")] []]]) = false := by decide +kernel
example : c05_static {} (.elem S!"w:sym" [(S!"w:char", S!"zz")] []) = false := by decide +kernel

/-- a balanced complex field (begin … separate … end) has depth 0 again; an `end` alone underflows -/
example : c05_depth 5 0 (.elem S!"w:p" [] [
    .elem S!"w:r" [] [.elem S!"w:fldChar" [(S!"w:fldCharType", S!"begin")] []],
    .elem S!"w:r" [] [.elem S!"w:instrText" [] [.text S!" HYPERLINK \"http://x\" "]],
    .elem S!"w:r" [] [.elem S!"w:fldChar" [(S!"w:fldCharType", S!"separate")] []],
    .elem S!"w:r" [] [.elem S!"w:t" [] [.text S!"x"]],
    .elem S!"w:r" [] [.elem S!"w:fldChar" [(S!"w:fldCharType", S!"end")] []]]) = some 0 := by decide +kernel
example : c05_depth 5 0 (.elem S!"w:fldChar" [(S!"w:fldCharType", S!"end")] []) = none := by decide +kernel
example : c05_noDel c05_exampleNode = true := by decide +kernel

/-- the converter hypothesis on a document with a resolvable note reference and an embedded image present
    in the archive -/
example : c05_docOk { archive := [(S!"word/media/a.png", [1, 2])] }
    { children := [.paragraph {} [.run {} [.noteRef S!"footnote" S!"1", .image ⟨none, none, .embedded S!"word/media/a.png"⟩]]],
      notes := [⟨S!"footnote", S!"1", []⟩] } = true := by decide +kernel
/-- … and violated by a dangling note reference -/
example : c05_docOk {} { children := [.noteRef S!"footnote" S!"9"] } = false := by decide +kernel

/-! ## The reader, in full: `w:numStyleLink` chains and deleted paragraph marks

The theorems above exclude `w:numStyleLink` (`c05_noStyleLinks`) and deleted paragraph marks (`c05_noDel`,
`st.deleted = []`).  The theorems below hold with both:

* in place of `c05_noStyleLinks`, `c05_linksAcyclic` (Proofs/C05_Links.lean): every `w:numStyleLink` chain
  starting at a defined numId ends — links may DANGLE anywhere, only cycles are excluded.  This is necessary
  and sufficient for `find_level` to return (`C05_findLevel_total_iff`); a cycle is a `RecursionError` whatever
  the fuel (`C05_findLevel_cycle_fails`).
* fuel: `xmlSize n + xmlSizeL st.deleted ≤ fuel` is enough for EVERY tree (`C05_fuel_enough_all`).
* balanced fields are measured IN READING ORDER (`c05_rdepth`, Proofs/C05_RDepth.lean), which follows the
  deferred content of deleted paragraphs into the paragraph that reads it (`C05_balanced_no_index`).
* `C05_readAll_total`: statically well-formed + balanced in reading order + fuel ≥ size ⟹ the body is read.
-/

/-! ### numbering-style links -/

/-- `find_level` (with the fuel the reader gives it) returns normally for every numId and level a
    paragraph may carry IF AND ONLY IF the `w:numStyleLink` chains of the environment are acyclic. -/
theorem C05_findLevel_total_iff (env : REnv) :
    c05_linksAcyclic env = true ↔
    ∀ numId lvl : Str, ∃ r, findLevel env.numbering (c05_linkFuel env) (some numId) lvl = .ok r := by
  constructor
  · intro hl numId lvl
    exact c05_findLevel_ok_acyclic env hl _ (by unfold c05_linkFuel; omega) numId lvl
  · intro h
    simp only [c05_linksAcyclic, List.all_eq_true, Bool.or_eq_true]
    intro p _
    cases hp : p.1 with
    | none => left; rfl
    | some s =>
      right
      obtain ⟨r, hr⟩ := h s []
      exact c05_chainEnds_of_findLevel _ _ _ _ r hr

/-- when the links are not acyclic, some numId makes `find_level` fail with `RecursionError` for EVERY fuel:
    the failure is a cycle in the document, not an artefact of the model's fuel -/
theorem C05_findLevel_cycle_fails (env : REnv) (hl : c05_linksAcyclic env = false) :
    ∃ numId : Str, ∀ (f : Nat) (lvl : Str), findLevel env.numbering f (some numId) lvl = .error .recursion := by
  simp only [c05_linksAcyclic, List.all_eq_false, Bool.or_eq_true] at hl
  obtain ⟨p, _, hp⟩ := hl
  cases hp1 : p.1 with
  | none => rw [hp1] at hp; exact absurd (Or.inl rfl) hp
  | some s =>
    refine ⟨s, fun f lvl => ?_⟩
    cases hr : findLevel env.numbering f (some s) lvl with
    | ok r =>
      have := c05_chainEnds_of_findLevel _ _ _ _ r hr
      rw [hp1] at hp
      exact absurd (Or.inr this) hp
    | error e => rw [c05_findLevel_err _ _ _ _ e hr]

theorem C05_noStyleLinks_acyclic (env : REnv) (hn : c05_noStyleLinks env = true) : c05_linksAcyclic env = true :=
  c05_linksAcyclic_of_noStyleLinks env hn

/-- `C05_readElem_errors` with "no `w:numStyleLink`" weakened to "acyclic `w:numStyleLink` chains": on
    statically well-formed input (and statically well-formed deferred content) reading an element — with ANY
    fuel, from ANY reader state — can only fail by running out of model fuel or by popping the empty
    complex-field stack. -/
theorem C05_readElem_errors_acyclic (env : REnv) (hl : c05_linksAcyclic env = true) (fuel : Nat) (st : RState)
    (n : XmlNode) (e : Err) (hs : c05_static env n = true) (hd : c05_staticL env st.deleted = true)
    (h : readElem env fuel st n = .error e) : e = .fuel ∨ ∃ w, e = .index w :=
  (c05_track_spec (c05_readElem_track env (c05_numOk_of_acyclic env hl) fuel st n hs hd)).err e h

/-- the deferred content stays statically well-formed (acyclic version of `C05_readElem_static_preserved`) -/
theorem C05_readElem_static_preserved_acyclic (env : REnv) (hl : c05_linksAcyclic env = true) (fuel : Nat)
    (st : RState) (n : XmlNode) (r : ReadResult) (st' : RState) (hs : c05_static env n = true)
    (hd : c05_staticL env st.deleted = true) (h : readElem env fuel st n = .ok (r, st')) :
    c05_staticL env st'.deleted = true :=
  (c05_readElem_track env (c05_numOk_of_acyclic env hl) fuel st n hs hd).ok _ h |>.1

/-- the same for a list of nodes (`body_reader.read_all`) -/
theorem C05_readAll_errors_acyclic (env : REnv) (hl : c05_linksAcyclic env = true) (fuel : Nat) (st : RState)
    (ns : List XmlNode) (e : Err) (hs : c05_staticL env ns = true) (hd : c05_staticL env st.deleted = true)
    (h : readAll env fuel st ns = .error e) : e = .fuel ∨ ∃ w, e = .index w :=
  (c05_track_spec (c05_readAll_track env (c05_numOk_of_acyclic env hl) fuel ns st hs hd)).err e h

/-- … and from the fresh reader state -/
theorem C05_readAll_fresh_errors_acyclic (env : REnv) (hl : c05_linksAcyclic env = true) (fuel : Nat)
    (ns : List XmlNode) (e : Err) (hs : c05_staticL env ns = true)
    (h : readAll env fuel {} ns = .error e) : e = .fuel ∨ ∃ w, e = .index w :=
  C05_readAll_errors_acyclic env hl fuel {} ns e hs rfl h

/-! ### fuel, for all trees -/

/-- FUEL IS ENOUGH, for EVERY tree and EVERY reader state (no hypothesis on deleted paragraph marks, none on
    well-formedness): with fuel at least the size of the node plus the size of the deferred content, the
    reader never runs out of fuel. -/
theorem C05_fuel_enough_all (env : REnv) (fuel : Nat) (st : RState) (n : XmlNode) (e : Err)
    (hf : xmlSize n + xmlSizeL st.deleted ≤ fuel) (h : readElem env fuel st n = .error e) : e ≠ .fuel :=
  (c05_readElem_nofuelA env fuel st n hf).err e h

/-- … and what is deferred afterwards is bounded by the same sum (the invariant that makes the bound
    inductive along a list of siblings) -/
theorem C05_fuel_enough_all_deferred (env : REnv) (fuel : Nat) (st st' : RState) (n : XmlNode) (r : ReadResult)
    (hf : xmlSize n + xmlSizeL st.deleted ≤ fuel) (h : readElem env fuel st n = .ok (r, st')) :
    xmlSizeL st'.deleted ≤ xmlSize n + xmlSizeL st.deleted :=
  (c05_readElem_nofuelA env fuel st n hf).ok _ h

/-- the same for a list of nodes from any state … -/
theorem C05_fuel_enough_readAll_all (env : REnv) (fuel : Nat) (st : RState) (ns : List XmlNode) (e : Err)
    (hf : xmlSizeL ns + xmlSizeL st.deleted ≤ fuel) (h : readAll env fuel st ns = .error e) : e ≠ .fuel :=
  (c05_readAllWith_nofuelA _ fuel (c05_readElem_nofuelA env fuel) ns st hf).err e h

/-- … in particular for a body read from the fresh state -/
theorem C05_fuel_enough_readAll_fresh (env : REnv) (fuel : Nat) (ns : List XmlNode) (e : Err)
    (hf : xmlSizeL ns ≤ fuel) (h : readAll env fuel {} ns = .error e) : e ≠ .fuel :=
  C05_fuel_enough_readAll_all env fuel {} ns e (by simpa [xmlSizeL] using hf) h

/-! ### balanced complex fields, in reading order -/

/-- BALANCED FIELDS.  `c05_rdepth fuel (d, deferred) n` computes, IN READING ORDER (the children of a
    paragraph with a deleted paragraph mark are deferred to the next paragraph without one), the pair (depth of
    the complex-field stack, deferred nodes) after reading `n`; `none` = a `w:fldChar` end/separate meets the
    empty stack.  For EVERY statically well-formed tree, from EVERY state whose deferred content is
    statically well-formed: if it does not underflow, reading cannot fail with `IndexError` — the only
    failure left is the model's fuel — and on success the stack depth and the deferred nodes are exactly the
    computed ones. -/
theorem C05_balanced_no_index (env : REnv) (hl : c05_linksAcyclic env = true) (fuel : Nat) (st : RState)
    (n : XmlNode) (s' : c05_DS) (hs : c05_static env n = true) (hd : c05_staticL env st.deleted = true)
    (hb : c05_rdepth fuel (st.stack.length, st.deleted) n = some s') :
    (∀ e, readElem env fuel st n = .error e → e = .fuel) ∧
    (∀ r st', readElem env fuel st n = .ok (r, st') → st'.stack.length = s'.1 ∧ st'.deleted = s'.2) :=
  c05_track_some (c05_readElem_track env (c05_numOk_of_acyclic env hl) fuel st n hs hd) hb

/-- the same for a list of nodes, from any state -/
theorem C05_balanced_no_index_readAll (env : REnv) (hl : c05_linksAcyclic env = true) (fuel : Nat) (st : RState)
    (ns : List XmlNode) (s' : c05_DS) (hs : c05_staticL env ns = true) (hd : c05_staticL env st.deleted = true)
    (hb : c05_rdepthL fuel (st.stack.length, st.deleted) ns = some s') :
    (∀ e, readAll env fuel st ns = .error e → e = .fuel) ∧
    (∀ r st', readAll env fuel st ns = .ok (r, st') → st'.stack.length = s'.1 ∧ st'.deleted = s'.2) :=
  c05_track_some (c05_readAll_track env (c05_numOk_of_acyclic env hl) fuel ns st hs hd) hb

/-! ### reader totality -/

/-- READER TOTALITY from any state: statically well-formed nodes and deferred content, balanced in reading
    order from the state's stack depth, fuel at least the size of the nodes plus the deferred content ⟹ the
    nodes are read WITHOUT ANY ERROR, and the final stack depth / deferred nodes are the computed ones. -/
theorem C05_readAll_total_from (env : REnv) (hl : c05_linksAcyclic env = true) (fuel : Nat) (st : RState)
    (ns : List XmlNode) (s' : c05_DS) (hs : c05_staticL env ns = true) (hd : c05_staticL env st.deleted = true)
    (hb : c05_rdepthL fuel (st.stack.length, st.deleted) ns = some s')
    (hf : xmlSizeL ns + xmlSizeL st.deleted ≤ fuel) :
    ∃ r st', readAll env fuel st ns = .ok (r, st') ∧ st'.stack.length = s'.1 ∧ st'.deleted = s'.2 := by
  obtain ⟨herr, hok⟩ := C05_balanced_no_index_readAll env hl fuel st ns s' hs hd hb
  cases h : readAll env fuel st ns with
  | ok r => exact ⟨r.1, r.2, rfl, hok r.1 r.2 h⟩
  | error e => exact absurd (herr e h) (C05_fuel_enough_readAll_all env fuel st ns e hf h)

/-- READER TOTALITY on the domain: a body (as `readPackage` reads the document body, the notes and the
    comments: from the fresh state) that is statically well-formed (`c05_staticL`) and whose complex fields
    are balanced in reading order (`c05_balanced`), in an environment with acyclic `w:numStyleLink` chains, is
    read WITHOUT ANY ERROR with every fuel ≥ its size.  Deleted paragraph marks, `w:numStyleLink`s, dangling
    style / numbering references, unknown elements are all allowed. -/
theorem C05_readAll_total (env : REnv) (hl : c05_linksAcyclic env = true) (fuel : Nat)
    (ns : List XmlNode) (hs : c05_staticL env ns = true) (hb : c05_balanced ns = true)
    (hf : xmlSizeL ns ≤ fuel) : ∃ r, readAll env fuel {} ns = .ok r :=
  c05_readAll_total env hl fuel ns hs hb hf

/-! ### exactness: balanced in reading order is also NECESSARY -/

/-- more fuel changes no definite outcome: a normal result, and also every error other than `.fuel`, is the
    same at every larger fuel (strengthens `C05_fuel_mono_readAll`) -/
theorem C05_fuel_mono_outcome (env : REnv) (f f' : Nat) (hf : f ≤ f') (st : RState) (ns : List XmlNode) :
    (∀ r, readAll env f st ns = .ok r → readAll env f' st ns = .ok r) ∧
    (∀ e, readAll env f st ns = .error e → e ≠ .fuel → readAll env f' st ns = .error e) :=
  ⟨(c05_readAll_le2 env f f' hf st ns).ok, (c05_readAll_le2 env f f' hf st ns).err⟩

/-- UNBALANCED ⟹ `IndexError`: statically well-formed nodes and deferred content, enough fuel, and the
    reading-order depth function underflows ⟹ the reader fails with `pop()` on the empty field stack -/
theorem C05_unbalanced_fails (env : REnv) (hl : c05_linksAcyclic env = true) (fuel : Nat) (st : RState)
    (ns : List XmlNode) (hs : c05_staticL env ns = true) (hd : c05_staticL env st.deleted = true)
    (hb : c05_rdepthL fuel (st.stack.length, st.deleted) ns = none)
    (hf : xmlSizeL ns + xmlSizeL st.deleted ≤ fuel) : ∃ w, readAll env fuel st ns = .error (.index w) := by
  have htr := c05_readAll_track env (c05_numOk_of_acyclic env hl) fuel ns st hs hd
  have hnf := c05_readAllWith_nofuelA _ fuel (c05_readElem_nofuelA env fuel) ns st hf
  cases h : readAll env fuel st ns with
  | ok a => exact absurd h (c05_track_nrel htr hb a)
  | error e =>
    rcases htr.err e h with he | ⟨⟨w, he⟩, _⟩
    · exact absurd he (hnf.err e h)
    · exact ⟨w, by rw [he]⟩

/-- READER TOTALITY, EXACTLY: a statically well-formed body, in an environment with acyclic links, is read
    from the fresh state (with any fuel ≥ its size) IF AND ONLY IF its complex fields are balanced in reading
    order — `c05_balanced` is not stronger than necessary. -/
theorem C05_readAll_total_iff (env : REnv) (hl : c05_linksAcyclic env = true) (fuel : Nat)
    (ns : List XmlNode) (hs : c05_staticL env ns = true) (hf : xmlSizeL ns ≤ fuel) :
    (∃ r, readAll env fuel {} ns = .ok r) ↔ c05_balanced ns = true := by
  constructor
  · intro ⟨r, hr⟩
    cases hb : c05_balanced ns with
    | true => rfl
    | false =>
      have hnone : c05_rdepthL (xmlSizeL ns) (0, []) ns = none := by
        unfold c05_balanced at hb
        cases h : c05_rdepthL (xmlSizeL ns) (0, []) ns with
        | none => rfl
        | some s => rw [h] at hb; cases hb
      obtain ⟨w, hw⟩ := C05_unbalanced_fails env hl (xmlSizeL ns) {} ns hs rfl hnone (by simp [xmlSizeL])
      have := (c05_readAll_le2 env _ fuel hf {} ns).err _ hw (by intro h; cases h)
      rw [this] at hr; cases hr
  · intro hb
    exact C05_readAll_total env hl fuel ns hs hb hf

/-! ### examples for the full reader theorems -/

/-- a numbering part with a `w:numStyleLink` chain that resolves (numId 2 → abstractNum 1 → style "ListStyle"
    → numId 1 → abstractNum 0 → level 0), one that dangles (numId 3 → abstractNum 2 → style "Nope") and a
    num without abstractNum (numId 4) -/
def c05_exampleNumbering : Numbering :=
  { abstractNums := [(some S!"0", { levels := [(S!"0", ⟨S!"0", true, none⟩)], numStyleLink := none }),
                     (some S!"1", { levels := [], numStyleLink := some S!"ListStyle" }),
                     (some S!"2", { levels := [], numStyleLink := some S!"Nope" })],
    nums := [(some S!"1", S!"0"), (some S!"2", S!"1"), (some S!"3", S!"2"), (some S!"4", S!"9")],
    styles := { numbering := [(some S!"ListStyle", some S!"1")] } }

def c05_exampleEnv2 : REnv :=
  { numbering := c05_exampleNumbering, rels := [⟨S!"rId1", S!"http://example.com", S!"hyperlink"⟩] }

/-- the same with the style pointing back to numId 2: a cycle -/
def c05_exampleEnvCyclic : REnv :=
  { numbering := { c05_exampleNumbering with styles := { numbering := [(some S!"ListStyle", some S!"2")] } } }

example : c05_linksAcyclic c05_exampleEnv2 = true := by decide +kernel
example : c05_noStyleLinks c05_exampleEnv2 = false := by decide +kernel
example : findLevel c05_exampleNumbering (c05_linkFuel c05_exampleEnv2) (some S!"2") S!"0" = .ok (some ⟨S!"0", true⟩) := by
  c05_kernel_rfl
example : findLevel c05_exampleNumbering (c05_linkFuel c05_exampleEnv2) (some S!"3") S!"0" = .ok none := by c05_kernel_rfl
example : c05_linksAcyclic c05_exampleEnvCyclic = false := by decide +kernel
example : findLevel c05_exampleEnvCyclic.numbering (c05_linkFuel c05_exampleEnvCyclic) (some S!"2") S!"0" = .error .recursion := by
  c05_kernel_rfl

def c05_fld (ty : Str) : XmlNode := .elem S!"w:r" [] [.elem S!"w:fldChar" [(S!"w:fldCharType", ty)] []]
def c05_delMark : XmlNode := .elem S!"w:pPr" [] [.elem S!"w:rPr" [] [.elem S!"w:del" [] []]]

/-- a body with a DELETED PARAGRAPH MARK: the first paragraph (field `begin` + instruction) is deferred into
    the second one (linked numbering 2/0, `separate` … `end`, a hyperlink) -/
def c05_exampleBody : List XmlNode :=
  [ .elem S!"w:p" [] [c05_delMark, c05_fld S!"begin",
                      .elem S!"w:r" [] [.elem S!"w:instrText" [] [.text S!" HYPERLINK \"http://x\" "]]],
    .elem S!"w:p" [] [
      .elem S!"w:pPr" [] [.elem S!"w:numPr" [] [.elem S!"w:numId" [(S!"w:val", S!"2")] [],
                                                .elem S!"w:ilvl" [(S!"w:val", S!"0")] []]],
      c05_fld S!"separate", .elem S!"w:r" [] [.elem S!"w:t" [] [.text S!"x"]], c05_fld S!"end",
      .elem S!"w:hyperlink" [(S!"r:id", S!"rId1")] [.elem S!"w:r" [] [.elem S!"w:t" [] [.text S!"y"]]]] ]

example : c05_noDelL c05_exampleBody = false := by decide +kernel
example : c05_staticL c05_exampleEnv2 c05_exampleBody = true := by decide +kernel
example : c05_balanced c05_exampleBody = true := by decide +kernel
example : xmlSizeL c05_exampleBody = 25 := by decide +kernel
/-- … so `C05_readAll_total` applies; indeed: -/
example : (readAll c05_exampleEnv2 25 {} c05_exampleBody).toBool = true := by decide +kernel
/-- the hypotheses of `C05_readAll_total_from` / `C05_balanced_no_index_readAll` / `C05_fuel_enough_readAll_all`
    from a state with one open field and a deferred run -/
example : c05_rdepthL 10 (1, [c05_fld S!"separate"]) [.elem S!"w:p" [] [c05_fld S!"end"]] = some (0, []) := by
  c05_kernel_rfl

/-- the hypotheses of the single-node theorems (`C05_readElem_errors_acyclic`, `C05_fuel_enough_all`,
    `C05_balanced_no_index`) on a non-trivial node and state: one field open, a `separate` run deferred -/
def c05_exampleState : RState := { stack := [.begin []], deleted := [c05_fld S!"separate"] }

example : c05_static c05_exampleEnv2 c05_exampleNode = true := by decide +kernel
example : c05_staticL c05_exampleEnv2 c05_exampleState.deleted = true := by decide +kernel
example : xmlSize c05_exampleNode + xmlSizeL c05_exampleState.deleted ≤ 30 := by decide +kernel
example : c05_rdepth 30 (c05_exampleState.stack.length, c05_exampleState.deleted) c05_exampleNode = some (1, []) := by
  c05_kernel_rfl
example : (readElem c05_exampleEnv2 30 c05_exampleState c05_exampleNode).toBool = true := by decide +kernel

/-- READING ORDER IS NOT DOCUMENT ORDER.  `begin` in a deleted paragraph, then `end` in a run outside any
    paragraph: balanced in document order (`c05_depth … = some 0`), but the reader meets `end` first and pops
    the empty stack.  The reading-order function sees it. -/
def c05_exampleReorder : List XmlNode :=
  [.elem S!"w:p" [] [c05_delMark, c05_fld S!"begin"], c05_fld S!"end", .elem S!"w:p" [] []]

example : c05_depthAllWith (c05_depth 9) 0 c05_exampleReorder = some 0 := by decide +kernel
example : c05_balanced c05_exampleReorder = false := by decide +kernel
example : readAll {} 9 {} c05_exampleReorder = .error (.index S!"pop from empty list") := by c05_kernel_rfl
/-- (these are the hypotheses of `C05_unbalanced_fails`: static, underflow, enough fuel) -/
example : c05_staticL {} c05_exampleReorder = true := by decide +kernel
example : (c05_rdepthL 9 (0, []) c05_exampleReorder).isNone = true := by decide +kernel
example : xmlSizeL c05_exampleReorder + 0 ≤ 9 := by decide +kernel
/-- conversely `end` in a deleted paragraph before the `begin`: unbalanced in document order, balanced in
    reading order, and read without error -/
def c05_exampleReorder2 : List XmlNode :=
  [.elem S!"w:p" [] [c05_delMark, c05_fld S!"end"], c05_fld S!"begin", .elem S!"w:p" [] []]

example : c05_depthAllWith (c05_depth 9) 0 c05_exampleReorder2 = none := by decide +kernel
example : c05_balanced c05_exampleReorder2 = true := by decide +kernel
example : (readAll {} 9 {} c05_exampleReorder2).toBool = true := by decide +kernel
/-- with a cyclic `w:numStyleLink` chain the example body is NOT read, whatever the fuel bound says -/
example : (readAll { c05_exampleEnv2 with numbering := c05_exampleEnvCyclic.numbering } 25 {} c05_exampleBody)
    = .error .recursion := by c05_kernel_rfl
/-- less fuel than the bound can fail: the bound is not vacuous -/
example : readAll c05_exampleEnv2 3 {} c05_exampleBody = .error .fuel := by c05_kernel_rfl


/-! ## The whole API on its domain

`c05_inDomain p` (Proofs/C05_ApiTotal.lean) is a decidable predicate on the package; it is the conjunction
of the clauses listed by `c05_clauses p` (`C05_inDomain_clauses`):

1. every part that is PRESENT parses (`c05_view p ≠ none`; package and part relationships, content types,
   styles, numbering, footnotes, endnotes, comments are optional, the main document with its `w:body` is not);
2. the `w:numStyleLink` chains are acyclic (`c05_linksAcyclic`) — links may dangle;
3. for the footnotes, the endnotes and the comments part: every note / comment element has a `w:id`, and
   the children of all of them IN SEQUENCE (one body reader reads them all: fields and deferred paragraphs
   carry over from one note to the next) are statically well-formed (`c05_staticL`) and balanced in reading
   order (`c05_balanced`); the same for the children of `w:body`;
4. every note reference, comment reference and embedded-image relationship anywhere in those four node lists
   resolves: to a note / comment the package defines, resp. to a non-XML zip entry (`c05_xrefsL`);
5. the embedded style map `mammoth/style-map`, if present, is UTF-8 text.

Dangling style ids, numbering ids, numbering-style links, image-less drawings, unknown elements, unknown break
types, absent optional parts, `w:val`-less toggles, absent property blocks, absent `mc:Fallback` are all
INSIDE the domain (none of the clauses mentions them).  `c05_fuelBound p` is the size of the largest of the
four node lists.  The result value is a `Str` and the messages are `List Str` (warnings) by construction. -/

/-- `docx.read` returns a document for every readable package (clauses 1–3) and enough fuel -/
theorem C05_readPackage_total (p : Package) (fuel : Nat) (h : c05_readable p = true)
    (hf : c05_fuelBound p ≤ fuel) : ∃ dm, readPackage p fuel = .ok dm := by
  unfold c05_readable at h
  unfold c05_fuelBound at hf
  cases hv : c05_view p with
  | none => rw [hv] at h; cases h
  | some v =>
    rw [hv] at h hf; dsimp only at h hf
    rw [c05_readPackage_view p v fuel hv]
    exact c05_readView_total v fuel h hf

/-- clause 1 is necessary: if some present part does not parse (or the main document / its body is missing),
    `docx.read` fails whatever the fuel -/
theorem C05_parts_must_parse (p : Package) (fuel : Nat) (h : c05_view p = none) :
    ∃ e, readPackage p fuel = .error e :=
  c05_view_none_fails p fuel h

/-- when every present part parses, `docx.read` is the body reader run on the four node lists of the view -/
theorem C05_readPackage_eq_view (p : Package) (v : c05_View) (fuel : Nat) (h : c05_view p = some v) :
    readPackage p fuel = c05_readView v fuel :=
  c05_readPackage_view p v fuel h

/-- the reader does not invent references: on a package whose references resolve in the XML (clause 4), every
    document `docx.read` returns satisfies the converter's precondition `c05_docOk` — for EVERY converter
    configuration that uses the package's own archive (every style map, id prefix, image converter, …) -/
theorem C05_read_document_refs (p : Package) (fuel : Nat) (doc : Document) (msgs : List Str) (cfg : Cfg)
    (harch : cfg.archive = archiveBytes p) (h : c05_refsResolve p = true)
    (hr : readPackage p fuel = .ok (doc, msgs)) : c05_docOk cfg doc = true := by
  unfold c05_refsResolve at h
  cases hv : c05_view p with
  | none => rw [hv] at h; cases h
  | some v =>
    rw [hv] at h; dsimp only at h
    rw [c05_readPackage_view p v fuel hv] at hr
    obtain ⟨h1, h2, h3⟩ := c05_readView_refs _ v fuel doc msgs hr h
    exact c05_docOk_of_docRefsOk _ cfg doc (by rw [harch]; exact fun n hn => hn) h2 h3 h1

/-- THE API IS TOTAL ON ITS DOMAIN: for every package in the domain, every fuel ≥ the bound, and EVERY
    combination of options `o` (custom style map, include default / embedded style map, id prefix,
    ignore-empty-paragraphs, image converter, output format HTML or markdown), every base directory and
    outside world, `convert_to_html` / `convert_to_markdown` (no `transform_document`) return normally. -/
theorem C05_api_total (p : Package) (fuel : Nat) (base : Option Str) (world : Str → Option Bytes)
    (o : Options) (h : c05_inDomain p = true) (hf : c05_fuelBound p ≤ fuel) :
    ∃ out, apiConvert p fuel base world id o = .ok out := by
  simp only [c05_inDomain, Bool.and_eq_true] at h
  obtain ⟨⟨h1, h2⟩, h3⟩ := h
  obtain ⟨⟨doc, msgs⟩, hr⟩ := C05_readPackage_total p fuel h1 hf
  exact c05_apiConvert_ok_of_docOk p fuel base world id o doc msgs h3 hr
    (fun emb => C05_read_document_refs p fuel doc msgs _ rfl h2 hr)

/-- in particular for both output formats -/
theorem C05_api_total_html_markdown (p : Package) (fuel : Nat) (base : Option Str) (world : Str → Option Bytes)
    (o : Options) (h : c05_inDomain p = true) (hf : c05_fuelBound p ≤ fuel) :
    (∃ out, apiConvert p fuel base world id { o with format := .html } = .ok out) ∧
    (∃ out, apiConvert p fuel base world id { o with format := .markdown } = .ok out) :=
  ⟨C05_api_total p fuel base world _ h hf, C05_api_total p fuel base world _ h hf⟩

/-- with a `transform_document` function: the API returns normally whenever the package was read, its
    embedded style map is fine, and the references of the TRANSFORMED document resolve within that document
    and the package's zip entries (`c05_docSelfOk`; an arbitrary transformation can of course introduce
    dangling references, so some hypothesis on its result is needed) -/
theorem C05_api_total_transform (p : Package) (fuel : Nat) (base : Option Str) (world : Str → Option Bytes)
    (transform : Document → Document) (o : Options) (doc : Document) (msgs : List Str)
    (hs : c05_styleMapOk p = true) (hr : readPackage p fuel = .ok (doc, msgs))
    (hd : c05_docSelfOk ((archiveBytes p).map (·.1)) (transform doc) = true) :
    ∃ out, apiConvert p fuel base world transform o = .ok out :=
  c05_apiConvert_ok_of_docOk p fuel base world transform o doc msgs hs hr
    (fun emb => c05_docOk_of_docSelfOk (c05_apiCfg p base world o emb) _ hd)

/-- `extract_raw_text` returns normally on every readable package (clauses 1–3 suffice: the raw-text
    extractor follows no references and does not read the embedded style map) -/
theorem C05_rawText_total (p : Package) (fuel : Nat) (h : c05_readable p = true)
    (hf : c05_fuelBound p ≤ fuel) : ∃ out, apiRawText p fuel = .ok out := by
  obtain ⟨dm, hr⟩ := C05_readPackage_total p fuel h hf
  unfold apiRawText
  rw [hr]
  exact ⟨_, rfl⟩

/-- the domain is exactly the conjunction of the clauses listed by `c05_clauses` -/
theorem C05_inDomain_clauses (p : Package) : c05_inDomain p = (c05_clauses p).all id :=
  c05_inDomain_eq_clauses p

/-! ### examples for the API theorems -/

/-- the example package (Proofs/C05_Example.lean: deleted paragraph mark with a complex field running into
    the next paragraph, `w:numStyleLink`, dangling paragraph style, footnote, comment, embedded image,
    hyperlink, no content-types and no endnotes part) is in the domain, its fuel bound is 40 … -/
example : c05_inDomain c05_exPackage = true := c05_exPackage_inDomain
example : c05_fuelBound c05_exPackage = 40 := by
  rw [c05_fuelBound, c05_exPackage, c05_exParts_view]
  decide +kernel
example : c05_clauses c05_exPackage =
    [true, true, true, true, true, true, true, true, true, true, true, true, true, true, true, true, true, true] :=
  c05_exPackage_clauses
/-- … and indeed HTML, markdown and raw text are produced (with a `comment-reference` mapping in force) -/
example : (apiConvert c05_exPackage 40 none (fun _ => none) id c05_exOptions).toBool = true := by
  rw [apiConvert, c05_exPackage_read]
  decide +kernel
example : (apiConvert c05_exPackage 40 none (fun _ => none) id { c05_exOptions with format := .markdown }).toBool
    = true := by
  rw [apiConvert, c05_exPackage_read]
  decide +kernel
example : (apiRawText c05_exPackage 40).toBool = true := by
  rw [apiRawText, c05_exPackage_read]
  rfl

/-- the hypotheses of `C05_readPackage_total` / `C05_rawText_total`, `C05_readPackage_eq_view`,
    `C05_read_document_refs` on the example; of `C05_parts_must_parse` on the variant with an unparsable part -/
example : c05_readable c05_exPackage = true := c05_exPackage_parts.1
example : (c05_view c05_exPackage).isSome = true := c05_view_isSome_of_readable c05_exPackage_parts.1
example : c05_refsResolve c05_exPackage = true ∧ (readPackage c05_exPackage 40).toBool = true :=
  ⟨c05_exPackage_parts.2.1, by rw [c05_exPackage_read]; rfl⟩
example : (c05_view c05_exBadParse).isNone = true := by decide +kernel

/-- the hypotheses of `C05_api_total_transform`, with a transformation that appends a paragraph -/
def c05_exTransform (d : Document) : Document :=
  { d with children := d.children ++ [.paragraph {} [.run {} [.text S!"appended", .noteRef S!"footnote" S!"1"]]] }

example : c05_styleMapOk c05_exPackage = true := c05_exPackage_parts.2.2
example : (match readPackage c05_exPackage 40 with
    | .ok (doc, _) => c05_docSelfOk ((archiveBytes c05_exPackage).map (·.1)) (c05_exTransform doc)
    | .error _ => false) = true := by
  rw [c05_exPackage_read]
  decide +kernel
example : (apiConvert c05_exPackage 40 none (fun _ => none) c05_exTransform c05_exOptions).toBool = true := by
  rw [apiConvert, c05_exPackage_read]
  decide +kernel

/-! Each clause is needed: a variant of the example that violates ONE clause (see `c05_clauses` for which)
    makes the model fail. -/

/-- 1. a present part that does not parse (the main document's relationships part is not XML) -/
example : c05_clauses c05_exBadParse = [false] := by decide +kernel
example : (readPackage c05_exBadParse 40).toBool = false := by decide +kernel
/-- 2. cyclic `w:numStyleLink` chain: `RecursionError` -/
example : c05_clauses c05_exCyclic =
    [true, false, true, true, true, true, true, true, true, true, true, true, true, true, true, true, true, true] := by
  rw [c05_clauses, c05_exCyclic, c05_exParts_view]
  decide +kernel
example : readPackage c05_exCyclic 40 = .error .recursion := by
  rw [c05_exCyclic, c05_readPackage_view _ _ _ (c05_exParts_view ..)]
  c05_kernel_rfl
/-- 3a. a note element without `w:id`: `KeyError` (the reference to it then dangles as well) -/
example : c05_clauses c05_exNoteNoId =
    [true, true, false, true, true, true, true, true, true, true, true, true, true, true, true, true, false, true] := by
  decide +kernel
example : readPackage c05_exNoteNoId 40 = .error (.key S!"w:id") := by c05_kernel_rfl
/-- 3b. not statically well-formed (undefined relationship id on an `a:blip`): `KeyError` -/
example : c05_clauses c05_exNotStatic =
    [true, true, true, true, true, true, true, true, true, true, true, false, true, true, true, true, true, true] := by
  rw [c05_clauses, c05_exNotStatic, c05_exParts_view]
  decide +kernel
example : readPackage c05_exNotStatic 40 = .error (.key S!"rId99") := by
  rw [c05_exNotStatic, c05_readPackage_view _ _ _ (c05_exParts_view ..)]
  c05_kernel_rfl
/-- 3c. unbalanced complex field (here: in the footnotes part): `IndexError` -/
example : c05_clauses c05_exUnbalanced =
    [true, true, true, true, false, true, true, true, true, true, true, true, true, true, true, true, true, true] := by
  rw [c05_clauses, c05_exUnbalanced, c05_exParts_view]
  decide +kernel
example : readPackage c05_exUnbalanced 40 = .error (.index S!"pop from empty list") := by
  rw [c05_exUnbalanced, c05_readPackage_view _ _ _ (c05_exParts_view ..)]
  c05_kernel_rfl
/-- 4a. dangling footnote reference: the package is read, the converter raises `KeyError` -/
example : c05_clauses c05_exDanglingNote =
    [true, true, true, true, true, true, true, true, true, true, true, true, true, true, true, true, false, true] := by
  rw [c05_clauses, c05_exDanglingNote, c05_exParts_view]
  decide +kernel
example : (readPackage c05_exDanglingNote 40).toBool = true ∧
    (apiConvert c05_exDanglingNote 40 none (fun _ => none) id c05_exOptions).toBool = false := by
  rw [apiConvert, c05_exDanglingNote, c05_readPackage_view _ _ _ (c05_exParts_view ..)]
  decide +kernel
/-- 4b. dangling comment reference (with a `comment-reference` mapping) -/
example : c05_clauses c05_exDanglingComment =
    [true, true, true, true, true, true, true, true, true, true, true, true, true, true, true, true, false, true] := by
  rw [c05_clauses, c05_exDanglingComment, c05_exParts_view]
  decide +kernel
example : (readPackage c05_exDanglingComment 40).toBool = true ∧
    (apiConvert c05_exDanglingComment 40 none (fun _ => none) id c05_exOptions).toBool = false := by
  rw [apiConvert, c05_exDanglingComment, c05_readPackage_view _ _ _ (c05_exParts_view ..)]
  decide +kernel
/-- 4c. embedded image whose zip entry is missing (with the default image converter) -/
example : c05_clauses c05_exMissingImage =
    [true, true, true, true, true, true, true, true, true, true, true, true, true, true, true, true, false, true] := by
  rw [c05_clauses, c05_exMissingImage, c05_exParts_view]
  decide +kernel
example : (readPackage c05_exMissingImage 40).toBool = true ∧
    (apiConvert c05_exMissingImage 40 none (fun _ => none) id c05_exOptions).toBool = false := by
  rw [apiConvert, c05_exMissingImage, c05_readPackage_view _ _ _ (c05_exParts_view ..)]
  decide +kernel
/-- 5. embedded style map that is not UTF-8: `UnicodeDecodeError` -/
example : c05_clauses c05_exBadStyleMap =
    [true, true, true, true, true, true, true, true, true, true, true, true, true, true, true, true, true, false] := by
  decide +kernel
example : (apiConvert c05_exBadStyleMap 40 none (fun _ => none) id c05_exOptions).toBool = false := by decide +kernel


/-- The extracted tables these theorems consume (the reader's dispatch table; the set of deliberately ignored elements;
    the dingbat table: entries and checksums) equal the validated copies in `Proofs/Pins.lean`. -/
theorem C05_tables_as_validated :
    (Generated.handlers = pin_handlers) ∧
    (sameSet Generated.ignored pin_ignored = true) ∧
    (dingbatSums Generated.dingbats = (1061, 217117, 77998056)) :=
  ⟨pins_handlers, pins_ignored, pins_dingbats⟩

end Mammoth
