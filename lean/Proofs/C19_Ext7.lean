/-
  C19 helpers: nesting of `get_descendants` (the descendants of a descendant form a
  contiguous block), the call log of a whole document body, and size preservation for callbacks
  that keep the children of their argument.
-/
import Proofs.C19_Transforms
namespace Mammoth

/-! ### descendants of a descendant -/

/-- `x` together with its own descendants sits as one contiguous block `descendants x ++ [x]` in `l` -/
def c19_block (x : Elem) (l : List Elem) : Prop := ∃ s t, l = s ++ descendants x ++ x :: t

theorem c19_block_left {x : Elem} {a : List Elem} (b : List Elem) (h : c19_block x a) : c19_block x (a ++ b) := by
  obtain ⟨s, t, rfl⟩ := h
  exact ⟨s, t ++ b, by simp⟩

theorem c19_block_right {x : Elem} {b : List Elem} (a : List Elem) (h : c19_block x b) : c19_block x (a ++ b) := by
  obtain ⟨s, t, rfl⟩ := h
  exact ⟨a ++ s, t, by simp⟩

theorem c19_descendants_block_both :
    (∀ e x, x ∈ descendants e → c19_block x (descendants e)) ∧
    ∀ es x, x ∈ descendantsL es → c19_block x (descendantsL es) := by
  refine c19_induct ?_ ?_ ?_
  · intro e ih
    rw [c19_descendants_children]
    exact ih
  · intro x hx
    cases hx
  · intro c cs hc hcs x hx
    rw [c19_descendantsL_cons] at hx ⊢
    rcases List.mem_append.mp hx with h | h
    · exact c19_block_left _ (hc x h)
    · rcases List.mem_cons.mp h with h | h
      · subst h
        exact ⟨[], descendantsL cs, rfl⟩
      · rw [← List.singleton_append, ← List.append_assoc]
        exact c19_block_right _ (hcs x h)

theorem c19_descendants_block (e x : Elem) (hx : x ∈ descendants e) : c19_block x (descendants e) :=
  c19_descendants_block_both.1 e x hx
theorem c19_descendantsL_block (es : List Elem) (x : Elem) (hx : x ∈ descendantsL es) :
    c19_block x (descendantsL es) :=
  c19_descendants_block_both.2 es x hx

/-! ### the call log of a list of siblings (the document body) -/

theorem c19_callsL_flatMap (isT : Elem → Bool) (g : Elem → Elem) (es : List Elem) :
    c19_callsL isT g es = es.flatMap (c19_calls isT g) := by
  induction es with
  | nil => rfl
  | cons c cs ih => simp [c19_callsL, ih]

/-! ### callbacks that keep the children keep the size of the tree -/

theorem c19_size_applyIf (isT : Elem → Bool) (f : Elem → Elem) (hf : ∀ x, (f x).children = x.children) (e : Elem) :
    c19_size (applyIf isT f e) = c19_size e := by
  unfold applyIf
  split
  · rw [c19_size_step (f e), c19_size_step e, hf]
  · rfl

theorem c19_transform_size_both (isT : Elem → Bool) (f : Elem → Elem) (hf : ∀ x, (f x).children = x.children) :
    (∀ e, c19_size (transform isT f e) = c19_size e) ∧
    ∀ es, c19_sizeL (transformL isT f es) = c19_sizeL es := by
  refine c19_induct ?_ rfl ?_
  · intro e ih
    have hc : (e.withChildren (transformL isT f e.children)).children = transformL isT f e.children := by
      cases e <;> rfl
    rw [c19_transform_step, c19_size_applyIf isT f hf, c19_size_step, hc, ih, ← c19_size_step]
  · intro c cs hc hcs
    rw [c19_transformL_cons, c19_sizeL_cons, hc, hcs, c19_sizeL_cons]

theorem c19_transformL_size (isT : Elem → Bool) (f : Elem → Elem) (hf : ∀ x, (f x).children = x.children)
    (es : List Elem) : c19_sizeL (transformL isT f es) = c19_sizeL es :=
  (c19_transform_size_both isT f hf).2 es

end Mammoth
