/-
  C06_Ext7 — the printed text of a mapping is ONE line (no raw line break survives the escapes), so the
  style-map reader (`readStyleMap`, which splits its text at `\n`) sees it as one mapping; which attribute
  keys an element has.
-/
import Proofs.C06_Chain
import Proofs.C06_Meaning
namespace Mammoth

/-! ### no raw line break in the printed text -/

theorem c06x7_nl_ite {p : Prop} [Decidable p] {a b : Str} (ha : '\n' ∉ a) (hb : ¬ p → '\n' ∉ b) :
    '\n' ∉ (if p then a else b) := by
  split
  · exact ha
  · exact hb ‹_›

theorem c06x7_nl_single (c : Char) (h : ¬ (c == '\n') = true) : '\n' ∉ [c] := by
  intro hm
  rw [← List.mem_singleton.mp hm] at h
  exact h (beq_self_eq_true _)

theorem c06x7_nl_escChar (c : Char) : '\n' ∉ c06_escChar c :=
  c06x7_nl_ite (by decide) fun h => c06x7_nl_ite (by decide) fun _ => c06x7_nl_ite (by decide) fun _ =>
    c06x7_nl_ite (c06x7_nl_single c h) fun _ => List.not_mem_cons_of_ne_of_not_mem (by decide) (c06x7_nl_single c h)

theorem c06x7_nl_escFirst (c : Char) : '\n' ∉ c06_escFirst c := by
  unfold c06_escFirst
  split
  · rename_i hd
    have : ¬ '\n' = c := by rintro rfl; revert hd; decide
    simp [this]
  · exact c06x7_nl_escChar c

theorem c06x7_nl_escRest (s : Str) : '\n' ∉ c06_escRest s := by
  induction s with
  | nil => simp [c06_escRest]
  | cons c cs ih => simp [c06_escRest, c06x7_nl_escChar, ih]

theorem c06x7_nl_printIdent (s : Str) : '\n' ∉ c06_printIdent s := by
  cases s with
  | nil => simp [c06_printIdent]
  | cons c cs => simp [c06_printIdent, c06x7_nl_escFirst, c06x7_nl_escRest]

theorem c06x7_nl_strChar (c : Char) : '\n' ∉ c06_strChar c :=
  c06x7_nl_ite (by decide) fun _ => c06x7_nl_ite (by decide) fun _ => c06x7_nl_ite (by decide) fun h =>
    c06x7_nl_ite (by decide) fun _ => c06x7_nl_ite (by decide) fun _ => c06x7_nl_single c h
theorem c06x7_nl_stringBody (s : Str) : '\n' ∉ c06_stringBody s := by
  induction s with
  | nil => simp [c06_stringBody]
  | cons c cs ih => simp [c06_stringBody, c06x7_nl_strChar, ih]

theorem c06x7_nl_printString (s : Str) : '\n' ∉ c06_printString s := by
  simp [c06_printString, c06x7_nl_stringBody]

theorem c06x7_nl_printNat (n : Nat) : '\n' ∉ c06_printNat n := by
  intro h
  have := c06_printNat_digits n _ h
  revert this; decide

theorem c06x7_nl_brk (ty : c06_Brk) : '\n' ∉ ty.str := by cases ty <;> decide

theorem c06x7_nl_listWord (b : Bool) : '\n' ∉ c06_listWord b := by cases b <;> decide

theorem c06x7_nl_sid (o : Option Str) : '\n' ∉ c06_text (c06_sidToks o) := by
  cases o <;> simp [c06_sidToks, c06_text, c06_sym, c06_id, c06x7_nl_printIdent]

theorem c06x7_nl_sn (o : Option StrMatch) : '\n' ∉ c06_text (c06_snToks o) := by
  cases o with
  | none => simp [c06_snToks, c06_text]
  | some m =>
    cases m <;>
      simp [c06_snToks, c06_smToks, c06_text, c06_sym, c06_kw, c06_str, c06x7_nl_printString]

theorem c06x7_nl_num (o : Option c06_Level) : '\n' ∉ c06_text (c06_numToks o) := by
  cases o with
  | none => simp [c06_numToks, c06_text]
  | some l =>
    simp [c06_numToks, c06_text, c06_sym, c06_kw, c06x7_nl_printNat, c06x7_nl_listWord]

theorem c06x7_nl_bracket (key v : Str) (hk : '\n' ∉ key) : '\n' ∉ c06_text (c06_bracketToks key v) := by
  simp [c06_bracketToks, c06_text, c06_sym, c06_kw, c06_str, c06x7_nl_printString, hk]

theorem c06x7_nl_matcher (m : c06_Matcher) : '\n' ∉ c06_text (c06_matcherToks m) := by
  cases m with
  | highlight c =>
    cases c with
    | none => simp [c06_matcherToks, c06_text, c06_kw]
    | some c =>
      have := c06x7_nl_bracket S!"color" c (by decide)
      simp [c06_matcherToks, c06_text, c06_kw, this]
  | brk ty =>
    have := c06x7_nl_bracket S!"type" ty.str (by decide)
    simp [c06_matcherToks, c06_text, c06_kw, this]
  | _ =>
    simp [c06_matcherToks, c06_text, c06_kw, c06_text_append, c06x7_nl_sid, c06x7_nl_sn, c06x7_nl_num]

theorem c06x7_nl_alts (as : List Str) : '\n' ∉ c06_text (c06_altToks as) := by
  induction as with
  | nil => simp [c06_altToks, c06_text]
  | cons a as ih => simp [c06_altToks, c06_text, c06_sym, c06_id, c06x7_nl_printIdent, ih]

theorem c06x7_nl_events (evs : List AttrOrClass) : '\n' ∉ c06_text (c06_eventToks evs) := by
  induction evs with
  | nil => simp [c06_eventToks, c06_text]
  | cons e evs ih =>
    cases e <;>
      simp [c06_eventToks, c06_text, c06_sym, c06_id, c06_str, c06x7_nl_printIdent, c06x7_nl_printString, ih]

theorem c06x7_nl_fresh (b : Bool) : '\n' ∉ c06_text (c06_freshToks b) := by
  cases b <;> simp [c06_freshToks, c06_text, c06_sym, c06_kw]

theorem c06x7_nl_sep (o : Option Str) : '\n' ∉ c06_text (c06_sepToks o) := by
  cases o <;> simp [c06_sepToks, c06_text, c06_sym, c06_kw, c06_str, c06x7_nl_printString]

theorem c06x7_nl_elem (e : c06_Elem) : '\n' ∉ c06_text (c06_elemToks e) := by
  simp [c06_elemToks, c06_text, c06_id, c06_text_append, c06x7_nl_printIdent, c06x7_nl_alts,
    c06x7_nl_events, c06x7_nl_fresh, c06x7_nl_sep]

theorem c06x7_nl_more (es : List c06_Elem) : '\n' ∉ c06_text (c06_moreToks es) := by
  induction es with
  | nil => simp [c06_moreToks, c06_text]
  | cons e es ih =>
    simp [c06_moreToks, c06_text, c06_sp, c06_sym, c06_text_append, c06x7_nl_elem, ih]

theorem c06x7_nl_path (p : c06_Path) : '\n' ∉ c06_text (c06_pathToks p) := by
  cases p with
  | ignore => simp [c06_pathToks, c06_text, c06_sym]
  | elems es =>
    cases es with
    | nil => simp [c06_pathToks, c06_text]
    | cons e es => simp [c06_pathToks, c06_text_append, c06x7_nl_elem, c06x7_nl_more]

theorem c06x7_nl_print (sp : Bool) (m : c06_Mapping) : '\n' ∉ c06_print sp m := by
  cases sp <;>
    simp [c06_print, c06_tokens, c06_text, c06_text_append, c06_sp, c06_sym, c06x7_nl_matcher, c06x7_nl_path]

/-! ### the style-map reader on a one-line text -/

/-- the first character of the matcher text is a letter: the line is neither empty nor a comment -/
theorem c06x7_print_head (sp : Bool) (m : c06_Mapping) :
    ∃ c r, c06_print sp m = c :: r ∧ c ≠ '#' := by
  obtain ⟨mm, p⟩ := m
  -- every matcher is printed with its keyword first
  cases mm with
  | highlight c => cases c <;> exact ⟨_, _, rfl, by decide⟩
  | _ => exact ⟨_, _, rfl, by decide⟩

/-! ### which attribute keys an element has -/

/-- the event sets key `k`: an attribute named `k`, or any class when `k` is `class` -/
def c06x7_mentions (k : Str) : AttrOrClass → Bool
  | .attr n _ => decide (k = n)
  | .cls _ => decide (k = S!"class")

theorem c06x7_attrSpec_some (k : Str) (evs : List AttrOrClass) : ∀ v, ∃ w, c06_attrSpec k (some v) evs = some w := by
  induction evs with
  | nil => intro v; exact ⟨v, rfl⟩
  | cons e evs ih =>
    intro v
    cases e with
    | attr n x =>
      simp only [c06_attrSpec]
      by_cases h : k = n
      · subst h; simp only [if_true]; exact ih x
      · simp only [h, if_false]; exact ih v
    | cls c =>
      simp only [c06_attrSpec]
      by_cases h : k = S!"class"
      · rw [if_pos h]
        by_cases hv : v.isEmpty = true
        · simp only [hv, if_true]; exact ih _
        · simp only [hv]; exact ih _
      · rw [if_neg h]; exact ih v

theorem c06x7_attrSpec_none (k : Str) (evs : List AttrOrClass) :
    c06_attrSpec k none evs = none ↔ ∀ ev ∈ evs, c06x7_mentions k ev = false := by
  induction evs with
  | nil => simp [c06_attrSpec]
  | cons e evs ih =>
    cases e with
    | attr n x =>
      by_cases h : k = n
      · obtain ⟨w, hw⟩ := c06x7_attrSpec_some k evs x
        subst h
        simp [c06_attrSpec, c06x7_mentions, hw]
      · simp [c06_attrSpec, h, c06x7_mentions, ih]
    | cls c =>
      by_cases h : k = S!"class"
      · obtain ⟨w, hw⟩ := c06x7_attrSpec_some k evs c
        simp only [c06_attrSpec, if_pos h, hw]
        simp [c06x7_mentions, h]
      · simp [c06_attrSpec, h, c06x7_mentions, ih]

end Mammoth
