/-
  C08 — the default style map as an explicit value (kernel evaluation of the model's own DSL
  parser on the text extracted from mammoth/options.py) and helper definitions naming its parts.
-/
import MammothModel.Package
namespace Mammoth

/-- `name:fresh` -/
def c08_fresh (name : Str) : Tag := { name := name, collapsible := false }
/-- `ul|ol` (not fresh) -/
def c08_ulol : Tag := { name := S!"ul", alts := [S!"ol"], collapsible := true }
/-- `ul` / `ol` (not fresh) -/
def c08_ul : Tag := { name := S!"ul", collapsible := true }
def c08_ol : Tag := { name := S!"ol", collapsible := true }
/-- `li` (not fresh) -/
def c08_li : Tag := { name := S!"li", collapsible := true }
/-- `li:fresh` -/
def c08_liFresh : Tag := c08_fresh S!"li"

/-- the innermost list tag of a default list path -/
def c08_listTag (ordered : Bool) : Tag := if ordered then c08_ol else c08_ul

/-- `ul|ol > li > … > ul|ol > li >` (`k` times) -/
def c08_outer : Nat → List Tag
  | 0 => []
  | k+1 => c08_ulol :: c08_li :: c08_outer k

/-- the default path of a list paragraph at depth `d = k+1`:
    `ul|ol > li > … > (ol|ul) > li:fresh` -/
def c08_listPath (k : Nat) (ordered : Bool) : List Tag :=
  c08_outer k ++ [c08_listTag ordered, c08_liFresh]

/-- `p.<sid> => <tag>:fresh` -/
def c08_byId (sid tag : Str) : Style := ⟨.paragraph (some sid) none none, .elements [c08_fresh tag]⟩
/-- `p[style-name='<name>'] => <tag>:fresh` -/
def c08_byName (name tag : Str) : Style :=
  ⟨.paragraph none (some (.equalTo name)) none, .elements [c08_fresh tag]⟩
/-- `r[style-name='<name>'] =>` (the empty path) -/
def c08_runEmpty (name : Str) : Style := ⟨.run none (some (.equalTo name)), .elements []⟩
/-- `p:(un)ordered-list(k+1) => …` -/
def c08_listStyle (k : Nat) (ordered : Bool) : Style :=
  ⟨.paragraph none none (some ⟨natToStr k, ordered⟩), .elements (c08_listPath k ordered)⟩

/-- the 41 mappings of `options._default_style_map`, in order -/
def c08_defaultMapValue : List Style := [
  c08_byId S!"Heading1" S!"h1", c08_byId S!"Heading2" S!"h2", c08_byId S!"Heading3" S!"h3",
  c08_byId S!"Heading4" S!"h4", c08_byId S!"Heading5" S!"h5", c08_byId S!"Heading6" S!"h6",
  c08_byName S!"Heading 1" S!"h1", c08_byName S!"Heading 2" S!"h2", c08_byName S!"Heading 3" S!"h3",
  c08_byName S!"Heading 4" S!"h4", c08_byName S!"Heading 5" S!"h5", c08_byName S!"Heading 6" S!"h6",
  c08_byName S!"heading 1" S!"h1", c08_byName S!"heading 2" S!"h2", c08_byName S!"heading 3" S!"h3",
  c08_byName S!"heading 4" S!"h4", c08_byName S!"heading 5" S!"h5", c08_byName S!"heading 6" S!"h6",
  ⟨.run none (some (.equalTo S!"Strong")), .elements [{ name := S!"strong", collapsible := true }]⟩,
  c08_byName S!"footnote text" S!"p", c08_runEmpty S!"footnote reference",
  c08_byName S!"endnote text" S!"p", c08_runEmpty S!"endnote reference",
  c08_byName S!"annotation text" S!"p", c08_runEmpty S!"annotation reference",
  c08_byName S!"Footnote" S!"p", c08_runEmpty S!"Footnote anchor",
  c08_byName S!"Endnote" S!"p", c08_runEmpty S!"Endnote anchor",
  c08_listStyle 0 false, c08_listStyle 1 false, c08_listStyle 2 false, c08_listStyle 3 false,
  c08_listStyle 4 false,
  c08_listStyle 0 true, c08_listStyle 1 true, c08_listStyle 2 true, c08_listStyle 3 true,
  c08_listStyle 4 true,
  c08_runEmpty S!"Hyperlink",
  c08_byName S!"Normal" S!"p"]

theorem c08_default_map_read : readStyleMap Generated.defaultStyleMapText = (c08_defaultMapValue, []) := by
  decide +kernel

theorem c08_default_map_value : defaultStyleMap = c08_defaultMapValue := congrArg Prod.fst c08_default_map_read

end Mammoth
