/-
  C09 — `rebuildRows` after the sweep, on a valid abstract grid: the specification of `calculateRowSpans`.
-/
import Proofs.C09_SweepRows
namespace Mammoth

theorem c09_rebuildCells_cons (sw : Sweep) (r : Nat) (c : c09_Cell) (cs : c09_Row) (pos : Nat) :
    rebuildCells sw r ((c :: cs).map c09_toCell) pos =
      if sw.drops.contains (r, pos) then rebuildCells sw r (cs.map c09_toCell) (pos + 1)
      else .cell c.span (1 + c09_cnt (r, pos) sw.incs) false c.content
            :: rebuildCells sw r (cs.map c09_toCell) (pos + 1) := rfl

theorem c09_rebuildRows_cons (sw : Sweep) (hdr : Nat → Bool) (r : Nat) (row : c09_Row) (rest : List c09_Row) :
    rebuildRows sw (c09_toElemsFrom hdr r (row :: rest)) r =
      .row (hdr r) (rebuildCells sw r (row.map c09_toCell) 0)
        :: rebuildRows sw (c09_toElemsFrom hdr (r + 1) rest) (r + 1) := rfl

theorem c09_not_before_self (r pos : Nat) : ¬ c09_before (r, pos) r pos := by
  simp [c09_before]

/-- one row (suffix): with the final sweep state, `rebuildCells` produces the expected cells -/
theorem c09_rebuild_row (hdr : Nat → Bool) (r : Nat) (prev prev' : c09_Row) (rest : List c09_Row)
    (hvr : c09_validFrom prev' rest = true) (cells : c09_Row) :
    ∀ (pos ci : Nat) (sw : Sweep), c09_Fresh sw r pos → c09_rowOkFrom prev cells ci = true →
      (∀ s c, c09_findStart cells ci s = some c → c.isCont = true → (c09_own sw s).isSome = true) →
      rebuildCells (sweepRows (c09_toElemsFrom hdr (r + 1) rest) (r + 1) (c09_sweepRow r cells pos ci sw)) r
          (cells.map c09_toCell) pos
        = c09_expectedCells rest cells ci := by
  induction cells with
  | nil => intro pos ci sw _ _ _; rfl
  | cons c cs ih =>
    intro pos ci sw hf hok hP
    obtain ⟨hspan, hok'⟩ := c09_rowOk_span prev c cs ci hok
    rw [c09_sweepRow_cons, c09_rebuildCells_cons]
    -- the hypotheses for the rest of the row
    have hP' : ∀ s c', c09_findStart cs (ci + c.span) s = some c' → c'.isCont = true →
        (c09_own (c09_step r pos ci c.isCont sw) s).isSome = true := by
      intro s c' hfs hc'
      have hne : ci ≠ s := by
        intro h; subst h
        rw [c09_findStart_lt cs (ci + c.span) ci (Nat.lt_add_of_pos_right hspan)] at hfs; cases hfs
      apply c09_own_step_some
      exact hP s c' (by rw [c09_findStart_cons_ne c cs hne]; exact hfs) hc'
    have ihr := ih (pos + 1) (ci + c.span) (c09_step r pos ci c.isCont sw) (hf.step ci c.isCont) hok' hP'
    generalize hfin : sweepRows (c09_toElemsFrom hdr (r + 1) rest) (r + 1)
      (c09_sweepRow r cs (pos + 1) (ci + c.span) (c09_step r pos ci c.isCont sw)) = final at ihr ⊢
    have hdrop_mono : ∀ v, v ∈ (c09_step r pos ci c.isCont sw).drops → v ∈ final.drops := by
      intro v hv; rw [← hfin]
      exact (c09_sweepRows_drops hdr rest (r + 1) _ v).1 ((c09_sweepRow_drops r cs _ _ _ v).1 hv)
    have hdrop_inv : ∀ v, v ∈ final.drops → v ∈ (c09_step r pos ci c.isCont sw).drops ∨
        (v.1 = r ∧ pos + 1 ≤ v.2) ∨ r + 1 ≤ v.1 := by
      intro v hv; rw [← hfin] at hv
      rcases (c09_sweepRows_drops hdr rest (r + 1) _ v).2 hv with h | h
      · rcases (c09_sweepRow_drops r cs _ _ _ v).2 h with h | h
        · exact Or.inl h
        · exact Or.inr (Or.inl h)
      · exact Or.inr (Or.inr h)
    by_cases hc : c.isCont = true
    · -- a continuation: it finds the open cell of its column and is dropped
      have hhit : c09_hits ci c.isCont sw = true := by
        simp only [c09_hits, hc, Bool.true_and]
        exact hP ci c (c09_findStart_cons_eq c cs ci) hc
      have hmem : (r, pos) ∈ final.drops :=
        hdrop_mono _ ((c09_drops_step ..).mpr (Or.inr ⟨rfl, hhit⟩))
      have : final.drops.contains (r, pos) = true := by simpa using hmem
      rw [if_pos this, ihr]
      simp [c09_expectedCells, hc]
    · -- a kept cell
      have hc' : c.isCont = false := by simpa using hc
      have hmiss : c09_hits ci c.isCont sw = false := by simp [c09_hits, hc']
      have hnot : ¬ (r, pos) ∈ final.drops := by
        intro hm
        rcases hdrop_inv _ hm with h | h | h
        · rcases (c09_drops_step ..).mp h with h | h
          · exact c09_not_before_self r pos (hf.drops _ h)
          · rw [hmiss] at h; simp at h
        · exact Nat.not_succ_le_self pos h.2
        · exact Nat.not_succ_le_self r h
      have hcont : final.drops.contains (r, pos) = false := by simpa using hnot
      rw [hcont]
      simp only [Bool.false_eq_true, if_false, c09_expectedCells, hc]
      -- the increments of this cell
      have hown1 : c09_own (c09_step r pos ci c.isCont sw) ci = some (r, pos) := by
        rw [c09_own_step]; simp [hmiss]
      have honly1 : c09_onlyAt (c09_step r pos ci c.isCont sw) (r, pos) ci := by
        intro c0 h0
        rw [c09_own_step] at h0
        simp only [hmiss, Bool.false_eq_true, if_false] at h0
        by_cases hcc : c0 = ci
        · exact hcc
        · rw [if_neg hcc] at h0
          exact absurd (hf.own h0) (c09_not_before_self r pos)
      have hcnt1 : c09_cnt (r, pos) (c09_step r pos ci c.isCont sw).incs = 0 := by
        rw [c09_cnt_step]
        simp only [hc', Bool.false_eq_true, false_and, if_false, Nat.add_zero]
        exact c09_cnt_of_not_mem _ _ (fun h => c09_not_before_self r pos (hf.incs _ h))
      obtain ⟨g1, g2, g3⟩ := c09_sweepRow_past r cs (pos + 1) (ci + c.span) _ (r, pos) ci
        (Nat.lt_add_of_pos_right hspan) (Or.inr ⟨rfl, Nat.lt_succ_self pos⟩) honly1
      have hfinal := c09_sweepRows_cnt hdr rest prev' (r + 1) _ (r, pos) ci hvr (Nat.lt_succ_self r) g3
      rw [hfin, g2, hcnt1, g1, hown1] at hfinal
      simp only [if_true, Nat.zero_add] at hfinal
      rw [hfinal, ihr]

/-- all rows: with the final sweep state, `rebuildRows` produces the expected rows -/
theorem c09_rebuild_rows (hdr : Nat → Bool) (rest : List c09_Row) :
    ∀ (prev : c09_Row) (r : Nat) (sw : Sweep), c09_Fresh sw r 0 → c09_validFrom prev rest = true →
      (∀ s, (c09_findStart prev 0 s).isSome = true → (c09_own sw s).isSome = true) →
      rebuildRows (sweepRows (c09_toElemsFrom hdr r rest) r sw) (c09_toElemsFrom hdr r rest) r
        = c09_expectedFrom hdr r rest := by
  induction rest with
  | nil => intro prev r sw _ _ _; rfl
  | cons row rest ih =>
    intro prev r sw hf hv hown
    simp only [c09_validFrom, Bool.and_eq_true] at hv
    rw [c09_rebuildRows_cons, c09_sweepRows_cons]
    have hP : ∀ s c, c09_findStart row 0 s = some c → c.isCont = true → (c09_own sw s).isSome = true := by
      intro s c hfs hc
      obtain ⟨p, hp, _⟩ := c09_rowOk_above prev row 0 s c hv.1 hfs hc
      exact hown s (by simp [hp])
    rw [c09_rebuild_row hdr r prev row rest hv.2 row 0 0 sw hf hv.1 hP]
    rw [ih row (r + 1) (c09_sweepRow r row 0 0 sw) (c09_sweepRow_fresh r row 0 0 sw hf) hv.2
      (fun s hs => c09_sweepRow_owns r row 0 0 sw s hs)]
    rfl

theorem c09_fresh_init : c09_Fresh {} 0 0 :=
  ⟨fun _ _ h => by simp at h, fun _ h => by simp at h, fun _ h => by simp at h⟩

end Mammoth
