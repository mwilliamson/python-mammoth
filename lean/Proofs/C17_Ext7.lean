/-
  C17 — the image converter on an embedded part for every converter of the family (present or
  missing part).
-/
import Proofs.C17_Images
namespace Mammoth

/-- the `img` prescribed for an embedded image whose part has content `bytes`, per converter:
    `data_uri` gives alt? ++ `src` = data URI; a custom converter its attributes after alt?, plus
    `data-len` = number of bytes it read from the stream when it opens the image -/
def c17x_imgFor (conv : ImageConv) (i : ImageProps) (bytes : Bytes) : Node :=
  match conv with
  | .dataUri =>
    el S!"img" (c17_altAttr i ++ [(S!"src", S!"data:" ++ pyOpt i.contentType ++ S!";base64," ++ b64encode bytes)]) []
  | .fixed attrs true => el S!"img" (c17_altAttr i ++ attrs ++ [(S!"data-len", natToStr bytes.length)]) []
  | .fixed attrs false => el S!"img" (c17_altAttr i ++ attrs) []

/-- does the converter open the image? -/
def c17x_opens : ImageConv → Bool
  | .dataUri => true
  | .fixed _ o => o

theorem c17x_convert_embedded (cfg : Cfg) (i : ImageProps) (name : Str) (st : ConvState)
    (hs : i.src = .embedded name) :
    (convertImage cfg i).run st =
      match lookupLast name cfg.archive with
      | some bytes => .ok ([c17x_imgFor cfg.imageConv i bytes], c17_logged st i)
      | none => if c17x_opens cfg.imageConv then .error (.key name)
                else .ok ([c17x_imgFor cfg.imageConv i []], c17_logged st i) := by
  rw [c17_convertImage_run]
  unfold c17_finish
  cases hc : cfg.imageConv with
  | dataUri =>
    cases h : lookupLast name cfg.archive with
    | some bytes => simp only [hs, openImage, h]; rfl
    | none => simp only [hs, openImage, h]; rfl
  | fixed attrs opens =>
    cases opens with
    | true =>
      cases h : lookupLast name cfg.archive with
      | some bytes => simp only [hs, openImage, h]; rfl
      | none => simp only [hs, openImage, h]; rfl
    | false =>
      cases h : lookupLast name cfg.archive with
      | some bytes => rfl
      | none => rfl

end Mammoth
