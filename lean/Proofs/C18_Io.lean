/-
  C18 — "conversion reads nothing outside the given file except linked images".
  Helper definitions (the specification of the allowed external reads) and the invariant lemmas
  about the converter monad `ConvM`.
-/
import Proofs.C03_Lemmas
namespace Mammoth

/-! ### specification -/

/-- the uri of an image source when it is a *linked* image -/
def c18_srcLinked : ImageSrc → List Str
  | .linked uri => [uri]
  | .embedded _ => []

mutual
/-- uris of all linked images in an element, document order -/
def c18_linked : Elem → List Str
  | .paragraph _ cs => c18_linkedL cs
  | .run _ cs => c18_linkedL cs
  | .text _ => []
  | .hyperlink _ cs => c18_linkedL cs
  | .checkbox _ => []
  | .table _ _ rows => c18_linkedL rows
  | .row _ cells => c18_linkedL cells
  | .cell _ _ _ cs => c18_linkedL cs
  | .brk _ => []
  | .tab => []
  | .image i => c18_srcLinked i.src
  | .bookmark _ => []
  | .noteRef _ _ => []
  | .commentRef _ => []
def c18_linkedL : List Elem → List Str
  | [] => []
  | e :: es => c18_linked e ++ c18_linkedL es
end

/-- uris of all linked images of a document: body, then every note body, then every comment body -/
def c18_docLinked (d : Document) : List Str :=
  c18_linkedL d.children ++ d.notes.flatMap (fun n => c18_linkedL n.body)
    ++ d.comments.flatMap (fun c => c18_linkedL c.body)

/-- `op` is a read allowed by `Files.open` for one of the linked-image uris `uris`, given the
    directory `base` of the input file: `urlopen uri` for an absolute uri, or opening
    `os.path.join(base, uri)` for a relative one (only possible when there is a `base`). -/
def c18_opOk (base : Option Str) (uris : List Str) (op : IoOp) : Prop :=
  ∃ uri ∈ uris, (op = .urlopen uri ∧ isAbsoluteUri uri = true) ∨
    (∃ b, base = some b ∧ op = .openFile (osPathJoin b uri) ∧ isAbsoluteUri uri = false)

/-- does the configured image converter open the image at all? -/
def c18_opens (cfg : Cfg) : Bool :=
  match cfg.imageConv with
  | .dataUri => true
  | .fixed _ opens => opens

theorem c18_opOk_mono {base : Option Str} {U V : List Str} (h : U ⊆ V) {op : IoOp}
    (ho : c18_opOk base U op) : c18_opOk base V op := by
  obtain ⟨u, hu, r⟩ := ho
  exact ⟨u, h hu, r⟩

theorem c18_opOk_nil (base : Option Str) (op : IoOp) : ¬ c18_opOk base [] op := by
  rintro ⟨u, hu, _⟩
  cases hu

/-! ### the state-transition relation -/

/-- `st'` is reachable from `st` by a conversion step that only reads linked images among `U`
    and only references comments of `cfg.comments` -/
def c18_step (cfg : Cfg) (U : List Str) (st st' : ConvState) : Prop :=
  (∃ ops, st'.ioTrace = st.ioTrace ++ ops ∧
      ∀ op ∈ ops, c18_opens cfg = true ∧ c18_opOk cfg.base U op) ∧
  (∃ new, st'.refComments = st.refComments ++ new ∧ ∀ x ∈ new, x.2 ∈ cfg.comments)

theorem c18_step_refl (cfg : Cfg) (U : List Str) (st : ConvState) : c18_step cfg U st st :=
  ⟨⟨[], by simp, by simp⟩, ⟨[], by simp, by simp⟩⟩

theorem c18_step_of_eq {cfg : Cfg} {U : List Str} {st st' : ConvState}
    (h1 : st'.ioTrace = st.ioTrace) (h2 : st'.refComments = st.refComments) :
    c18_step cfg U st st' :=
  ⟨⟨[], by simp [h1], by simp⟩, ⟨[], by simp [h2], by simp⟩⟩

theorem c18_step_trans {cfg : Cfg} {U : List Str} {s1 s2 s3 : ConvState}
    (h12 : c18_step cfg U s1 s2) (h23 : c18_step cfg U s2 s3) : c18_step cfg U s1 s3 := by
  obtain ⟨⟨o1, e1, p1⟩, ⟨n1, f1, q1⟩⟩ := h12
  obtain ⟨⟨o2, e2, p2⟩, ⟨n2, f2, q2⟩⟩ := h23
  exact ⟨⟨o1 ++ o2, by rw [e2, e1, List.append_assoc],
      fun op hop => (List.mem_append.mp hop).elim (p1 op) (p2 op)⟩,
    ⟨n1 ++ n2, by rw [f2, f1, List.append_assoc],
      fun x hx => (List.mem_append.mp hx).elim (q1 x) (q2 x)⟩⟩

theorem c18_step_mono {cfg : Cfg} {U V : List Str} (h : U ⊆ V) {s1 s2 : ConvState}
    (hs : c18_step cfg U s1 s2) : c18_step cfg V s1 s2 := by
  obtain ⟨⟨o1, e1, p1⟩, r⟩ := hs
  exact ⟨⟨o1, e1, fun op hop => ⟨(p1 op hop).1, c18_opOk_mono h (p1 op hop).2⟩⟩, r⟩

/-- every successful run of `m` is a `c18_step` -/
def c18_grows {α : Type} (cfg : Cfg) (U : List Str) (m : ConvM α) : Prop :=
  ∀ st a st', m.run st = .ok (a, st') → c18_step cfg U st st'

theorem c18_grows_mono {α : Type} {cfg : Cfg} {U V : List Str} (h : U ⊆ V) {m : ConvM α}
    (hm : c18_grows cfg U m) : c18_grows cfg V m :=
  fun st a st' hr => c18_step_mono h (hm st a st' hr)

theorem c18_grows_pure {α : Type} (cfg : Cfg) (U : List Str) (a : α) :
    c18_grows cfg U (pure a : ConvM α) := by
  intro st a' st' h
  rw [StateT.run_pure] at h
  cases h
  exact c18_step_refl _ _ _

theorem c18_grows_bind {α β : Type} {cfg : Cfg} {U : List Str} {m : ConvM α} {f : α → ConvM β}
    (hm : c18_grows cfg U m) (hf : ∀ a, c18_grows cfg U (f a)) : c18_grows cfg U (m >>= f) := by
  intro st b st'' h
  obtain ⟨a, st', h1, h2⟩ := run_bind_ok.mp h
  exact c18_step_trans (hm _ _ _ h1) (hf a _ _ _ h2)

theorem c18_grows_throw {α : Type} (cfg : Cfg) (U : List Str) (e : Err) :
    c18_grows cfg U (throw e : ConvM α) := by
  intro st a st' h
  cases h

theorem c18_grows_modify (cfg : Cfg) (U : List Str) (f : ConvState → ConvState)
    (h1 : ∀ s, (f s).ioTrace = s.ioTrace) (h2 : ∀ s, (f s).refComments = s.refComments) :
    c18_grows cfg U (modify f : ConvM PUnit) := by
  intro st a st' h
  rw [StateT.run_modify] at h
  cases h
  exact c18_step_of_eq (h1 _) (h2 _)

theorem c18_grows_warn (cfg : Cfg) (U : List Str) (m : Str) : c18_grows cfg U (warn m) :=
  c18_grows_modify cfg U _ (fun _ => rfl) (fun _ => rfl)

end Mammoth
