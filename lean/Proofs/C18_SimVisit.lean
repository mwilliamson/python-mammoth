/-
  C18 — the simulation for `visit`/`visitAll`/`visitRows`, notes, comments, `visitDocument`,
  `convertDoc`.
-/
import Proofs.C18_Sim
namespace Mammoth

theorem c18_findPath_reworld (cfg : Cfg) (b : Option Str) (w : Str → Option Bytes) (t : Target) :
    findPath (c18_reworld cfg b w) t = findPath cfg t := rfl

theorem c18_runPropPaths_reworld (cfg : Cfg) (b : Option Str) (w : Str → Option Bytes)
    (r : RunProps) : runPropPaths (c18_reworld cfg b w) r = runPropPaths cfg r := rfl

theorem c18_sim_pure_any {α : Type} {a a' : α} : c18_sim c18_any (pure a : ConvM α) (pure a') :=
  c18_sim_pure (R := c18_any) trivial

theorem c18_sim_then_pure {α β : Type} {R : α → α → Prop} {m m' : ConvM α} {f f' : α → ConvM β}
    (h : c18_sim R m m') (hf : ∀ a a', c18_sim c18_any (f a) (f' a')) :
    c18_sim c18_any (m >>= f) (m' >>= f') :=
  c18_sim_bind h (fun a a' _ => hf a a')

mutual
theorem c18_sim_visit (cfg : Cfg) (b : Option Str) (w : Str → Option Bytes) (hdr : Bool)
    (e : Elem) : c18_sim c18_any (visit cfg hdr e) (visit (c18_reworld cfg b w) hdr e) := by
  match e with
  | .paragraph p cs =>
    unfold visit
    refine c18_sim_bind (c18_sim_findPathWarn cfg b w _ _ _ _ _) ?_
    intro path path' e
    subst e
    cases path with
    | ignore => exact c18_sim_pure_any
    | elements es => exact c18_sim_then_pure (c18_sim_visitAll cfg b w hdr cs) (fun _ _ => c18_sim_pure_any)
  | .run r cs =>
    simp only [visit, c18_runPropPaths_reworld]
    refine c18_sim_bind (c18_sim_findPathWarn cfg b w _ _ _ _ _) ?_
    intro sp sp' e
    subst e
    by_cases hx : (runPropPaths cfg r ++ [sp]).any HtmlPath.isIgnore = true
    · simp only [hx, if_true]
      exact c18_sim_pure_any
    · simp only [hx]
      exact c18_sim_then_pure (c18_sim_visitAll cfg b w hdr cs) (fun _ _ => c18_sim_pure_any)
  | .text s => unfold visit; exact c18_sim_pure_any
  | .hyperlink h cs =>
    unfold visit
    exact c18_sim_then_pure (c18_sim_visitAll cfg b w hdr cs) (fun _ _ => c18_sim_pure_any)
  | .checkbox c => unfold visit; exact c18_sim_pure_any
  | .table sid sname rows =>
    simp only [visit, c18_findPath_reworld]
    split
    · exact c18_sim_pure_any
    · refine c18_sim_bind (c18_sim_visitRows cfg b w true rows) ?_
      intro x x' _
      exact c18_sim_pure_any
  | .row _ cells =>
    unfold visit
    exact c18_sim_then_pure (c18_sim_visitAll cfg b w hdr cells) (fun _ _ => c18_sim_pure_any)
  | .cell _ _ _ cs =>
    unfold visit
    exact c18_sim_then_pure (c18_sim_visitAll cfg b w hdr cs) (fun _ _ => c18_sim_pure_any)
  | .brk ty =>
    unfold visit
    rw [c18_findPath_reworld cfg b w]
    split
    · exact c18_sim_pure_any
    · exact c18_sim_pure_any
    · cases ty == S!"line"
      · exact c18_sim_pure_any
      · exact c18_sim_pure_any
  | .tab => unfold visit; exact c18_sim_pure_any
  | .image i => unfold visit; exact c18_sim_convertImage cfg b w i
  | .bookmark _ => unfold visit; exact c18_sim_pure_any
  | .noteRef ty id =>
    unfold visit
    refine c18_sim_bind (c18_sim_modify _ _ ?_) ?_
    · intro s s' h
      exact ⟨by show s.noteRefs ++ _ = s'.noteRefs ++ _; rw [h.1], h.2⟩
    · intro _ _ _
      exact c18_sim_then_pure c18_sim_get (fun _ _ => c18_sim_pure_any)
  | .commentRef id =>
    simp only [visit, c18_findPath_reworld]
    split
    · exact c18_sim_pure_any
    · exact c18_sim_pure_any
    · split
      · exact c18_sim_throw _ _
      · rename_i c hc
        refine c18_sim_bind c18_sim_get ?_
        intro s s' hs
        refine c18_sim_bind (c18_sim_modify _ _ ?_) ?_
        · intro t t' h
          refine ⟨h.1, ?_⟩
          show t.refComments ++ _ = t'.refComments ++ _
          rw [h.2, hs.2]
        · intro _ _ _
          exact c18_sim_pure_any
theorem c18_sim_visitAll (cfg : Cfg) (b : Option Str) (w : Str → Option Bytes) (hdr : Bool)
    (es : List Elem) :
    c18_sim c18_any (visitAll cfg hdr es) (visitAll (c18_reworld cfg b w) hdr es) := by
  match es with
  | [] => unfold visitAll; exact c18_sim_pure_any
  | e :: es =>
    unfold visitAll
    refine c18_sim_bind (c18_sim_visit cfg b w hdr e) ?_
    intro a a' _
    exact c18_sim_then_pure (c18_sim_visitAll cfg b w hdr es) (fun _ _ => c18_sim_pure_any)
theorem c18_sim_visitRows (cfg : Cfg) (b : Option Str) (w : Str → Option Bytes) (inHead : Bool)
    (es : List Elem) :
    c18_sim c18_any (visitRows cfg inHead es) (visitRows (c18_reworld cfg b w) inHead es) := by
  match es with
  | [] => unfold visitRows; exact c18_sim_pure_any
  | r :: rs =>
    unfold visitRows
    cases inHead && isHeaderRow r
    · refine c18_sim_bind (c18_sim_visit cfg b w false r) ?_
      intro a a' _
      refine c18_sim_bind (c18_sim_visitRows cfg b w false rs) ?_
      intro x x' _
      exact c18_sim_pure_any
    · refine c18_sim_bind (c18_sim_visit cfg b w true r) ?_
      intro a a' _
      refine c18_sim_bind (c18_sim_visitRows cfg b w true rs) ?_
      intro x x' _
      exact c18_sim_pure_any
end

end Mammoth
