/-
  C05 — Hoare-style rules `c05_spec_*` for `Except Err`; the static well-formedness predicate `c05_static` on XML
  trees; each leaf reader (symbols, grid spans, images, relationships, complex fields) returns normally under its clause.
-/
import Proofs.C05_ReadBody
namespace Mammoth

/-- the failures that remain possible on statically well-formed input: the model's fuel running out,
    and `complex_field_stack.pop()` on an empty stack (unbalanced `w:fldChar`) -/
def c05_allowed (e : Err) : Prop := e = .fuel ∨ ∃ w, e = Err.index w

/-- `x` fails only with an error satisfying `E`, and its results satisfy `Q` -/
structure c05_spec {α} (E : Err → Prop) (Q : α → Prop) (x : Except Err α) : Prop where
  err : ∀ e, x = .error e → E e
  ok : ∀ a, x = .ok a → Q a

theorem c05_spec_ok {α} {E : Err → Prop} {Q : α → Prop} (a : α) (h : Q a) : c05_spec E Q (.ok a) :=
  ⟨fun _ he => (by cases he), fun _ ha => (by cases ha; exact h)⟩

theorem c05_spec_pure {α} {E : Err → Prop} {Q : α → Prop} (a : α) (h : Q a) : c05_spec E Q (pure a) :=
  c05_spec_ok a h

theorem c05_spec_err {α} {E : Err → Prop} {Q : α → Prop} (e0 : Err) (h : E e0) : c05_spec E Q (.error e0) :=
  ⟨fun _ he => (by cases he; exact h), fun _ ha => (by cases ha)⟩

theorem c05_spec_bind {α β} {E : Err → Prop} {Q : α → Prop} {R : β → Prop}
    (x : Except Err α) (f : α → Except Err β)
    (hx : c05_spec E Q x) (hf : ∀ a, Q a → c05_spec E R (f a)) : c05_spec E R (x >>= f) := by
  cases hxx : x with
  | error e =>
    refine ⟨fun e' he => ?_, fun a ha => ?_⟩
    · simp only [bind, Except.bind] at he; cases he; exact hx.err e hxx
    · simp only [bind, Except.bind] at ha; cases ha
  | ok a => exact hf a (hx.ok a hxx)

theorem c05_spec_map {α β} {E : Err → Prop} {Q : α → Prop} {R : β → Prop}
    (x : Except Err α) (f : α → β)
    (hx : c05_spec E Q x) (hf : ∀ a, Q a → R (f a)) : c05_spec E R (x.map f) := by
  cases hxx : x with
  | error e =>
    refine ⟨fun e' he => ?_, fun a ha => ?_⟩
    · simp only [Except.map] at he; cases he; exact hx.err e hxx
    · simp only [Except.map] at ha; cases ha
  | ok a => exact c05_spec_ok _ (hf a (hx.ok a hxx))

theorem c05_spec_ite {α} {E : Err → Prop} {Q : α → Prop} (c : Prop) [Decidable c] (a b : Except Err α)
    (h1 : c → c05_spec E Q a) (h2 : ¬ c → c05_spec E Q b) : c05_spec E Q (if c then a else b) := by
  by_cases hc : c
  · rw [if_pos hc]; exact h1 hc
  · rw [if_neg hc]; exact h2 hc

theorem c05_spec_weaken {α} {E : Err → Prop} {Q R : α → Prop} {x : Except Err α}
    (hx : c05_spec E Q x) (h : ∀ a, Q a → R a) : c05_spec E R x :=
  ⟨hx.err, fun a ha => h a (hx.ok a ha)⟩

theorem c05_spec_imp {α} {a : Prop} {Q : α → Prop} {x : Except Err α} (h : a → c05_spec (fun _ => True) Q x) :
    c05_spec (fun _ => True) (fun p => a → Q p) x :=
  ⟨fun _ _ => trivial, fun p hp ha => (h ha).ok p hp⟩

theorem c05_spec_mapM {α β} {E : Err → Prop} (f : α → Except Err β) (l : List α)
    (h : ∀ a, c05_spec E (fun _ => True) (f a)) : c05_spec E (fun _ => True) (l.mapM f) := by
  induction l with
  | nil => exact ⟨fun e he => (by simp [pure, Except.pure] at he), fun _ _ => trivial⟩
  | cons a l ih =>
    rw [List.mapM_cons]
    refine c05_spec_bind (Q := fun _ => True) _ _ (h a) (fun _ _ => ?_)
    refine c05_spec_bind (Q := fun _ => True) _ _ ih (fun _ _ => ?_)
    exact c05_spec_pure _ trivial

theorem c05_spec_of_isOk {α} {E : Err → Prop} (x : Except Err α) (h : ∃ a, x = .ok a) :
    c05_spec E (fun _ => True) x := by
  obtain ⟨a, rfl⟩ := h; exact c05_spec_ok a trivial

theorem c05_spec_triv {α} (x : Except Err α) : c05_spec (fun _ => True) (fun _ => True) x :=
  ⟨fun _ _ => trivial, fun _ _ => trivial⟩

/-! ### the static predicate -/

/-- the relationship id is defined in the part's relationships -/
def c05_relOk (env : REnv) (rid : Str) : Bool :=
  (lookupLast rid (env.rels.map fun r => (r.id, r.target))).isSome

/-- an `a:blip`: its `r:embed` (or else its `r:link`), when present, is a defined relationship id -/
def c05_blipOk (env : REnv) (as : Attrs) : Bool :=
  match attr? S!"r:embed" as with
  | some rid => c05_relOk env rid
  | none =>
    match attr? S!"r:link" as with
    | some rid => c05_relOk env rid
    | none => true

/-- the `a:blip` elements `inline()` looks at: `a:graphic/a:graphicData/pic:pic/pic:blipFill/a:blip` -/
def c05_blips (cs : List XmlNode) : List (Attrs × List XmlNode) :=
  flatChildren S!"a:blip" (flatChildren S!"pic:blipFill" (flatChildren S!"pic:pic"
    (flatChildren S!"a:graphicData" (findChildren S!"a:graphic" cs))))

/-- a non-empty string of decimal digits -/
def c05_isDec (s : Str) : Bool := !s.isEmpty && s.all parseDec.isDigit

/-- a non-empty string of hexadecimal digits -/
def c05_isHex (s : Str) : Bool := !s.isEmpty && s.all fun c => (hexVal c).isSome

/-- the local, per-element part of the static predicate (by handler of the element name) -/
def c05_elemOk (env : REnv) (name : Str) (as : Attrs) (cs : List XmlNode) : Bool :=
  match handlerOf name with
  | none => true
  | some h =>
    if h == S!"symbol" then
      (match attr? S!"w:char" as with | none => true | some ch => c05_isHex ch)
    else if h == S!"table_cell" then
      (match childAttr S!"w:gridSpan" S!"w:val" (findChildOrNull S!"w:tcPr" cs).2 with
       | none => true | some g => c05_isDec g)
    else if h == S!"hyperlink" then
      (match attr? S!"r:id" as with | none => true | some rid => c05_relOk env rid)
    else if h == S!"inline" then (c05_blips cs).all fun b => c05_blipOk env b.1
    else if h == S!"read_imagedata" then
      (match attr? S!"r:id" as with | none => true | some rid => c05_relOk env rid)
    else if h == S!"note_reference:footnote" || h == S!"note_reference:endnote" then (attr? S!"w:id" as).isSome
    else if h == S!"read_comment_reference" then (attr? S!"w:id" as).isSome
    else true

def c05_elemOkH (env : REnv) (as : Attrs) (cs : List XmlNode) : Handler → Bool
  | .symbol => (match attr? S!"w:char" as with | none => true | some ch => c05_isHex ch)
  | .tableCell =>
    (match childAttr S!"w:gridSpan" S!"w:val" (findChildOrNull S!"w:tcPr" cs).2 with
     | none => true | some g => c05_isDec g)
  | .hyperlink | .imagedata => (match attr? S!"r:id" as with | none => true | some rid => c05_relOk env rid)
  | .inline => (c05_blips cs).all fun b => c05_blipOk env b.1
  | .footnoteRef | .endnoteRef | .commentRef => (attr? S!"w:id" as).isSome
  | _ => true

theorem c05_elemOk_handler {env : REnv} {name : Str} {as : Attrs} {cs : List XmlNode} {k : Handler}
    (hg : handlerOf name = some k.name) : c05_elemOk env name as cs = c05_elemOkH env as cs k := by
  unfold c05_elemOk; rw [hg]
  -- per handler, the match compares two closed strings: the kernel evaluates that much faster than `rfl`
  cases k <;> c05_kernel_rfl

mutual
/-- STATIC well-formedness of an XML tree w.r.t. the part's relationships: every element satisfies
    `c05_elemOk`, everywhere in the tree -/
def c05_static (env : REnv) : XmlNode → Bool
  | .text _ => true
  | .elem name as cs => c05_elemOk env name as cs && c05_staticL env cs
def c05_staticL (env : REnv) : List XmlNode → Bool
  | [] => true
  | c :: cs => c05_static env c && c05_staticL env cs
end

/-- no abstract numbering definition carries a `w:numStyleLink` (or there are no numbering styles):
    `find_level` never follows a link, hence cannot recurse forever -/
def c05_noStyleLinks (env : REnv) : Bool :=
  env.numbering.abstractNums.all (fun p => p.2.numStyleLink.isNone) || env.numbering.styles.numbering.isEmpty

theorem c05_staticL_append (env : REnv) (xs ys : List XmlNode) :
    c05_staticL env (xs ++ ys) = (c05_staticL env xs && c05_staticL env ys) :=
  andL_append rfl (fun _ _ => rfl) xs ys

theorem c05_staticL_findChild (env : REnv) (name : Str) (cs : List XmlNode) (h : c05_staticL env cs = true) :
    c05_staticL env (findChildOrNull name cs).2 = true :=
  andL_findChild (fun _ _ => rfl) (fun _ _ _ => rfl) name cs h

theorem c05_parseHex_ok (s : Str) (h : c05_isHex s = true) : ∃ n, parseHex s = some n := by
  simp only [c05_isHex, Bool.and_eq_true, Bool.not_eq_true', List.all_eq_true] at h
  obtain ⟨hne, hall⟩ := h
  unfold parseHex
  rw [hne]
  simp only [Bool.false_eq_true, if_false]
  have key : ∀ (l : Str) (n : Nat), (∀ c ∈ l, (hexVal c).isSome = true) →
      ∃ m, l.foldl (fun acc c => do let a ← acc; let v ← hexVal c; pure (a * 16 + v)) (some n) = some m := by
    intro l
    induction l with
    | nil => intro n _; exact ⟨n, rfl⟩
    | cons c l ih =>
      intro n hl
      have hc := hl c List.mem_cons_self
      cases hv : hexVal c with
      | none => rw [hv] at hc; cases hc
      | some v =>
        simp only [List.foldl, hv]
        exact ih _ (fun c' hc' => hl c' (List.mem_cons_of_mem _ hc'))
  exact key s 0 hall

theorem c05_parseDec_ok (s : Str) (h : c05_isDec s = true) : ∃ n, parseDec s = some n := by
  simp only [c05_isDec, Bool.and_eq_true, Bool.not_eq_true'] at h
  unfold parseDec
  rw [h.1, h.2]
  exact ⟨_, rfl⟩

theorem c05_readGridSpan_ok (env : REnv) (as : Attrs) (cs : List XmlNode)
    (h : c05_elemOkH env as cs .tableCell = true) : ∃ n, readGridSpan cs = .ok n := by
  unfold readGridSpan
  split
  · exact ⟨_, rfl⟩
  · rename_i g hg
    rw [c05_elemOkH, hg] at h
    obtain ⟨n, hn⟩ := c05_parseDec_ok g h
    rw [hn]; exact ⟨_, rfl⟩

theorem c05_readSymbol_ok (as : Attrs)
    (h : (match attr? S!"w:char" as with | none => true | some ch => c05_isHex ch) = true) :
    ∃ r, readSymbol as = .ok r := by
  unfold readSymbol
  dsimp only
  split
  · exact ⟨_, rfl⟩
  · rename_i ch hch
    rw [hch] at h; dsimp only at h
    obtain ⟨n, hn⟩ := c05_parseHex_ok ch h
    rw [hn]; dsimp only
    split <;> exact ⟨_, rfl⟩

theorem c05_targetById_ok (env : REnv) (rid : Str) (h : c05_relOk env rid = true) :
    ∃ t, env.rels.targetById rid = .ok t := by
  unfold Rels.targetById
  unfold c05_relOk at h
  split
  · exact ⟨_, rfl⟩
  · rename_i hn; rw [hn] at h; cases h

theorem c05_readEmbeddedImage_ok (env : REnv) (rid : Str) (alt : Option Str) (h : c05_relOk env rid = true) :
    ∃ r, readEmbeddedImage env rid alt = .ok r := by
  obtain ⟨t, ht⟩ := c05_targetById_ok env rid h
  unfold readEmbeddedImage
  rw [ht]
  exact ⟨_, rfl⟩

theorem c05_readBlip_ok (env : REnv) (as : Attrs) (alt : Option Str) (h : c05_blipOk env as = true) :
    ∃ r, readBlip env as alt = .ok r := by
  unfold readBlip
  unfold c05_blipOk at h
  split
  · rename_i rid hr; rw [hr] at h; exact c05_readEmbeddedImage_ok env rid alt h
  · rename_i hr; rw [hr] at h; dsimp only at h
    split
    · rename_i rid hl; rw [hl] at h; dsimp only at h
      obtain ⟨t, ht⟩ := c05_targetById_ok env rid h
      rw [ht]; exact ⟨_, rfl⟩
    · exact ⟨_, rfl⟩

theorem c05_readInline_ok (env : REnv) (cs : List XmlNode)
    (h : ((c05_blips cs).all fun b => c05_blipOk env b.1) = true) :
    ∃ r, readInline env cs = .ok r := by
  unfold readInline
  simp only [List.all_eq_true] at h
  dsimp only
  have := mapM_ok (fun (x : Attrs × List XmlNode) => readBlip env x.1
      (if !(strip ((attr? S!"descr" (findChildOrNull S!"wp:docPr" cs).1).getD [])).isEmpty
       then attr? S!"descr" (findChildOrNull S!"wp:docPr" cs).1
       else attr? S!"title" (findChildOrNull S!"wp:docPr" cs).1)) (c05_blips cs)
    (fun b hb => c05_readBlip_ok env b.1 _ (h b hb))
  obtain ⟨bs, hbs⟩ := this
  unfold c05_blips at hbs
  rw [hbs]
  exact ⟨_, rfl⟩

/-- `_read_numbering_properties` returns normally in this environment, whatever the paragraph says -/
def c05_numOk (env : REnv) : Prop := ∀ sid numPr, ∃ r, readNumberingProps env sid numPr = .ok r

theorem c05_readFldChar_kind (st : RState) (as : Attrs) (cs : List XmlNode) :
    c05_spec (fun e => ∃ w, e = Err.index w)
      (fun p => p.2.deleted = st.deleted ∧ (p.1 = {} ∨ ∃ c, p.1 = rrElems [.checkbox c])) (readFldChar st as cs) := by
  unfold readFldChar
  dsimp only
  refine c05_spec_ite _ _ _ (fun _ => c05_spec_ok _ ⟨rfl, .inl rfl⟩) fun _ => ?_
  refine c05_spec_ite _ _ _ (fun _ => ?_) fun _ => ?_
  · split
    · exact c05_spec_err _ ⟨_, rfl⟩
    · split
      · exact c05_spec_ok _ ⟨rfl, .inr ⟨_, rfl⟩⟩
      · exact c05_spec_ok _ ⟨rfl, .inl rfl⟩
  · refine c05_spec_ite _ _ _ (fun _ => ?_) fun _ => c05_spec_ok _ ⟨rfl, .inl rfl⟩
    split
    · exact c05_spec_err _ ⟨_, rfl⟩
    · exact c05_spec_ok _ ⟨rfl, .inl rfl⟩

theorem c05_readFldChar_spec (st : RState) (as : Attrs) (cs : List XmlNode) :
    c05_spec c05_allowed (fun p => p.2.deleted = st.deleted) (readFldChar st as cs) :=
  have h := c05_readFldChar_kind st as cs
  ⟨fun e he => .inr (h.err e he), fun a ha => (h.ok a ha).1⟩

end Mammoth
