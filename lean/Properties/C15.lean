/-
  C15 — conversion is a pure, repeatable function of the file and the options.

  The model is a Lean function, so "same input, same output" holds by construction.  What is
  proved here are the places where the Python code could pick up nondeterminism and the model has
  to justify its canonical choice: attribute dictionaries (insertion order, `dict` equality in
  `_is_match`, `sorted(attributes.items())` in the writer), the module-level default style map,
  and the per-call converter state.
-/
import Proofs.C15_Dict
import MammothModel.Package
namespace Mammoth

/-! ### 1. `strLt` (Python `<` on `str`) is a strict total order -/

/-- no string is smaller than itself -/
theorem C15_strLt_irrefl (a : Str) : strLt a a = false := c15_strLt_irrefl a

/-- `a < b` and `b < c` give `a < c` -/
theorem C15_strLt_trans (a b c : Str) (h₁ : strLt a b = true) (h₂ : strLt b c = true) :
    strLt a c = true := c15_strLt_trans a b c h₁ h₂

/-- `a < b` excludes `b < a` -/
theorem C15_strLt_asymm (a b : Str) (h : strLt a b = true) : strLt b a = false := by
  cases h' : strLt b a with
  | false => rfl
  | true =>
    have := c15_strLt_trans a b a h h'
    rw [c15_strLt_irrefl] at this
    exact this.symm

/-- any two strings are equal or comparable: sorting by key has exactly one result -/
theorem C15_strLt_trichotomy (a b : Str) : a = b ∨ strLt a b = true ∨ strLt b a = true :=
  c15_strLt_trichotomy a b

/-! ### 2./3. the `Dict` invariant: keys strictly increasing -/

/-- the executable check `c15_sortedB` decides the invariant `c15_sorted` -/
theorem C15_sortedB_iff {β} (d : Dict β) : c15_sortedB d = true ↔ c15_sorted d := by
  induction d with
  | nil => simp [c15_sortedB, c15_sorted]
  | cons p rest ih =>
    obtain ⟨k, v⟩ := p
    simp only [c15_sorted] at ih
    simp [c15_sortedB, c15_sorted, List.pairwise_cons, ih]

/-- `d[k] = v` keeps the keys strictly increasing -/
theorem C15_insert_sorted {β} (k : Str) (v : β) (d : Dict β) (h : c15_sorted d) :
    c15_sorted (Dict.insert k v d) := c15_insert_sorted k v d h

/-- a dictionary built from any list of pairs (duplicates allowed, any order) has strictly
    increasing keys -/
theorem C15_ofList_sorted {β} (l : List (Str × β)) : c15_sorted (Dict.ofList l) :=
  c15_foldl_sorted l [] c15_sorted_nil

/-- the attributes of every tag built with `el` / `cel` satisfy the invariant -/
theorem C15_el_attrs_sorted (n : Str) (l : List (Str × Str)) :
    c15_sorted ({ name := n, attrs := Dict.ofList l : Tag }).attrs := C15_ofList_sorted l

/-! ### 4. order of writes to different keys is unobservable; a second write to a key overwrites -/

/-- reading key `q` after `d[k] = v` gives `v` if `q = k` and what `d` had otherwise (any `d`) -/
theorem C15_get_insert {β} (k : Str) (v : β) (q : Str) (d : Dict β) :
    Dict.get? q (Dict.insert k v d) = if q = k then some v else Dict.get? q d :=
  Dict.get?_insert q k v d

/-- writes to two different keys commute -/
theorem C15_insert_comm {β} (k₁ k₂ : Str) (v₁ v₂ : β) (d : Dict β) (hne : k₁ ≠ k₂)
    (hs : c15_sorted d) :
    Dict.insert k₁ v₁ (Dict.insert k₂ v₂ d) = Dict.insert k₂ v₂ (Dict.insert k₁ v₁ d) :=
  c15_insert_comm k₁ k₂ v₁ v₂ d hne hs

/-- writing a key twice leaves only the second value -/
theorem C15_insert_overwrite {β} (k : Str) (v v' : β) (d : Dict β) (hs : c15_sorted d) :
    Dict.insert k v (Dict.insert k v' d) = Dict.insert k v d := by
  apply c15_sorted_ext
  · exact c15_insert_sorted _ _ _ (c15_insert_sorted _ _ _ hs)
  · exact c15_insert_sorted _ _ _ hs
  · intro q
    simp only [Dict.get?_insert]
    split <;> rfl

/-- writing the same pair twice is the same as writing it once -/
theorem C15_insert_idem {β} (k : Str) (v : β) (d : Dict β) (hs : c15_sorted d) :
    Dict.insert k v (Dict.insert k v d) = Dict.insert k v d :=
  C15_insert_overwrite k v v d hs

/-! ### 5. `Dict.ofList` does not depend on the order of the pairs -/

/-- two sorted dictionaries are equal as lists exactly when every lookup agrees: the model's
    list equality *is* Python's `dict.__eq__` on dictionaries satisfying the invariant -/
theorem C15_sorted_ext {β} (d₁ d₂ : Dict β) (h₁ : c15_sorted d₁) (h₂ : c15_sorted d₂) :
    d₁ = d₂ ↔ ∀ k, Dict.get? k d₁ = Dict.get? k d₂ :=
  ⟨fun e _ => e ▸ rfl, c15_sorted_ext d₁ d₂ h₁ h₂⟩

/-- lookup in `Dict.ofList l` is the last pair of `l` with that key (Python `dict(pairs)[k]`) -/
theorem C15_ofList_get {β} (k : Str) (l : List (Str × β)) :
    Dict.get? k (Dict.ofList l) = lookupLast k l := Dict.get?_ofList k l

/-- permuting a list of pairs with pairwise distinct keys does not change the dictionary built
    from it -/
theorem C15_ofList_perm {β} (l₁ l₂ : List (Str × β)) (hp : l₁.Perm l₂)
    (hn : (l₁.map Prod.fst).Nodup) : Dict.ofList l₁ = Dict.ofList l₂ :=
  c15_foldl_perm hp hn [] c15_sorted_nil

/-- stronger form, duplicate keys allowed: the dictionary depends only on which value is the
    last one written for each key -/
theorem C15_ofList_lastwins {β} (l₁ l₂ : List (Str × β))
    (h : ∀ k, lookupLast k l₁ = lookupLast k l₂) : Dict.ofList l₁ = Dict.ofList l₂ := by
  apply c15_sorted_ext _ _ (C15_ofList_sorted l₁) (C15_ofList_sorted l₂)
  intro k
  rw [Dict.get?_ofList, Dict.get?_ofList, h]

/-! ### 6. elements and their serialisation do not depend on attribute insertion order -/

/-- `html.element(name, attrs, children)` is the same node whatever the order of `attrs` -/
theorem C15_el_attr_order_invariant (name : Str) (l₁ l₂ : List (Str × Str)) (cs : List Node)
    (hp : l₁.Perm l₂) (hn : (l₁.map Prod.fst).Nodup) : el name l₁ cs = el name l₂ cs := by
  simp only [el, C15_ofList_perm l₁ l₂ hp hn]

/-- same for `html.collapsible_element` -/
theorem C15_cel_attr_order_invariant (name : Str) (l₁ l₂ : List (Str × Str)) (cs : List Node)
    (hp : l₁.Perm l₂) (hn : (l₁.map Prod.fst).Nodup) : cel name l₁ cs = cel name l₂ cs := by
  simp only [cel, C15_ofList_perm l₁ l₂ hp hn]

/-- the attribute string `_generate_attribute_string` writes is the same for both orders -/
theorem C15_attrString_order_invariant (l₁ l₂ : List (Str × Str))
    (hp : l₁.Perm l₂) (hn : (l₁.map Prod.fst).Nodup) :
    attrString (Dict.ofList l₁) = attrString (Dict.ofList l₂) := by
  rw [C15_ofList_perm l₁ l₂ hp hn]

/-- the written HTML of an element is the same whatever the order in which its attributes
    were supplied (plain and collapsible elements) -/
theorem C15_write_attr_order_invariant (name : Str) (l₁ l₂ : List (Str × Str)) (cs : List Node)
    (hp : l₁.Perm l₂) (hn : (l₁.map Prod.fst).Nodup) :
    writeNode (el name l₁ cs) = writeNode (el name l₂ cs) ∧
    writeNode (cel name l₁ cs) = writeNode (cel name l₂ cs) := by
  rw [C15_el_attr_order_invariant name l₁ l₂ cs hp hn,
      C15_cel_attr_order_invariant name l₁ l₂ cs hp hn]
  exact ⟨rfl, rfl⟩

/-! ### 7. `_is_match` / collapsing do not depend on attribute insertion order -/

/-- `_is_match` gives the same answer whichever order the attributes of either tag were
    inserted in (first and second argument position) -/
theorem C15_match_attr_order_invariant (n : Str) (alts : List Str) (c : Bool) (sep : Option Str)
    (l₁ l₂ : List (Str × Str)) (t : Tag) (hp : l₁.Perm l₂) (hn : (l₁.map Prod.fst).Nodup) :
    isMatch { name := n, alts := alts, attrs := Dict.ofList l₁, collapsible := c, separator := sep } t
      = isMatch { name := n, alts := alts, attrs := Dict.ofList l₂, collapsible := c, separator := sep } t ∧
    isMatch t { name := n, alts := alts, attrs := Dict.ofList l₁, collapsible := c, separator := sep }
      = isMatch t { name := n, alts := alts, attrs := Dict.ofList l₂, collapsible := c, separator := sep } := by
  rw [C15_ofList_perm l₁ l₂ hp hn]
  exact ⟨rfl, rfl⟩

/-- `_is_match` compares attributes the way Python compares dictionaries: for tags whose
    attributes satisfy the invariant, it is `true` exactly when the name fits and every attribute
    lookup agrees -/
theorem C15_match_is_dict_eq (a b : Tag) (ha : c15_sorted a.attrs) (hb : c15_sorted b.attrs) :
    isMatch a b = true ↔
      (a.name ∈ b.names ∧ ∀ k, Dict.get? k a.attrs = Dict.get? k b.attrs) := by
  simp only [isMatch, Bool.and_eq_true, List.contains_iff_mem, beq_iff_eq]
  rw [C15_sorted_ext a.attrs b.attrs ha hb]

/-- collapsing a sibling list built with `el`/`cel` gives the same result whichever order the
    attributes of the two siblings were supplied in -/
theorem C15_collapse_attr_order_invariant (n m : Str) (l₁ l₂ k₁ k₂ : List (Str × Str))
    (cs ds pre post : List Node)
    (hp : l₁.Perm l₂) (hn : (l₁.map Prod.fst).Nodup)
    (hq : k₁.Perm k₂) (hm : (k₁.map Prod.fst).Nodup) :
    collapse (pre ++ el n l₁ cs :: cel m k₁ ds :: post)
      = collapse (pre ++ el n l₂ cs :: cel m k₂ ds :: post) ∧
    collapse (pre ++ cel n l₁ cs :: cel m k₁ ds :: post)
      = collapse (pre ++ cel n l₂ cs :: cel m k₂ ds :: post) := by
  rw [C15_el_attr_order_invariant n l₁ l₂ cs hp hn, C15_cel_attr_order_invariant n l₁ l₂ cs hp hn,
      C15_cel_attr_order_invariant m k₁ k₂ ds hq hm]
  exact ⟨rfl, rfl⟩

/-! ### 8. the default style map is a closed constant -/

/-- `read_options` appends the built-in style map — a closed term that depends on no option and
    no earlier call — after the custom and the embedded map when `include_default_style_map` is
    set, and appends nothing otherwise; the custom/embedded parts depend on their own text only -/
theorem C15_default_map_constant (c e : Option Str) :
    (readOptions c e true).1
      = (readStyleMap (c.getD [])).1 ++ (readStyleMap (e.getD [])).1 ++ defaultStyleMap ∧
    (readOptions c e false).1
      = (readStyleMap (c.getD [])).1 ++ (readStyleMap (e.getD [])).1 ++ [] := ⟨rfl, rfl⟩

/-- the default map is literally the parse of the extracted text; neither `c` nor `e` occurs -/
theorem C15_default_map_def : defaultStyleMap = (readStyleMap Generated.defaultStyleMapText).1 := rfl

/-! ### 9. every conversion starts from the empty converter state -/

/-- `convertDoc` runs the visitor from the EMPTY `ConvState` (no note references, no referenced
    comments, no messages, no I/O, no image calls) and reads the result off the final state.
    Purity of the model is by construction: it is a Lean function, so no state of any other call,
    thread or hash seed can enter.  What the test harness checks is that the Python implementation
    refines this function under call histories, threads and `PYTHONHASHSEED` values. -/
theorem C15_state_fresh (cfg : Cfg) (d : Document) :
    convertDoc cfg d =
      match (visitDocument { cfg with comments := d.comments } d).run {} with
      | .ok (nodes, st) =>
        .ok { nodes := nodes, messages := unique st.messages, ioTrace := st.ioTrace,
              imageCalls := st.imageCalls, noteRefs := st.noteRefs }
      | .error e => .error e := rfl

/-- the initial state is the all-empty one -/
theorem C15_initial_state_empty :
    (({} : ConvState).noteRefs = [] ∧ ({} : ConvState).refComments = [] ∧
     ({} : ConvState).messages = [] ∧ ({} : ConvState).ioTrace = [] ∧
     ({} : ConvState).imageCalls = []) := ⟨rfl, rfl, rfl, rfl, rfl⟩

/-- the comment table the converter uses is always the document's own: whatever `cfg.comments`
    held before (e.g. from an earlier document) is overwritten -/
theorem C15_cfg_comments_overridden (cfg : Cfg) (x : List Comment) (d : Document) :
    convertDoc { cfg with comments := x } d = convertDoc cfg d := rfl

/-! ### non-vacuity -/

example : Dict.ofList [(S!"b", S!"1"), (S!"a", S!"2")] = Dict.ofList [(S!"a", S!"2"), (S!"b", S!"1")] := by
  decide +kernel
example : Dict.ofList [(S!"id", S!"x"), (S!"class", S!"c"), (S!"id", S!"y")]
    = [(S!"class", S!"c"), (S!"id", S!"y")] := by decide +kernel
example : c15_sortedB ([(S!"class", S!"c"), (S!"href", S!"u"), (S!"id", S!"y")] : Dict Str) = true := by
  decide +kernel
example : c15_sorted ([(S!"class", S!"c"), (S!"href", S!"u"), (S!"id", S!"y")] : Dict Str) :=
  (C15_sortedB_iff _).1 (by decide +kernel)
example : ¬ c15_sorted ([(S!"id", S!"y"), (S!"class", S!"c")] : Dict Str) := by
  rw [← C15_sortedB_iff]
  decide +kernel
example : [(S!"href", S!"u"), (S!"id", S!"y")].Perm [(S!"id", S!"y"), (S!"href", S!"u")] :=
  List.Perm.swap _ _ _
example : ([(S!"href", S!"u"), (S!"id", S!"y")].map Prod.fst).Nodup := by decide +kernel
example : writeNode (el S!"a" [(S!"id", S!"y"), (S!"href", S!"u")] [.text S!"t"])
    = S!"<a href=\"u\" id=\"y\">t</a>" := by decide +kernel
example : writeNode (el S!"a" [(S!"href", S!"u"), (S!"id", S!"y")] [.text S!"t"])
    = writeNode (el S!"a" [(S!"id", S!"y"), (S!"href", S!"u")] [.text S!"t"]) := by decide +kernel
example : writeHtml (collapse [cel S!"p" [(S!"a", S!"1"), (S!"b", S!"2")] [.text S!"x"],
                               cel S!"p" [(S!"b", S!"2"), (S!"a", S!"1")] [.text S!"y"]])
    = S!"<p a=\"1\" b=\"2\">xy</p>" := by decide +kernel
example : strLt S!"class" S!"id" = true ∧ strLt S!"id" S!"class" = false ∧ strLt S!"id" S!"id" = false := by
  decide +kernel

end Mammoth
