/-
  C10 helpers: the STRINGS that the two link regexes of `parse_instr_text` match, said without any
  matcher: `ws* HYPERLINK ws+ " u " rest` (resp. with `\l ws+` before the quote), `u` free of `"`;
  then group 1 is `u` and the match ends right after the closing quote.  Both directions, for
  every string.  With the agreement of C10_InstrRegexAgree this says what `matchExternalLink` and
  `matchInternalLink` return on such strings.
-/
import Proofs.C10_InstrRegexAgree
namespace Mammoth

/-! ### the hand-written pieces, read backwards -/

theorem c10_lstripWs_split (s : Str) : ∃ w, c10_allWs w = true ∧ s = w ++ lstripWs s :=
  ⟨s.takeWhile isSpace, List.all_takeWhile, by
    rw [← c10_dropWhile_isSpace, List.takeWhile_append_dropWhile]⟩

theorem c10_stripPrefix_some (w : Str) : ∀ (a r : Str), stripPrefix? a w = some r → a = w ++ r := by
  induction w with
  | nil => intro a r h; cases a <;> simp [stripPrefix?] at h <;> simp [h]
  | cons p ps ih =>
    intro a r h
    cases a with
    | nil => simp [stripPrefix?] at h
    | cons c cs =>
      simp only [stripPrefix?] at h
      by_cases hc : (c == p) = true
      · simp only [hc, if_true] at h
        have := ih cs r h
        have e : c = p := by simpa using hc
        rw [e, this]; rfl
      · simp [hc] at h

theorem c10_ws1_some (a r : Str) (h : ws1 a = some r) :
    ∃ w, w ≠ [] ∧ c10_allWs w = true ∧ a = w ++ r := by
  cases a with
  | nil => simp [ws1] at h
  | cons c cs =>
    simp only [ws1, skipWs] at h
    by_cases hc : isSpace c = true
    · simp only [hc, if_true, Option.some.injEq] at h
      obtain ⟨w, hw, e⟩ := c10_lstripWs_split cs
      refine ⟨c :: w, by simp, by simp [c10_allWs, hc] at hw ⊢; exact hw, ?_⟩
      rw [← h, List.cons_append, ← e]
    · simp [hc] at h

theorem c10_afterDq_some (a r : Str) : c10_afterDq a = some r ↔ a = '"' :: r := by
  cases a with
  | nil => simp [c10_afterDq]
  | cons c cs =>
    by_cases hc : c = '"'
    · subst hc
      simp [c10_afterDq]
    · simp [c10_afterDq, hc]

theorem c10_dropWhile_stop (u rest : Str) (h : '"' ∉ u) :
    (u ++ '"' :: rest).dropWhile c10_ccNotDq.test = '"' :: rest := by
  rw [c10_test_notDq, List.dropWhile_append_of_pos, List.dropWhile_cons_of_neg (by decide)]
  intro a ha
  have : a ≠ '"' := fun e => h (e ▸ ha)
  simpa using this

theorem c10_notMem_takeWhile (s : Str) : '"' ∉ s.takeWhile c10_ccNotDq.test := by
  intro h
  have := List.all_eq_true.mp List.all_takeWhile _ h
  rw [c10_test_notDq] at this
  cases this

/-- the tail `( [^"]* ) "` from the input `s1` after the opening quote -/
theorem c10_tail_iff (s1 s2 s3 : Str) :
    (c10_interp [.star c10_ccNotDq] s1 = some s2 ∧ c10_interp [C10Item.lit '"'] s2 = some s3) ↔
    ∃ u, '"' ∉ u ∧ s1 = u ++ '"' :: s3 ∧ s2 = '"' :: s3 := by
  simp only [c10_interp, c10_interp_dq, Option.some.injEq, c10_afterDq_some]
  constructor
  · rintro ⟨h1, h2⟩
    refine ⟨s1.takeWhile c10_ccNotDq.test, c10_notMem_takeWhile s1, ?_, h2⟩
    rw [← h2, ← h1]
    exact (List.takeWhile_append_dropWhile).symm
  · rintro ⟨u, hu, e1, e2⟩
    exact ⟨by rw [e1, e2]; exact c10_dropWhile_stop u s3 hu, e2⟩

theorem c10_gi_interp_iff (g : C10GroupedItems) (s s1 s2 s3 : Str) :
    g.interp s = some (s1, s2, s3) ↔
      c10_interp g.pre s = some s1 ∧ c10_interp g.body s1 = some s2 ∧ c10_interp g.post s2 = some s3 := by
  simp only [C10GroupedItems.interp, Option.bind_eq_some_iff, Option.map_eq_some_iff, Prod.mk.injEq]
  constructor
  · rintro ⟨_, h1, _, h2, _, h3, rfl, rfl, rfl⟩
    exact ⟨h1, h2, h3⟩
  · rintro ⟨h1, h2, h3⟩
    exact ⟨_, h1, _, h2, _, h3, rfl, rfl, rfl⟩

theorem c10_external_pre_iff (s s1 : Str) :
    c10_interp c10_giExternal.pre s = some s1 ↔
    ∃ p, (∃ w1 w2, c10_allWs w1 = true ∧ c10_allWs w2 = true ∧ w2 ≠ [] ∧
      p = w1 ++ S!"HYPERLINK" ++ w2 ++ ['"']) ∧ s = p ++ s1 := by
  simp only [c10_external_pre, Option.bind_eq_some_iff, c10_afterDq_some, skipWs]
  constructor
  · rintro ⟨r, h1, _, h2, rfl⟩
    obtain ⟨w1, hw1, e1⟩ := c10_lstripWs_split s
    obtain ⟨w2, hne, hw2, rfl⟩ := c10_ws1_some r _ h2
    refine ⟨_, ⟨w1, w2, hw1, hw2, hne, rfl⟩, ?_⟩
    simp only [List.append_assoc, List.singleton_append]
    rw [← c10_stripPrefix_some _ _ _ h1]
    exact e1
  · rintro ⟨_, ⟨w1, w2, h1, h2, hne, rfl⟩, rfl⟩
    simp only [List.append_assoc, List.singleton_append]
    exact ⟨_, c10_keyword w1 _ h1, _, c10_ws1_ws w2 s1 '"' hne h2 (by decide), rfl⟩

theorem c10_internal_pre_iff (s s1 : Str) :
    c10_interp c10_giInternal.pre s = some s1 ↔
    ∃ p, (∃ w1 w2 w3, c10_allWs w1 = true ∧ c10_allWs w2 = true ∧ w2 ≠ [] ∧ c10_allWs w3 = true ∧ w3 ≠ [] ∧
      p = w1 ++ S!"HYPERLINK" ++ w2 ++ S!"\\l" ++ w3 ++ ['"']) ∧ s = p ++ s1 := by
  simp only [c10_internal_pre, Option.bind_eq_some_iff, c10_afterDq_some, skipWs]
  constructor
  · rintro ⟨r, h1, r1, h2, r2, h3, _, h4, rfl⟩
    obtain ⟨w1, hw1, e1⟩ := c10_lstripWs_split s
    obtain ⟨w2, hne2, hw2, rfl⟩ := c10_ws1_some r _ h2
    obtain ⟨w3, hne3, hw3, rfl⟩ := c10_ws1_some r2 _ h4
    refine ⟨_, ⟨w1, w2, w3, hw1, hw2, hne2, hw3, hne3, rfl⟩, ?_⟩
    simp only [List.append_assoc, List.singleton_append]
    rw [← c10_stripPrefix_some _ _ _ h3, ← c10_stripPrefix_some _ _ _ h1]
    exact e1
  · rintro ⟨_, ⟨w1, w2, w3, h1, h2, hne2, h3, hne3, rfl⟩, rfl⟩
    simp only [List.append_assoc, List.singleton_append]
    exact ⟨_, c10_keyword w1 _ h1, _, c10_ws1_ws w2 _ '\\' hne2 h2 (by decide), _,
      c10_stripPrefix_append S!"\\l" _, _, c10_ws1_ws w3 s1 '"' hne3 h3 (by decide), rfl⟩

/-! ### group 1 and the end of the match of a deterministic grouped sequence, from `interp` -/

theorem c10_gi_group1_matchLen (g : C10GroupedItems) (h : g.det = true) (s u : Str) (n : Nat) :
    (g.grouped.group1 s = some u ∧ g.grouped.regex.matchLen s = some n) ↔
    ∃ s1 s2 s3, g.interp s = some (s1, s2, s3) ∧ u = s1.take (s1.length - s2.length) ∧
      n = s.length - s3.length := by
  unfold C07Regex.matchLen
  rw [c10_gi_group1 g h s, (c10_gi_exec g h s).1]
  cases g.interp s with
  | none => simp
  | some t =>
    obtain ⟨s1, s2, s3⟩ := t
    simp only [Option.map_some, Option.some.injEq, Prod.mk.injEq]
    constructor
    · rintro ⟨rfl, rfl⟩; exact ⟨s1, s2, s3, ⟨rfl, rfl, rfl⟩, rfl, rfl⟩
    · rintro ⟨a, b, c, ⟨rfl, rfl, rfl⟩, rfl, rfl⟩; exact ⟨rfl, rfl⟩

theorem c10_gi_quoted_shape (g : C10GroupedItems) (hd : g.det = true) (hb : g.body = [.star c10_ccNotDq])
    (hq : g.post = [.lit '"']) (P : Str → Prop)
    (hpre : ∀ s s1, c10_interp g.pre s = some s1 ↔ ∃ p, P p ∧ s = p ++ s1) (s u : Str) (n : Nat) :
    (g.grouped.group1 s = some u ∧ g.grouped.regex.matchLen s = some n) ↔
    ∃ p rest, P p ∧ '"' ∉ u ∧ s = p ++ u ++ ['"'] ++ rest ∧ n = p.length + u.length + 1 := by
  rw [c10_gi_group1_matchLen g hd]
  simp only [c10_gi_interp_iff, hb, hq, hpre]
  constructor
  · rintro ⟨_, _, rest, ⟨⟨p, hp, rfl⟩, hbody, hpost⟩, rfl, rfl⟩
    obtain ⟨u, hu, rfl, rfl⟩ := (c10_tail_iff _ _ rest).mp ⟨hbody, hpost⟩
    refine ⟨p, rest, hp, ?_, ?_, ?_⟩
    · simpa using hu
    · simp
    · simp; omega
  · rintro ⟨p, rest, hp, hu, rfl, rfl⟩
    have ht := (c10_tail_iff (u ++ '"' :: rest) ('"' :: rest) rest).mpr ⟨u, hu, rfl, rfl⟩
    exact ⟨u ++ '"' :: rest, '"' :: rest, rest, ⟨⟨p, hp, by simp⟩, ht.1, ht.2⟩, by simp, by simp; omega⟩

/-- EXTERNAL link regex: which strings, which group, how long -/
theorem c10_external_shape (s u : Str) (n : Nat) :
    (c10_groupExternal.group1 s = some u ∧ c10_rxExternal.matchLen s = some n) ↔
    ∃ w1 w2 rest, c10_allWs w1 = true ∧ c10_allWs w2 = true ∧ w2 ≠ [] ∧ '"' ∉ u ∧
      s = w1 ++ S!"HYPERLINK" ++ w2 ++ ['"'] ++ u ++ ['"'] ++ rest ∧
      n = w1.length + 9 + w2.length + u.length + 2 := by
  rw [← c10_groupExternal_regex]
  unfold c10_groupExternal
  rw [c10_gi_quoted_shape _ c10_giExternal_det rfl rfl _ c10_external_pre_iff]
  have hlen (w1 w2 : Str) : (w1 ++ S!"HYPERLINK" ++ w2 ++ ['"']).length + u.length + 1 =
      w1.length + 9 + w2.length + u.length + 2 := by
    simp only [List.length_append, List.length_cons, List.length_nil]
    omega
  constructor
  · rintro ⟨_, rest, ⟨w1, w2, h1, h2, hne, rfl⟩, hu, rfl, rfl⟩
    exact ⟨w1, w2, rest, h1, h2, hne, hu, rfl, hlen w1 w2⟩
  · rintro ⟨w1, w2, rest, h1, h2, hne, hu, rfl, rfl⟩
    exact ⟨_, rest, ⟨w1, w2, h1, h2, hne, rfl⟩, hu, rfl, (hlen w1 w2).symm⟩

/-- INTERNAL link regex: which strings, which group, how long -/
theorem c10_internal_shape (s u : Str) (n : Nat) :
    (c10_groupInternal.group1 s = some u ∧ c10_rxInternal.matchLen s = some n) ↔
    ∃ w1 w2 w3 rest, c10_allWs w1 = true ∧ c10_allWs w2 = true ∧ w2 ≠ [] ∧ c10_allWs w3 = true ∧
      w3 ≠ [] ∧ '"' ∉ u ∧
      s = w1 ++ S!"HYPERLINK" ++ w2 ++ S!"\\l" ++ w3 ++ ['"'] ++ u ++ ['"'] ++ rest ∧
      n = w1.length + 9 + w2.length + 2 + w3.length + u.length + 2 := by
  rw [← c10_groupInternal_regex]
  unfold c10_groupInternal
  rw [c10_gi_quoted_shape _ c10_giInternal_det rfl rfl _ c10_internal_pre_iff]
  have hlen (w1 w2 w3 : Str) :
      (w1 ++ S!"HYPERLINK" ++ w2 ++ S!"\\l" ++ w3 ++ ['"']).length + u.length + 1 =
      w1.length + 9 + w2.length + 2 + w3.length + u.length + 2 := by
    simp only [List.length_append, List.length_cons, List.length_nil]
    omega
  constructor
  · rintro ⟨_, rest, ⟨w1, w2, w3, h1, h2, hne2, h3, hne3, rfl⟩, hu, rfl, rfl⟩
    exact ⟨w1, w2, w3, rest, h1, h2, hne2, h3, hne3, hu, rfl, hlen w1 w2 w3⟩
  · rintro ⟨w1, w2, w3, rest, h1, h2, hne2, h3, hne3, hu, rfl, rfl⟩
    exact ⟨_, rest, ⟨w1, w2, w3, h1, h2, hne2, h3, hne3, rfl⟩, hu, rfl, (hlen w1 w2 w3).symm⟩

theorem c10_external (w1 w2 url rest : Str) (h1 : c10_allWs w1 = true) (h2 : c10_allWs w2 = true)
    (hne : w2 ≠ []) (hq : '"' ∉ url) :
    matchExternalLink (w1 ++ S!"HYPERLINK" ++ w2 ++ ['"'] ++ url ++ ['"'] ++ rest) = some url := by
  rw [← c10_external_group1]
  exact ((c10_external_shape _ _ _).mpr ⟨w1, w2, rest, h1, h2, hne, hq, rfl, rfl⟩).1

theorem c10_internal (w1 w2 w3 name rest : Str) (h1 : c10_allWs w1 = true) (h2 : c10_allWs w2 = true)
    (hne2 : w2 ≠ []) (h3 : c10_allWs w3 = true) (hne3 : w3 ≠ []) (hq : '"' ∉ name) :
    matchInternalLink (w1 ++ S!"HYPERLINK" ++ w2 ++ S!"\\l" ++ w3 ++ ['"'] ++ name ++ ['"'] ++ rest) = some name := by
  rw [← c10_internal_group1]
  exact ((c10_internal_shape _ _ _).mpr ⟨w1, w2, w3, rest, h1, h2, hne2, h3, hne3, hq, rfl, rfl⟩).1

end Mammoth
