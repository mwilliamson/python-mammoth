/-
  C17, reader half — the specification.

  `c17_xmlImages env b n` says, by recursion on the XML tree (element names, never handler names, no
  reader state, no fuel), which images a piece of `word/document.xml` carries and in which order.

    * `wp:inline` / `wp:anchor` (DrawingML): one image for every `a:blip` reached from it along
      `a:graphic / a:graphicData / pic:pic / pic:blipFill / a:blip` (depth first, document order) that has
      an `r:embed` attribute (the part named by that relationship) or else an `r:link` attribute (the
      linked target); all of them carry the alt text of the drawing: the `descr` attribute of its
      `wp:docPr` when that is not blank, else its `title` attribute;
    * `v:imagedata` (VML) with an `r:id`: the part named by that relationship, alt text = attribute `o:title`;
    * the source of an embedded image is the zip entry named by the LAST relationship with that id
      (`/x` ↦ `x`, `x` ↦ `word/x`); the content type is `c17_contentTypeSpec` of that entry name (of the
      target itself for a linked image): override, else default by extension, else built-in table;
      an id without relationship gives no image (the reader fails there);
    * read-through containers (`w:r`, `w:ins`, `w:smartTag`, `w:hyperlink`, `w:tbl`, `w:tr`, `w:tc`,
      `w:object`, `w:drawing`, the VML shapes, `w:txbxContent`) → their children, in order;
      `mc:AlternateContent` → the children of its first `mc:Fallback`;
      `w:sdt` → the children of its first `w:sdtContent` (nothing for a check-box control);
    * `w:pict` → nothing in line; its content goes to the *extra* channel;
    * `w:p` → its in-line images followed by the extra images of its content (text boxes come after
      their host paragraph); a paragraph whose mark is a tracked deletion emits nothing: its content is
      deferred (buffer `b`, exactly as in `c01_xmlLiveD`) to the next paragraph opened in reading order;
    * everything else (`w:del`, `w:t`, `w:pPr`, …, unknown elements, text nodes) → nothing.

  `c17_storyImages env ns` is the resulting list for a story (children of `w:body`, of a note, …).
-/
import MammothModel.Reader
import Proofs.C17_Images
import Proofs.C01_XmlDefer
namespace Mammoth

/-- images in line, and images waiting to be placed after the enclosing paragraph (text boxes) -/
structure c17_Imgs where
  inline : List ImageProps := []
  extra : List ImageProps := []
deriving DecidableEq, Repr, Inhabited

def c17_Imgs.append (a b : c17_Imgs) : c17_Imgs := ⟨a.inline ++ b.inline, a.extra ++ b.extra⟩

/-- what an element name means for the images -/
inductive c17_Kind where
  | skip | drawing | imagedata | through | paragraph | pict | alt | sdt
deriving DecidableEq, Repr, Inhabited

def c17_kinds : List (Str × c17_Kind) := [
  (S!"wp:inline", .drawing), (S!"wp:anchor", .drawing), (S!"v:imagedata", .imagedata),
  (S!"w:p", .paragraph), (S!"w:pict", .pict), (S!"mc:AlternateContent", .alt), (S!"w:sdt", .sdt),
  (S!"w:r", .through), (S!"w:ins", .through), (S!"w:smartTag", .through), (S!"w:hyperlink", .through),
  (S!"w:tbl", .through), (S!"w:tr", .through), (S!"w:tc", .through),
  (S!"w:object", .through), (S!"w:drawing", .through), (S!"v:group", .through), (S!"v:rect", .through),
  (S!"v:roundrect", .through), (S!"v:shape", .through), (S!"v:textbox", .through), (S!"w:txbxContent", .through)]

def c17_kindIn : List (Str × c17_Kind) → Str → c17_Kind
  | [], _ => .skip
  | (k, v) :: rest, name => if name = k then v else c17_kindIn rest name

/-- every name that is not listed is skipped -/
def c17_kindOf (name : Str) : c17_Kind := c17_kindIn c17_kinds name

theorem c17_kindIn_mem (tbl : List (Str × c17_Kind)) (name : Str) :
    c17_kindIn tbl name = .skip ∨ (name, c17_kindIn tbl name) ∈ tbl := by
  induction tbl with
  | nil => exact Or.inl rfl
  | cons p tbl ih =>
    obtain ⟨k, v⟩ := p
    simp only [c17_kindIn]
    split
    · rename_i hk; subst hk; exact Or.inr List.mem_cons_self
    · rcases ih with h | h
      · exact Or.inl h
      · exact Or.inr (List.mem_cons_of_mem _ h)

/-! ### one image -/

/-- the target of the LAST relationship with this id -/
def c17_relTarget : Rels → Str → Option Str
  | [], _ => none
  | r :: rest, id => (c17_relTarget rest id).or (if r.id = id then some r.target else none)

/-- the zip entry a relationship target of the main document part names: absolute targets lose their
    leading `/`, relative ones are taken from `word/` -/
def c17_partName : Str → Str
  | '/' :: rest => rest
  | target => S!"word/" ++ target

/-- the image with this source and alt text, typed by the package's declaration for `path` -/
def c17_image (env : REnv) (path : Str) (src : ImageSrc) (alt : Option Str) : ImageProps :=
  { altText := alt, contentType := c17_contentTypeSpec env.contentTypes path, src := src }

def c17_embedded (env : REnv) (rid : Str) (alt : Option Str) : List ImageProps :=
  match c17_relTarget env.rels rid with
  | some t => [c17_image env (c17_partName t) (.embedded (c17_partName t)) alt]
  | none => []

def c17_linked (env : REnv) (rid : Str) (alt : Option Str) : List ImageProps :=
  match c17_relTarget env.rels rid with
  | some t => [c17_image env t (.linked t) alt]
  | none => []

/-- an `a:blip`: embedded if it has `r:embed`, else linked if it has `r:link`, else no image -/
def c17_blip (env : REnv) (as : Attrs) (alt : Option Str) : List ImageProps :=
  match attr? S!"r:embed" as with
  | some rid => c17_embedded env rid alt
  | none =>
    match attr? S!"r:link" as with
    | some rid => c17_linked env rid alt
    | none => []

/-- only white space (Python's `str.isspace` characters), or empty -/
def c17_isBlank (s : Str) : Bool := s.all isSpace

/-- the alt text of a drawing, from the attributes of its `wp:docPr` -/
def c17_altText (docPr : Attrs) : Option Str :=
  match attr? S!"descr" docPr with
  | some d => if c17_isBlank d then attr? S!"title" docPr else some d
  | none => attr? S!"title" docPr

/-- the attributes of the elements reached by following the child names of `path`, depth first -/
def c17_descend : List Str → List XmlNode → List Attrs
  | [], _ => []
  | [n], cs => (findChildren n cs).map (·.1)
  | n :: m :: rest, cs => (findChildren n cs).flatMap fun p => c17_descend (m :: rest) p.2

def c17_blipPath : List Str :=
  [S!"a:graphic", S!"a:graphicData", S!"pic:pic", S!"pic:blipFill", S!"a:blip"]

/-- the images of a `wp:inline` / `wp:anchor` with children `cs` -/
def c17_drawing (env : REnv) (cs : List XmlNode) : List ImageProps :=
  (c17_descend c17_blipPath cs).flatMap fun as =>
    c17_blip env as (c17_altText (findChildOrNull S!"wp:docPr" cs).1)

/-- the image of a `v:imagedata` with attributes `as` -/
def c17_imagedata (env : REnv) (as : Attrs) : List ImageProps :=
  match attr? S!"r:id" as with
  | some rid => c17_embedded env rid (attr? S!"o:title" as)
  | none => []

/-! ### the traversal, with the buffer of deferred images (levels as in `c01_Buf`) -/

abbrev c17_Buf := List c17_Imgs

def c17_bufHead (b : c17_Buf) : c17_Imgs := b.headD {}
def c17_bufTail (b : c17_Buf) : c17_Buf := b.tail

/-- a buffer with `l` at level 0 and `b` below; nothing deferred at all is the empty buffer -/
def c17_bufCons (l : c17_Imgs) (b : c17_Buf) : c17_Buf :=
  if l.inline = [] ∧ l.extra = [] ∧ b = [] then [] else l :: b

/-- images produced here, and the buffer afterwards -/
structure c17_ImgsD where
  live : c17_Imgs := {}
  buf : c17_Buf := []
deriving DecidableEq, Repr, Inhabited

mutual
def c17_xmlImages (env : REnv) (b : c17_Buf) : XmlNode → c17_ImgsD
  | .text _ => ⟨{}, b⟩
  | .elem name as cs =>
    match c17_kindOf name with
    | .skip => ⟨{}, b⟩
    | .drawing => ⟨⟨c17_drawing env cs, []⟩, b⟩
    | .imagedata => ⟨⟨c17_imagedata env as, []⟩, b⟩
    | .through => c17_xmlImagesL env b cs
    | .paragraph =>
      if c01_delMark cs then
        ⟨{}, c17_bufCons ((c17_bufHead b).append (c17_xmlImagesL env (c17_bufTail b) cs).live)
               (c17_xmlImagesL env (c17_bufTail b) cs).buf⟩
      else
        ⟨⟨((c17_bufHead b).append (c17_xmlImagesL env (c17_bufTail b) cs).live).inline ++
            ((c17_bufHead b).append (c17_xmlImagesL env (c17_bufTail b) cs).live).extra, []⟩,
          (c17_xmlImagesL env (c17_bufTail b) cs).buf⟩
    | .pict =>
      ⟨⟨[], (c17_xmlImagesL env b cs).live.extra ++ (c17_xmlImagesL env b cs).live.inline⟩,
        (c17_xmlImagesL env b cs).buf⟩
    | .alt => c17_xmlImagesIn env S!"mc:Fallback" b cs
    | .sdt => if c01_isCheckboxSdt cs then ⟨{}, b⟩ else c17_xmlImagesIn env S!"w:sdtContent" b cs
def c17_xmlImagesL (env : REnv) (b : c17_Buf) : List XmlNode → c17_ImgsD
  | [] => ⟨{}, b⟩
  | c :: cs =>
    ⟨(c17_xmlImages env b c).live.append (c17_xmlImagesL env (c17_xmlImages env b c).buf cs).live,
     (c17_xmlImagesL env (c17_xmlImages env b c).buf cs).buf⟩
/-- the content of the first child element called `child` -/
def c17_xmlImagesIn (env : REnv) (child : Str) (b : c17_Buf) : List XmlNode → c17_ImgsD
  | [] => ⟨{}, b⟩
  | .text _ :: rest => c17_xmlImagesIn env child b rest
  | .elem n _ cs :: rest => if n = child then c17_xmlImagesL env b cs else c17_xmlImagesIn env child b rest
end

/-- the images of a story, in reading order: those of the elements the reader returns -/
def c17_storyImages (env : REnv) (ns : List XmlNode) : List ImageProps :=
  (c17_xmlImagesL env [] ns).live.inline

/-- the images of top-level text boxes of a story (the reader's `extra` result, dropped for the body) -/
def c17_storyExtra (env : REnv) (ns : List XmlNode) : List ImageProps :=
  (c17_xmlImagesL env [] ns).live.extra

/-- the buffer that stands for XML nodes held back by the reader -/
def c17_pend (env : REnv) (ds : List XmlNode) : c17_Buf :=
  c17_bufCons (c17_xmlImagesL env [] ds).live (c17_xmlImagesL env [] ds).buf

/-! ### the same without deferral (documents without deleted paragraph marks) -/

mutual
def c17_xmlImagesPlain (env : REnv) : XmlNode → c17_Imgs
  | .text _ => {}
  | .elem name as cs =>
    match c17_kindOf name with
    | .skip => {}
    | .drawing => ⟨c17_drawing env cs, []⟩
    | .imagedata => ⟨c17_imagedata env as, []⟩
    | .through => c17_xmlImagesPlainL env cs
    | .paragraph => ⟨(c17_xmlImagesPlainL env cs).inline ++ (c17_xmlImagesPlainL env cs).extra, []⟩
    | .pict => ⟨[], (c17_xmlImagesPlainL env cs).extra ++ (c17_xmlImagesPlainL env cs).inline⟩
    | .alt => c17_xmlImagesPlainIn env S!"mc:Fallback" cs
    | .sdt => if c01_isCheckboxSdt cs then {} else c17_xmlImagesPlainIn env S!"w:sdtContent" cs
def c17_xmlImagesPlainL (env : REnv) : List XmlNode → c17_Imgs
  | [] => {}
  | c :: cs => (c17_xmlImagesPlain env c).append (c17_xmlImagesPlainL env cs)
def c17_xmlImagesPlainIn (env : REnv) (child : Str) : List XmlNode → c17_Imgs
  | [] => {}
  | .text _ :: rest => c17_xmlImagesPlainIn env child rest
  | .elem n _ cs :: rest => if n = child then c17_xmlImagesPlainL env cs else c17_xmlImagesPlainIn env child rest
end

/-! ### basic equations -/

@[simp] theorem c17_Imgs_append_empty_left (l : c17_Imgs) : c17_Imgs.append {} l = l := by
  cases l; simp [c17_Imgs.append]
@[simp] theorem c17_Imgs_append_empty_right (l : c17_Imgs) : c17_Imgs.append l {} = l := by
  cases l; simp [c17_Imgs.append]
theorem c17_Imgs_append_assoc (a b c : c17_Imgs) : (a.append b).append c = a.append (b.append c) := by
  simp [c17_Imgs.append, List.append_assoc]
@[simp] theorem c17_Imgs_append_inline (a b : c17_Imgs) : (a.append b).inline = a.inline ++ b.inline := rfl
@[simp] theorem c17_Imgs_append_extra (a b : c17_Imgs) : (a.append b).extra = a.extra ++ b.extra := rfl

theorem c17_bufHead_cons (l : c17_Imgs) (b : c17_Buf) : c17_bufHead (c17_bufCons l b) = l := by
  unfold c17_bufCons
  split
  · rename_i h
    cases l
    simp only at h
    simp [c17_bufHead, h.1, h.2.1]
  · rfl

theorem c17_bufTail_cons (l : c17_Imgs) (b : c17_Buf) : c17_bufTail (c17_bufCons l b) = b := by
  unfold c17_bufCons
  split
  · rename_i h; simp [c17_bufTail, h.2.2]
  · rfl

@[simp] theorem c17_bufHead_nil : c17_bufHead [] = {} := rfl
@[simp] theorem c17_bufTail_nil : c17_bufTail [] = [] := rfl

@[simp] theorem c17_xmlImagesL_nil (env : REnv) (b : c17_Buf) : c17_xmlImagesL env b [] = ⟨{}, b⟩ := by
  simp [c17_xmlImagesL]
theorem c17_xmlImagesL_cons (env : REnv) (b : c17_Buf) (c : XmlNode) (cs : List XmlNode) :
    c17_xmlImagesL env b (c :: cs) =
      ⟨(c17_xmlImages env b c).live.append (c17_xmlImagesL env (c17_xmlImages env b c).buf cs).live,
       (c17_xmlImagesL env (c17_xmlImages env b c).buf cs).buf⟩ := by simp [c17_xmlImagesL]
@[simp] theorem c17_xmlImages_text (env : REnv) (b : c17_Buf) (s : Str) :
    c17_xmlImages env b (.text s) = ⟨{}, b⟩ := by simp [c17_xmlImages]

@[simp] theorem c17_pend_nil (env : REnv) : c17_pend env [] = [] := by simp [c17_pend, c17_bufCons]

/-- traversal of a concatenation: the second part starts with the buffer the first part leaves -/
theorem c17_xmlImagesL_append (env : REnv) (b : c17_Buf) (xs ys : List XmlNode) :
    c17_xmlImagesL env b (xs ++ ys) =
      ⟨(c17_xmlImagesL env b xs).live.append (c17_xmlImagesL env (c17_xmlImagesL env b xs).buf ys).live,
       (c17_xmlImagesL env (c17_xmlImagesL env b xs).buf ys).buf⟩ := by
  induction xs generalizing b with
  | nil => simp
  | cons x xs ih => simp [c17_xmlImagesL_cons, ih, c17_Imgs_append_assoc]

theorem c17_xmlImagesIn_eq (env : REnv) (child : Str) (b : c17_Buf) (cs : List XmlNode) :
    c17_xmlImagesIn env child b cs = c17_xmlImagesL env b (findChildOrNull child cs).2 := by
  unfold findChildOrNull
  induction cs with
  | nil => simp [c17_xmlImagesIn, findChild]
  | cons c cs ih =>
    cases c with
    | text s => simp only [c17_xmlImagesIn, findChild]; exact ih
    | elem n as ccs =>
      simp only [c17_xmlImagesIn, findChild]
      by_cases hn : n = child
      · simp [hn]
      · have : (n == child) = false := by simpa using hn
        simp only [hn, if_false, this]; exact ih

/-- a paragraph that opens with the nodes `ds` held back: traversing `ds ++ cs` from the empty buffer is
    taking level 0 of `c17_pend ds` and traversing `cs` with the deeper levels -/
theorem c17_pend_key (env : REnv) (ds cs : List XmlNode) :
    (c17_xmlImagesL env [] (ds ++ cs)).live =
        (c17_bufHead (c17_pend env ds)).append (c17_xmlImagesL env (c17_bufTail (c17_pend env ds)) cs).live ∧
    (c17_xmlImagesL env [] (ds ++ cs)).buf = (c17_xmlImagesL env (c17_bufTail (c17_pend env ds)) cs).buf := by
  rw [c17_xmlImagesL_append]
  unfold c17_pend
  rw [c17_bufHead_cons, c17_bufTail_cons]
  exact ⟨rfl, rfl⟩

@[simp] theorem c17_xmlImagesPlainL_nil (env : REnv) : c17_xmlImagesPlainL env [] = {} := by
  simp [c17_xmlImagesPlainL]
@[simp] theorem c17_xmlImagesPlainL_cons (env : REnv) (c : XmlNode) (cs : List XmlNode) :
    c17_xmlImagesPlainL env (c :: cs) = (c17_xmlImagesPlain env c).append (c17_xmlImagesPlainL env cs) := by
  simp [c17_xmlImagesPlainL]

/-! ### equations of the specification, by kind -/

section
variable {name : Str} (env : REnv) (b : c17_Buf) (as : Attrs) (cs : List XmlNode)

theorem c17_xmlImages_skip (h : c17_kindOf name = .skip) :
    c17_xmlImages env b (.elem name as cs) = ⟨{}, b⟩ := by simp [c17_xmlImages, h]
theorem c17_xmlImages_drawing (h : c17_kindOf name = .drawing) :
    c17_xmlImages env b (.elem name as cs) = ⟨⟨c17_drawing env cs, []⟩, b⟩ := by simp [c17_xmlImages, h]
theorem c17_xmlImages_imagedata (h : c17_kindOf name = .imagedata) :
    c17_xmlImages env b (.elem name as cs) = ⟨⟨c17_imagedata env as, []⟩, b⟩ := by simp [c17_xmlImages, h]
theorem c17_xmlImages_through (h : c17_kindOf name = .through) :
    c17_xmlImages env b (.elem name as cs) = c17_xmlImagesL env b cs := by simp [c17_xmlImages, h]
theorem c17_xmlImages_paragraph (h : c17_kindOf name = .paragraph) :
    c17_xmlImages env b (.elem name as cs) =
      if c01_delMark cs then
        ⟨{}, c17_bufCons ((c17_bufHead b).append (c17_xmlImagesL env (c17_bufTail b) cs).live)
               (c17_xmlImagesL env (c17_bufTail b) cs).buf⟩
      else
        ⟨⟨((c17_bufHead b).append (c17_xmlImagesL env (c17_bufTail b) cs).live).inline ++
            ((c17_bufHead b).append (c17_xmlImagesL env (c17_bufTail b) cs).live).extra, []⟩,
          (c17_xmlImagesL env (c17_bufTail b) cs).buf⟩ := by
  simp [c17_xmlImages, h]
theorem c17_xmlImages_pict (h : c17_kindOf name = .pict) :
    c17_xmlImages env b (.elem name as cs) =
      ⟨⟨[], (c17_xmlImagesL env b cs).live.extra ++ (c17_xmlImagesL env b cs).live.inline⟩,
        (c17_xmlImagesL env b cs).buf⟩ := by
  simp [c17_xmlImages, h]
theorem c17_xmlImages_alt (h : c17_kindOf name = .alt) :
    c17_xmlImages env b (.elem name as cs) = c17_xmlImagesL env b (findChildOrNull S!"mc:Fallback" cs).2 := by
  simp [c17_xmlImages, h, c17_xmlImagesIn_eq]
theorem c17_xmlImages_sdt (h : c17_kindOf name = .sdt) :
    c17_xmlImages env b (.elem name as cs) =
      if c01_isCheckboxSdt cs then ⟨{}, b⟩ else c17_xmlImagesL env b (findChildOrNull S!"w:sdtContent" cs).2 := by
  simp [c17_xmlImages, h, c17_xmlImagesIn_eq]
end

end Mammoth
