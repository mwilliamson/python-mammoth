/-
  C10, the whole output forest: when are the ids of the output pairwise distinct?
-/
import Proofs.C10_GlobalProps
namespace Mammoth

/-! ### the id builders are injective on well-formed keys -/

theorem c10_split_dash : ∀ (a a' b b' : Str), '-' ∉ a → '-' ∉ a' → a ++ '-' :: b = a' ++ '-' :: b' →
    a = a' ∧ b = b'
  | [], [], b, b', _, _, h => by simpa using h
  | [], c :: t, b, b', _, ha', h => by
    simp only [List.nil_append, List.cons_append, List.cons.injEq] at h
    exact absurd (h.1 ▸ List.mem_cons_self ..) ha'
  | x :: xs, [], b, b', ha, _, h => by
    simp only [List.nil_append, List.cons_append, List.cons.injEq] at h
    exact absurd (h.1 ▸ List.mem_cons_self ..) ha
  | x :: xs, c :: t, b, b', ha, ha', h => by
    simp only [List.cons_append, List.cons.injEq] at h
    have := c10_split_dash xs t b b' (fun m => ha (List.mem_cons_of_mem _ m))
      (fun m => ha' (List.mem_cons_of_mem _ m)) h.2
    exact ⟨by rw [h.1, this.1], this.2⟩

/-- a well-formed key: the type contains no `-` (true of `footnote`, `endnote`, `comment`) and the id does
    not start with `ref-` (true of the decimal ids Word writes) -/
def c10_keyOK (k : Str × Str) : Bool := !k.1.contains '-' && !startsWith k.2 S!"ref-"

theorem c10_keyOK_iff (k : Str × Str) : c10_keyOK k = true ↔ '-' ∉ k.1 ∧ ¬ ∃ r, k.2 = S!"ref-" ++ r := by
  unfold c10_keyOK
  rw [Bool.and_eq_true, Bool.not_eq_true', Bool.not_eq_true', ← Bool.not_eq_true, ← Bool.not_eq_true,
    startsWith_iff, List.contains_iff_mem]

theorem c10_refSfx_eq (k : Str × Str) : c10_refSfx k = k.1 ++ '-' :: (S!"ref-" ++ k.2) := by
  simp [c10_refSfx]
theorem c10_itemSfx_eq (k : Str × Str) : c10_itemSfx k = k.1 ++ '-' :: k.2 := by
  simp [c10_itemSfx]

theorem c10_refSfx_inj (k k' : Str × Str) (h : c10_keyOK k = true) (h' : c10_keyOK k' = true)
    (e : c10_refSfx k = c10_refSfx k') : k = k' := by
  rw [c10_keyOK_iff] at h h'
  rw [c10_refSfx_eq, c10_refSfx_eq] at e
  obtain ⟨e1, e2⟩ := c10_split_dash _ _ _ _ h.1 h'.1 e
  exact Prod.ext e1 (List.append_cancel_left e2)

theorem c10_itemSfx_inj (k k' : Str × Str) (h : c10_keyOK k = true) (h' : c10_keyOK k' = true)
    (e : c10_itemSfx k = c10_itemSfx k') : k = k' := by
  rw [c10_keyOK_iff] at h h'
  rw [c10_itemSfx_eq, c10_itemSfx_eq] at e
  obtain ⟨e1, e2⟩ := c10_split_dash _ _ _ _ h.1 h'.1 e
  exact Prod.ext e1 e2

theorem c10_ref_ne_item (k k' : Str × Str) (h : c10_keyOK k = true) (h' : c10_keyOK k' = true) :
    c10_refSfx k ≠ c10_itemSfx k' := by
  intro e
  rw [c10_keyOK_iff] at h h'
  rw [c10_refSfx_eq, c10_itemSfx_eq] at e
  obtain ⟨_, e2⟩ := c10_split_dash _ _ _ _ h.1 h'.1 e
  exact h'.2 ⟨k.2, e2.symm⟩

theorem c10_nodup_map_on {α β} (f : α → β) (l : List α) (hl : l.Nodup)
    (hinj : ∀ a ∈ l, ∀ b ∈ l, f a = f b → a = b) : (l.map f).Nodup := by
  unfold List.Nodup at hl ⊢
  rw [List.pairwise_map]
  exact hl.imp_of_mem fun ha hb hne e => hne (hinj _ ha _ hb e)

/-! ### the items of a document -/

theorem c10_evItems_entry (ty id : Str) (body : List c10_Ev) (hb : ∀ e ∈ body, c10_isBodyEv e = true) :
    c10_evItems (.item ty id :: (body ++ [.back ty id])) = [(ty, id)] := by
  simp [c10_evItems, c10_evItems_append, c10_evItems_body _ hb]

/-- the items of the output: one `li` per note reference of the body, one `dt` per comment reference of the
    body and the rendered notes -/
theorem c10_docItems (cfg : Cfg) (d : Document) (ok : c10_DocOK cfg d) :
    c10_evItems (c10_docEvents cfg d) =
      c10_evRefs (c10_E0 cfg d) ++
        (c10_evCRefs (c10_E0 cfg d ++ c10_E1 cfg d)).map (fun i => (c10_commentTy, i)) := by
  rw [c10_docEvents_eq, c10_evItems_append, c10_evItems_append]
  have e0 : c10_evItems (c10_E0 cfg d) = [] := c10_evItems_body _ (c10_evsL_body cfg d.children)
  have e1 : c10_evItems (c10_E1 cfg d) = c10_evRefs (c10_E0 cfg d) := by
    rw [c10_E1, c10_flatMap_hom c10_evItems rfl c10_evItems_append, ← ok.notes]
    simp [c10_noteEvs, c10_evItems_entry _ _ _ (c10_evsL_body cfg _), ← List.map_eq_flatMap]
  have e2 : c10_evItems (c10_E2 cfg d) =
      (c10_evCRefs (c10_E0 cfg d ++ c10_E1 cfg d)).map (fun i => (c10_commentTy, i)) := by
    rw [c10_E2, c10_flatMap_hom c10_evItems rfl c10_evItems_append, ← c10_docComments_ids cfg d ok]
    simp [c10_commentEvs, c10_evItems_entry _ _ _ (c10_evsL_body cfg _), List.map_map, ← List.map_eq_flatMap]
  rw [e0, e1, e2, List.nil_append]

/-- if all reference keys are distinct, so are the item keys, and every item key is a reference key -/
theorem c10_docItems_nodup (cfg : Cfg) (d : Document) (ok : c10_DocOK cfg d)
    (h : (c10_evKeys (c10_docEvents cfg d)).Nodup) :
    (c10_evItems (c10_docEvents cfg d)).Nodup ∧
    ∀ k ∈ c10_evItems (c10_docEvents cfg d), k ∈ c10_evKeys (c10_docEvents cfg d) := by
  have hp := c10_keys_perm (c10_docEvents cfg d)
  have hs : (c10_evItems (c10_docEvents cfg d)).Sublist
      (c10_evRefs (c10_docEvents cfg d) ++ (c10_evCRefs (c10_docEvents cfg d)).map (fun i => (c10_commentTy, i))) := by
    rw [c10_docItems cfg d ok]
    apply List.Sublist.append
    · rw [c10_docEvents_eq, List.append_assoc, c10_evRefs_append]
      exact List.sublist_append_left _ _
    · rw [c10_docEvents_eq, c10_evCRefs_append (c10_E0 cfg d ++ c10_E1 cfg d), List.map_append]
      exact List.sublist_append_left _ _
  exact ⟨hs.nodup (hp.nodup_iff.mp h), fun k hk => hp.mem_iff.mpr (hs.subset hk)⟩

/-! ### the theorem -/

/-- the hypothesis of uniqueness, on the events of the output:
    * no two references have the same key (each note is referenced once — counting references from inside
      rendered note and comment bodies — and each comment once; a note of type `comment` must not share its id
      with a referenced comment),
    * every key is well formed (`c10_keyOK`),
    * bookmark names are pairwise distinct,
    * no bookmark is named like a generated id (`type-ref-id` of a reference, `type-id` of an item). -/
def c10_uniqueHyp (evs : List c10_Ev) : Bool :=
  decide (c10_evKeys evs).Nodup && (c10_evKeys evs).all c10_keyOK &&
  decide (c10_evBookmarks evs).Nodup &&
  (c10_evBookmarks evs).all (fun b =>
    !((c10_evKeys evs).map c10_refSfx ++ (c10_evItems evs).map c10_itemSfx).contains b)

theorem c10_suffixes_nodup (cfg : Cfg) (d : Document) (ok : c10_DocOK cfg d)
    (h : c10_uniqueHyp (c10_docEvents cfg d) = true) : (c10_evSuffixes (c10_docEvents cfg d)).Nodup := by
  simp only [c10_uniqueHyp, Bool.and_eq_true, decide_eq_true_eq, List.all_eq_true, Bool.not_eq_true',
    ← Bool.not_eq_true, List.contains_iff_mem] at h
  obtain ⟨⟨⟨hk, hok⟩, hb⟩, hdis⟩ := h
  obtain ⟨hi, hsub⟩ := c10_docItems_nodup cfg d ok hk
  rw [(c10_suffixes_perm _).nodup_iff, List.nodup_append]
  refine ⟨hb, ?_, ?_⟩
  · rw [List.nodup_append]
    refine ⟨?_, ?_, ?_⟩
    · exact c10_nodup_map_on _ _ hk (fun a ha b hb' e => c10_refSfx_inj a b (hok a ha) (hok b hb') e)
    · exact c10_nodup_map_on _ _ hi
        (fun a ha b hb' e => c10_itemSfx_inj a b (hok a (hsub a ha)) (hok b (hsub b hb')) e)
    · intro x hx y hy e
      rw [List.mem_map] at hx hy
      obtain ⟨k, hk', rfl⟩ := hx
      obtain ⟨k', hk'', rfl⟩ := hy
      exact c10_ref_ne_item k k' (hok k hk') (hok k' (hsub k' hk'')) e
  · intro x hx y hy e
    subst e
    exact hdis x hx hy

theorem c10_ids_nodup (cfg : Cfg) (d : Document) (ok : c10_DocOK cfg d)
    (h : c10_uniqueHyp (c10_docEvents cfg d) = true) : (c10_evIds cfg (c10_docEvents cfg d)).Nodup := by
  rw [c10_evIds_eq, c10_nodup_map_prefix]
  exact c10_suffixes_nodup cfg d ok h

end Mammoth
