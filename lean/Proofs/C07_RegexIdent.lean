/-
  C07 — the IDENTIFIER rule run by the backtracking regex matcher: linear cost, and agreement
  with the hand-written `lexIdent` / `lexIdentRest`.
-/
import Proofs.C07_Regex
namespace Mammoth

theorem c07_test_digit (c : Char) : c07_ccDigit.test c = isDigit c := by
  simp [c07_ccDigit, C07Class.test, c07_inRanges, isDigit]

theorem c07_isAlpha_ascii (c : Char) : (c.isAlpha && decide (c.toNat < 128)) =
    (decide (97 ≤ c.toNat) && decide (c.toNat ≤ 122) || decide (65 ≤ c.toNat) && decide (c.toNat ≤ 90)) := by
  rw [Bool.eq_iff_iff]
  simp [Char.isAlpha, Char.isUpper, Char.isLower, UInt32.le_iff_toNat_le]
  omega

theorem c07_test_identStart (c : Char) : c07_ccIdentStart.test c = isIdentStart c := by
  rw [isIdentStart, c07_isAlpha_ascii, c07_ccIdentStart, C07Class.test, c07_inRanges_cons, c07_inRanges_cons,
    c07_inRanges_single, c07_inRanges_single, c07_inRanges_nil]
  simp only [Char.reduceToNat, Bool.or_false, Bool.or_assoc]

/-- `(?:(?:[a-zA-Z\-_]|\\.)|[0-9])` -/
def c07_identBody : C07Regex := .alt c07_identChar (.chr c07_ccDigit)

theorem c07_identChar_run (s : Str) (k : Str → C07Res) : c07_identChar.run s k =
    (((C07Regex.chr c07_ccIdentStart).run s k).orElse
      ((C07Regex.chr c07_ccBackslash).run s fun s' => (C07Regex.chr .any).run s' k)).tick := rfl

theorem c07_identBody_run (s : Str) (k : Str → C07Res) : c07_identBody.run s k =
    ((c07_identChar.run s k).orElse ((C07Regex.chr c07_ccDigit).run s k)).tick := rfl

theorem c07_identLoop (s : Str) :
    ((C07Regex.star c07_identBody).run s c07_k0).1 ≤ 8 * (lexIdentRest s).1.length + 8 ∧
    ((C07Regex.star c07_identBody).run s c07_k0).2 = some (lexIdentRest s).2 := by
  have h1 : isIdentStart '\\' = false := by decide
  have h2 : isDigit '\\' = false := by decide
  fun_induction lexIdentRest s
  case case1 c cs hc m r hx ih =>
    have hc' : (c != '\n') = true := hc
    have hl : cs.length < cs.length + 1 + 1 := by omega
    rw [c07_star_unfold, c07_identBody_run, c07_identChar_run]
    simp only [c07_run_chr_cons, c07_test_identStart, c07_test_digit, c07_test_bs, c07_test_any, hc']
    rw [hx] at ih
    generalize (C07Regex.star c07_identBody).run cs c07_k0 = R at ih ⊢
    obtain ⟨n, o⟩ := R
    simp only at ih
    obtain ⟨ih1, rfl⟩ := ih
    simp [h1, hl, C07Res.orElse, C07Res.tick]
    omega
  case case2 c cs hc =>
    have hc' : (c != '\n') = false := by simpa [isDot] using hc
    rw [c07_star_unfold, c07_identBody_run, c07_identChar_run]
    simp only [c07_run_chr_cons, c07_test_identStart, c07_test_digit, c07_test_bs, c07_test_any, hc']
    simp [h1, h2, c07_k0, C07Res.orElse, C07Res.tick]
  case case3 c cs hx hc m r hx' ih =>
    rw [c07_star_unfold, c07_identBody_run, c07_identChar_run]
    simp only [c07_run_chr_cons, c07_test_identStart, c07_test_digit, c07_test_bs]
    rw [hx'] at ih
    generalize (C07Regex.star c07_identBody).run cs c07_k0 = R at ih ⊢
    obtain ⟨n, o⟩ := R
    simp only at ih
    obtain ⟨ih1, rfl⟩ := ih
    by_cases hi : isIdentStart c = true
    · simp [hi, C07Res.orElse, C07Res.tick]; omega
    · have hd : isDigit c = true := by simpa [hi] using hc
      have hb : (c == '\\') = false := by
        cases hcb : c == '\\' with
        | false => rfl
        | true => simp at hcb; subst hcb; simp [h2] at hd
      simp [hi, hd, hb, C07Res.orElse, C07Res.tick]; omega
  case case4 c cs hx hc =>
    simp at hc
    rw [c07_star_unfold, c07_identBody_run, c07_identChar_run]
    simp only [c07_run_chr_cons, c07_test_identStart, c07_test_digit, c07_test_bs]
    by_cases hb : c = '\\'
    · subst hb
      cases cs with
      | nil => simp [h1, h2, c07_k0, c07_run_chr_nil, C07Res.orElse, C07Res.tick]
      | cons d ds => exact absurd rfl (fun h => hx d ds rfl h)
    · have hb' : (c == '\\') = false := by simpa using hb
      simp [hc.1, hc.2, hb', c07_k0, C07Res.orElse, C07Res.tick]
  case case5 =>
    rw [c07_star_unfold, c07_identBody_run, c07_identChar_run]
    simp [c07_run_chr_nil, c07_k0, C07Res.orElse, C07Res.tick]

theorem c07_identRule_exec (s : Str) :
    c07_identRule.exec s = c07_identChar.run s fun s' => (C07Regex.star c07_identBody).run s' c07_k0 := rfl

theorem c07_ident_agrees (s : Str) :
    (c07_identRule.exec s).1 ≤ 8 * ((lexIdent s).map (·.1.length)).getD 0 + 8 ∧
    (c07_identRule.exec s).2 = (lexIdent s).map (·.2) := by
  have h1 : isIdentStart '\\' = false := by decide
  rw [c07_identRule_exec, c07_identChar_run]
  fun_cases lexIdent s
  case case1 c cs hc m r hx =>
    have hc' : (c != '\n') = true := hc
    have := c07_identLoop cs
    rw [hx] at this
    simp only [c07_run_chr_cons, c07_test_identStart, c07_test_bs, c07_test_any, hc']
    generalize (C07Regex.star c07_identBody).run cs c07_k0 = R at this ⊢
    obtain ⟨n, o⟩ := R
    simp only at this
    obtain ⟨ih1, rfl⟩ := this
    simp [h1, C07Res.orElse, C07Res.tick]
    omega
  case case2 c cs hc =>
    have hc' : (c != '\n') = false := by simpa [isDot] using hc
    simp only [c07_run_chr_cons, c07_test_identStart, c07_test_bs, c07_test_any, hc']
    simp [h1, C07Res.orElse, C07Res.tick]
  case case3 c cs hx hc m r hx' =>
    have := c07_identLoop cs
    rw [hx'] at this
    simp only [c07_run_chr_cons, c07_test_identStart, c07_test_bs]
    generalize (C07Regex.star c07_identBody).run cs c07_k0 = R at this ⊢
    obtain ⟨n, o⟩ := R
    simp only at this
    obtain ⟨ih1, rfl⟩ := this
    simp [hc, C07Res.orElse, C07Res.tick]
    omega
  case case4 c cs hx hc =>
    simp only [c07_run_chr_cons, c07_test_identStart, c07_test_bs]
    by_cases hb : c = '\\'
    · subst hb
      cases cs with
      | nil => simp [h1, c07_run_chr_nil, C07Res.orElse, C07Res.tick]
      | cons d ds => exact absurd rfl (fun h => hx d ds rfl h)
    · have hb' : (c == '\\') = false := by simpa using hb
      simp [hc, hb', C07Res.orElse, C07Res.tick]
  case case5 =>
    simp [c07_run_chr_nil, C07Res.orElse, C07Res.tick]

end Mammoth
