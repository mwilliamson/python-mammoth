/-
  C16 — `lists.unique` (first occurrences, order kept): lemmas about `uniqueAux`.
-/
import MammothModel.Basic
import Proofs.Basics
namespace Mammoth

variable {α : Type} [DecidableEq α]

theorem c16_uniqueAux_cons_mem (seen ys : List α) (y : α) (h : y ∈ seen) :
    uniqueAux seen (y :: ys) = uniqueAux seen ys := by
  rw [uniqueAux]; simp only [h, if_true]

theorem c16_uniqueAux_cons_not_mem (seen ys : List α) (y : α) (h : y ∉ seen) :
    uniqueAux seen (y :: ys) = y :: uniqueAux (y :: seen) ys := by
  rw [uniqueAux]; simp only [h, if_false]

theorem c16_uniqueAux_nodup (seen l : List α) : (uniqueAux seen l).Nodup := by
  induction l generalizing seen with
  | nil => simp [uniqueAux]
  | cons y ys ih =>
    by_cases hy : y ∈ seen
    · rw [c16_uniqueAux_cons_mem _ _ _ hy]
      exact ih seen
    · rw [c16_uniqueAux_cons_not_mem _ _ _ hy, List.nodup_cons, mem_uniqueAux]
      exact ⟨fun h => h.2 List.mem_cons_self, ih _⟩

theorem c16_uniqueAux_sublist (seen l : List α) : (uniqueAux seen l).Sublist l := by
  induction l generalizing seen with
  | nil => simp [uniqueAux]
  | cons y ys ih =>
    by_cases hy : y ∈ seen
    · rw [c16_uniqueAux_cons_mem _ _ _ hy]
      exact (ih seen).cons y
    · rw [c16_uniqueAux_cons_not_mem _ _ _ hy]
      exact (ih _).cons_cons y

/-- `uniqueAux` depends on `seen` only through membership -/
theorem c16_uniqueAux_congr (s1 s2 l : List α) (h : ∀ x, x ∈ s1 ↔ x ∈ s2) :
    uniqueAux s1 l = uniqueAux s2 l := by
  induction l generalizing s1 s2 with
  | nil => rfl
  | cons y ys ih =>
    by_cases hy : y ∈ s1
    · rw [c16_uniqueAux_cons_mem _ _ _ hy, c16_uniqueAux_cons_mem _ _ _ ((h y).mp hy)]
      exact ih s1 s2 h
    · rw [c16_uniqueAux_cons_not_mem _ _ _ hy, c16_uniqueAux_cons_not_mem _ _ _ (mt (h y).mpr hy),
        ih (y :: s1) (y :: s2) (fun x => by simp [h x])]

theorem c16_uniqueAux_append (seen a b : List α) :
    uniqueAux seen (a ++ b) = uniqueAux seen a ++ uniqueAux (a ++ seen) b := by
  induction a generalizing seen with
  | nil => rfl
  | cons x a ih =>
    simp only [List.cons_append]
    by_cases hx : x ∈ seen
    · rw [c16_uniqueAux_cons_mem _ _ _ hx, c16_uniqueAux_cons_mem _ _ _ hx, ih]
      congr 1
      apply c16_uniqueAux_congr
      intro y
      simp only [List.mem_append, List.mem_cons]
      exact ⟨Or.inr, fun h => h.elim (fun e => Or.inr (e ▸ hx)) id⟩
    · rw [c16_uniqueAux_cons_not_mem _ _ _ hx, c16_uniqueAux_cons_not_mem _ _ _ hx, ih,
        List.cons_append]
      congr 2
      apply c16_uniqueAux_congr
      intro y
      simp only [List.mem_append, List.mem_cons]
      exact or_left_comm

/-- de-duplicating something already de-duplicated against a smaller `seen` changes nothing -/
theorem c16_uniqueAux_idem (s s' l : List α) (h : ∀ x, x ∈ s' → x ∈ s) :
    uniqueAux s (uniqueAux s' l) = uniqueAux s l := by
  induction l generalizing s s' with
  | nil => rfl
  | cons y ys ih =>
    by_cases hy' : y ∈ s'
    · rw [c16_uniqueAux_cons_mem _ _ _ hy', c16_uniqueAux_cons_mem _ _ _ (h y hy')]
      exact ih s s' h
    · rw [c16_uniqueAux_cons_not_mem _ _ _ hy']
      by_cases hy : y ∈ s
      · rw [c16_uniqueAux_cons_mem _ _ _ hy, c16_uniqueAux_cons_mem _ _ _ hy]
        exact ih s (y :: s') fun x hx => (List.mem_cons.mp hx).elim (· ▸ hy) (h x)
      · rw [c16_uniqueAux_cons_not_mem _ _ _ hy, c16_uniqueAux_cons_not_mem _ _ _ hy]
        congr 1
        exact ih (y :: s) (y :: s') fun x hx =>
          (List.mem_cons.mp hx).elim (· ▸ List.mem_cons_self) fun hx => List.mem_cons_of_mem _ (h x hx)

theorem c16_uniqueAux_of_nodup (seen l : List α) (hn : l.Nodup) (hd : ∀ x ∈ l, x ∉ seen) :
    uniqueAux seen l = l := by
  induction l generalizing seen with
  | nil => rfl
  | cons y ys ih =>
    rw [c16_uniqueAux_cons_not_mem _ _ _ (hd y List.mem_cons_self)]
    congr 1
    rw [List.nodup_cons] at hn
    apply ih _ hn.2
    intro x hx
    simp only [List.mem_cons, not_or]
    exact ⟨fun e => hn.1 (e ▸ hx), hd x (List.mem_cons_of_mem _ hx)⟩

theorem c16_uniqueAux_unique_append (s b c : List α) :
    uniqueAux s (unique b ++ c) = uniqueAux s (b ++ c) := by
  rw [c16_uniqueAux_append, c16_uniqueAux_append]
  unfold unique
  rw [c16_uniqueAux_idem s [] b (fun _ h => by cases h)]
  congr 1
  apply c16_uniqueAux_congr
  intro x
  simp only [List.mem_append, mem_uniqueAux, List.not_mem_nil, not_false_eq_true, and_true]

theorem c16_unique_mid (a b c : List α) :
    unique (a ++ (unique b ++ c)) = unique (a ++ (b ++ c)) := by
  unfold unique
  rw [c16_uniqueAux_append, c16_uniqueAux_append [] a (b ++ c)]
  congr 1
  exact c16_uniqueAux_unique_append _ b c

end Mammoth
