/-
  Induction over the element reader, once.  `readElem` recurses on its fuel and, through `readAllWith`, on
  the lists of children its handlers read.  A family of postconditions — `Q st n` for one node read from
  the state `st`, `QL st ns` for a list of siblings — holds of every run as soon as it is closed under
  what the reader does (`c05_Closed`): it holds of a text node and of an element without a handler, `QL`
  composes along a list, and every handler establishes `Q` given `QL` for the lists it reads.
-/
import Proofs.C05_Static
namespace Mammoth

structure c05_Seq (Q : RState → XmlNode → ReadResult × RState → Prop)
    (QL : RState → List XmlNode → ReadResult × RState → Prop) : Prop where
  nil : ∀ st, QL st [] ({}, st)
  skip : ∀ st s ns p, QL st ns p → QL st (.text s :: ns) p
  cons : ∀ st name as cs ns p1 p2, Q st (.elem name as cs) p1 → QL p1.2 ns p2 →
    QL st (.elem name as cs :: ns) (p1.1.concat p2.1, p2.2)

structure c05_Closed (env : REnv) (E : Err → Prop) (Q : RState → XmlNode → ReadResult × RState → Prop)
    (QL : RState → List XmlNode → ReadResult × RState → Prop) : Prop extends c05_Seq Q QL where
  fuel : E .fuel
  text : ∀ st s, Q st (.text s) ({}, st)
  unhandled : ∀ st name as cs, handlerOf name = none → c05_spec E (Q st (.elem name as cs)) (readUnhandled name st)
  handler : ∀ ra : c05_RdAll, (∀ st ns, c05_spec E (QL st ns) (ra st ns)) →
    ∀ st name as cs h, handlerOf name = some h →
      c05_spec E (Q st (.elem name as cs)) (readNamed env ra st as cs h)

section
variable {env : REnv} {E : Err → Prop} {Q : RState → XmlNode → ReadResult × RState → Prop}
  {QL : RState → List XmlNode → ReadResult × RState → Prop}

/-- a list of siblings, given the element reader -/
theorem c05_readAllWith_seq (hc : c05_Seq Q QL) (rd : c05_Rd) (hrd : ∀ st n, c05_spec E (Q st n) (rd st n)) :
    ∀ (ns : List XmlNode) (st : RState), c05_spec E (QL st ns) (readAllWith rd st ns)
  | [], st => c05_spec_ok _ (hc.nil st)
  | .text s :: ns, st => by
    simp only [readAllWith]
    exact c05_spec_weaken (c05_readAllWith_seq hc rd hrd ns st) (hc.skip st s ns)
  | .elem name as cs :: ns, st => by
    simp only [readAllWith]
    exact c05_spec_bind _ _ (hrd st _) fun p1 h1 =>
      c05_spec_bind _ _ (c05_readAllWith_seq hc rd hrd ns p1.2) fun p2 h2 => c05_spec_pure _ (hc.cons _ _ _ _ _ p1 p2 h1 h2)

variable (hc : c05_Closed env E Q QL)
include hc

/-- the element reader, for every amount of fuel -/
theorem c05_readElem_closed : ∀ (f : Nat) (st : RState) (n : XmlNode), c05_spec E (Q st n) (readElem env f st n)
  | f, st, .text s => by rw [c05_readElem_text]; exact c05_spec_ok _ (hc.text st s)
  | 0, st, .elem name as cs => ⟨fun _ h => by cases h; exact hc.fuel, fun _ h => nomatch h⟩
  | f+1, st, .elem name as cs => by
    rw [c05_readElem_succ]
    cases hg : handlerOf name with
    | none => exact hc.unhandled st name as cs hg
    | some h =>
      exact hc.handler _ (fun st ns => c05_readAllWith_seq hc.toc05_Seq _ (c05_readElem_closed f) ns st) st name as cs h hg

theorem c05_readAll_closed (f : Nat) (st : RState) (ns : List XmlNode) :
    c05_spec E (QL st ns) (readAll env f st ns) :=
  c05_readAllWith_seq hc.toc05_Seq _ (c05_readElem_closed hc f) ns st

end

end Mammoth
