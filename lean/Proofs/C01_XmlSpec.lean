/-
  C01, reader half — the specification.

  `c01_xmlLive` says, by recursion on the XML tree (element names, never handler names, no reader state,
  no fuel), which *live leaves* a piece of `word/document.xml` carries and in which order:

    * `w:t` → its inner text; `w:tab` → a tab; `w:noBreakHyphen` → U+2011; `w:softHyphen` → U+00AD;
      `w:sym` → the dingbat character if font and code are in the table;
      `w:footnoteReference` / `w:endnoteReference` / `w:commentReference` → the reference marker;
    * read-through containers (`w:r`, `w:ins`, `w:smartTag`, `w:hyperlink`, `w:tbl`, `w:tr`, `w:tc`,
      `w:object`, `w:drawing`, the VML shapes, `w:txbxContent`) → their children, in order;
      `mc:AlternateContent` → the children of its first `mc:Fallback`;
      `w:sdt` → the children of its first `w:sdtContent` (nothing for a check-box control);
    * `w:pict` (text boxes) → nothing in line; its content goes to the *extra* channel;
    * `w:p` → its in-line leaves followed by the extra leaves of its content (text boxes come after
      their host paragraph);
    * everything else (`w:del`, `w:instrText`, `w:fldChar`, `w:pPr`, …, unknown elements, text nodes
      outside `w:t`) → nothing.

  `c01_elemLeaves` reads the same kind of leaves off a document tree (`Elem`), in order.
  Images, breaks, bookmarks and check boxes are not leaves (they carry no text).
-/
import MammothModel.Reader
namespace Mammoth

/-- a piece of live text content -/
inductive c01_Leaf where
  | text (s : Str)
  | tab
  | noteRef (ty id : Str)
  | commentRef (id : Str)
deriving DecidableEq, Repr, Inhabited

/-- leaves in line, and leaves waiting to be placed after the enclosing paragraph (text boxes) -/
structure c01_Live where
  inline : List c01_Leaf := []
  extra : List c01_Leaf := []
deriving DecidableEq, Repr, Inhabited

def c01_Live.append (a b : c01_Live) : c01_Live := ⟨a.inline ++ b.inline, a.extra ++ b.extra⟩

/-- what an element name means for the text -/
inductive c01_Kind where
  | skip | text | tab | noBreakHyphen | softHyphen | sym
  | noteRef (ty : Str) | commentRef
  | through | paragraph | pict | alt | sdt
deriving DecidableEq, Repr, Inhabited

def c01_kinds : List (Str × c01_Kind) := [
  (S!"w:t", .text), (S!"w:tab", .tab), (S!"w:noBreakHyphen", .noBreakHyphen), (S!"w:softHyphen", .softHyphen),
  (S!"w:sym", .sym),
  (S!"w:footnoteReference", .noteRef S!"footnote"), (S!"w:endnoteReference", .noteRef S!"endnote"),
  (S!"w:commentReference", .commentRef),
  (S!"w:p", .paragraph), (S!"w:pict", .pict), (S!"mc:AlternateContent", .alt), (S!"w:sdt", .sdt),
  (S!"w:r", .through), (S!"w:ins", .through), (S!"w:smartTag", .through), (S!"w:hyperlink", .through),
  (S!"w:tbl", .through), (S!"w:tr", .through), (S!"w:tc", .through),
  (S!"w:object", .through), (S!"w:drawing", .through), (S!"v:group", .through), (S!"v:rect", .through),
  (S!"v:roundrect", .through), (S!"v:shape", .through), (S!"v:textbox", .through), (S!"w:txbxContent", .through)]

def c01_kindIn : List (Str × c01_Kind) → Str → c01_Kind
  | [], _ => .skip
  | (k, v) :: rest, name => if name = k then v else c01_kindIn rest name

/-- every name that is not listed is skipped -/
def c01_kindOf (name : Str) : c01_Kind := c01_kindIn c01_kinds name

/-- `w:sym`: the character for (font, code) in the dingbat table; a code `F0xy` also counts as `xy` -/
def c01_symLeaf (as : Attrs) : List c01_Leaf :=
  match attr? S!"w:char" as with
  | none => []
  | some ch =>
    let look (digits : Str) : Option Nat := (parseHex digits).bind (dingbat (attr? S!"w:font" as))
    let alt : Option Nat :=
      match ch with
      | 'F' :: '0' :: a :: b :: _ => if a = '\n' ∨ b = '\n' then none else look (ch.drop 2)
      | _ => none
    match (look ch).orElse (fun _ => alt) with
    | some c => [.text [Char.ofNat c]]
    | none => []

/-- a structured-document tag that is a check-box control -/
def c01_isCheckboxSdt (cs : List XmlNode) : Bool :=
  (findChild S!"wordml:checkbox" (findChildOrNull S!"w:sdtPr" cs).2).isSome

mutual
def c01_xmlLive : XmlNode → c01_Live
  | .text _ => {}
  | .elem name as cs =>
    match c01_kindOf name with
    | .skip => {}
    | .text => ⟨[.text (innerTextL cs)], []⟩
    | .tab => ⟨[.tab], []⟩
    | .noBreakHyphen => ⟨[.text [Char.ofNat 0x2011]], []⟩
    | .softHyphen => ⟨[.text [Char.ofNat 0xAD]], []⟩
    | .sym => ⟨c01_symLeaf as, []⟩
    | .noteRef ty => (match attr? S!"w:id" as with | some id => ⟨[.noteRef ty id], []⟩ | none => {})
    | .commentRef => (match attr? S!"w:id" as with | some id => ⟨[.commentRef id], []⟩ | none => {})
    | .through => c01_xmlLiveL cs
    | .paragraph => ⟨(c01_xmlLiveL cs).inline ++ (c01_xmlLiveL cs).extra, []⟩
    | .pict => ⟨[], (c01_xmlLiveL cs).extra ++ (c01_xmlLiveL cs).inline⟩
    | .alt => c01_xmlLiveIn S!"mc:Fallback" cs
    | .sdt => if c01_isCheckboxSdt cs then {} else c01_xmlLiveIn S!"w:sdtContent" cs
def c01_xmlLiveL : List XmlNode → c01_Live
  | [] => {}
  | c :: cs => (c01_xmlLive c).append (c01_xmlLiveL cs)
/-- the content of the first child element called `child` -/
def c01_xmlLiveIn (child : Str) : List XmlNode → c01_Live
  | [] => {}
  | .text _ :: rest => c01_xmlLiveIn child rest
  | .elem n _ cs :: rest => if n = child then c01_xmlLiveL cs else c01_xmlLiveIn child rest
end

mutual
/-- the leaves of a document element, in order -/
def c01_elemLeaves : Elem → List c01_Leaf
  | .text s => [.text s]
  | .tab => [.tab]
  | .noteRef ty id => [.noteRef ty id]
  | .commentRef id => [.commentRef id]
  | .paragraph _ cs => c01_elemLeavesL cs
  | .run _ cs => c01_elemLeavesL cs
  | .hyperlink _ cs => c01_elemLeavesL cs
  | .table _ _ cs => c01_elemLeavesL cs
  | .row _ cs => c01_elemLeavesL cs
  | .cell _ _ _ cs => c01_elemLeavesL cs
  | .checkbox _ => []
  | .brk _ => []
  | .image _ => []
  | .bookmark _ => []
def c01_elemLeavesL : List Elem → List c01_Leaf
  | [] => []
  | e :: es => c01_elemLeaves e ++ c01_elemLeavesL es
end

/-- the characters of a leaf: reference markers have none of their own (the converter numbers them) -/
def c01_leafText : c01_Leaf → Str
  | .text s => s
  | .tab => ['\t']
  | .noteRef _ _ => []
  | .commentRef _ => []

def c01_leavesText : List c01_Leaf → Str
  | [] => []
  | l :: ls => c01_leafText l ++ c01_leavesText ls

/-! ### basic equations -/

@[simp] theorem c01_Live_append_empty_left (l : c01_Live) : c01_Live.append {} l = l := by
  cases l; simp [c01_Live.append]
@[simp] theorem c01_Live_append_empty_right (l : c01_Live) : c01_Live.append l {} = l := by
  cases l; simp [c01_Live.append]
theorem c01_Live_append_assoc (a b c : c01_Live) : (a.append b).append c = a.append (b.append c) := by
  simp [c01_Live.append, List.append_assoc]
@[simp] theorem c01_Live_append_inline (a b : c01_Live) : (a.append b).inline = a.inline ++ b.inline := rfl
@[simp] theorem c01_Live_append_extra (a b : c01_Live) : (a.append b).extra = a.extra ++ b.extra := rfl

@[simp] theorem c01_xmlLiveL_nil : c01_xmlLiveL [] = {} := by simp [c01_xmlLiveL]
@[simp] theorem c01_xmlLiveL_cons (c : XmlNode) (cs : List XmlNode) :
    c01_xmlLiveL (c :: cs) = (c01_xmlLive c).append (c01_xmlLiveL cs) := by simp [c01_xmlLiveL]
@[simp] theorem c01_xmlLive_text (s : Str) : c01_xmlLive (.text s) = {} := by simp [c01_xmlLive]

theorem c01_xmlLiveL_append (a b : List XmlNode) :
    c01_xmlLiveL (a ++ b) = (c01_xmlLiveL a).append (c01_xmlLiveL b) := by
  induction a with
  | nil => simp
  | cons x xs ih => simp [ih, c01_Live_append_assoc]

/-- `c01_xmlLiveIn child cs` is the content of `cs.find_child_or_null(child)` -/
theorem c01_xmlLiveIn_eq (child : Str) (cs : List XmlNode) :
    c01_xmlLiveIn child cs = c01_xmlLiveL (findChildOrNull child cs).2 := by
  unfold findChildOrNull
  induction cs with
  | nil => simp [c01_xmlLiveIn, findChild]
  | cons c cs ih =>
    cases c with
    | text s => simp only [c01_xmlLiveIn, findChild]; exact ih
    | elem n as ccs =>
      simp only [c01_xmlLiveIn, findChild]
      by_cases hn : n = child
      · simp [hn]
      · have : (n == child) = false := by simpa using hn
        simp only [hn, if_false, this]; exact ih

@[simp] theorem c01_elemLeavesL_nil : c01_elemLeavesL [] = [] := by simp [c01_elemLeavesL]
@[simp] theorem c01_elemLeavesL_cons (e : Elem) (es : List Elem) :
    c01_elemLeavesL (e :: es) = c01_elemLeaves e ++ c01_elemLeavesL es := by simp [c01_elemLeavesL]

theorem c01_leavesText_append (a b : List c01_Leaf) :
    c01_leavesText (a ++ b) = c01_leavesText a ++ c01_leavesText b := by
  induction a with
  | nil => simp [c01_leavesText]
  | cons x xs ih => simp [c01_leavesText, ih, List.append_assoc]

end Mammoth

