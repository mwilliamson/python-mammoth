/-
  C10 helpers: capture group 1 on top of the backtracking cost model of MammothModel/Regex.lean,
  and a calculus for DETERMINISTIC item sequences (literal characters, `p*`, `p+` of a single
  class followed by something that cannot start with a character of the class) - the shape of
  the three regexes of `parse_instr_text`.

  Group 1.  The model has no capture groups, and it is not changed here.  The matcher is written
  in continuation-passing style and never looks at the string a continuation RETURNS (only at
  whether it returned one), so the path to the first successful match is the same whatever the
  final continuation returns.  For a regex `pre ( body ) post` the run is split at the two
  parentheses and the final continuation is made to return what was left at the opening
  parenthesis (`s1`), at the closing one (`s2`) or at the end (`s3`): `C10Grouped.runWith`.
  `c10_runWith_uniform` is the theorem that justifies it: either every such run fails, or there
  is ONE triple `s1 s2 s3` (suffixes of each other) that all of them report, at the same cost.
-/
import MammothModel.RegexParse
import Proofs.C07_RegexParse
namespace Mammoth

theorem c10_run_eps (s : Str) (k : Str → C07Res) : C07Regex.eps.run s k = k s := by
  rw [C07Regex.run]

theorem c10_mkSeq_cons_run (a : C07Regex) (rest : List C07Regex) (s : Str) (k : Str → C07Res) :
    (c07_mkSeq (a :: rest)).run s k = a.run s fun s' => (c07_mkSeq rest).run s' k := by
  cases rest with
  | nil => simp only [c07_mkSeq, c10_run_eps]
  | cons b r => rfl

theorem c10_mkSeq_append_run (as bs : List C07Regex) : ∀ (s : Str) (k : Str → C07Res),
    (c07_mkSeq (as ++ bs)).run s k = (c07_mkSeq as).run s fun s' => (c07_mkSeq bs).run s' k := by
  induction as with
  | nil => intro s k; simp only [List.nil_append, c07_mkSeq, c10_run_eps]
  | cons a as ih =>
    intro s k
    rw [List.cons_append, c10_mkSeq_cons_run, c10_mkSeq_cons_run]
    congr 1
    funext s'
    exact ih s' k

/-! ### a regex with one capture group: `pre ( body ) post` -/

structure C10Grouped where
  pre : List C07Regex
  body : C07Regex
  post : List C07Regex

/-- the regex without the parentheses, as the parser of RegexParse.lean builds it -/
def C10Grouped.regex (g : C10Grouped) : C07Regex := c07_mkSeq (g.pre ++ g.body :: g.post)

/-- the run of `pre ( body ) post`, the final continuation reporting `out s1 s2 s3` where `s1` is
    what was left at `(`, `s2` at `)`, `s3` at the end of the match -/
def C10Grouped.runWith (g : C10Grouped) (s : Str) (out : Str → Str → Str → Str) : C07Res :=
  (c07_mkSeq g.pre).run s fun s1 => g.body.run s1 fun s2 =>
    (c07_mkSeq g.post).run s2 fun s3 => (0, some (out s1 s2 s3))

/-- `match.group(1)`: the text between what was left at `(` and what was left at `)` in the first
    successful match -/
def C10Grouped.group1 (g : C10Grouped) (s : Str) : Option Str :=
  match (g.runWith s fun s1 _ _ => s1).2, (g.runWith s fun _ s2 _ => s2).2 with
  | some s1, some s2 => some (s1.take (s1.length - s2.length))
  | _, _ => none

theorem c10_grouped_exec (g : C10Grouped) (s : Str) :
    g.regex.exec s = g.runWith s fun _ _ s3 => s3 := by
  unfold C10Grouped.regex C07Regex.exec C10Grouped.runWith
  rw [c10_mkSeq_append_run]
  congr 1
  funext s1
  rw [c10_mkSeq_cons_run]

/-! ### the path to the first match does not depend on what the continuation returns -/

/-- a family of results that agree on the cost and on success, the returned strings related by `Q` -/
def c10_uniform {ι : Type} (Q : (ι → Str) → Prop) (a : ι → C07Res) : Prop :=
  (∀ i j, (a i).1 = (a j).1) ∧
  ((∀ i, (a i).2 = none) ∨ ∃ x : ι → Str, (∀ i, (a i).2 = some (x i)) ∧ Q x)

theorem c10_uniform_const {ι : Type} (Q : (ι → Str) → Prop) (n : Nat) :
    c10_uniform Q (fun _ : ι => ((n, none) : C07Res)) :=
  ⟨fun _ _ => rfl, .inl fun _ => rfl⟩

theorem c10_uniform_tick {ι : Type} (Q : (ι → Str) → Prop) (a : ι → C07Res) (h : c10_uniform Q a) :
    c10_uniform Q (fun i => (a i).tick) := by
  refine ⟨fun i j => ?_, ?_⟩
  · simp only [c07_tick_fst, h.1 i j]
  · simpa only [c07_tick_snd] using h.2

theorem c10_uniform_orElse {ι : Type} (Q : (ι → Str) → Prop) (a b : ι → C07Res)
    (ha : c10_uniform Q a) (hb : c10_uniform Q b) : c10_uniform Q (fun i => (a i).orElse (b i)) := by
  rcases ha.2 with hn | ⟨x, hx, hq⟩
  · simp only [fun i => c07_orElse_none (a i) (b i) (hn i)]
    exact ⟨fun i j => by simp only [ha.1 i j, hb.1 i j], hb.2⟩
  · simp only [fun i => c07_orElse_some (a i) (b i) _ (hx i)]
    exact ⟨ha.1, .inr ⟨x, hx, hq⟩⟩

theorem c10_starLoop_uniform {ι : Type} (Q : (ι → Str) → Prop)
    (body : Str → (Str → C07Res) → C07Res)
    (hbody : ∀ (s : Str) (k : ι → Str → C07Res),
      (∀ s', s' <:+ s → c10_uniform Q (fun i => k i s')) → c10_uniform Q (fun i => body s (k i))) :
    ∀ (f : Nat) (s : Str) (k : ι → Str → C07Res),
      (∀ s', s' <:+ s → c10_uniform Q (fun i => k i s')) →
      c10_uniform Q (fun i => c07_starLoop body f s (k i)) := by
  intro f
  induction f with
  | zero => intro s k hk; exact hk s (List.suffix_refl s)
  | succ f ih =>
    intro s k hk
    simp only [c07_starLoop]
    apply c10_uniform_tick
    apply c10_uniform_orElse
    · apply hbody s (fun i s' => if s'.length < s.length then c07_starLoop body f s' (k i) else .fail)
      intro s' hs'
      by_cases h : s'.length < s.length
      · simp only [h, if_true]
        exact ih s' k (fun s'' h' => hk s'' (h'.trans hs'))
      · simp only [h, if_false]
        exact c10_uniform_const Q 0
    · exact hk s (List.suffix_refl s)

/-- PARAMETRICITY of the matcher in what the continuation returns (only suffixes of the input are
    ever passed on) -/
theorem c10_run_uniform {ι : Type} (Q : (ι → Str) → Prop) (r : C07Regex) :
    ∀ (s : Str) (k : ι → Str → C07Res),
      (∀ s', s' <:+ s → c10_uniform Q (fun i => k i s')) → c10_uniform Q (fun i => r.run s (k i)) := by
  induction r with
  | eps => intro s k hk; simpa only [c10_run_eps] using hk s (List.suffix_refl s)
  | chr p =>
    intro s k hk
    cases s with
    | nil => simp only [c07_run_chr_nil]; exact c10_uniform_const Q 1
    | cons c cs =>
      simp only [c07_run_chr_cons]
      by_cases h : p.test c = true
      · simp only [h, if_true]
        exact c10_uniform_tick Q _ (hk cs (List.suffix_cons c cs))
      · simp only [h]
        exact c10_uniform_const Q 1
  | seq a b iha ihb =>
    intro s k hk
    simp only [c07_run_seq]
    exact iha s (fun i s' => b.run s' (k i)) (fun s' hs' => ihb s' k (fun s'' h => hk s'' (h.trans hs')))
  | alt a b iha ihb =>
    intro s k hk
    simp only [c07_run_alt]
    exact c10_uniform_tick Q _ (c10_uniform_orElse Q _ _ (iha s k hk) (ihb s k hk))
  | star a iha =>
    intro s k hk
    simp only [c07_run_star]
    exact c10_starLoop_uniform Q a.run iha _ s k hk

/-- ONE first match: the cost of `runWith` does not depend on what is reported, and either every
    report fails or there are `s1 ⊒ s2 ⊒ s3` (suffixes of the input and of each other) such that
    every report returns its function of exactly these three -/
theorem c10_runWith_uniform (g : C10Grouped) (s : Str) :
    (∀ out out', (g.runWith s out).1 = (g.runWith s out').1) ∧
    ((∀ out, (g.runWith s out).2 = none) ∨
      ∃ s1 s2 s3 : Str, s1 <:+ s ∧ s2 <:+ s1 ∧ s3 <:+ s2 ∧
        ∀ out, (g.runWith s out).2 = some (out s1 s2 s3)) := by
  let Q : ((Str → Str → Str → Str) → Str) → Prop := fun x =>
    ∃ s1 s2 s3 : Str, s1 <:+ s ∧ s2 <:+ s1 ∧ s3 <:+ s2 ∧ ∀ out, x out = out s1 s2 s3
  have h := c10_run_uniform Q (c07_mkSeq g.pre) s
    (fun out s1 => g.body.run s1 fun s2 => (c07_mkSeq g.post).run s2 fun s3 => (0, some (out s1 s2 s3)))
    (fun s1 h1 => c10_run_uniform Q g.body s1
      (fun out s2 => (c07_mkSeq g.post).run s2 fun s3 => (0, some (out s1 s2 s3)))
      (fun s2 h2 => c10_run_uniform Q (c07_mkSeq g.post) s2
        (fun out s3 => (0, some (out s1 s2 s3)))
        (fun s3 h3 => ⟨fun _ _ => rfl, .inr ⟨fun out => out s1 s2 s3, fun _ => rfl,
          s1, s2, s3, h1, h2, h3, fun _ => rfl⟩⟩)))
  refine ⟨h.1, ?_⟩
  rcases h.2 with hn | ⟨x, hx, s1, s2, s3, h1, h2, h3, hq⟩
  · exact .inl hn
  · exact .inr ⟨s1, s2, s3, h1, h2, h3, fun out => by rw [← hq out]; exact hx out⟩

/-- group 1 is a piece of the matched prefix: no match and no group, or the input is
    `p ++ u ++ q ++ rest` with `p ++ u ++ q` the match and `u` the group -/
theorem c10_group1_spec (g : C10Grouped) (s : Str) :
    (g.regex.matchLen s = none ∧ g.group1 s = none) ∨
    ∃ p u q rest : Str, s = p ++ (u ++ (q ++ rest)) ∧ (g.regex.exec s).2 = some rest ∧
      g.regex.matchLen s = some (p.length + u.length + q.length) ∧ g.group1 s = some u := by
  rcases (c10_runWith_uniform g s).2 with hn | ⟨s1, s2, s3, ⟨p, hp⟩, ⟨u, hu⟩, ⟨q, hq⟩, h⟩
  · left
    refine ⟨?_, ?_⟩
    · unfold C07Regex.matchLen; rw [c10_grouped_exec, hn]; rfl
    · unfold C10Grouped.group1; rw [hn]
  · right
    refine ⟨p, u, q, s3, ?_, ?_, ?_, ?_⟩
    · rw [hq, hu, hp]
    · rw [c10_grouped_exec, h]
    · unfold C07Regex.matchLen; rw [c10_grouped_exec, h]
      simp only [Option.map_some]
      rw [← hp, ← hu, ← hq]
      simp only [List.length_append]
      congr 1; omega
    · unfold C10Grouped.group1; rw [h, h]
      simp only
      rw [← hu]
      congr 1
      simp

/-- what follows a loop `p*` either fails at once on a character of `p`, or never fails: then giving
    characters back cannot help, and the loop costs at most 3 steps a character -/
def c10_tailOK (p : C07Class) (k : Str → C07Res) : Prop :=
  (∀ c cs, p.test c = true → (k (c :: cs)).2 = none ∧ (k (c :: cs)).1 ≤ 1) ∨ (∀ s', (k s').2 ≠ none)

theorem c10_starChr_run (p : C07Class) (k : Str → C07Res) (h : c10_tailOK p k) (s : Str) :
    ((C07Regex.star (.chr p)).run s k).2 = (k (s.dropWhile p.test)).2 ∧
    ((C07Regex.star (.chr p)).run s k).1 + 3 * (s.dropWhile p.test).length ≤
      3 * s.length + 2 + (k (s.dropWhile p.test)).1 := by
  induction s with
  | nil =>
    rw [c07_star_unfold, c07_run_chr_nil]
    simp [C07Res.orElse, C07Res.tick]
    omega
  | cons c cs ih =>
    rw [c07_star_unfold, c07_run_chr_cons]
    by_cases hc : p.test c = true
    · simp only [hc, if_true, List.dropWhile_cons_of_pos, List.length_cons, Nat.lt_add_one]
      generalize (C07Regex.star (.chr p)).run cs k = R at ih ⊢
      obtain ⟨n, o⟩ := R
      simp only at ih
      cases o with
      | some x =>
        simp only [C07Res.orElse, C07Res.tick]
        refine ⟨ih.1, ?_⟩
        have := ih.2
        omega
      | none =>
        rcases h with h1 | h2
        · have hk := h1 c cs hc
          simp only [C07Res.orElse, C07Res.tick]
          refine ⟨by rw [hk.1]; exact ih.1, ?_⟩
          have := ih.2
          have := hk.2
          omega
        · exact absurd ih.1.symm (h2 _)
    · simp [hc, C07Res.orElse, C07Res.tick]
      omega

/-- an item of a deterministic sequence -/
inductive C10Item where
  | lit (c : Char)           -- a literal character
  | star (p : C07Class)      -- `p*`
  | plus (p : C07Class)      -- `p+`
deriving DecidableEq, Repr

def C10Item.rx : C10Item → C07Regex
  | .lit c => .chr (.lit c)
  | .star p => .star (.chr p)
  | .plus p => C07Regex.plus (.chr p)

/-- the regex of a sequence of items (what the parser builds for their concatenation) -/
def c10_itemsRx (is : List C10Item) : C07Regex := c07_mkSeq (is.map C10Item.rx)

/-- the literal characters of a word -/
def c10_lits (w : Str) : List C10Item := w.map .lit

/-- WHAT a deterministic sequence matches, read off the input: a literal takes its character, a
    loop takes the longest run of characters of its class (`p+`: at least one); the result is what
    is left -/
def c10_interp : List C10Item → Str → Option Str
  | [], s => some s
  | .lit _ :: _, [] => none
  | .lit c :: r, d :: ds => if d == c then c10_interp r ds else none
  | .star p :: r, s => c10_interp r (s.dropWhile p.test)
  | .plus _ :: _, [] => none
  | .plus p :: r, d :: ds => if p.test d then c10_interp r (ds.dropWhile p.test) else none

/-- the item after a loop of `p` is a literal outside `p` (or there is none) -/
def c10_firstOK (p : C07Class) : List C10Item → Bool
  | [] => true
  | .lit c :: _ => !p.test c
  | _ => false

/-- every loop is followed by a literal character outside its class -/
def c10_det : List C10Item → Bool
  | [] => true
  | .lit _ :: r => c10_det r
  | .star p :: r => c10_firstOK p r && c10_det r
  | .plus p :: r => c10_firstOK p r && c10_det r

/-- the class of the loop the sequence ends with, if it ends with one -/
def c10_lastLoop : List C10Item → Option C07Class
  | [] => none
  | [.lit _] => none
  | [.star p] => some p
  | [.plus p] => some p
  | _ :: b :: r => c10_lastLoop (b :: r)

theorem c10_lastLoop_cons (i : C10Item) (r : List C10Item) (p : C07Class) (h : c10_lastLoop r = some p) :
    c10_lastLoop (i :: r) = some p := by
  cases r with
  | nil => simp [c10_lastLoop] at h
  | cons b r => simpa [c10_lastLoop] using h

theorem c10_itemsRx_nil_run (s : Str) (k : Str → C07Res) : (c10_itemsRx []).run s k = k s := by
  simp only [c10_itemsRx, List.map_nil, c07_mkSeq, c10_run_eps]

theorem c10_itemsRx_cons_run (i : C10Item) (r : List C10Item) (s : Str) (k : Str → C07Res) :
    (c10_itemsRx (i :: r)).run s k = i.rx.run s fun s' => (c10_itemsRx r).run s' k := by
  simp only [c10_itemsRx, List.map_cons, c10_mkSeq_cons_run]

/-- a sequence that starts with a literal outside `p` fails in one step on a character of `p` -/
theorem c10_tailOK_next (p : C07Class) (r : List C10Item) (k : Str → Str → C07Res)
    (hf : c10_firstOK p r = true) (hl : r = [] → c10_tailOK p (fun s' => k s' s')) :
    c10_tailOK p (fun s' => (c10_itemsRx r).run s' (k s')) := by
  cases r with
  | nil => simpa only [c10_itemsRx_nil_run] using hl rfl
  | cons j r' =>
    cases j with
    | lit c =>
      have h : p.test c = false := by simpa [c10_firstOK] using hf
      left
      intro d ds hd
      have hdc : (d == c) = false := by
        cases e : d == c with
        | false => rfl
        | true => simp at e; subst e; rw [h] at hd; contradiction
      simp only [c10_itemsRx_cons_run, C10Item.rx, c07_run_chr_cons, c07_test_lit, hdc]
      simp
    | star q => simp [c10_firstOK] at hf
    | plus q => simp [c10_firstOK] at hf

/-- a deterministic sequence computes `c10_interp`, in at most 3 steps a character plus 2 an item -/
theorem c10_items_run (is : List C10Item) : ∀ (s : Str) (k : Str → C07Res) (M : Nat),
    c10_det is = true → (∀ p, c10_lastLoop is = some p → c10_tailOK p k) →
    (∀ s', (k s').1 ≤ 3 * s'.length + M) →
    ((c10_itemsRx is).run s k).2 = (match c10_interp is s with | some s' => (k s').2 | none => none) ∧
    ((c10_itemsRx is).run s k).1 ≤ 3 * s.length + M + 2 * is.length := by
  induction is with
  | nil =>
    intro s k M _ _ hk
    simp only [c10_itemsRx_nil_run, c10_interp, List.length_nil]
    exact ⟨trivial, hk s⟩
  | cons i r ih =>
    intro s k M hdet hlast hk
    have hlast' : ∀ p, c10_lastLoop r = some p → c10_tailOK p k :=
      fun p hp => hlast p (c10_lastLoop_cons i r p hp)
    rw [c10_itemsRx_cons_run]
    cases i with
    | lit c =>
      have hdet' : c10_det r = true := by simpa [c10_det] using hdet
      cases s with
      | nil => simp [C10Item.rx, c07_run_chr_nil, c10_interp]; omega
      | cons d ds =>
        have := ih ds k M hdet' hlast' hk
        simp only [C10Item.rx, c07_run_chr_cons, c07_test_lit, c10_interp]
        by_cases hdc : (d == c) = true
        · simp only [hdc, if_true, c07_tick_fst, c07_tick_snd, List.length_cons]
          exact ⟨this.1, by omega⟩
        · simp only [hdc, List.length_cons]
          exact ⟨rfl, by simp; omega⟩
    | star p =>
      have hd : c10_firstOK p r = true ∧ c10_det r = true := by simpa [c10_det] using hdet
      have hK := c10_tailOK_next p r (fun _ => k) hd.1 (fun e => hlast p (by subst e; rfl))
      have hA := c10_starChr_run p _ hK s
      have := ih (s.dropWhile p.test) k M hd.2 hlast' hk
      simp only [C10Item.rx, c10_interp, List.length_cons]
      exact ⟨hA.1.trans this.1, by omega⟩
    | plus p =>
      have hd : c10_firstOK p r = true ∧ c10_det r = true := by simpa [c10_det] using hdet
      have hK := c10_tailOK_next p r (fun _ => k) hd.1 (fun e => hlast p (by subst e; rfl))
      cases s with
      | nil => simp [C10Item.rx, C07Regex.plus, c07_run_seq, c07_run_chr_nil, c10_interp]; omega
      | cons d ds =>
        have hA := c10_starChr_run p _ hK ds
        have := ih (ds.dropWhile p.test) k M hd.2 hlast' hk
        simp only [C10Item.rx, C07Regex.plus, c07_run_seq, c07_run_chr_cons, c10_interp]
        by_cases hpd : p.test d = true
        · simp only [hpd, if_true, c07_tick_fst, c07_tick_snd, List.length_cons]
          exact ⟨hA.1.trans this.1, by omega⟩
        · simp only [hpd, List.length_cons]
          exact ⟨rfl, by simp; omega⟩

theorem c10_tailOK_final (p : C07Class) (f : Str → Str) : c10_tailOK p (fun s' => (0, some (f s'))) :=
  .inr fun _ => by simp

theorem c10_items_exec (is : List C10Item) (h : c10_det is = true) (s : Str) :
    ((c10_itemsRx is).exec s).2 = c10_interp is s ∧
    (c10_itemsRx is).steps s ≤ 3 * s.length + 2 * is.length := by
  have := c10_items_run is s (fun s' => (0, some s')) 0 h (fun p _ => c10_tailOK_final p id)
    (fun s' => by simp)
  unfold C07Regex.steps C07Regex.exec
  refine ⟨?_, by simpa using this.2⟩
  rw [this.1]
  cases c10_interp is s <;> rfl

structure C10GroupedItems where
  pre : List C10Item
  body : List C10Item
  post : List C10Item

def C10GroupedItems.grouped (g : C10GroupedItems) : C10Grouped :=
  ⟨g.pre.map C10Item.rx, c10_itemsRx g.body, g.post.map C10Item.rx⟩

/-- a part that ends with a loop is followed by a part that starts with a literal outside it -/
def c10_link (a b : List C10Item) : Bool :=
  match c10_lastLoop a with
  | none => true
  | some p => !b.isEmpty && c10_firstOK p b

def C10GroupedItems.det (g : C10GroupedItems) : Bool :=
  c10_det g.pre && c10_det g.body && c10_det g.post && c10_link g.pre g.body && c10_link g.body g.post

/-- what the three parts take, one after the other -/
def C10GroupedItems.interp (g : C10GroupedItems) (s : Str) : Option (Str × Str × Str) :=
  (c10_interp g.pre s).bind fun s1 => (c10_interp g.body s1).bind fun s2 =>
    (c10_interp g.post s2).map fun s3 => (s1, s2, s3)

theorem c10_tailOK_link (a b : List C10Item) (k : Str → Str → C07Res) (h : c10_link a b = true) :
    ∀ p, c10_lastLoop a = some p → c10_tailOK p (fun s' => (c10_itemsRx b).run s' (k s')) := by
  intro p hp
  simp only [c10_link, hp, Bool.and_eq_true] at h
  exact c10_tailOK_next p b k h.2 (fun e => by simp [e] at h)

theorem c10_groupedItems_run (g : C10GroupedItems) (h : g.det = true) (s : Str)
    (out : Str → Str → Str → Str) :
    (g.grouped.runWith s out).2 = (g.interp s).map (fun t => out t.1 t.2.1 t.2.2) ∧
    (g.grouped.runWith s out).1 ≤ 3 * s.length + 2 * (g.pre.length + g.body.length + g.post.length) := by
  simp only [C10GroupedItems.det, Bool.and_eq_true] at h
  obtain ⟨⟨⟨⟨h1, h2⟩, h3⟩, h4⟩, h5⟩ := h
  have e : g.grouped.runWith s out =
      (c10_itemsRx g.pre).run s fun s1 => (c10_itemsRx g.body).run s1 fun s2 =>
        (c10_itemsRx g.post).run s2 fun s3 => (0, some (out s1 s2 s3)) := rfl
  rw [e]
  have P3 := fun s1 s2 => c10_items_run g.post s2 (fun s3 => (0, some (out s1 s2 s3))) 0 h3
    (fun p _ => c10_tailOK_final p _) (fun s' => by simp)
  have P2 := fun s1 s2 => c10_items_run g.body s2
    (fun s2 => (c10_itemsRx g.post).run s2 fun s3 => (0, some (out s1 s2 s3))) (2 * g.post.length) h2
    (c10_tailOK_link g.body g.post (fun s2 s3 => (0, some (out s1 s2 s3))) h5) (fun s' => by have := (P3 s1 s').2; omega)
  have P1 := c10_items_run g.pre s
    (fun s1 => (c10_itemsRx g.body).run s1 fun s2 => (c10_itemsRx g.post).run s2 fun s3 =>
      (0, some (out s1 s2 s3))) (2 * g.post.length + 2 * g.body.length) h1
    (c10_tailOK_link g.pre g.body (fun s1 s2 => (c10_itemsRx g.post).run s2 fun s3 =>
      (0, some (out s1 s2 s3))) h4) (fun s' => by have := (P2 s' s').2; omega)
  refine ⟨?_, by have := P1.2; omega⟩
  rw [P1.1]
  unfold C10GroupedItems.interp
  cases h1 : c10_interp g.pre s with
  | none => rfl
  | some s1 =>
    simp only [Option.bind_some]
    rw [(P2 s1 s1).1]
    cases h2 : c10_interp g.body s1 with
    | none => rfl
    | some s2 =>
      simp only [Option.bind_some]
      rw [(P3 s1 s2).1]
      cases h3 : c10_interp g.post s2 <;> rfl

end Mammoth
