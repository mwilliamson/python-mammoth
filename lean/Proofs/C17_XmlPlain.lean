/-
  C17 — on XML without deleted paragraph marks (`c05_noDel`) the buffered specification `c17_xmlImages`
  agrees with the plain one (`c17_xmlImagesPlain`): nothing is ever deferred.
-/
import Proofs.C17_XmlSpec
import Proofs.C01_ReadDefer
namespace Mammoth

theorem c17_kinds_paragraph :
    c17_kinds.all (fun p => decide (p.2 = c17_Kind.paragraph → p.1 = S!"w:p")) = true := by decide +kernel

theorem c17_kindOf_paragraph {name : Str} (h : c17_kindOf name = .paragraph) : name = S!"w:p" := by
  unfold c17_kindOf at h
  rcases c17_kindIn_mem c17_kinds name with h' | h'
  · rw [h] at h'; cases h'
  · rw [h] at h'
    have := List.all_eq_true.mp c17_kinds_paragraph _ h'
    simpa using this

theorem c17_delMark_noDel {name : Str} {cs : List XmlNode} (hk : c17_kindOf name = .paragraph)
    (h : c05_elemNoDel name cs = true) : c01_delMark cs = false := by
  have hn := c17_kindOf_paragraph hk
  subst hn
  exact c01_delMark_noDel (by decide) h

mutual
theorem c17_xmlImages_noDel (env : REnv) (n : XmlNode) (h : c05_noDel n = true) :
    c17_xmlImages env [] n = ⟨c17_xmlImagesPlain env n, []⟩ := by
  match n with
  | .text s => simp [c17_xmlImagesPlain]
  | .elem name as cs =>
    simp only [c05_noDel, Bool.and_eq_true] at h
    have ih := c17_xmlImagesL_noDel env cs h.2
    cases hk : c17_kindOf name with
    | skip => simp [c17_xmlImages, c17_xmlImagesPlain, hk]
    | drawing => simp [c17_xmlImages, c17_xmlImagesPlain, hk]
    | imagedata => simp [c17_xmlImages, c17_xmlImagesPlain, hk]
    | through => simp [c17_xmlImages, c17_xmlImagesPlain, hk, ih]
    | paragraph =>
      rw [c17_xmlImages_paragraph env _ as cs hk, c17_delMark_noDel hk h.1]
      simp [c17_xmlImagesPlain, hk, ih]
    | pict => simp [c17_xmlImages, c17_xmlImagesPlain, hk, ih]
    | alt =>
      simp only [c17_xmlImages, c17_xmlImagesPlain, hk]
      exact c17_xmlImagesIn_noDel env _ cs h.2
    | sdt =>
      simp only [c17_xmlImages, c17_xmlImagesPlain, hk]
      split
      · rfl
      · exact c17_xmlImagesIn_noDel env _ cs h.2
theorem c17_xmlImagesL_noDel (env : REnv) (ns : List XmlNode) (h : c05_noDelL ns = true) :
    c17_xmlImagesL env [] ns = ⟨c17_xmlImagesPlainL env ns, []⟩ := by
  match ns with
  | [] => simp
  | n :: ns =>
    simp only [c05_noDelL, Bool.and_eq_true] at h
    rw [c17_xmlImagesL_cons, c17_xmlImages_noDel env n h.1, c17_xmlImagesL_noDel env ns h.2,
      c17_xmlImagesPlainL_cons]
theorem c17_xmlImagesIn_noDel (env : REnv) (child : Str) (ns : List XmlNode) (h : c05_noDelL ns = true) :
    c17_xmlImagesIn env child [] ns = ⟨c17_xmlImagesPlainIn env child ns, []⟩ := by
  match ns with
  | [] => simp [c17_xmlImagesIn, c17_xmlImagesPlainIn]
  | .text s :: rest =>
    simp only [c05_noDelL, Bool.and_eq_true] at h
    simp only [c17_xmlImagesIn, c17_xmlImagesPlainIn]
    exact c17_xmlImagesIn_noDel env child rest h.2
  | .elem n as cs :: rest =>
    simp only [c05_noDelL, c05_noDel, Bool.and_eq_true] at h
    simp only [c17_xmlImagesIn, c17_xmlImagesPlainIn]
    split
    · exact c17_xmlImagesL_noDel env cs h.1.2
    · exact c17_xmlImagesIn_noDel env child rest h.2
end

end Mammoth
