/-
  C17, converter half — whole documents: body, the notes the body references (in reference order), the
  comments referenced by body and rendered notes.
-/
import Proofs.C17_Visit
namespace Mammoth

/-- the images of a whole document in the order of the output: the visible images of the body, of the
    rendered notes (`c10_docNotes`: those the body references, in reference order), of the rendered
    comments (`c10_docComments`: those referenced by the body and the rendered notes) -/
def c17_docImages (cfg : Cfg) (d : Document) : List ImageProps :=
  c17_visImagesL cfg d.children ++
  (c10_docNotes cfg d).flatMap (fun n => c17_visImagesL cfg n.body) ++
  (c10_docComments cfg d).flatMap (fun c => c17_visImagesL cfg c.body)

theorem c17_imgs_backLink (href : Str) : c17_imgs [backLink href] = [] := by
  simp [backLink, cel, el, c17_imgsN_elem]

theorem c17_H_visitNote (cfg : Cfg) (n : Note) :
    c17_H cfg (visitNote cfg n) (c17_visImagesL cfg n.body) (c10_noteEvs cfg n) := by
  unfold visitNote
  intro st ns st' hr
  have := c17_H_map cfg (visitAll cfg false n.body)
    (fun body => [el S!"li" [(S!"id", referentId cfg n.ty n.id)]
        (body ++ [backLink (['#'] ++ referenceId cfg n.ty n.id)])]) _ _ (c17_H_visitAll cfg false n.body)
    (fun _ ns => by rw [c17_imgs_el _ _ _ (by decide), c17_imgs_append, c17_imgs_backLink, List.append_nil])
    st ns st' hr
  obtain ⟨p0, p1, p2, p3⟩ := this
  refine ⟨p0, p1, ?_, ?_⟩
  · rw [p2]; simp [c10_noteEvs, c10_evRefs, c10_evRefs_append]
  · rw [p3]; simp [c10_noteEvs, c10_evComments, c10_evCRefs, c10_evCRefs_append]

theorem c17_H_visitComment (cfg : Cfg) (lc : Str × Comment) :
    c17_H cfg (visitComment cfg lc) (c17_visImagesL cfg lc.2.body) (c10_commentEvs cfg lc.2) := by
  unfold visitComment
  intro st ns st' hr
  have := c17_H_map cfg (visitAll cfg false lc.2.body)
    (fun body => [el S!"dt" [(S!"id", referentId cfg S!"comment" lc.2.id)] [.text (S!"Comment " ++ lc.1)],
        el S!"dd" [] (body ++ [backLink (['#'] ++ referenceId cfg S!"comment" lc.2.id)])]) _ _
    (c17_H_visitAll cfg false lc.2.body)
    (fun _ ns => by simp [el, cel, backLink, c17_imgsN_elem, c17_imgs_append])
    st ns st' hr
  obtain ⟨p0, p1, p2, p3⟩ := this
  refine ⟨p0, p1, ?_, ?_⟩
  · rw [p2]; simp [c10_commentEvs, c10_evRefs, c10_evRefs_append]
  · rw [p3]; simp [c10_commentEvs, c10_evComments, c10_evCRefs, c10_evCRefs_append]

theorem c17_H_mapMConcat {α} (cfg : Cfg) (f : α → ConvM (List Node)) (gi : α → List ImageProps)
    (g : α → List c10_Ev) (h : ∀ x, c17_H cfg (f x) (gi x) (g x)) :
    ∀ xs : List α, c17_H cfg (mapMConcat f xs) (xs.flatMap gi) (xs.flatMap g)
  | [] => by rw [mapMConcat]; exact c17_H_nil _ _ (fun _ => rfl)
  | x :: xs => by
    rw [mapMConcat, List.flatMap_cons, List.flatMap_cons]
    exact c17_H_seq cfg _ _ _ _ _ _ (h x) (c17_H_mapMConcat cfg f gi g h xs)

/-- the whole run of `visitDocument` from state `st` -/
theorem c17_visitDocument_post (cfg : Cfg) (d : Document) (st st' : ConvState)
    (ns : List Node) (h : (visitDocument cfg d).run st = .ok (ns, st')) :
    ∃ (notes : List Note) (comments : List Comment),
      (st.noteRefs ++ c10_evRefs (c10_evsL cfg d.children)).mapM (resolveNote d.notes) = .ok notes ∧
      comments = st.refComments.map Prod.snd ++
        c10_evComments cfg (c10_evsL cfg d.children ++ notes.flatMap (c10_noteEvs cfg)) ∧
      c17_Post cfg st
        (c17_visImagesL cfg d.children ++ notes.flatMap (fun n => c17_visImagesL cfg n.body) ++
          comments.flatMap (fun c => c17_visImagesL cfg c.body))
        (c10_evsL cfg d.children ++ notes.flatMap (c10_noteEvs cfg) ++ comments.flatMap (c10_commentEvs cfg))
        ns st' := by
  unfold visitDocument at h
  simp only [run_bind, run_get] at h
  split at h
  · rename_i nodes st1 h1
    have p1 := c17_H_visitAll cfg false d.children st nodes st1 h1
    cases hmap : st1.noteRefs.mapM (resolveNote d.notes) with
    | error e => simp only [hmap, run_bind, run_throw] at h; cases h
    | ok notes =>
      simp only [hmap, run_bind, run_pure, run_get] at h
      split at h
      · rename_i noteNodes st2 h2
        have p2 := c17_H_mapMConcat cfg (visitNote cfg) (fun n => c17_visImagesL cfg n.body) (c10_noteEvs cfg)
          (c17_H_visitNote cfg) notes st1 noteNodes st2 h2
        split at h
        · rename_i commentNodes st3 h3
          have p3 := c17_H_mapMConcat cfg (visitComment cfg) (fun lc => c17_visImagesL cfg lc.2.body)
            (fun lc => c10_commentEvs cfg lc.2) (c17_H_visitComment cfg) st2.refComments st2 commentNodes st3 h3
          cases h
          have p12 := c17_Post_seq cfg st st1 st2 _ _ _ _ _ _ p1 p2
          have p123 := c17_Post_seq cfg st st2 st' _ _ _ _ _ _ p12 p3
          refine ⟨notes, st2.refComments.map Prod.snd, ?_, ?_, ?_⟩
          · rw [← p1.2.2.1]; exact hmap
          · exact p12.2.2.2
          · have e : (st2.refComments.map Prod.snd).flatMap (c10_commentEvs cfg) =
                st2.refComments.flatMap (fun lc => c10_commentEvs cfg lc.2) := by
              rw [List.flatMap_map]
            have e' : (st2.refComments.map Prod.snd).flatMap (fun c => c17_visImagesL cfg c.body) =
                st2.refComments.flatMap (fun lc => c17_visImagesL cfg lc.2.body) := by
              rw [List.flatMap_map]
            rw [e, e']
            obtain ⟨q0, q1, q2, q3⟩ := p123
            refine ⟨q0, fun hm => ?_, q2, q3⟩
            rw [← q1 hm]
            simp only [c17_imgs_append]
            simp [el, c17_imgsN_elem, List.append_assoc]
        · cases h
      · cases h
  · cases h

/-- MAIN CHARACTERISATION, whole documents: the calls (every configuration) and, when no style mapping
    produces an element named `img`, the `img` elements of the forest. -/
theorem c17_convertDoc_images (cfg : Cfg) (d : Document) (r : ConvResult)
    (h : convertDoc cfg d = .ok r) :
    r.imageCalls = c17_docImages (c10_docCfg cfg d) d ∧
    (c17_noImgMap cfg = true →
      c17_imgs r.nodes = (c17_docImages (c10_docCfg cfg d) d).flatMap (c17_imgOf cfg)) := by
  unfold convertDoc at h
  split at h
  · rename_i nodes st hv
    cases h
    obtain ⟨notes, comments, hn, hcm, hp⟩ :=
      c17_visitDocument_post (c10_docCfg cfg d) d {} st nodes hv
    simp only [List.nil_append, List.map_nil] at hn hcm
    have en : c10_docNotes (c10_docCfg cfg d) d = notes := c10_mapM_resolve d _ _ hn
    have ee : c17_docImages (c10_docCfg cfg d) d =
        c17_visImagesL (c10_docCfg cfg d) d.children ++
          notes.flatMap (fun n => c17_visImagesL (c10_docCfg cfg d) n.body) ++
          comments.flatMap (fun c => c17_visImagesL (c10_docCfg cfg d) c.body) := by
      unfold c17_docImages c10_docComments c10_docEvents01
      rw [en, hcm]
    rw [← ee] at hp
    obtain ⟨q0, q1, _, _⟩ := hp
    refine ⟨by simpa using q0, fun hm => ?_⟩
    rw [q1 hm]
    rfl
  · cases h

end Mammoth
