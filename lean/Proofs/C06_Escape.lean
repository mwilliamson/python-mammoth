/-
  C06_Escape — the escape round trip: decoding what the printer wrote gives the string back.
-/
import Proofs.C06_Syntax
namespace Mammoth

theorem c06_decode_raw (c : Char) (cs : Str) (h : c ≠ '\\') :
    decodeEscapes (c :: cs) = c :: decodeEscapes cs := by
  rw [decodeEscapes.eq_def]
  split
  · rename_i heq; simp at heq; exact absurd heq.1 h
  · rename_i heq; simp at heq; rw [heq.1, heq.2]
  · rename_i heq; simp at heq

theorem c06_decode_bs (c : Char) (cs : Str) (h : isDot c = true) :
    decodeEscapes ('\\' :: c :: cs) =
      (if c == 'n' then '\n' else if c == 'r' then '\r' else if c == 't' then '\t' else c) :: decodeEscapes cs := by
  rw [decodeEscapes]; simp [h]

theorem c06_decode_escChar (c : Char) (rest : Str) :
    decodeEscapes (c06_escChar c ++ rest) = c :: decodeEscapes rest := by
  unfold c06_escChar
  by_cases h1 : c = '\n'
  · subst h1; simp; rw [c06_decode_bs _ _ (by decide)]; rfl
  by_cases h2 : c = '\r'
  · subst h2; simp; rw [c06_decode_bs _ _ (by decide)]; rfl
  by_cases h3 : c = '\t'
  · subst h3; simp; rw [c06_decode_bs _ _ (by decide)]; rfl
  simp only [beq_iff_eq, h1, h2, h3, if_false]
  by_cases h4 : (isIdentStart c || isDigit c) = true
  · rw [if_pos h4]
    have : c ≠ '\\' := by intro h; subst h; revert h4; decide
    simp [c06_decode_raw _ _ this]
  · rw [if_neg h4]
    have hn : c ≠ 'n' := by intro h; subst h; revert h4; decide
    have hr : c ≠ 'r' := by intro h; subst h; revert h4; decide
    have ht : c ≠ 't' := by intro h; subst h; revert h4; decide
    have hd : isDot c = true := by simp [isDot, h1]
    simp [c06_decode_bs _ _ hd, hn, hr, ht]

theorem c06_decode_escFirst (c : Char) (rest : Str) :
    decodeEscapes (c06_escFirst c ++ rest) = c :: decodeEscapes rest := by
  unfold c06_escFirst
  by_cases h : isDigit c = true
  · rw [if_pos h]
    have hn : c ≠ 'n' := by intro h'; subst h'; revert h; decide
    have hr : c ≠ 'r' := by intro h'; subst h'; revert h; decide
    have ht : c ≠ 't' := by intro h'; subst h'; revert h; decide
    have hd : isDot c = true := by
      have : c ≠ '\n' := by intro h'; subst h'; revert h; decide
      simp [isDot, this]
    simp [c06_decode_bs _ _ hd, hn, hr, ht]
  · rw [if_neg h]; exact c06_decode_escChar c rest

theorem c06_decode_escRest (s rest : Str) :
    decodeEscapes (c06_escRest s ++ rest) = s ++ decodeEscapes rest := by
  induction s with
  | nil => simp [c06_escRest]
  | cons c cs ih => simp [c06_escRest, List.append_assoc, c06_decode_escChar, ih]

theorem c06_decode_nil : decodeEscapes [] = [] := by simp [decodeEscapes]

theorem c06_decode_printIdent (s : Str) : decodeEscapes (c06_printIdent s) = s := by
  cases s with
  | nil => simp [c06_printIdent, decodeEscapes]
  | cons c cs =>
    have := c06_decode_escRest cs []
    simp only [List.append_nil] at this
    simp [c06_printIdent, c06_decode_escFirst, this, c06_decode_nil]

theorem c06_decode_strChar (c : Char) (rest : Str) :
    decodeEscapes (c06_strChar c ++ rest) = c :: decodeEscapes rest := by
  unfold c06_strChar
  by_cases h1 : c = '\''
  · subst h1; simp; rw [c06_decode_bs _ _ (by decide)]; rfl
  by_cases h2 : c = '\\'
  · subst h2; simp; rw [c06_decode_bs _ _ (by decide)]; rfl
  by_cases h3 : c = '\n'
  · subst h3; simp; rw [c06_decode_bs _ _ (by decide)]; rfl
  by_cases h4 : c = '\r'
  · subst h4; simp; rw [c06_decode_bs _ _ (by decide)]; rfl
  by_cases h5 : c = '\t'
  · subst h5; simp; rw [c06_decode_bs _ _ (by decide)]; rfl
  simp [h1, h2, h3, h4, h5, c06_decode_raw _ _ h2]

theorem c06_decode_stringBody_append (s rest : Str) :
    decodeEscapes (c06_stringBody s ++ rest) = s ++ decodeEscapes rest := by
  induction s with
  | nil => simp [c06_stringBody]
  | cons c cs ih => simp [c06_stringBody, List.append_assoc, c06_decode_strChar, ih]

theorem c06_decode_stringBody (s : Str) : decodeEscapes (c06_stringBody s) = s := by
  have := c06_decode_stringBody_append s []
  simpa [c06_decode_nil] using this

/-- what `parse_string` computes from the token text: `value[1:-1]` -/
theorem c06_printString_body (s : Str) : ((c06_printString s).drop 1).dropLast = c06_stringBody s := by
  simp [c06_printString]

end Mammoth
