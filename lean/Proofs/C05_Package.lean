/-
  C05 — the package reader on its domain.  All notes of one part (and all comments) are read by ONE body
  reader, i.e. with one reader state threaded through them: fields may stay open and deleted paragraphs may
  defer content from one note to the next.  So a part is handled as the concatenation of the children of its
  note elements (`c05_flat`): where reading the concatenation
  succeeds, so does reading the notes one after the other (`c05_readAllWith_append_ok`).
-/
import Proofs.C05_View
import Proofs.C05_RefsRead
import Proofs.C05_ReadSpec
import Proofs.C05_Links
import Proofs.C05_FuelEnough
import Proofs.C05_Fuel
namespace Mammoth

/-- the nodes one part hands to its body reader, in reading order -/
def c05_flat (elems : List (Attrs × List XmlNode)) : List XmlNode := elems.flatMap (·.2)

theorem c05_flat_cons (as : Attrs) (cs : List XmlNode) (rest : List (Attrs × List XmlNode)) :
    c05_flat ((as, cs) :: rest) = cs ++ c05_flat rest := by
  simp [c05_flat, List.flatMap_cons]

theorem c05_readAllWith_append_ok (rd : c05_Rd) :
    ∀ (xs ys : List XmlNode) (st : RState) (r : ReadResult × RState),
      readAllWith rd st (xs ++ ys) = .ok r →
      ∃ r1 st1 r2, readAllWith rd st xs = .ok (r1, st1) ∧ readAllWith rd st1 ys = .ok (r2, r.2)
  | [], ys, st, r, h => ⟨{}, st, r.1, by simp only [readAllWith], h⟩
  | .text _ :: rest, ys, st, r, h => by
    simp only [List.cons_append, readAllWith] at h ⊢
    exact c05_readAllWith_append_ok rd rest ys st r h
  | .elem n as cs :: rest, ys, st, r, h => by
    simp only [List.cons_append, readAllWith] at h ⊢
    cases h1 : rd st (.elem n as cs) with
    | error e => rw [h1] at h; simp [bind, Except.bind] at h
    | ok a =>
      obtain ⟨ra, sta⟩ := a
      rw [h1] at h
      simp only [bind, Except.bind] at h ⊢
      cases h2 : readAllWith rd sta (rest ++ ys) with
      | error e => rw [h2] at h; simp at h
      | ok b =>
        rw [h2] at h
        simp only [pure, Except.pure] at h
        cases h
        obtain ⟨r1, st1, r2, h3, h4⟩ := c05_readAllWith_append_ok rd rest ys sta b h2
        refine ⟨ra.concat r1, st1, r2, ?_, h4⟩
        rw [h3]; rfl

/-! ### notes and comments: totality -/

theorem c05_readNoteElems_ok (env : REnv) (fuel : Nat) (ty : Str) :
    ∀ (elems : List (Attrs × List XmlNode)) (st : RState),
      (∃ r, readAll env fuel st (c05_flat elems) = .ok r) →
      (elems.all fun e => (attr? S!"w:id" e.1).isSome) = true →
      ∃ out, readNoteElems env fuel ty st elems = .ok out
  | [], st, _, _ => ⟨_, c05_readNoteElems_nil env fuel ty st⟩
  | (as, cs) :: rest, st, ⟨r, hr⟩, hid => by
    rw [c05_flat_cons] at hr
    obtain ⟨r1, st1, r2, h1, h2⟩ := c05_readAllWith_append_ok _ cs (c05_flat rest) st r hr
    simp only [List.all_cons, Bool.and_eq_true] at hid
    obtain ⟨out, hout⟩ := c05_readNoteElems_ok env fuel ty rest st1 ⟨_, h2⟩ hid.2
    cases hi : attr? S!"w:id" as with
    | none => rw [hi] at hid; exact absurd hid.1 (by simp)
    | some i =>
      unfold readNoteElems
      unfold readAll
      rw [h1]
      simp only [bind, Except.bind, hi, pure, Except.pure, hout]
      exact ⟨_, rfl⟩

theorem c05_readCommentElems_ok (env : REnv) (fuel : Nat) :
    ∀ (elems : List (Attrs × List XmlNode)) (st : RState),
      (∃ r, readAll env fuel st (c05_flat elems) = .ok r) →
      (elems.all fun e => (attr? S!"w:id" e.1).isSome) = true →
      ∃ out, readCommentElems env fuel st elems = .ok out
  | [], st, _, _ => ⟨_, c05_readCommentElems_nil env fuel st⟩
  | (as, cs) :: rest, st, ⟨r, hr⟩, hid => by
    rw [c05_flat_cons] at hr
    obtain ⟨r1, st1, r2, h1, h2⟩ := c05_readAllWith_append_ok _ cs (c05_flat rest) st r hr
    simp only [List.all_cons, Bool.and_eq_true] at hid
    obtain ⟨out, hout⟩ := c05_readCommentElems_ok env fuel rest st1 ⟨_, h2⟩ hid.2
    cases hi : attr? S!"w:id" as with
    | none => rw [hi] at hid; exact absurd hid.1 (by simp)
    | some i =>
      unfold readCommentElems
      unfold readAll
      rw [h1]
      simp only [bind, Except.bind, hi, pure, Except.pure, hout]
      exact ⟨_, rfl⟩

/-! ### notes and comments: the references in what is read -/

/-- the (type, id) keys of the notes a part defines -/
def c05_noteKeys (ty : Str) (elems : List (Attrs × List XmlNode)) : List (Str × Str) :=
  elems.filterMap fun e => (attr? S!"w:id" e.1).map fun id => (ty, id)

/-- the ids of the comments the comments part defines -/
def c05_commentIds (elems : List (Attrs × List XmlNode)) : List Str :=
  elems.filterMap fun e => attr? S!"w:id" e.1

theorem c05_readNoteElems_rx (env : REnv) (R : c05_Refs) (fuel : Nat) (ty : Str) :
    ∀ (elems : List (Attrs × List XmlNode)) (st : RState) (out : List Note × List Str),
      readNoteElems env fuel ty st elems = .ok out →
      c05_xrefsL env R (c05_flat elems) = true → c05_xrefsL env R st.deleted = true →
      (∀ n ∈ out.1, c05_refsOkL R n.body = true) ∧
      (∀ k ∈ c05_noteKeys ty elems, k ∈ out.1.map fun n => (n.ty, n.id))
  | [], st, out, h, _, _ => by
    rw [c05_readNoteElems_nil] at h; cases h
    exact ⟨fun n hn => absurd hn List.not_mem_nil, fun k hk => by simp [c05_noteKeys] at hk⟩
  | (as, cs) :: rest, st, out, h, hx, hd => by
    rw [c05_flat_cons, c05_xrefsL_append, Bool.and_eq_true] at hx
    unfold readNoteElems at h
    obtain ⟨⟨r1, st1⟩, h1, h⟩ := bind_ok h
    obtain ⟨hr1, hst1⟩ := c05_readAll_rx env R fuel st cs r1 st1 hx.1 hd h1
    dsimp only at h
    cases hi : attr? S!"w:id" as with
    | none =>
      rw [hi] at h; dsimp only at h
      obtain ⟨i, h2, _⟩ := bind_ok h
      cases h2
    | some i =>
      rw [hi] at h; dsimp only at h
      obtain ⟨i', h2, h⟩ := bind_ok h
      simp only [pure, Except.pure] at h2
      cases h2
      obtain ⟨⟨ns, ms⟩, h3, h⟩ := bind_ok h
      obtain ⟨ih1, ih2⟩ := c05_readNoteElems_rx env R fuel ty rest st1 _ h3 hx.2 hst1
      simp only [pure, Except.pure] at h
      cases h
      refine ⟨fun n hn => ?_, fun k hk => ?_⟩
      · rcases List.mem_cons.mp hn with rfl | hn
        · exact hr1
        · exact ih1 n hn
      · simp only [c05_noteKeys, List.filterMap_cons, hi, Option.map, List.mem_cons] at hk
        rcases hk with rfl | hk
        · exact List.mem_cons_self
        · exact List.mem_cons_of_mem _ (ih2 k hk)

theorem c05_readCommentElems_rx (env : REnv) (R : c05_Refs) (fuel : Nat) :
    ∀ (elems : List (Attrs × List XmlNode)) (st : RState) (out : List Comment × List Str),
      readCommentElems env fuel st elems = .ok out →
      c05_xrefsL env R (c05_flat elems) = true → c05_xrefsL env R st.deleted = true →
      (∀ c ∈ out.1, c05_refsOkL R c.body = true) ∧
      (∀ k ∈ c05_commentIds elems, k ∈ out.1.map (·.id))
  | [], st, out, h, _, _ => by
    rw [c05_readCommentElems_nil] at h; cases h
    exact ⟨fun n hn => absurd hn List.not_mem_nil, fun k hk => by simp [c05_commentIds] at hk⟩
  | (as, cs) :: rest, st, out, h, hx, hd => by
    rw [c05_flat_cons, c05_xrefsL_append, Bool.and_eq_true] at hx
    unfold readCommentElems at h
    obtain ⟨⟨r1, st1⟩, h1, h⟩ := bind_ok h
    obtain ⟨hr1, hst1⟩ := c05_readAll_rx env R fuel st cs r1 st1 hx.1 hd h1
    dsimp only at h
    cases hi : attr? S!"w:id" as with
    | none =>
      rw [hi] at h; dsimp only at h
      obtain ⟨i, h2, _⟩ := bind_ok h
      cases h2
    | some i =>
      rw [hi] at h; dsimp only at h
      obtain ⟨i', h2, h⟩ := bind_ok h
      simp only [pure, Except.pure] at h2
      cases h2
      obtain ⟨⟨ns, ms⟩, h3, h⟩ := bind_ok h
      obtain ⟨ih1, ih2⟩ := c05_readCommentElems_rx env R fuel rest st1 _ h3 hx.2 hst1
      simp only [pure, Except.pure] at h
      cases h
      refine ⟨fun n hn => ?_, fun k hk => ?_⟩
      · rcases List.mem_cons.mp hn with rfl | hn
        · exact hr1
        · exact ih1 n hn
      · simp only [c05_commentIds, List.filterMap_cons, hi, List.mem_cons] at hk
        rcases hk with rfl | hk
        · exact List.mem_cons_self
        · exact List.mem_cons_of_mem _ (ih2 k hk)

/-! ### the view: totality -/

/-- reader totality on a body (the lemma behind `C05_readAll_total`) -/
theorem c05_readAll_total (env : REnv) (hl : c05_linksAcyclic env = true) (fuel : Nat)
    (ns : List XmlNode) (hs : c05_staticL env ns = true) (hb : c05_balanced ns = true)
    (hf : xmlSizeL ns ≤ fuel) : ∃ r, readAll env fuel {} ns = .ok r := by
  have hn := c05_numOk_of_acyclic env hl
  unfold c05_balanced at hb
  cases hb' : c05_rdepthL (xmlSizeL ns) (0, []) ns with
  | none => rw [hb'] at hb; cases hb
  | some s' =>
    have key := c05_track_some (c05_readAll_track env hn (xmlSizeL ns) ns {} hs rfl) hb'
    have nf := c05_readAllWith_nofuelA _ (xmlSizeL ns) (c05_readElem_nofuelA env (xmlSizeL ns)) ns {}
      (by simp [xmlSizeL])
    cases h : readAllWith (readElem env (xmlSizeL ns)) {} ns with
    | error e => exact absurd (key.1 e h) (nf.err e h)
    | ok r => exact ⟨r, (c05_readAll_le2 env _ fuel hf {} ns).ok r h⟩

/-- one notes / comments part is readable: every note element has a `w:id`; the children of all note
    elements, in sequence, are statically well-formed and balanced in reading order -/
def c05_partOk (env : REnv) (elems : List (Attrs × List XmlNode)) : Bool :=
  (elems.all fun e => (attr? S!"w:id" e.1).isSome) && c05_staticL env (c05_flat elems) &&
  c05_balanced (c05_flat elems)

/-- everything `docx.read` reads is readable -/
def c05_viewReadable (v : c05_View) : Bool :=
  c05_linksAcyclic v.shared &&
  c05_partOk { v.shared with rels := v.fnRels } v.fnElems &&
  c05_partOk { v.shared with rels := v.enRels } v.enElems &&
  c05_partOk { v.shared with rels := v.cmRels } v.cmElems &&
  c05_staticL { v.shared with rels := v.bodyRels } v.body && c05_balanced v.body

/-- enough fuel for every part -/
def c05_viewFuel (v : c05_View) : Nat :=
  max (xmlSizeL (c05_flat v.fnElems)) (max (xmlSizeL (c05_flat v.enElems))
    (max (xmlSizeL (c05_flat v.cmElems)) (xmlSizeL v.body)))

theorem c05_readView_total (v : c05_View) (fuel : Nat) (h : c05_viewReadable v = true)
    (hf : c05_viewFuel v ≤ fuel) : ∃ dm, c05_readView v fuel = .ok dm := by
  simp only [c05_viewReadable, c05_partOk, Bool.and_eq_true] at h
  obtain ⟨⟨⟨⟨⟨hl, ⟨hf1, hf2⟩, hf3⟩, ⟨he1, he2⟩, he3⟩, ⟨hc1, hc2⟩, hc3⟩, hb1⟩, hb2⟩ := h
  unfold c05_viewFuel at hf
  have hl' : ∀ rels, c05_linksAcyclic { v.shared with rels := rels } = true := fun _ => hl
  obtain ⟨⟨fns, fm⟩, h1⟩ := c05_readNoteElems_ok { v.shared with rels := v.fnRels } fuel S!"footnote" v.fnElems {}
    (c05_readAll_total _ (hl' _) fuel _ hf2 hf3 (by omega)) hf1
  obtain ⟨⟨ens, em⟩, h2⟩ := c05_readNoteElems_ok { v.shared with rels := v.enRels } fuel S!"endnote" v.enElems {}
    (c05_readAll_total _ (hl' _) fuel _ he2 he3 (by omega)) he1
  obtain ⟨⟨cms, cm⟩, h3⟩ := c05_readCommentElems_ok { v.shared with rels := v.cmRels } fuel v.cmElems {}
    (c05_readAll_total _ (hl' _) fuel _ hc2 hc3 (by omega)) hc1
  obtain ⟨⟨r, st'⟩, h4⟩ := c05_readAll_total { v.shared with rels := v.bodyRels } (hl' _) fuel v.body hb1 hb2 (by omega)
  unfold c05_readView
  rw [h1]; simp only [bind, Except.bind]
  rw [h2]; simp only
  rw [h3]; simp only
  rw [h4]
  exact ⟨_, rfl⟩

/-! ### the view: references -/

/-- what the references of this package may point to: the zip entries `arch`, the notes and the comments
    the parts define -/
def c05_viewRefs (arch : List Str) (v : c05_View) : c05_Refs :=
  { arch := arch,
    notes := c05_noteKeys S!"footnote" v.fnElems ++ c05_noteKeys S!"endnote" v.enElems,
    comments := c05_commentIds v.cmElems }

/-- every reference anywhere in the nodes read resolves -/
def c05_viewRefsOk (arch : List Str) (v : c05_View) : Bool :=
  c05_xrefsL { v.shared with rels := v.fnRels } (c05_viewRefs arch v) (c05_flat v.fnElems) &&
  c05_xrefsL { v.shared with rels := v.enRels } (c05_viewRefs arch v) (c05_flat v.enElems) &&
  c05_xrefsL { v.shared with rels := v.cmRels } (c05_viewRefs arch v) (c05_flat v.cmElems) &&
  c05_xrefsL { v.shared with rels := v.bodyRels } (c05_viewRefs arch v) v.body

theorem c05_readView_refs (arch : List Str) (v : c05_View) (fuel : Nat) (doc : Document) (msgs : List Str)
    (h : c05_readView v fuel = .ok (doc, msgs)) (hx : c05_viewRefsOk arch v = true) :
    c05_docRefsOk (c05_viewRefs arch v) doc = true ∧
    (∀ k ∈ (c05_viewRefs arch v).notes, k ∈ doc.notes.map fun n => (n.ty, n.id)) ∧
    (∀ c ∈ (c05_viewRefs arch v).comments, c ∈ doc.comments.map (·.id)) := by
  simp only [c05_viewRefsOk, Bool.and_eq_true] at hx
  obtain ⟨⟨⟨hx1, hx2⟩, hx3⟩, hx4⟩ := hx
  unfold c05_readView at h
  obtain ⟨⟨fns, fm⟩, h1, h⟩ := bind_ok h
  dsimp only at h
  obtain ⟨⟨ens, em⟩, h2, h⟩ := bind_ok h
  dsimp only at h
  obtain ⟨⟨cms, cm⟩, h3, h⟩ := bind_ok h
  dsimp only at h
  obtain ⟨⟨r, st'⟩, h4, h⟩ := bind_ok h
  simp only [pure, Except.pure] at h
  cases h
  obtain ⟨a1, a2⟩ := c05_readNoteElems_rx _ (c05_viewRefs arch v) fuel _ _ {} _ h1 hx1 rfl
  obtain ⟨b1, b2⟩ := c05_readNoteElems_rx _ (c05_viewRefs arch v) fuel _ _ {} _ h2 hx2 rfl
  obtain ⟨c1, c2⟩ := c05_readCommentElems_rx _ (c05_viewRefs arch v) fuel _ {} _ h3 hx3 rfl
  obtain ⟨d1, _⟩ := c05_readAll_rx _ (c05_viewRefs arch v) fuel {} _ r st' hx4 rfl h4
  refine ⟨?_, ?_, ?_⟩
  · simp only [c05_docRefsOk, Bool.and_eq_true, List.all_eq_true]
    refine ⟨⟨d1, fun n hn => ?_⟩, fun c hc => c1 c hc⟩
    rcases List.mem_append.mp hn with hn | hn
    · exact a1 n hn
    · exact b1 n hn
  · intro k hk
    simp only [c05_viewRefs, List.mem_append] at hk
    simp only [List.map_append, List.mem_append]
    rcases hk with hk | hk
    · exact Or.inl (a2 k hk)
    · exact Or.inr (b2 k hk)
  · intro c hc
    exact c2 c hc

end Mammoth
