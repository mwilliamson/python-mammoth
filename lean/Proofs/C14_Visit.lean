/-
  C14 — the converter's visitor refines the weight specification `c14_weight` (Proofs/C14_Weight.lean):
  whatever a successful `visit` returns for a document element has exactly the specified fate under
  `strip_empty`.
-/
import Proofs.C14_Weight
import Proofs.C09_Convert
namespace Mammoth

theorem c14_openImage_result (cfg : Cfg) (src : ImageSrc) (attrs : Bytes → List (Str × Str)) :
    c14_ret (openImage cfg src >>= fun r => match r with
        | .ok bytes => pure [el S!"img" (attrs bytes) []]
        | .error msg => warn msg >>= fun _ => pure [])
      (fun nodes => (c14_readable cfg src = true ∧ ∃ a, nodes = [el S!"img" a []]) ∨
        (c14_readable cfg src = false ∧ nodes = [])) :=
  c14_ret_bind_of (c14_openImage cfg src) fun r hr => by
    cases r with
    | ok bytes => exact c14_ret_pure (.inl ⟨hr.symm, _, rfl⟩)
    | error msg => exact c14_ret_bind _ _ _ fun _ => c14_ret_pure (.inr ⟨hr.symm, rfl⟩)

theorem c14_convertImage_result (cfg : Cfg) (i : ImageProps) :
    c14_ret (convertImage cfg i) (fun nodes =>
      (c14_imageShown cfg i = true ∧ ∃ a, nodes = [el S!"img" a []]) ∨
        (c14_imageShown cfg i = false ∧ nodes = [])) := by
  unfold convertImage c14_imageShown
  refine c14_ret_bind _ _ _ fun _ => ?_
  cases cfg.imageConv with
  | dataUri => exact c14_openImage_result cfg i.src _
  | fixed attrs opens =>
    cases opens with
    | false => exact c14_ret_pure (.inl ⟨rfl, _, rfl⟩)
    | true => exact c14_openImage_result cfg i.src _

theorem c14_hasW_convertImage (cfg : Cfg) (i : ImageProps) :
    c14_hasW (convertImage cfg i) (if c14_imageShown cfg i then .full else .none) := by
  intro st ns st' h
  rcases c14_convertImage_result cfg i st ns st' h with ⟨hs, a, rfl⟩ | ⟨hs, rfl⟩
  · rw [hs, c14_weightOf_img]; rfl
  · rw [hs]; rfl

/-- below a `!` the content does not matter -/
theorem c14_wrapAll_ignore (paths : List HtmlPath) (h : paths.any HtmlPath.isIgnore = true)
    (w v : Weight) : w.wrapAll paths = v.wrapAll paths := by
  induction paths generalizing w v with
  | nil => simp at h
  | cons p ps ih =>
    cases p with
    | ignore => rfl
    | elements es =>
      have h' : ps.any HtmlPath.isIgnore = true := by simpa [HtmlPath.isIgnore] using h
      exact ih h' _ _

theorem c14_weightOf_text (s : Str) : weightOf [.text s] = if s.isEmpty then .hollow else .full := by
  cases s <;> simp [weightOf, anyContent, hasContent]

theorem c14_wrap1_nonvoid (t : Tag) (w : Weight) (h : voidTag t = false) :
    w.wrap1 t = if w = .full then .full else .hollow := by
  cases w <;> simp [Weight.wrap1, h]

theorem c14_hasW_findPathWarn (cfg : Cfg) (t : Target) (kind : Str) (sid sname : Option Str)
    (dflt : HtmlPath) (f : HtmlPath → ConvM (List Node)) (w : Weight)
    (h : c14_hasW (f (c01_path cfg t dflt)) w) :
    c14_hasW (findPathWarn cfg t kind sid sname dflt >>= f) w := by
  intro st ns st' hr
  rw [app_bind, c01_findPathWarn_run] at hr
  exact h _ ns st' hr

mutual
theorem c14_weight_visit (cfg : Cfg) (hdr : Bool) (e : Elem) :
    c14_hasW (visit cfg hdr e) (c14_weight cfg e) := by
  match e with
  | .paragraph p cs =>
    simp only [visit, c14_weight]
    refine c14_hasW_findPathWarn _ _ _ _ _ _ _ _ ?_
    cases c01_path cfg (.paragraph p) (.elements [pathElem S!"p" true]) with
    | ignore => exact c14_hasW_pure _ _ weightOf_nil
    | elements es =>
      have ih := c14_weight_visitAll cfg hdr cs
      cases cfg.ignoreEmpty with
      | true => exact c14_hasW_map _ (wrapElems es) (Weight.wrap es) _ ih (weightOf_wrapElems es)
      | false =>
        exact c14_hasW_map _ (fun c => wrapElems es (.forceWrite :: c)) (fun _ => Weight.full.wrap es) _ ih
          (fun c => by rw [weightOf_wrapElems, weightOf_cons_fw])
  | .run r cs =>
    simp only [visit, c14_weight]
    refine c14_hasW_findPathWarn _ _ _ _ _ _ _ _ ?_
    rw [← c01_runPaths]
    split
    · rename_i hany
      refine c14_hasW_pure _ _ ?_
      rw [weightOf_wrapAll, weightOf_nil]
      exact c14_wrapAll_ignore _ hany _ _
    · exact c14_hasW_map _ (wrapAll (c01_runPaths cfg r)) (Weight.wrapAll (c01_runPaths cfg r)) _
        (c14_weight_visitAll cfg hdr cs) (weightOf_wrapAll _)
  | .text s =>
    simp only [visit, c14_weight]
    exact c14_hasW_pure _ _ (c14_weightOf_text s)
  | .hyperlink l cs =>
    simp only [visit, c14_weight]
    refine c14_hasW_map _ (fun c => [cel S!"a" _ c]) (fun w => if w = .full then .full else .hollow) _
      (c14_weight_visitAll cfg hdr cs) (fun c => ?_)
    simp only [cel, weightOf_single_elem]
    exact c14_wrap1_nonvoid _ _ rfl
  | .checkbox c =>
    simp only [visit, c14_weight]
    refine c14_hasW_pure _ _ ?_
    simp only [el, weightOf_single_elem, weightOf_nil]
    rfl
  | .table sid sname rows =>
    simp only [visit, c14_weight]
    rw [← c01_path]
    cases c01_path cfg (.table sid sname) (.elements [pathElem S!"table" true]) with
    | ignore => exact c14_hasW_pure _ _ weightOf_nil
    | elements es =>
      refine c14_hasW_bind _ _ _ (fun hb => c14_hasW_pure _ _ ?_)
      rw [weightOf_wrapElems, weightOf_cons_fw, Weight.wrap_full]
  | .row hh cells =>
    simp only [visit, c14_weight]
    refine c14_hasW_bind _ _ _ (fun c => c14_hasW_pure _ _ ?_)
    simp only [el, weightOf_single_elem, weightOf_cons_fw, Weight.wrap1]
  | .cell a b vm cs =>
    simp only [visit, c14_weight]
    refine c14_hasW_bind _ _ _ (fun c => c14_hasW_pure _ _ ?_)
    simp only [el, weightOf_single_elem, weightOf_cons_fw, Weight.wrap1]
  | .brk ty =>
    simp only [visit, c14_weight]
    cases findPath cfg (.brk ty) with
    | none =>
      by_cases hl : ty = S!"line"
      · simp only [hl, beq_self_eq_true, if_true]
        refine c14_hasW_pure _ _ ?_
        simp only [weightOf_single_elem, weightOf_nil]
        rfl
      · have hb : (ty == S!"line") = false := by simpa using hl
        simp only [hb, hl, Bool.false_eq_true, if_false]
        exact c14_hasW_pure _ _ weightOf_nil
    | some p =>
      cases p with
      | ignore => exact c14_hasW_pure _ _ weightOf_nil
      | elements es => exact c14_hasW_pure _ _ (by rw [weightOf_wrapElems, weightOf_nil])
  | .tab =>
    simp only [visit, c14_weight]
    exact c14_hasW_pure _ _ rfl
  | .image i =>
    simp only [visit, c14_weight]
    exact c14_hasW_convertImage cfg i
  | .bookmark n =>
    simp only [visit, c14_weight]
    refine c14_hasW_pure _ _ ?_
    simp only [cel, weightOf_single_elem, weightOf_cons_fw, Weight.wrap1]
  | .noteRef ty id =>
    simp only [visit, c14_weight]
    refine c14_hasW_bind _ _ _ (fun _ => c14_hasW_bind _ _ _ (fun st => c14_hasW_pure _ _ ?_))
    simp [el, weightOf, anyContent, hasContent, isVoid]
  | .commentRef id =>
    simp only [visit, c14_weight]
    cases findPath cfg .commentReference with
    | none => exact c14_hasW_pure _ _ weightOf_nil
    | some p =>
      cases p with
      | ignore => exact c14_hasW_pure _ _ weightOf_nil
      | elements es =>
        cases lookupLast id (List.map (fun c => (c.id, c)) cfg.comments) with
        | none => exact c14_ret_throw _ _
        | some c =>
          refine c14_hasW_bind _ _ _ (fun st => c14_hasW_bind _ _ _ (fun _ => c14_hasW_pure _ _ ?_))
          rw [weightOf_wrapElems]
          simp [el, weightOf, anyContent, hasContent]
theorem c14_weight_visitAll (cfg : Cfg) (hdr : Bool) (es : List Elem) :
    c14_hasW (visitAll cfg hdr es) (c14_weightL cfg es) := by
  match es with
  | [] =>
    simp only [visitAll, c14_weightL]
    exact c14_hasW_pure _ _ weightOf_nil
  | e :: es =>
    simp only [visitAll, c14_weightL]
    exact c14_hasW_append _ _ _ _ (c14_weight_visit cfg hdr e) (c14_weight_visitAll cfg hdr es)
end

end Mammoth
