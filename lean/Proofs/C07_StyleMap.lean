/-
  C07 — the line splitter (`styleLines`), `unique`, and the specification of `readStyleMap`.
-/
import Proofs.C07_Lexer
import Proofs.Basics
namespace Mammoth

theorem c07_splitOnChar_ne_nil (sep : Char) (s : Str) : splitOnChar sep s ≠ [] := by
  cases s with
  | nil => simp [splitOnChar]
  | cons c cs =>
    rw [splitOnChar]
    split
    · simp
    · split <;> simp

theorem c07_splitOnChar_cons (sep c : Char) (cs : Str) :
    splitOnChar sep (c :: cs) =
      match splitOnChar sep cs with
      | [] => [[]]
      | p :: ps => if c == sep then [] :: p :: ps else (c :: p) :: ps := rfl

theorem c07_splitOnChar_no_sep (sep : Char) (s : Str) :
    ∀ p ∈ splitOnChar sep s, ∀ c ∈ p, c ≠ sep := by
  induction s with
  | nil => simp [splitOnChar]
  | cons c cs ih =>
    rw [splitOnChar]
    split
    · simp
    · rename_i p ps heq
      rw [heq] at ih
      intro q hq a ha
      by_cases hc : c = sep
      · simp only [hc, beq_self_eq_true, if_true, List.mem_cons] at hq
        rcases hq with rfl | rfl | hq
        · simp at ha
        · exact ih q (by simp) a ha
        · exact ih q (by simp [hq]) a ha
      · have : (c == sep) = false := by simpa using hc
        rw [this] at hq
        rcases List.mem_cons.mp hq with rfl | hq
        · rcases List.mem_cons.mp ha with rfl | ha
          · exact hc
          · exact ih p (by simp) a ha
        · exact ih q (by simp [hq]) a ha

/-- splitting distributes over a separator in the middle -/
theorem c07_splitOnChar_append (sep : Char) (a b : Str) :
    splitOnChar sep (a ++ sep :: b) = splitOnChar sep a ++ splitOnChar sep b := by
  induction a with
  | nil =>
    have := c07_splitOnChar_ne_nil sep b
    simp only [List.nil_append]
    cases h : splitOnChar sep b with
    | nil => exact absurd h this
    | cons p ps => rw [c07_splitOnChar_cons, h]; simp [splitOnChar]
  | cons c cs ih =>
    simp only [List.cons_append]
    rw [c07_splitOnChar_cons, ih, c07_splitOnChar_cons]
    have := c07_splitOnChar_ne_nil sep cs
    cases h : splitOnChar sep cs with
    | nil => exact absurd h this
    | cons p ps =>
      simp only [List.cons_append]
      split <;> simp

/-! ### `strip` only removes characters -/

theorem c07_mem_lstripWs (s : Str) (c : Char) (h : c ∈ lstripWs s) : c ∈ s := by
  induction s with
  | nil => simp [lstripWs] at h
  | cons a as ih =>
    rw [lstripWs] at h
    split at h
    · exact List.mem_cons_of_mem _ (ih h)
    · exact h

theorem c07_mem_strip (s : Str) (c : Char) (h : c ∈ strip s) : c ∈ s := by
  unfold strip rstripWs at h
  have h1 := c07_mem_lstripWs _ c (List.mem_reverse.mp h)
  exact c07_mem_lstripWs _ c (List.mem_reverse.mp h1)

theorem c07_styleLines_mem (text l : Str) (h : l ∈ styleLines text) :
    (∃ p ∈ splitOnChar '\n' text, l = strip p) ∧ l ≠ [] ∧ startsWith l ['#'] = false := by
  unfold styleLines at h
  simp only [List.mem_filter, List.mem_map] at h
  obtain ⟨⟨p, hp, rfl⟩, h2⟩ := h
  refine ⟨⟨p, hp, rfl⟩, ?_, ?_⟩
  · intro e; simp [e] at h2
  · simp at h2; exact h2.2

theorem c07_styleLines_append (a b : Str) :
    styleLines (a ++ '\n' :: b) = styleLines a ++ styleLines b := by
  simp [styleLines, c07_splitOnChar_append]

theorem c07_nodup_uniqueAux {α} [DecidableEq α] (xs : List α) : ∀ (seen : List α),
    (uniqueAux seen xs).Nodup := by
  induction xs with
  | nil => simp [uniqueAux]
  | cons a as ih =>
    intro seen
    rw [uniqueAux]
    split
    · exact ih seen
    · refine List.nodup_cons.mpr ⟨?_, ih _⟩
      rw [mem_uniqueAux]; simp

/-- the warnings before de-duplication: one per line that was not understood, in order -/
def c07_rawWarnings (text : Str) : List Str :=
  ((styleLines text).filter (fun l => (readStyleMapping l).isNone)).map styleWarning

theorem c07_readStyleMap_fst (text : Str) :
    (readStyleMap text).1 = (styleLines text).filterMap readStyleMapping := by
  simp [readStyleMap, List.filterMap_map, Function.comp_def]

theorem c07_readStyleMap_snd (text : Str) :
    (readStyleMap text).2 = unique (c07_rawWarnings text) := by
  simp only [readStyleMap, c07_rawWarnings, List.filterMap_map, Function.comp_def]
  congr 1
  induction styleLines text with
  | nil => rfl
  | cons l ls ih =>
    simp only [Option.isNone_iff_eq_none] at ih ⊢
    cases h : readStyleMapping l <;> simp [h, ih]

theorem c07_rawWarnings_append (a b : Str) :
    c07_rawWarnings (a ++ '\n' :: b) = c07_rawWarnings a ++ c07_rawWarnings b := by
  simp [c07_rawWarnings, c07_styleLines_append]

/-- a text without separator is one piece -/
theorem c07_splitOnChar_single (sep : Char) (p : Str) (h : ∀ c ∈ p, c ≠ sep) :
    splitOnChar sep p = [p] := by
  induction p with
  | nil => rfl
  | cons c cs ih =>
    rw [c07_splitOnChar_cons, ih (fun a ha => h a (List.mem_cons_of_mem _ ha))]
    have : (c == sep) = false := by simpa using h c (by simp)
    simp [this]

theorem c07_styleLines_single (p : Str) (h : ∀ c ∈ p, c ≠ '\n') :
    styleLines p = if !(strip p).isEmpty && !startsWith (strip p) ['#'] then [strip p] else [] := by
  simp only [styleLines, c07_splitOnChar_single '\n' p h, List.map_cons, List.map_nil, List.filter_cons,
    List.filter_nil]

theorem c07_mem_rawWarnings (text w : Str) :
    w ∈ c07_rawWarnings text ↔
      ∃ l ∈ styleLines text, readStyleMapping l = none ∧ w = styleWarning l := by
  simp only [c07_rawWarnings, List.mem_map, List.mem_filter, Option.isNone_iff_eq_none]
  constructor
  · rintro ⟨l, ⟨h1, h2⟩, rfl⟩; exact ⟨l, h1, h2, rfl⟩
  · rintro ⟨l, h1, h2, rfl⟩; exact ⟨l, ⟨h1, h2⟩, rfl⟩

end Mammoth
