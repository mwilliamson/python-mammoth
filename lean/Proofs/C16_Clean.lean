/-
  C16 — "clean documents report nothing": a sufficient, decidable cleanliness predicate on
  document elements under which the converter records no message.
-/
import Proofs.C16_Image
import Proofs.C03_Lemmas
namespace Mammoth

/-- the messages are unchanged; referenced comments only come from `cms` -/
def c16_keeps (cms : List Comment) (st st' : ConvState) : Prop :=
  st'.messages = st.messages ∧ ∀ lc ∈ st'.refComments, lc ∈ st.refComments ∨ lc.2 ∈ cms

theorem c16_keeps_refl (cms : List Comment) (st : ConvState) : c16_keeps cms st st :=
  ⟨rfl, fun _ h => Or.inl h⟩

theorem c16_keeps_trans {cms : List Comment} {a b c : ConvState}
    (h1 : c16_keeps cms a b) (h2 : c16_keeps cms b c) : c16_keeps cms a c := by
  refine ⟨h2.1.trans h1.1, fun lc h => ?_⟩
  rcases h2.2 lc h with h | h
  · exact h1.2 lc h
  · exact Or.inr h

/-- `m` records no message (and only references comments of `cms`); its result satisfies `P` -/
def c16_quietP (cms : List Comment) {α} (m : ConvM α) (P : α → Prop) : Prop :=
  ∀ st a st', m.run st = .ok (a, st') → c16_keeps cms st st' ∧ P a

abbrev c16_quiet (cms : List Comment) {α} (m : ConvM α) : Prop := c16_quietP cms m (fun _ => True)

theorem c16_quietP_pure (cms : List Comment) {α} (a : α) (P : α → Prop) (h : P a) :
    c16_quietP cms (pure a : ConvM α) P := by
  intro st b st' hr
  rw [run_pure] at hr; cases hr
  exact ⟨c16_keeps_refl _ _, h⟩

theorem c16_quiet_pure (cms : List Comment) {α} (a : α) : c16_quiet cms (pure a : ConvM α) :=
  c16_quietP_pure cms a _ trivial

theorem c16_quiet_throw (cms : List Comment) {α} (e : Err) (P : α → Prop) :
    c16_quietP cms (throw e : ConvM α) P := by
  intro st b st' h
  rw [run_throw] at h; cases h

theorem c16_quiet_bind (cms : List Comment) {α β} (m : ConvM α) (f : α → ConvM β)
    (P : α → Prop) (Q : β → Prop)
    (hm : c16_quietP cms m P) (hf : ∀ a, P a → c16_quietP cms (f a) Q) :
    c16_quietP cms (m >>= f) Q := by
  intro st b st' h
  rw [run_bind] at h
  split at h
  · rename_i a s1 hr
    have h1 := hm st a s1 hr
    have h2 := hf a h1.2 s1 b st' h
    exact ⟨c16_keeps_trans h1.1 h2.1, h2.2⟩
  · cases h

theorem c16_quiet_weaken (cms : List Comment) {α} (m : ConvM α) (P : α → Prop)
    (h : c16_quietP cms m P) : c16_quiet cms m :=
  fun st a st' hr => ⟨(h st a st' hr).1, trivial⟩

theorem c16_quiet_modify (cms : List Comment) (f : ConvState → ConvState)
    (hf : ∀ s, c16_keeps cms s (f s)) : c16_quiet cms (modify f : ConvM Unit) := by
  intro st b st' h
  rw [run_modify] at h; cases h
  exact ⟨hf st, trivial⟩

theorem c16_quiet_get (cms : List Comment) : c16_quiet cms (get : ConvM ConvState) := by
  intro st b st' h
  rw [run_get] at h; cases h
  exact ⟨c16_keeps_refl _ _, trivial⟩

/-! ### cleanliness -/

/-- a mapping matches, or there is no style id to complain about -/
def c16_styleOk (cfg : Cfg) (t : Target) (sid : Option Str) : Bool :=
  (findStyle cfg.upper cfg.styleMap t).isSome || sid.isNone

/-- the image converter does not open the image, or opening it succeeds -/
def c16_imageOk (cfg : Cfg) (i : ImageProps) : Bool :=
  (match cfg.imageConv with | .dataUri => false | .fixed _ opens => !opens) || c16_srcOk cfg i.src

mutual
def c16_clean (cfg : Cfg) : Elem → Bool
  | .paragraph p cs => c16_styleOk cfg (.paragraph p) p.styleId && c16_cleanL cfg cs
  | .run r cs => c16_styleOk cfg (.run r.styleId r.styleName) r.styleId && c16_cleanL cfg cs
  | .text _ => true
  | .hyperlink _ cs => c16_cleanL cfg cs
  | .checkbox _ => true
  | .table _ _ rows => c16_cleanL cfg rows
  | .row _ cells => c16_cleanL cfg cells
  | .cell _ _ _ cs => c16_cleanL cfg cs
  | .brk _ => true
  | .tab => true
  | .image i => c16_imageOk cfg i
  | .bookmark _ => true
  | .noteRef _ _ => true
  | .commentRef _ => true
def c16_cleanL (cfg : Cfg) : List Elem → Bool
  | [] => true
  | e :: es => c16_clean cfg e && c16_cleanL cfg es
end

theorem c16_quiet_findPathWarn (cms : List Comment) (cfg : Cfg) (t : Target) (kind : Str)
    (sid sname : Option Str) (d : HtmlPath) (h : c16_styleOk cfg t sid = true) :
    c16_quiet cms (findPathWarn cfg t kind sid sname d) := by
  intro st a st' hr
  rw [c03_findPathWarn_run] at hr; cases hr
  refine ⟨?_, trivial⟩
  unfold c16_styleOk at h
  unfold c03_warnState findPath
  cases hf : findStyle cfg.upper cfg.styleMap t with
  | some s => exact c16_keeps_refl _ _
  | none =>
    cases sid with
    | none => exact c16_keeps_refl _ _
    | some i => simp [hf] at h

theorem c16_quiet_openImage (cms : List Comment) (cfg : Cfg) (src : ImageSrc)
    (h : c16_srcOk cfg src = true) :
    c16_quietP cms (openImage cfg src) (fun r => ∃ b, r = .ok b) := by
  intro st res st1 hr
  obtain ⟨⟨t, rfl⟩, he⟩ := c16_openImage_post cfg src st res st1 hr
  rw [(c16_openError_none_iff cfg src).mpr h] at he
  refine ⟨⟨rfl, fun lc hlc => Or.inl hlc⟩, ?_⟩
  cases res with
  | ok b => exact ⟨b, rfl⟩
  | error m => cases he

theorem c16_quiet_convertImage (cms : List Comment) (cfg : Cfg) (i : ImageProps)
    (h : c16_imageOk cfg i = true) : c16_quiet cms (convertImage cfg i) := by
  unfold convertImage
  apply c16_quiet_bind _ _ _ (fun _ => True)
  · exact c16_quiet_modify _ _ (fun s => c16_keeps_refl _ _)
  · intro _ _
    unfold c16_imageOk at h
    simp only
    cases hc : cfg.imageConv with
    | dataUri =>
      simp only [hc, Bool.false_or] at h ⊢
      apply c16_quiet_bind _ _ _ _ _ (c16_quiet_openImage cms cfg i.src h)
      rintro r ⟨b, rfl⟩
      exact c16_quiet_pure _ _
    | fixed attrs opens =>
      simp only [hc] at h ⊢
      cases opens with
      | false => exact c16_quiet_pure _ _
      | true =>
        simp only [Bool.not_true, Bool.false_or, if_true] at h ⊢
        apply c16_quiet_bind _ _ _ _ _ (c16_quiet_openImage cms cfg i.src h)
        rintro r ⟨b, rfl⟩
        exact c16_quiet_pure _ _

mutual
theorem c16_quiet_visit (cfg : Cfg) (hdr : Bool) (e : Elem) (h : c16_clean cfg e = true) :
    c16_quiet cfg.comments (visit cfg hdr e) := by
  match e with
  | .paragraph p cs =>
    rw [c16_clean, Bool.and_eq_true] at h
    rw [visit]
    apply c16_quiet_bind _ _ _ (fun _ => True)
    · exact c16_quiet_findPathWarn _ _ _ _ _ _ _ h.1
    · intro path _
      cases path with
      | ignore => exact c16_quiet_pure _ _
      | elements es =>
        exact c16_quiet_bind _ _ _ _ _ (c16_quiet_visitAll cfg hdr cs h.2) (fun _ _ => c16_quiet_pure _ _)
  | .run r cs =>
    rw [c16_clean, Bool.and_eq_true] at h
    rw [visit]
    apply c16_quiet_bind _ _ _ (fun _ => True)
    · exact c16_quiet_findPathWarn _ _ _ _ _ _ _ h.1
    · intro sp _
      simp only
      split
      · exact c16_quiet_pure _ _
      · exact c16_quiet_bind _ _ _ _ _ (c16_quiet_visitAll cfg hdr cs h.2) (fun _ _ => c16_quiet_pure _ _)
  | .hyperlink _ cs | .row _ cs | .cell _ _ _ cs =>
    rw [c16_clean] at h
    rw [visit]
    exact c16_quiet_bind _ _ _ _ _ (c16_quiet_visitAll cfg hdr cs h) (fun _ _ => c16_quiet_pure _ _)
  | .table sid sname rows =>
    rw [c16_clean] at h
    rw [visit]
    simp only
    split
    · exact c16_quiet_pure _ _
    · exact c16_quiet_bind _ _ _ _ _ (c16_quiet_visitRows cfg true rows h) (fun _ _ => c16_quiet_pure _ _)
  | .brk ty =>
    rw [visit]
    split
    · exact c16_quiet_pure _ _
    · exact c16_quiet_pure _ _
    · split <;> exact c16_quiet_pure _ _
  | .image i =>
    rw [c16_clean] at h
    rw [visit]; exact c16_quiet_convertImage _ _ _ h
  | .text _ | .checkbox _ | .tab | .bookmark _ =>
    rw [visit]
    exact c16_quiet_pure _ _
  | .noteRef ty id =>
    rw [visit]
    apply c16_quiet_bind _ _ _ (fun _ => True)
    · exact c16_quiet_modify _ _ (fun _ => c16_keeps_refl _ _)
    · intro _ _
      exact c16_quiet_bind _ _ _ _ _ (c16_quiet_get _) (fun _ _ => c16_quiet_pure _ _)
  | .commentRef id =>
    rw [visit]
    split
    · exact c16_quiet_pure _ _
    · exact c16_quiet_pure _ _
    · split
      · exact c16_quiet_throw _ _ _
      · rename_i c hc
        have hmem : c ∈ cfg.comments := by
          have := lookupLast_mem hc
          rw [List.mem_map] at this
          obtain ⟨c', hc', he⟩ := this
          cases he; exact hc'
        apply c16_quiet_bind _ _ _ _ _ (c16_quiet_get _)
        intro _ _
        apply c16_quiet_bind _ _ _ (fun _ => True)
        · apply c16_quiet_modify
          intro s
          refine ⟨rfl, fun lc hlc => ?_⟩
          simp only [List.mem_append, List.mem_singleton] at hlc
          rcases hlc with hlc | hlc
          · exact Or.inl hlc
          · subst hlc; exact Or.inr hmem
        · intro _ _; exact c16_quiet_pure _ _
theorem c16_quiet_visitAll (cfg : Cfg) (hdr : Bool) (es : List Elem) (h : c16_cleanL cfg es = true) :
    c16_quiet cfg.comments (visitAll cfg hdr es) := by
  match es with
  | [] => rw [visitAll]; exact c16_quiet_pure _ _
  | e :: es =>
    rw [c16_cleanL, Bool.and_eq_true] at h
    rw [visitAll]
    apply c16_quiet_bind _ _ _ _ _ (c16_quiet_visit cfg hdr e h.1)
    intro _ _
    exact c16_quiet_bind _ _ _ _ _ (c16_quiet_visitAll cfg hdr es h.2) (fun _ _ => c16_quiet_pure _ _)
theorem c16_quiet_visitRows (cfg : Cfg) (inHead : Bool) (rs : List Elem)
    (h : c16_cleanL cfg rs = true) : c16_quiet cfg.comments (visitRows cfg inHead rs) := by
  match rs with
  | [] => rw [visitRows]; exact c16_quiet_pure _ _
  | r :: rs =>
    rw [c16_cleanL, Bool.and_eq_true] at h
    rw [visitRows]
    split
    · apply c16_quiet_bind _ _ _ _ _ (c16_quiet_visit cfg true r h.1)
      intro _ _
      exact c16_quiet_bind _ _ _ _ _ (c16_quiet_visitRows cfg true rs h.2) (fun _ _ => c16_quiet_pure _ _)
    · apply c16_quiet_bind _ _ _ _ _ (c16_quiet_visit cfg false r h.1)
      intro _ _
      exact c16_quiet_bind _ _ _ _ _ (c16_quiet_visitRows cfg false rs h.2) (fun _ _ => c16_quiet_pure _ _)
end

mutual
theorem c16_clean_comments (cfg : Cfg) (cms : List Comment) (e : Elem) :
    c16_clean { cfg with comments := cms } e = c16_clean cfg e := by
  match e with
  | .paragraph _ cs | .run _ cs =>
    rw [c16_clean, c16_clean, c16_cleanL_comments cfg cms cs]
    rfl
  | .hyperlink _ cs | .table _ _ cs | .row _ cs | .cell _ _ _ cs =>
    rw [c16_clean, c16_clean, c16_cleanL_comments cfg cms cs]
  | .image i =>
    rw [c16_clean, c16_clean]
    rfl
  | .text _ | .checkbox _ | .brk _ | .tab | .bookmark _ | .noteRef _ _ | .commentRef _ =>
    rw [c16_clean, c16_clean]
theorem c16_cleanL_comments (cfg : Cfg) (cms : List Comment) (es : List Elem) :
    c16_cleanL { cfg with comments := cms } es = c16_cleanL cfg es := by
  match es with
  | [] => rw [c16_cleanL, c16_cleanL]
  | e :: es =>
    rw [c16_cleanL, c16_cleanL, c16_clean_comments cfg cms e, c16_cleanL_comments cfg cms es]
end

/-! ### the whole document -/

theorem c16_quiet_mapMConcat (cms : List Comment) {α} (f : α → ConvM (List Node)) (xs : List α)
    (h : ∀ x ∈ xs, c16_quiet cms (f x)) : c16_quiet cms (mapMConcat f xs) := by
  induction xs with
  | nil => rw [mapMConcat]; exact c16_quiet_pure _ _
  | cons x xs ih =>
    rw [mapMConcat]
    apply c16_quiet_bind _ _ _ _ _ (h x List.mem_cons_self)
    intro _ _
    exact c16_quiet_bind _ _ _ _ _ (ih (fun y hy => h y (List.mem_cons_of_mem _ hy)))
      (fun _ _ => c16_quiet_pure _ _)

/-- what `Notes.resolve` finds: the note with the reference's (type, id), the last of several (`documents.notes`
    makes a `dict` of the list) -/
def c16_findNote (notes : List Note) (ref : Str × Str) : Option Note :=
  lookupLast ref (notes.map fun n => ((n.ty, n.id), n))

theorem c16_findNote_mem (notes : List Note) (ref : Str × Str) (n : Note)
    (h : c16_findNote notes ref = some n) : n ∈ notes := by
  obtain ⟨m, hm, he⟩ := List.mem_map.mp (lookupLast_mem h)
  cases he; exact hm

theorem c16_mapM_resolve_eq (notes : List Note) : ∀ (refs : List (Str × Str)) (l : List Note),
    refs.mapM (resolveNote notes) = .ok l → l = refs.filterMap (c16_findNote notes)
  | [], l, h => by cases h; rfl
  | ref :: refs, l, h => by
    rw [List.mapM_cons] at h
    cases hr : resolveNote notes ref with
    | error e => rw [hr] at h; cases h
    | ok n =>
      cases hl : refs.mapM (resolveNote notes) with
      | error e => rw [hr, hl] at h; cases h
      | ok l1 =>
        rw [hr, hl] at h
        cases h
        have hf : c16_findNote notes ref = some n := by
          unfold resolveNote at hr
          unfold c16_findNote
          split at hr
          · rename_i m hlk; cases hr; exact hlk
          · cases hr
        rw [List.filterMap_cons, hf, c16_mapM_resolve_eq notes refs l1 hl]

theorem c16_visitDocument_inv (cfg : Cfg) (d : Document) (st st' : ConvState) (ns : List Node)
    (h : (visitDocument cfg d).run st = .ok (ns, st')) :
    ∃ nodes st1 notes noteNodes st2 commentNodes,
      (visitAll cfg false d.children).run st = .ok (nodes, st1) ∧
      st1.noteRefs.mapM (resolveNote d.notes) = .ok notes ∧
      (mapMConcat (visitNote cfg) notes).run st1 = .ok (noteNodes, st2) ∧
      (mapMConcat (visitComment cfg) st2.refComments).run st2 = .ok (commentNodes, st') := by
  unfold visitDocument at h
  simp only [run_bind, run_get] at h
  split at h
  · rename_i nodes st1 h1
    cases hm : st1.noteRefs.mapM (resolveNote d.notes) with
    | error e => simp only [hm, run_bind, run_throw] at h; cases h
    | ok notes =>
      simp only [hm, run_bind, run_pure, run_get] at h
      split at h
      · rename_i noteNodes st2 h2
        split at h
        · rename_i commentNodes st3 h3
          cases h
          exact ⟨_, _, _, _, _, _, h1, hm, h2, h3⟩
        · cases h
      · cases h
  · cases h

/-- `convertDoc` runs the visitor with the document's comments as the comment table, from the empty state -/
theorem c16_visitDocument_quiet (cfg : Cfg) (d : Document) (st' : ConvState) (nodes : List Node)
    (hc : c16_cleanL cfg d.children = true)
    (hn : ∀ n ∈ d.notes, c16_cleanL cfg n.body = true)
    (hcm : ∀ c ∈ d.comments, c16_cleanL cfg c.body = true)
    (h : (visitDocument { cfg with comments := d.comments } d).run {} = .ok (nodes, st')) :
    st'.messages = [] := by
  have hcl := c16_cleanL_comments cfg d.comments
  obtain ⟨_, st1, notes, _, st2, _, h1, hm, h2, h3⟩ := c16_visitDocument_inv _ d {} st' nodes h
  have k1 := (c16_quiet_visitAll _ false d.children ((hcl _).trans hc) {} _ st1 h1).1
  have hnotes : ∀ n ∈ notes, n ∈ d.notes := by
    rw [c16_mapM_resolve_eq _ _ _ hm]
    intro n hmem
    obtain ⟨ref, _, hf⟩ := List.mem_filterMap.mp hmem
    exact c16_findNote_mem _ _ _ hf
  have k2 := (c16_quiet_mapMConcat d.comments (visitNote _) notes
    (fun n hmem => c16_quiet_bind _ _ _ _ _
      (c16_quiet_visitAll _ false n.body ((hcl _).trans (hn n (hnotes n hmem))))
      (fun _ _ => c16_quiet_pure _ _)) st1 _ st2 h2).1
  have k12 := c16_keeps_trans k1 k2
  -- the comments visited are those referenced so far: each is one of `d.comments`
  have k3 := (c16_quiet_mapMConcat d.comments (visitComment _) st2.refComments
    (fun lc hmem => c16_quiet_bind _ _ _ _ _
      (c16_quiet_visitAll _ false lc.2.body
        ((hcl _).trans (hcm lc.2 ((k12.2 lc hmem).elim (fun h0 => by cases h0) id))))
      (fun _ _ => c16_quiet_pure _ _)) st2 _ st' h3).1
  rw [k3.1, k12.1]

end Mammoth
