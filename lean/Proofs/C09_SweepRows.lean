/-
  C09 — the sweep over whole rows of an abstract grid: how often a cell's rowspan is incremented,
  which cells are dropped.
-/
import Proofs.C09_Sweep
namespace Mammoth

/-- the sweep over (a suffix of) one row of an abstract grid -/
def c09_sweepRow (r : Nat) (cells : c09_Row) (pos ci : Nat) (sw : Sweep) : Sweep :=
  sweepCells r (cells.map c09_toCell) pos ci sw

theorem c09_sweepRow_nil (r pos ci : Nat) (sw : Sweep) : c09_sweepRow r [] pos ci sw = sw := rfl

theorem c09_sweepRow_cons (r : Nat) (c : c09_Cell) (cs : c09_Row) (pos ci : Nat) (sw : Sweep) :
    c09_sweepRow r (c :: cs) pos ci sw
      = c09_sweepRow r cs (pos + 1) (ci + c.span) (c09_step r pos ci c.isCont sw) := rfl

theorem c09_sweepRows_cons (hdr : Nat → Bool) (r : Nat) (row : c09_Row) (rest : List c09_Row) (sw : Sweep) :
    sweepRows (c09_toElemsFrom hdr r (row :: rest)) r sw
      = sweepRows (c09_toElemsFrom hdr (r + 1) rest) (r + 1) (c09_sweepRow r row 0 0 sw) := rfl

/-- `k` is the open cell of no column except possibly `s` -/
def c09_onlyAt (sw : Sweep) (k : c09_Id) (s : Nat) : Prop := ∀ c, c09_own sw c = some k → c = s

/-! ### one step, seen from an already processed cell `k` -/

theorem c09_onlyAt_step {r pos s : Nat} {sw : Sweep} {k : c09_Id} (ci : Nat) (vm : Bool)
    (hb : c09_before k r pos) (ho : c09_onlyAt sw k s) : c09_onlyAt (c09_step r pos ci vm sw) k s := by
  intro c hc
  rw [c09_own_step] at hc
  by_cases hh : c09_hits ci vm sw = true
  · rw [if_pos hh] at hc; exact ho c hc
  · rw [if_neg hh] at hc
    by_cases hcc : c = ci
    · rw [if_pos hcc] at hc
      exact absurd (Option.some.inj hc) (c09_before_ne hb)
    · rw [if_neg hcc] at hc; exact ho c hc

theorem c09_step_other {r pos ci s : Nat} {vm : Bool} {sw : Sweep} {k : c09_Id}
    (hne : ci ≠ s) (hb : c09_before k r pos) (ho : c09_onlyAt sw k s) :
    c09_own (c09_step r pos ci vm sw) s = c09_own sw s ∧
    c09_cnt k (c09_step r pos ci vm sw).incs = c09_cnt k sw.incs ∧
    c09_onlyAt (c09_step r pos ci vm sw) k s := by
  refine ⟨?_, ?_, c09_onlyAt_step ci vm hb ho⟩
  · rw [c09_own_step]; have : s ≠ ci := fun h => hne h.symm
    simp [this]
  · rw [c09_cnt_step]
    have : ¬ (vm = true ∧ c09_own sw ci = some k) := fun h => hne (ho ci h.2)
    simp [this]

theorem c09_step_at {r pos s : Nat} {vm : Bool} {sw : Sweep} {k : c09_Id}
    (hb : c09_before k r pos) (ho : c09_onlyAt sw k s) :
    c09_cnt k (c09_step r pos s vm sw).incs
      = c09_cnt k sw.incs + (if c09_own sw s = some k ∧ vm = true then 1 else 0) ∧
    c09_onlyAt (c09_step r pos s vm sw) k s ∧
    (c09_own (c09_step r pos s vm sw) s = some k ↔ c09_own sw s = some k ∧ vm = true) := by
  refine ⟨?_, c09_onlyAt_step s vm hb ho, ?_⟩
  · rw [c09_cnt_step]
    by_cases h : vm = true ∧ c09_own sw s = some k
    · simp [h.1, h.2]
    · have : ¬ (c09_own sw s = some k ∧ vm = true) := fun h' => h ⟨h'.2, h'.1⟩
      simp [h, this]
  · rw [c09_own_step]
    by_cases hh : c09_hits s vm sw = true
    · rw [if_pos hh]
      have hv : vm = true := by simp [c09_hits] at hh; exact hh.1
      simp [hv]
    · rw [if_neg hh, if_pos rfl]
      constructor
      · intro h; exact absurd (Option.some.inj h) (c09_before_ne hb)
      · rintro ⟨h1, h2⟩; simp [c09_hits, h1, h2] at hh

/-! ### a row suffix, seen from `k` -/

theorem c09_findStart_cons_eq (c : c09_Cell) (cs : c09_Row) (ci : Nat) :
    c09_findStart (c :: cs) ci ci = some c := by simp [c09_findStart]

theorem c09_findStart_cons_ne (c : c09_Cell) (cs : c09_Row) {ci s : Nat} (h : ci ≠ s) :
    c09_findStart (c :: cs) ci s = c09_findStart cs (ci + c.span) s := by simp [c09_findStart, h]

theorem c09_hasContAtFrom_cons_eq (c : c09_Cell) (cs : c09_Row) (ci : Nat) :
    c09_hasContAtFrom (c :: cs) ci ci = c.isCont := by simp [c09_hasContAtFrom, c09_findStart]

theorem c09_hasContAtFrom_cons_ne (c : c09_Cell) (cs : c09_Row) {ci s : Nat} (h : ci ≠ s) :
    c09_hasContAtFrom (c :: cs) ci s = c09_hasContAtFrom cs (ci + c.span) s := by
  simp [c09_hasContAtFrom, c09_findStart, h]

/-- cells that start to the right of column `s` neither touch column `s` nor increment `k` -/
theorem c09_sweepRow_past (r : Nat) (cells : c09_Row) :
    ∀ (pos ci : Nat) (sw : Sweep) (k : c09_Id) (s : Nat), s < ci → c09_before k r pos → c09_onlyAt sw k s →
      c09_own (c09_sweepRow r cells pos ci sw) s = c09_own sw s ∧
      c09_cnt k (c09_sweepRow r cells pos ci sw).incs = c09_cnt k sw.incs ∧
      c09_onlyAt (c09_sweepRow r cells pos ci sw) k s := by
  induction cells with
  | nil => intro pos ci sw k s _ _ ho; exact ⟨rfl, rfl, ho⟩
  | cons c cs ih =>
    intro pos ci sw k s hlt hb ho
    rw [c09_sweepRow_cons]
    obtain ⟨h1, h2, h3⟩ := c09_step_other (vm := c.isCont) (by omega : ci ≠ s) hb ho
    obtain ⟨g1, g2, g3⟩ := ih (pos + 1) (ci + c.span) _ k s (by omega) (c09_before_succ hb) h3
    exact ⟨g1.trans h1, g2.trans h2, g3⟩

theorem c09_sweepRow_spec (r : Nat) (prev cells : c09_Row) :
    ∀ (pos ci : Nat) (sw : Sweep) (k : c09_Id) (s : Nat), c09_rowOkFrom prev cells ci = true →
      c09_before k r pos → c09_onlyAt sw k s →
      c09_cnt k (c09_sweepRow r cells pos ci sw).incs
        = c09_cnt k sw.incs + (if c09_own sw s = some k ∧ c09_hasContAtFrom cells ci s = true then 1 else 0) ∧
      c09_onlyAt (c09_sweepRow r cells pos ci sw) k s ∧
      (c09_own (c09_sweepRow r cells pos ci sw) s = some k ↔
        c09_own sw s = some k ∧ ∀ c, c09_findStart cells ci s = some c → c.isCont = true) := by
  induction cells with
  | nil =>
    intro pos ci sw k s _ _ ho
    simp [c09_sweepRow_nil, c09_hasContAtFrom, c09_findStart, ho]
  | cons c cs ih =>
    intro pos ci sw k s hok hb ho
    obtain ⟨hspan, hok'⟩ := c09_rowOk_span prev c cs ci hok
    rw [c09_sweepRow_cons]
    by_cases hcs : ci = s
    · subst hcs
      obtain ⟨h1, h2, h3⟩ := c09_step_at (vm := c.isCont) hb ho
      obtain ⟨g1, g2, g3⟩ := c09_sweepRow_past r cs (pos + 1) (ci + c.span) _ k ci (by omega)
        (c09_before_succ hb) h2
      refine ⟨?_, g3, ?_⟩
      · rw [g2, h1, c09_hasContAtFrom_cons_eq]
      · rw [g1, h3, c09_findStart_cons_eq]; simp
    · obtain ⟨h1, h2, h3⟩ := c09_step_other (vm := c.isCont) hcs hb ho
      obtain ⟨g1, g2, g3⟩ := ih (pos + 1) (ci + c.span) _ k s hok' (c09_before_succ hb) h3
      refine ⟨?_, g2, ?_⟩
      · rw [g1, h2, h1, c09_hasContAtFrom_cons_ne c cs hcs]
      · rw [g3, h1, c09_findStart_cons_ne c cs hcs]

/-! ### the rows below, seen from `k` -/

theorem c09_chain_gap (row : c09_Row) (rest : List c09_Row) (s : Nat)
    (hv : c09_validFrom row rest = true) (hn : c09_findStart row 0 s = none) : c09_chain rest s = 0 := by
  cases rest with
  | nil => rfl
  | cons row' rest' =>
    simp only [c09_chain]
    cases hc : c09_hasContAt row' s with
    | false => simp
    | true =>
      exfalso
      simp only [c09_validFrom, Bool.and_eq_true] at hv
      simp only [c09_hasContAt, c09_hasContAtFrom] at hc
      cases hf : c09_findStart row' 0 s with
      | none => simp [hf] at hc
      | some c' =>
        simp only [hf] at hc
        obtain ⟨p, hp, _⟩ := c09_rowOk_above row row' 0 s c' hv.1 hf hc
        simp [hn] at hp

/-- an already processed cell `k` that is the open cell of column `s` (and of no other) is incremented by
    the rows below exactly `chain` times -/
theorem c09_sweepRows_cnt (hdr : Nat → Bool) (rest : List c09_Row) :
    ∀ (prev : c09_Row) (r : Nat) (sw : Sweep) (k : c09_Id) (s : Nat), c09_validFrom prev rest = true →
      k.1 < r → c09_onlyAt sw k s →
      c09_cnt k (sweepRows (c09_toElemsFrom hdr r rest) r sw).incs
        = c09_cnt k sw.incs + (if c09_own sw s = some k then c09_chain rest s else 0) := by
  induction rest with
  | nil => intro prev r sw k s _ _ _; simp [c09_toElemsFrom, sweepRows, c09_chain]
  | cons row rest ih =>
    intro prev r sw k s hv hk ho
    simp only [c09_validFrom, Bool.and_eq_true] at hv
    rw [c09_sweepRows_cons]
    obtain ⟨h1, h2, h3⟩ := c09_sweepRow_spec r prev row 0 0 sw k s hv.1 (Or.inl hk) ho
    rw [ih row (r + 1) _ k s hv.2 (by omega) h2, h1]
    by_cases hown : c09_own sw s = some k
    · simp only [hown, true_and, if_true, c09_chain, c09_hasContAt]
      by_cases hc : c09_hasContAtFrom row 0 s = true
      · have : c09_own (c09_sweepRow r row 0 0 sw) s = some k := by
          rw [h3]; refine ⟨hown, ?_⟩
          intro c hf; simpa [c09_hasContAtFrom, hf] using hc
        simp [this, hc]; omega
      · by_cases hown' : c09_own (c09_sweepRow r row 0 0 sw) s = some k
        · have hall := (h3.mp hown').2
          have hn : c09_findStart row 0 s = none := by
            cases hf : c09_findStart row 0 s with
            | none => rfl
            | some c => have := hall c hf; simp [c09_hasContAtFrom, hf, this] at hc
          simp [hown', hc, c09_chain_gap row rest s hv.2 hn]
        · simp [hown', hc]
    · have : ¬ c09_own (c09_sweepRow r row 0 0 sw) s = some k := fun h => hown (h3.mp h).1
      simp [hown, this]

theorem c09_sweepRow_drops (r : Nat) (cells : c09_Row) :
    ∀ (pos ci : Nat) (sw : Sweep) (v : c09_Id),
      (v ∈ sw.drops → v ∈ (c09_sweepRow r cells pos ci sw).drops) ∧
      (v ∈ (c09_sweepRow r cells pos ci sw).drops → v ∈ sw.drops ∨ (v.1 = r ∧ pos ≤ v.2)) := by
  induction cells with
  | nil => intro pos ci sw v; exact ⟨id, Or.inl⟩
  | cons c cs ih =>
    intro pos ci sw v
    rw [c09_sweepRow_cons]
    obtain ⟨g1, g2⟩ := ih (pos + 1) (ci + c.span) (c09_step r pos ci c.isCont sw) v
    constructor
    · intro h; exact g1 ((c09_drops_step ..).mpr (Or.inl h))
    · intro h
      rcases g2 h with h | h
      · rcases (c09_drops_step ..).mp h with h | h
        · exact Or.inl h
        · right; rw [h.1]; simp
      · right; omega

theorem c09_sweepRows_drops (hdr : Nat → Bool) (rest : List c09_Row) :
    ∀ (r : Nat) (sw : Sweep) (v : c09_Id),
      (v ∈ sw.drops → v ∈ (sweepRows (c09_toElemsFrom hdr r rest) r sw).drops) ∧
      (v ∈ (sweepRows (c09_toElemsFrom hdr r rest) r sw).drops → v ∈ sw.drops ∨ r ≤ v.1) := by
  induction rest with
  | nil => intro r sw v; exact ⟨id, Or.inl⟩
  | cons row rest ih =>
    intro r sw v
    rw [c09_sweepRows_cons]
    obtain ⟨g1, g2⟩ := ih (r + 1) (c09_sweepRow r row 0 0 sw) v
    obtain ⟨d1, d2⟩ := c09_sweepRow_drops r row 0 0 sw v
    constructor
    · intro h; exact g1 (d1 h)
    · intro h
      rcases g2 h with h | h
      · rcases d2 h with h | h
        · exact Or.inl h
        · right; omega
      · right; omega

/-! ### freshness and column owners along a row -/

theorem c09_sweepRow_fresh (r : Nat) (cells : c09_Row) :
    ∀ (pos ci : Nat) (sw : Sweep), c09_Fresh sw r pos → c09_Fresh (c09_sweepRow r cells pos ci sw) (r + 1) 0 := by
  induction cells with
  | nil =>
    intro pos ci sw h
    exact h.mono (fun v hv => by unfold c09_before at *; omega)
  | cons c cs ih =>
    intro pos ci sw h
    rw [c09_sweepRow_cons]
    exact ih _ _ _ (h.step ci c.isCont)

theorem c09_own_step_some (r pos ci : Nat) (vm : Bool) (sw : Sweep) (c : Nat)
    (h : (c09_own sw c).isSome = true) : (c09_own (c09_step r pos ci vm sw) c).isSome = true := by
  rw [c09_own_step]
  by_cases hh : c09_hits ci vm sw = true
  · simpa [hh] using h
  · by_cases hc : c = ci <;> simp [hh, hc, h]

theorem c09_own_step_self (r pos ci : Nat) (vm : Bool) (sw : Sweep) :
    (c09_own (c09_step r pos ci vm sw) ci).isSome = true := by
  rw [c09_own_step]
  by_cases hh : c09_hits ci vm sw = true
  · simp only [hh, if_true]; simp [c09_hits] at hh; exact hh.2
  · simp [hh]

theorem c09_sweepRow_own_some (r : Nat) (cells : c09_Row) :
    ∀ (pos ci : Nat) (sw : Sweep) (c : Nat), (c09_own sw c).isSome = true →
      (c09_own (c09_sweepRow r cells pos ci sw) c).isSome = true := by
  induction cells with
  | nil => intro pos ci sw c h; exact h
  | cons d ds ih =>
    intro pos ci sw c h
    rw [c09_sweepRow_cons]
    exact ih _ _ _ c (c09_own_step_some r pos ci d.isCont sw c h)

/-- after a row has been swept every start column of the row has an open cell -/
theorem c09_sweepRow_owns (r : Nat) (cells : c09_Row) :
    ∀ (pos ci : Nat) (sw : Sweep) (s : Nat), (c09_findStart cells ci s).isSome = true →
      (c09_own (c09_sweepRow r cells pos ci sw) s).isSome = true := by
  induction cells with
  | nil => intro pos ci sw s h; simp [c09_findStart] at h
  | cons d ds ih =>
    intro pos ci sw s h
    rw [c09_sweepRow_cons]
    by_cases hcs : ci = s
    · subst hcs
      exact c09_sweepRow_own_some r ds _ _ _ ci (c09_own_step_self r pos ci d.isCont sw)
    · simp only [c09_findStart, hcs, if_false] at h
      exact ih _ _ _ s h

end Mammoth
