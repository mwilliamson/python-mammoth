/-
  C01, reader half — the relation between what the reader returns and the leaves of the specification
  (`c01_Sim`), and the handlers that are leaves of the traversal: they return the leaves of `c01_xmlLive`
  and leave the held-back nodes alone.
-/
import Proofs.C01_ReadAtoms
namespace Mammoth

/-- the result `r` carries the leaves `l`: in line and in the extra channel (each up to the row-span sweep) -/
def c01_Sim (nv : Bool) (r : ReadResult) (l : c01_Live) : Prop :=
  c01_Pre nv r.elements l.inline ∧ c01_Pre nv r.extra l.extra

theorem c01_Sim_mono {nv nv' : Bool} {r : ReadResult} {l : c01_Live} (hm : nv' = true → nv = true)
    (h : c01_Sim nv r l) : c01_Sim nv' r l := ⟨c01_Pre_mono hm h.1, c01_Pre_mono hm h.2⟩

theorem c01_Sim_empty (nv : Bool) : c01_Sim nv {} {} := ⟨c01_Pre_nil nv, c01_Pre_nil nv⟩

theorem c01_Sim_concat {nv : Bool} {a b : ReadResult} {la lb : c01_Live}
    (ha : c01_Sim nv a la) (hb : c01_Sim nv b lb) : c01_Sim nv (a.concat b) (la.append lb) :=
  ⟨c01_Pre_append ha.1 hb.1, c01_Pre_append ha.2 hb.2⟩

theorem c01_Sim_atoms (nv : Bool) {r : ReadResult} {ls : List c01_Leaf} (hx : r.extra = [])
    (ha : r.elements.all c01_atom = true) (hl : c01_elemLeavesL r.elements = ls) : c01_Sim nv r ⟨ls, []⟩ :=
  ⟨hl ▸ c01_Pre_atoms nv r.elements ha, hx ▸ c01_Pre_nil nv⟩

theorem c01_Sim_silent (nv : Bool) {r : ReadResult} (h : c01_silent r) : c01_Sim nv r {} :=
  c01_Sim_atoms nv h.1 h.2.1 h.2.2

theorem c01_Sim_atom (nv : Bool) (e : Elem) (h : c01_atom e = true) :
    c01_Sim nv (rrElems [e]) ⟨c01_elemLeaves e, []⟩ :=
  ⟨c01_Pre_atom nv e h, c01_Pre_nil nv⟩

theorem c01_silent_atom (e : Elem) (h : c01_atom e = true) (hl : c01_elemLeaves e = []) :
    c01_silent (rrElems [e]) :=
  ⟨rfl, by simp [rrElems, h], by simp [rrElems, hl]⟩

/-- the kind of text content each handler of the reader stands for -/
def c01_kindH : Handler → c01_Kind
  | .text => .text | .tab => .tab | .noBreakHyphen => .noBreakHyphen | .softHyphen => .softHyphen
  | .symbol => .sym | .footnoteRef => .noteRef S!"footnote" | .endnoteRef => .noteRef S!"endnote"
  | .commentRef => .commentRef | .paragraph => .paragraph | .pict => .pict | .alternateContent => .alt
  | .sdt => .sdt
  | .run | .table | .tableRow | .tableCell | .childElements | .hyperlink => .through
  | .fldChar | .instrText | .bookmarkStart | .break_ | .inline | .imagedata => .skip

theorem c01_kindOf_handlerH {name : Str} {k : Handler} (hg : handlerOf name = some k.name) :
    c01_kindOf name = c01_kindH k :=
  (c01_kindOf_handler hg).trans (by cases k <;> c05_kernel_rfl)

theorem c01_cell_vm {name : Str} {as : Attrs} {cs : List XmlNode} (hg : handlerOf name = some S!"table_cell")
    (h : c01_noVMerge (.elem name as cs) = true) : readVmerge (findChildOrNull S!"w:tcPr" cs).2 = false := by
  have hn := c01_handler_cell hg
  subst hn
  simp only [c01_noVMerge, c01_elemNoVMerge, Bool.and_eq_true] at h
  simpa using h.1

/-- kinds whose element is a leaf of the traversal: nothing below it is read as document content -/
def c01_leafKind : c01_Kind → Bool
  | .through => false
  | .paragraph => false
  | .pict => false
  | .alt => false
  | .sdt => false
  | _ => true

/-! ### elements that are leaves of the traversal -/

abbrev c01_LeafQ (nv : Bool) (st : RState) (l : c01_Live) : ReadResult × RState → Prop :=
  fun p => p.2.deleted = st.deleted ∧ c01_Sim nv p.1 l

theorem c01_spec_any {α} (x : Except Err α) : c05_spec (fun _ => True) (fun _ => True) x :=
  ⟨fun _ _ => trivial, fun _ _ => trivial⟩

theorem c01_readFldChar_silent (st : RState) (as : Attrs) (cs : List XmlNode) :
    c05_spec (fun _ => True) (fun p => p.2.deleted = st.deleted ∧ c01_silent p.1) (readFldChar st as cs) := by
  have hpop : c05_spec (fun _ => True) (fun p : ReadResult × RState => p.2.deleted = st.deleted ∧ c01_silent p.1)
      (.error (.index S!"pop from empty list")) := ⟨fun _ _ => trivial, fun _ h => nomatch h⟩
  have hemit (f : Field) (st' : RState) (hd : st'.deleted = st.deleted) :
      c05_spec (fun _ => True) (fun p : ReadResult × RState => p.2.deleted = st.deleted ∧ c01_silent p.1)
        (match f with | .checkbox c => .ok (rrElems [.checkbox c], st') | _ => .ok ({}, st')) := by
    split
    · exact c05_spec_ok _ ⟨hd, c01_silent_atom _ rfl rfl⟩
    · exact c05_spec_ok _ ⟨hd, c01_silent_empty⟩
  unfold readFldChar
  refine c05_spec_ite _ _ _ (fun _ => c05_spec_ok _ ⟨rfl, c01_silent_empty⟩) fun _ => ?_
  refine c05_spec_ite _ _ _ (fun _ => ?_) fun _ => c05_spec_ite _ _ _ (fun _ => ?_) fun _ => ?_
  · -- `end`
    split
    · exact hpop
    · exact hemit _ _ rfl
  · split
    · exact hpop
    · exact c05_spec_ok _ ⟨rfl, c01_silent_empty⟩
  · exact c05_spec_ok _ ⟨rfl, c01_silent_empty⟩

theorem c01_readHandler_leaf (env : REnv) (ra : c05_RdAll) (st : RState) {name : Str} (as : Attrs)
    (cs : List XmlNode) (k : Handler) (hk : c01_kindOf name = c01_kindH k)
    (hleaf : c01_leafKind (c01_kindH k) = true) (nv : Bool) :
    c05_spec (fun _ => True) (c01_LeafQ nv st (c01_xmlLive (.elem name as cs))) (readHandler env ra st as cs k) := by
  have hsilent {x : Except Err ReadResult} (hx : ∀ r, x = .ok r → c01_silent r) :
      c05_spec (fun _ => True) (c01_LeafQ nv st {}) (x.map (·, st)) :=
    c05_spec_map _ _ ⟨fun _ _ => trivial, hx⟩ fun _ hr => ⟨rfl, c01_Sim_silent nv hr⟩
  have hkey (l : c01_Live) : c05_spec (fun _ => True) (c01_LeafQ nv st l) (.error (.key S!"w:id")) :=
    ⟨fun _ _ => trivial, fun _ h => nomatch h⟩
  cases k with
  | run | paragraph | table | tableRow | tableCell | childElements | pict | hyperlink | alternateContent | sdt =>
    cases hleaf
  | text | tab | noBreakHyphen | softHyphen =>
    simp only [c01_xmlLive, hk, c01_kindH]
    exact c05_spec_ok _ ⟨rfl, c01_Sim_atom nv _ rfl⟩
  | symbol =>
    rw [c01_xmlLive_sym as cs hk]
    exact c05_spec_map _ _ ⟨fun _ _ => trivial, c01_readSymbol_leaves as⟩ fun _ h => ⟨rfl, c01_Sim_atoms nv h.1 h.2.1 h.2.2⟩
  | footnoteRef | endnoteRef =>
    rw [c01_xmlLive_noteRef as cs hk]
    dsimp only [readHandler, readNoteRef]
    cases attr? S!"w:id" as with
    | none => exact hkey _
    | some id => exact c05_spec_ok _ ⟨rfl, c01_Sim_atom nv _ rfl⟩
  | commentRef =>
    rw [c01_xmlLive_commentRef as cs hk]
    dsimp only [readHandler]
    cases attr? S!"w:id" as with
    | none => exact hkey _
    | some id => exact c05_spec_ok _ ⟨rfl, c01_Sim_atom nv _ rfl⟩
  | fldChar =>
    rw [c01_xmlLive_skip as cs hk]
    exact c05_spec_weaken (c01_readFldChar_silent st as cs) fun _ h => ⟨h.1, c01_Sim_silent nv h.2⟩
  | instrText => rw [c01_xmlLive_skip as cs hk]; exact c05_spec_ok _ ⟨rfl, c01_Sim_empty nv⟩
  | bookmarkStart =>
    rw [c01_xmlLive_skip as cs hk]
    dsimp only [readHandler]
    split
    · exact c05_spec_ok _ ⟨rfl, c01_Sim_empty nv⟩
    · exact c05_spec_ok _ ⟨rfl, c01_Sim_silent nv (c01_silent_atom _ rfl rfl)⟩
  | break_ =>
    rw [c01_xmlLive_skip as cs hk]
    exact c05_spec_ok _ ⟨rfl, c01_Sim_silent nv (c01_silent_break as)⟩
  | inline => rw [c01_xmlLive_skip as cs hk]; exact hsilent (c01_silent_inline env cs)
  | imagedata =>
    rw [c01_xmlLive_skip as cs hk]
    dsimp only [readHandler]
    split
    · exact c05_spec_ok _ ⟨rfl, c01_Sim_silent nv (c01_silent_msg _)⟩
    · exact hsilent (c01_silent_embedded env _ _)

theorem c01_readUnhandled_leaf {name : Str} (hg : handlerOf name = none) (st : RState) (as : Attrs)
    (cs : List XmlNode) (nv : Bool) :
    c05_spec (fun _ => True) (c01_LeafQ nv st (c01_xmlLive (.elem name as cs))) (readUnhandled name st) := by
  rw [c01_xmlLive_skip as cs (c01_kindOf_none hg), readUnhandled]
  split
  · exact c05_spec_ok _ ⟨rfl, c01_Sim_empty nv⟩
  · exact c05_spec_ok _ ⟨rfl, c01_Sim_silent nv (c01_silent_msg _)⟩

end Mammoth
