/-
  C11, from the XML — the formatting of a run read off the `w:rPr` element, written as a specification over the
  XML (independent of the reader's helper functions), and the reader half of the end-to-end theorem:
  what `readElem` makes of a `w:r` element.
-/
import Proofs.C11_Lemmas
import Proofs.C10_Fields
import Proofs.C05_ReadBody
namespace Mammoth

/-! ### looking into XML, specification style -/

/-- the child ELEMENTS of `ns` called `name`, in document order, as (attributes, children) -/
def c11x_named (name : Str) (ns : List XmlNode) : List (Attrs × List XmlNode) :=
  ns.filterMap fun n =>
    match n with
    | .elem m as cs => if m = name then some (as, cs) else none
    | .text _ => none

/-- the value of attribute `k`: that of its last occurrence in the attribute list -/
def c11x_attr (k : Str) (as : Attrs) : Option Str :=
  ((as.filter fun p => p.1 = k).getLast?).map (·.2)

/-- `w:val` of the FIRST element called `name` among `props`:
    `none` — there is no such element; `some none` — it has no `w:val`; `some (some v)` — its value -/
def c11x_propVal (name : Str) (props : List XmlNode) : Option (Option Str) :=
  (c11x_named name props).head?.map fun p => c11x_attr S!"w:val" p.1

/-- the children of the first child element called `name` (nothing if there is none) -/
def c11x_childrenOf (name : Str) (cs : List XmlNode) : List XmlNode :=
  ((c11x_named name cs).head?.map (·.2)).getD []

theorem c11x_findChild (name : Str) (ns : List XmlNode) :
    findChild name ns = (c11x_named name ns).head? := by
  induction ns with
  | nil => rfl
  | cons n ns ih =>
    cases n with
    | text s => simpa [findChild, c11x_named] using ih
    | elem m as cs =>
      by_cases h : m = name
      · simp [findChild, c11x_named, h]
      · simp only [findChild, beq_iff_eq, h, if_false, ih]
        simp [c11x_named, h]

theorem c11x_attr_eq (k : Str) (as : Attrs) : attr? k as = c11x_attr k as := by
  unfold attr? c11x_attr
  induction as with
  | nil => rfl
  | cons p as ih =>
    obtain ⟨k', v⟩ := p
    simp only [lookupLast, ih]
    by_cases h : k' = k
    · subst h
      simp only [List.filter_cons, decide_true, if_true, List.getLast?_cons]
      cases (as.filter fun p => decide (p.1 = k')).getLast? <;> simp
    · have h' : ¬ k = k' := fun e => h e.symm
      simp only [List.filter_cons, h, decide_false, Bool.false_eq_true, if_false, h']
      cases (as.filter fun p => decide (p.1 = k)).getLast? <;> simp

theorem c11x_childrenOf_eq (name : Str) (cs : List XmlNode) :
    (findChildOrNull name cs).2 = c11x_childrenOf name cs := by
  unfold findChildOrNull c11x_childrenOf
  rw [c11x_findChild]
  cases (c11x_named name cs).head? <;> rfl

theorem c11x_childAttr (name : Str) (props : List XmlNode) :
    childAttr name S!"w:val" props = (c11x_propVal name props).join := by
  unfold childAttr findChildOrNull c11x_propVal
  rw [c11x_findChild]
  cases (c11x_named name props).head? with
  | none => rfl
  | some p => simp [c11x_attr_eq]

/-! ### the formatting of a run, read off the XML property list -/

/-- an on/off property (`w:b`, `w:i`, `w:strike`, `w:caps`, `w:smallCaps`): ON iff the element is present and its
    `w:val` is not `false` / `0` (no `w:val` counts as on) -/
def c11x_toggle (name : Str) (props : List XmlNode) : Bool :=
  match c11x_propVal name props with
  | none => false
  | some none => true
  | some (some v) => decide (v ≠ S!"false" ∧ v ≠ S!"0")

/-- underline: ON iff `w:u` is present with a `w:val` that is not `false` / `0` / `none` -/
def c11x_underline (props : List XmlNode) : Bool :=
  match c11x_propVal S!"w:u" props with
  | some (some v) => decide (v ≠ S!"false" ∧ v ≠ S!"0" ∧ v ≠ S!"none")
  | _ => false

/-- highlight colour: the `w:val` of `w:highlight`, unless absent, empty or `none` -/
def c11x_highlight (props : List XmlNode) : Option Str :=
  match c11x_propVal S!"w:highlight" props with
  | some (some v) => if v = [] ∨ v = S!"none" then none else some v
  | _ => none

/-- the raw `w:val` of `w:vertAlign` -/
def c11x_vertAlign (props : List XmlNode) : Option Str := (c11x_propVal S!"w:vertAlign" props).join

/-- the id of the run style: the `w:val` of `w:rStyle` -/
def c11x_styleId (props : List XmlNode) : Option Str := (c11x_propVal S!"w:rStyle" props).join

/-- the name under which that id is defined among the character styles (none if undefined or unnamed) -/
def c11x_styleName (env : REnv) (props : List XmlNode) : Option Str :=
  match c11x_styleId props with
  | none => none
  | some sid => (lookupLast (some sid) env.styles.character).join

/-- the reader's warning about an undefined run style -/
def c11x_styleMsgs (env : REnv) (props : List XmlNode) : List Str :=
  match c11x_styleId props with
  | none => []
  | some sid =>
    match lookupLast (some sid) env.styles.character with
    | none => [S!"Run style with ID " ++ sid ++ S!" was referenced but not defined in the document"]
    | some _ => []

/-- the run properties specified by the XML property list -/
def c11x_runProps (env : REnv) (props : List XmlNode) : RunProps :=
  { styleId := c11x_styleId props, styleName := c11x_styleName env props,
    bold := c11x_toggle S!"w:b" props, italic := c11x_toggle S!"w:i" props,
    underline := c11x_underline props, strike := c11x_toggle S!"w:strike" props,
    allCaps := c11x_toggle S!"w:caps" props, smallCaps := c11x_toggle S!"w:smallCaps" props,
    vertAlign := c11x_vertAlign props, highlight := c11x_highlight props }

/-- THE FORMATTING PATHS OF A RUN, FROM ITS XML PROPERTIES, innermost first: highlight (only if a mapping matches the
    colour), small caps, all caps (mapped path, else no element), strikethrough (mapped, else `s`), underline (mapped,
    else no element), `sub` / `sup`, italic (mapped, else `em`), bold (mapped, else `strong`) -/
def c11x_formatPaths (cfg : Cfg) (props : List XmlNode) : List HtmlPath :=
  c11_highlightSpec cfg (c11x_highlight props) ++
  c11_propSpec cfg (c11x_toggle S!"w:smallCaps" props) .smallCaps none ++
  c11_propSpec cfg (c11x_toggle S!"w:caps" props) .allCaps none ++
  c11_propSpec cfg (c11x_toggle S!"w:strike" props) .strikethrough (some S!"s") ++
  c11_propSpec cfg (c11x_underline props) .underline none ++
  c11_vertSpec (c11x_vertAlign props) ++
  c11_propSpec cfg (c11x_toggle S!"w:i" props) .italic (some S!"em") ++
  c11_propSpec cfg (c11x_toggle S!"w:b" props) .bold (some S!"strong")

/-- the path of the run style: that of the first matching run mapping, else no element -/
def c11x_stylePath (env : REnv) (cfg : Cfg) (props : List XmlNode) : HtmlPath :=
  match findStyle cfg.upper cfg.styleMap (.run (c11x_styleId props) (c11x_styleName env props)) with
  | some s => s.path
  | none => .elements []

/-- all the paths of a run, innermost first -/
def c11x_paths (env : REnv) (cfg : Cfg) (props : List XmlNode) : List HtmlPath :=
  c11x_formatPaths cfg props ++ [c11x_stylePath env cfg props]

/-! ### the reader's helper functions compute these -/

theorem c11x_readBoolElem (name : Str) (props : List XmlNode) :
    readBoolElem name props = c11x_toggle name props := by
  unfold readBoolElem c11x_toggle c11x_propVal
  rw [c11x_findChild]
  cases (c11x_named name props).head? with
  | none => rfl
  | some p =>
    obtain ⟨as, cs⟩ := p
    simp only [Option.map_some, c11x_attr_eq, readBoolAttr]
    cases c11x_attr S!"w:val" as with
    | none => rfl
    | some v =>
      by_cases h1 : v = S!"false"
      · subst h1; rfl
      · by_cases h2 : v = S!"0"
        · subst h2; rfl
        · simp [h1, h2]

theorem c11x_readUnderline (props : List XmlNode) : readUnderline props = c11x_underline props := by
  unfold readUnderline c11x_underline c11x_propVal
  rw [c11x_findChild]
  cases (c11x_named S!"w:u" props).head? with
  | none => rfl
  | some p =>
    obtain ⟨as, cs⟩ := p
    simp only [Option.map_some, c11x_attr_eq]
    cases c11x_attr S!"w:val" as with
    | none => rfl
    | some v =>
      by_cases h1 : v = S!"false"
      · subst h1; rfl
      · by_cases h2 : v = S!"0"
        · subst h2; rfl
        · by_cases h3 : v = S!"none"
          · subst h3; rfl
          · simp [h1, h2, h3]

theorem c11x_readHighlight (props : List XmlNode) :
    readHighlight (childAttr S!"w:highlight" S!"w:val" props) = c11x_highlight props := by
  rw [c11x_childAttr]
  unfold readHighlight c11x_highlight
  cases c11x_propVal S!"w:highlight" props with
  | none => rfl
  | some o =>
    cases o with
    | none => rfl
    | some v =>
      simp only [Option.join]
      by_cases h1 : v = []
      · subst h1; rfl
      · by_cases h2 : v = S!"none"
        · subst h2; rfl
        · simp [h1, h2, List.isEmpty_iff]

theorem c11x_readStyle (env : REnv) (props : List XmlNode) :
    readStyle props S!"w:rStyle" S!"Run" env.styles.character =
      ((c11x_styleId props, c11x_styleName env props), c11x_styleMsgs env props) := by
  unfold readStyle c11x_styleName c11x_styleMsgs
  rw [c11x_childAttr]
  show (match c11x_styleId props with | none => _ | some sid => _) = _
  cases c11x_styleId props with
  | none => rfl
  | some sid =>
    dsimp only
    cases lookupLast (some sid) env.styles.character <;> rfl

theorem c11x_readRunProps (env : REnv) (props : List XmlNode) :
    readRunProps props (c11x_styleId props, c11x_styleName env props) = c11x_runProps env props := by
  unfold readRunProps c11x_runProps
  rw [c11x_readHighlight]
  simp only [c11x_readBoolElem, c11x_readUnderline, c11x_childAttr, c11x_vertAlign]

/-! ### the reader on `w:r` -/

/-- the run properties are those of the first `w:rPr` child -/
abbrev c11x_rPr (cs : List XmlNode) : List XmlNode := c11x_childrenOf S!"w:rPr" cs

theorem c11x_reader_run (env : REnv) (f : Nat) (st : RState) (as : Attrs) (cs : List XmlNode) :
    readElem env (f+1) st (.elem S!"w:r" as cs) =
      (readAllWith (readElem env f) st cs >>= fun p =>
        pure ({ elements := [.run (c11x_runProps env (c11x_rPr cs))
                  (match currentHyperlink p.2.stack with
                    | none => p.1.elements
                    | some kw => [.hyperlink kw p.1.elements])],
                extra := p.1.extra, messages := c11x_styleMsgs env (c11x_rPr cs) ++ p.1.messages }, p.2)) := by
  rw [c10_reader_run]
  simp only [c10_runResult, c11x_childrenOf_eq, c11x_readStyle, c11x_readRunProps]
  rfl

/-- with an open hyperlink field the elements of the children are put in a hyperlink inside the run -/
theorem c11x_read_run_field (env : REnv) (f : Nat) (st st1 : RState) (as : Attrs) (cs : List XmlNode) (r : ReadResult)
    (kw : LinkProps) (hcs : readAllWith (readElem env f) st cs = .ok (r, st1))
    (hfld : currentHyperlink st1.stack = some kw) :
    readElem env (f+1) st (.elem S!"w:r" as cs) =
      .ok ({ elements := [.run (c11x_runProps env (c11x_rPr cs)) [.hyperlink kw r.elements]], extra := r.extra,
             messages := c11x_styleMsgs env (c11x_rPr cs) ++ r.messages }, st1) := by
  rw [c11x_reader_run, hcs]
  show Except.ok _ = _
  rw [hfld]

/-- the `w:rPr` element itself reads as nothing -/
theorem c11x_read_rPr (env : REnv) (f : Nat) (st : RState) (as : Attrs) (cs : List XmlNode) :
    readElem env (f+1) st (.elem S!"w:rPr" as cs) = .ok ({}, st) :=
  (c05_readElem_unhandled env f st as cs (handlerOf_ignored _ (by decide))).trans (if_pos (by decide))

/-! ### the specified paths are the converter's -/

theorem c11_runPropPaths_eq (cfg : Cfg) (r : RunProps) :
    runPropPaths cfg r =
      c11_highlightSpec cfg r.highlight ++
      c11_propSpec cfg r.smallCaps .smallCaps none ++
      c11_propSpec cfg r.allCaps .allCaps none ++
      c11_propSpec cfg r.strike .strikethrough (some S!"s") ++
      c11_propSpec cfg r.underline .underline none ++
      c11_vertSpec r.vertAlign ++
      c11_propSpec cfg r.italic .italic (some S!"em") ++
      c11_propSpec cfg r.bold .bold (some S!"strong") := by
  unfold runPropPaths
  simp only [c11_prop_eq]
  simp only [List.append_assoc]
  rw [← List.append_assoc (if (r.vertAlign == some S!"subscript") = true then _ else _), c11_vert_eq]
  congr 1
  exact c11_highlight_eq cfg r.highlight

theorem c11x_runPropPaths (env : REnv) (cfg : Cfg) (props : List XmlNode) :
    runPropPaths cfg (c11x_runProps env props) = c11x_formatPaths cfg props :=
  c11_runPropPaths_eq cfg _

theorem c11x_stylePath_eq (env : REnv) (cfg : Cfg) (props : List XmlNode) :
    (findPath cfg (.run (c11x_runProps env props).styleId (c11x_runProps env props).styleName)).getD (.elements []) =
      c11x_stylePath env cfg props := by
  unfold findPath c11x_stylePath
  show ((findStyle cfg.upper cfg.styleMap (.run (c11x_styleId props) (c11x_styleName env props))).map _).getD _ = _
  cases findStyle cfg.upper cfg.styleMap (.run (c11x_styleId props) (c11x_styleName env props)) <;> rfl

/-! ### everything off -/

/-- NO FORMATTING: every on/off property and underline absent or switched off, no sub/superscript, highlight absent,
    `none` or not mapped, and no run-style mapping applies -/
def c11x_plain (env : REnv) (cfg : Cfg) (props : List XmlNode) : Bool :=
  !c11x_toggle S!"w:b" props && !c11x_toggle S!"w:i" props && !c11x_underline props &&
  !c11x_toggle S!"w:strike" props && !c11x_toggle S!"w:caps" props && !c11x_toggle S!"w:smallCaps" props &&
  decide (c11x_vertAlign props ≠ some S!"subscript") && decide (c11x_vertAlign props ≠ some S!"superscript") &&
  (match c11x_highlight props with
    | none => true
    | some c => (findStyle cfg.upper cfg.styleMap (.highlight c)).isNone) &&
  (findStyle cfg.upper cfg.styleMap (.run (c11x_styleId props) (c11x_styleName env props))).isNone

theorem c11x_plain_paths (env : REnv) (cfg : Cfg) (props : List XmlNode) (h : c11x_plain env cfg props = true) :
    c11x_paths env cfg props = [.elements []] := by
  unfold c11x_plain at h
  simp only [Bool.and_eq_true, Bool.not_eq_true', decide_eq_true_eq, Option.isNone_iff_eq_none] at h
  obtain ⟨⟨⟨⟨⟨⟨⟨⟨⟨hb, hi⟩, hu⟩, hs⟩, hc⟩, hsc⟩, hsub⟩, hsup⟩, hh⟩, hst⟩ := h
  have h1 : c11_highlightSpec cfg (c11x_highlight props) = [] := by
    unfold c11_highlightSpec
    cases hc : c11x_highlight props with
    | none => rfl
    | some c => rw [hc] at hh; simp only [Option.isNone_iff_eq_none] at hh; simp [hh]
  simp [c11x_paths, c11x_formatPaths, c11x_stylePath, h1, c11_propSpec, c11_vertSpec, hb, hi, hu, hs, hc, hsc,
    hsub, hsup, hst]

end Mammoth
