/-
  C01, reader half — the element reader refines `c01_xmlLiveD`, the buffer of the specification being the
  leaves of the XML nodes the reader holds back (`c01_pend`).  On trees without deleted paragraph marks
  nothing is ever held back and the two specifications agree, so there the reader returns exactly the live
  leaves of `c01_xmlLive`, up to the row-span sweep of tables.
-/
import Proofs.C01_ReadLeaves
import Proofs.C01_XmlDefer
import Proofs.ReaderObs
namespace Mammoth

/-! ### equations of the specification, by kind -/

section
variable {name : Str} (b : c01_Buf) (as : Attrs) (cs : List XmlNode)

theorem c01_xmlLiveD_leaf (h : c01_leafKind (c01_kindOf name) = true) :
    c01_xmlLiveD b (.elem name as cs) = ⟨c01_xmlLive (.elem name as cs), b⟩ := by
  simp only [c01_xmlLiveD]
  split <;> simp_all [c01_leafKind]
theorem c01_xmlLiveD_through (h : c01_kindOf name = .through) :
    c01_xmlLiveD b (.elem name as cs) = c01_xmlLiveDL b cs := by simp [c01_xmlLiveD, h]
theorem c01_xmlLiveD_paragraph (h : c01_kindOf name = .paragraph) :
    c01_xmlLiveD b (.elem name as cs) =
      if c01_delMark cs then
        ⟨{}, c01_bufCons ((c01_bufHead b).append (c01_xmlLiveDL (c01_bufTail b) cs).live) (c01_xmlLiveDL (c01_bufTail b) cs).buf⟩
      else
        ⟨⟨((c01_bufHead b).append (c01_xmlLiveDL (c01_bufTail b) cs).live).inline ++
            ((c01_bufHead b).append (c01_xmlLiveDL (c01_bufTail b) cs).live).extra, []⟩,
          (c01_xmlLiveDL (c01_bufTail b) cs).buf⟩ := by
  simp [c01_xmlLiveD, h]
theorem c01_xmlLiveD_pict (h : c01_kindOf name = .pict) :
    c01_xmlLiveD b (.elem name as cs) =
      ⟨⟨[], (c01_xmlLiveDL b cs).live.extra ++ (c01_xmlLiveDL b cs).live.inline⟩, (c01_xmlLiveDL b cs).buf⟩ := by
  simp [c01_xmlLiveD, h]
theorem c01_xmlLiveD_alt (h : c01_kindOf name = .alt) :
    c01_xmlLiveD b (.elem name as cs) = c01_xmlLiveDL b (findChildOrNull S!"mc:Fallback" cs).2 := by
  simp [c01_xmlLiveD, h, c01_xmlLiveDIn_eq]
theorem c01_xmlLiveD_sdt (h : c01_kindOf name = .sdt) :
    c01_xmlLiveD b (.elem name as cs) =
      if c01_isCheckboxSdt cs then ⟨{}, b⟩ else c01_xmlLiveDL b (findChildOrNull S!"w:sdtContent" cs).2 := by
  simp [c01_xmlLiveD, h, c01_xmlLiveDIn_eq]
end

/-- a paragraph that opens with the nodes `ds` held back: traversing `ds ++ cs` from the empty buffer is
    taking level 0 of `c01_pend ds` and traversing `cs` with the deeper levels -/
theorem c01_pend_key (ds cs : List XmlNode) :
    (c01_xmlLiveDL [] (ds ++ cs)).live =
        (c01_bufHead (c01_pend ds)).append (c01_xmlLiveDL (c01_bufTail (c01_pend ds)) cs).live ∧
    (c01_xmlLiveDL [] (ds ++ cs)).buf = (c01_xmlLiveDL (c01_bufTail (c01_pend ds)) cs).buf := by
  rw [c01_xmlLiveDL_append]
  unfold c01_pend
  rw [c01_bufHead_cons, c01_bufTail_cons]
  exact ⟨rfl, rfl⟩

/-! ### the refinement statement -/

/-- starting in state `st`, the reader returned `r` and ended in `st'`; the specification, started with
    the buffer that stands for `st.deleted`, returned `s`:
    `r` carries the leaves of `s`, and the buffer of `s` stands for `st'.deleted` -/
structure c01_P2 (st : RState) (nvn : Bool) (s : c01_LiveD) (r : ReadResult) (st' : RState) : Prop where
  sim : c01_Sim (c01_noVMergeL st.deleted && nvn) r s.live
  buf : c01_pend st'.deleted = s.buf
  nv : (c01_noVMergeL st.deleted && nvn) = true → c01_noVMergeL st'.deleted = true

theorem c01_nv_mono {d nvn nvn' : Bool} (hm : nvn' = true → nvn = true) : (d && nvn') = true → (d && nvn) = true := by
  intro h; simp only [Bool.and_eq_true] at h ⊢; exact ⟨h.1, hm h.2⟩

theorem c01_P2_mono {st : RState} {nvn nvn' : Bool} {s : c01_LiveD} {r : ReadResult} {st' : RState}
    (hm : nvn' = true → nvn = true) (h : c01_P2 st nvn s r st') : c01_P2 st nvn' s r st' :=
  ⟨c01_Sim_mono (c01_nv_mono hm) h.sim, h.buf, fun hv => h.nv (c01_nv_mono hm hv)⟩

abbrev c01_Q (st : RState) (n : XmlNode) (p : ReadResult × RState) : Prop :=
  c01_P2 st (c01_noVMerge n) (c01_xmlLiveD (c01_pend st.deleted) n) p.1 p.2

abbrev c01_QL (st : RState) (ns : List XmlNode) (p : ReadResult × RState) : Prop :=
  c01_P2 st (c01_noVMergeL ns) (c01_xmlLiveDL (c01_pend st.deleted) ns) p.1 p.2

theorem c01_P2_leaf {st : RState} {nvn : Bool} {l : c01_Live} {p : ReadResult × RState}
    (h : c01_LeafQ (c01_noVMergeL st.deleted && nvn) st l p) : c01_P2 st nvn ⟨l, c01_pend st.deleted⟩ p.1 p.2 :=
  ⟨h.2, by rw [h.1], fun hv => by rw [h.1]; exact (Bool.and_eq_true_iff.mp hv).1⟩

/-- one element, given the reader for lists of children -/
theorem c01_readHandler_liveD (env : REnv) (ra : c05_RdAll)
    (ih : ∀ st ns, c05_spec (fun _ => True) (c01_QL st ns) (ra st ns))
    (st : RState) {name : Str} (as : Attrs) (cs : List XmlNode) (k : Handler) (hg : handlerOf name = some k.name) :
    c05_spec (fun _ => True) (c01_Q st (.elem name as cs)) (readHandler env ra st as cs k) := by
  unfold c01_Q
  have hk := c01_kindOf_handlerH hg
  have hnvc : c01_noVMerge (.elem name as cs) = true → c01_noVMergeL cs = true := fun h => by
    simp only [c01_noVMerge, Bool.and_eq_true] at h; exact h.2
  have hcs := c05_spec_weaken (ih st cs) fun _ hp => c01_P2_mono hnvc hp
  have hin (c : Str) := c05_spec_weaken (ih st (findChildOrNull c cs).2) fun _ hp =>
    c01_P2_mono (fun hv => c01_noVMergeL_findChild c cs (hnvc hv)) hp
  cases k with
  | text | fldChar | instrText | tab | noBreakHyphen | softHyphen | symbol | bookmarkStart | break_ | inline
  | imagedata | footnoteRef | endnoteRef | commentRef =>
    rw [c01_xmlLiveD_leaf _ as cs (by rw [hk]; rfl)]
    exact c05_spec_weaken (c01_readHandler_leaf env ra st as cs _ hk rfl _) fun _ => c01_P2_leaf
  | run =>
    rw [c01_xmlLiveD_through _ as cs hk]
    refine c05_spec_bind _ _ hcs fun p hp => c05_spec_pure _ ⟨⟨c01_Pre_run _ ?_, hp.sim.2⟩, hp.buf, hp.nv⟩
    split
    · exact hp.sim.1
    · exact c01_Pre_hyperlink _ hp.sim.1
  | table =>
    rw [c01_xmlLiveD_through _ as cs hk]
    exact c05_spec_bind _ _ hcs fun _ hp => c05_spec_pure _ ⟨⟨c01_Pre_table _ _ hp.sim.1, hp.sim.2⟩, hp.buf, hp.nv⟩
  | tableRow =>
    rw [c01_xmlLiveD_through _ as cs hk]
    exact c05_spec_bind _ _ hcs fun _ hp => c05_spec_pure _ ⟨⟨c01_Pre_row _ hp.sim.1, hp.sim.2⟩, hp.buf, hp.nv⟩
  | tableCell =>
    rw [c01_xmlLiveD_through _ as cs hk, readHandler_tableCell]
    refine c05_spec_bind _ _ (c01_spec_any _) fun _ _ => c05_spec_bind _ _ hcs fun _ hp => c05_spec_pure _ ?_
    exact ⟨⟨c01_Pre_cell _ _ _ (fun hv => c01_cell_vm hg (Bool.and_eq_true_iff.mp hv).2) hp.sim.1, hp.sim.2⟩,
      hp.buf, hp.nv⟩
  | childElements => rw [c01_xmlLiveD_through _ as cs hk]; exact hcs
  | pict =>
    rw [c01_xmlLiveD_pict _ as cs hk]
    exact c05_spec_bind _ _ hcs fun _ hp =>
      c05_spec_pure _ ⟨⟨c01_Pre_nil _, c01_Pre_append hp.sim.2 hp.sim.1⟩, hp.buf, hp.nv⟩
  | hyperlink =>
    rw [c01_xmlLiveD_through _ as cs hk]
    refine c05_spec_bind _ _ hcs fun p hp => ?_
    have hl (lp : LinkProps) : c01_P2 st (c01_noVMerge (.elem name as cs)) (c01_xmlLiveDL (c01_pend st.deleted) cs)
        { p.1 with elements := [.hyperlink lp p.1.elements] } p.2 :=
      ⟨⟨c01_Pre_hyperlink _ hp.sim.1, hp.sim.2⟩, hp.buf, hp.nv⟩
    dsimp only
    split
    · exact c05_spec_bind _ _ (c01_spec_any _) fun _ _ => c05_spec_pure _ (hl _)
    · split
      · exact c05_spec_pure _ (hl _)
      · exact c05_spec_pure _ hp
  | alternateContent => rw [c01_xmlLiveD_alt _ as cs hk]; exact hin _
  | sdt =>
    rw [c01_xmlLiveD_sdt _ as cs hk]
    unfold c01_isCheckboxSdt
    dsimp only [readHandler]
    cases findChild S!"wordml:checkbox" (findChildOrNull S!"w:sdtPr" cs).2 with
    | some _ => exact c05_spec_ok _ (c01_P2_leaf ⟨rfl, c01_Sim_silent _ (c01_silent_atom _ rfl rfl)⟩)
    | none => exact hin _
  | paragraph =>
    rw [c01_xmlLiveD_paragraph _ as cs hk]
    have key := c01_pend_key st.deleted cs
    have hall : (c01_noVMergeL st.deleted && c01_noVMerge (.elem name as cs)) = true →
        c01_noVMergeL (st.deleted ++ cs) = true := fun hv => by
      rw [c01_noVMergeL_append, (Bool.and_eq_true_iff.mp hv).1, hnvc (Bool.and_eq_true_iff.mp hv).2]; rfl
    unfold c01_delMark
    dsimp only [readHandler]
    split
    · -- the mark is deleted: the content joins the held-back nodes
      refine c05_spec_ok _ ⟨c01_Sim_empty _, ?_, hall⟩
      show c01_pend (st.deleted ++ cs) = _
      rw [← key.1, ← key.2]; rfl
    · refine c05_spec_bind _ _ (ih _ _) fun p hp => c05_spec_bind _ _ (c01_spec_any _) fun _ _ => c05_spec_pure _ ?_
      have hsim := c01_Sim_mono hall hp.sim
      have hbuf := hp.buf
      rw [show c01_pend ({ st with deleted := [] } : RState).deleted = [] from c01_pend_nil, key.1] at hsim
      rw [show c01_pend ({ st with deleted := [] } : RState).deleted = [] from c01_pend_nil, key.2] at hbuf
      exact ⟨⟨c01_Pre_append (a := [_]) (c01_Pre_paragraph _ hsim.1) hsim.2, c01_Pre_nil _⟩, hbuf,
        fun hv => hp.nv (hall hv)⟩

theorem c01_closed (env : REnv) : c05_Closed env (fun _ => True) c01_Q c01_QL where
  fuel := trivial
  nil st := by
    dsimp only [c01_QL]
    rw [c01_xmlLiveDL_nil]
    exact c01_P2_leaf (p := ({}, st)) ⟨rfl, c01_Sim_empty _⟩
  text st s := by
    dsimp only [c01_Q]
    rw [c01_xmlLiveD_text]
    exact c01_P2_leaf (p := ({}, st)) ⟨rfl, c01_Sim_empty _⟩
  skip st s ns p h := by
    dsimp only [c01_QL] at h ⊢
    rw [c01_xmlLiveDL_cons, c01_xmlLiveD_text]
    simpa [c01_noVMergeL, c01_noVMerge] using h
  cons st name as cs ns a b p1 p2 := by
    dsimp only [c01_Q, c01_QL] at p1 p2 ⊢
    rw [c01_xmlLiveDL_cons]
    rw [p1.buf] at p2
    have hv : (c01_noVMergeL st.deleted && c01_noVMergeL (.elem name as cs :: ns)) = true →
        (c01_noVMergeL st.deleted && c01_noVMerge (.elem name as cs)) = true ∧
        (c01_noVMergeL a.2.deleted && c01_noVMergeL ns) = true := by
      intro hv
      simp only [c01_noVMergeL, Bool.and_eq_true] at hv
      have h1' : (c01_noVMergeL st.deleted && c01_noVMerge (.elem name as cs)) = true := by
        rw [hv.1, hv.2.1]; rfl
      exact ⟨h1', by rw [p1.nv h1', hv.2.2]; rfl⟩
    exact ⟨c01_Sim_concat (c01_Sim_mono (fun h' => (hv h').1) p1.sim) (c01_Sim_mono (fun h' => (hv h').2) p2.sim),
      p2.buf, fun h' => p2.nv (hv h').2⟩
  unhandled st name as cs hg := by
    unfold c01_Q
    rw [c01_xmlLiveD_leaf _ as cs (by rw [c01_kindOf_none hg]; rfl)]
    exact c05_spec_weaken (c01_readUnhandled_leaf hg st as cs _) fun _ => c01_P2_leaf
  handler ra ih st name as cs h hg := by
    obtain ⟨k, rfl⟩ := handlerOf_known hg
    rw [readNamed_name]
    exact c01_readHandler_liveD env ra ih st as cs k hg

theorem c01_readElem_liveD (env : REnv) :
    ∀ (f : Nat) (st : RState) (n : XmlNode) (r : ReadResult) (st' : RState),
      readElem env f st n = .ok (r, st') →
      c01_P2 st (c01_noVMerge n) (c01_xmlLiveD (c01_pend st.deleted) n) r st' :=
  fun f st n _ _ h => (c05_readElem_closed (c01_closed env) f st n).ok _ h

/-- `read_all` -/
theorem c01_readAll_liveD (env : REnv) (f : Nat) (st : RState) (ns : List XmlNode) (r : ReadResult) (st' : RState)
    (h : readAll env f st ns = .ok (r, st')) :
    c01_P2 st (c01_noVMergeL ns) (c01_xmlLiveDL (c01_pend st.deleted) ns) r st' :=
  (c05_readAll_closed (c01_closed env) f st ns).ok _ h

/-! ### without deleted marks the two specifications agree -/

theorem c01_delMark_noDel {name : Str} {cs : List XmlNode} (hk : c01_kindOf name = .paragraph)
    (h : c05_elemNoDel name cs = true) : c01_delMark cs = false := by
  cases hg : handlerOf name with
  | none => rw [c01_kindOf_none hg] at hk; cases hk
  | some g =>
    obtain ⟨k, rfl⟩ := handlerOf_known hg
    rw [c01_kindOf_handlerH hg] at hk
    cases k with
    | paragraph =>
      unfold c05_elemNoDel at h
      rw [hg] at h
      simpa [c01_delMark, Handler.name] using h
    | _ => cases hk

mutual
theorem c01_xmlLiveD_noDel (n : XmlNode) (h : c05_noDel n = true) :
    c01_xmlLiveD [] n = ⟨c01_xmlLive n, []⟩ := by
  match n with
  | .text s => simp
  | .elem name as cs =>
    simp only [c05_noDel, Bool.and_eq_true] at h
    have ih := c01_xmlLiveDL_noDel cs h.2
    by_cases hleaf : c01_leafKind (c01_kindOf name) = true
    · exact c01_xmlLiveD_leaf _ as cs hleaf
    · cases hk : c01_kindOf name with
      | through => rw [c01_xmlLiveD_through _ as cs hk, c01_xmlLive_through as cs hk, ih]
      | paragraph =>
        rw [c01_xmlLiveD_paragraph _ as cs hk, c01_xmlLive_paragraph as cs hk, c01_delMark_noDel hk h.1]
        simp [ih]
      | pict => rw [c01_xmlLiveD_pict _ as cs hk, c01_xmlLive_pict as cs hk, ih]
      | alt =>
        simp only [c01_xmlLiveD, c01_xmlLive, hk]
        exact c01_xmlLiveDIn_noDel _ cs h.2
      | sdt =>
        simp only [c01_xmlLiveD, c01_xmlLive, hk]
        split
        · rfl
        · exact c01_xmlLiveDIn_noDel _ cs h.2
      | _ => rw [hk] at hleaf; exact absurd rfl hleaf
theorem c01_xmlLiveDL_noDel (ns : List XmlNode) (h : c05_noDelL ns = true) :
    c01_xmlLiveDL [] ns = ⟨c01_xmlLiveL ns, []⟩ := by
  match ns with
  | [] => simp
  | n :: ns =>
    simp only [c05_noDelL, Bool.and_eq_true] at h
    rw [c01_xmlLiveDL_cons, c01_xmlLiveD_noDel n h.1, c01_xmlLiveDL_noDel ns h.2, c01_xmlLiveL_cons]
theorem c01_xmlLiveDIn_noDel (child : Str) (ns : List XmlNode) (h : c05_noDelL ns = true) :
    c01_xmlLiveDIn child [] ns = ⟨c01_xmlLiveIn child ns, []⟩ := by
  match ns with
  | [] => simp [c01_xmlLiveDIn, c01_xmlLiveIn]
  | .text s :: rest =>
    simp only [c05_noDelL, Bool.and_eq_true] at h
    simp only [c01_xmlLiveDIn, c01_xmlLiveIn]
    exact c01_xmlLiveDIn_noDel child rest h.2
  | .elem n as cs :: rest =>
    simp only [c05_noDelL, c05_noDel, Bool.and_eq_true] at h
    simp only [c01_xmlLiveDIn, c01_xmlLiveIn]
    split
    · exact c01_xmlLiveDL_noDel cs h.1.2
    · exact c01_xmlLiveDIn_noDel child rest h.2
end

/-- one element, given the reader for lists of children -/
theorem c01_readHandler_noDefer (env : REnv) (ra : c05_RdAll)
    (ih : ∀ st ns, st.deleted = [] → c05_noDelL ns = true →
      c05_spec (fun _ => True) (fun p => p.2.deleted = []) (ra st ns))
    (st : RState) {name : Str} (as : Attrs) (cs : List XmlNode) (k : Handler) (hk : c01_kindOf name = c01_kindH k)
    (hdel : st.deleted = []) (hnd : c05_elemNoDel name cs = true) (hncs : c05_noDelL cs = true) :
    c05_spec (fun _ => True) (fun p => p.2.deleted = []) (readHandler env ra st as cs k) := by
  have hcs := ih st cs hdel hncs
  cases k with
  | text | fldChar | instrText | tab | noBreakHyphen | softHyphen | symbol | bookmarkStart | break_ | inline
  | imagedata | footnoteRef | endnoteRef | commentRef =>
    exact c05_spec_weaken (c01_readHandler_leaf env ra st as cs _ hk rfl true) fun _ h => h.1.trans hdel
  | run | table | tableRow | pict => exact c05_spec_bind _ _ hcs fun _ h => c05_spec_pure _ h
  | tableCell =>
    rw [readHandler_tableCell]
    exact c05_spec_bind _ _ (c01_spec_any _) fun _ _ => c05_spec_bind _ _ hcs fun _ h => c05_spec_pure _ h
  | childElements => exact hcs
  | hyperlink =>
    refine c05_spec_bind _ _ hcs fun _ h => ?_
    dsimp only
    split
    · exact c05_spec_bind _ _ (c01_spec_any _) fun _ _ => c05_spec_pure _ h
    · split <;> exact c05_spec_pure _ h
  | alternateContent => exact ih _ _ hdel (c05_noDelL_findChild _ cs hncs)
  | sdt =>
    dsimp only [readHandler]
    split
    · exact c05_spec_ok _ hdel
    · exact ih _ _ hdel (c05_noDelL_findChild _ cs hncs)
  | paragraph =>
    have hm := c01_delMark_noDel hk hnd
    unfold c01_delMark at hm
    dsimp only [readHandler]
    rw [hm, if_neg Bool.false_ne_true, hdel]
    exact c05_spec_bind _ _ (ih _ _ rfl hncs) fun _ h =>
      c05_spec_bind _ _ (c01_spec_any _) fun _ _ => c05_spec_pure _ h

abbrev c01_QN (st : RState) (n : XmlNode) (p : ReadResult × RState) : Prop :=
  st.deleted = [] → c05_noDel n = true → p.2.deleted = []

abbrev c01_QNL (st : RState) (ns : List XmlNode) (p : ReadResult × RState) : Prop :=
  st.deleted = [] → c05_noDelL ns = true → p.2.deleted = []

theorem c01_seqN : c05_Seq c01_QN c01_QNL where
  nil _ hd _ := hd
  skip _ _ _ _ h hd hn := h hd (Bool.and_eq_true_iff.mp hn).2
  cons _ _ _ _ _ _ _ h1 h2 hd hn :=
    h2 (h1 hd (Bool.and_eq_true_iff.mp hn).1) (Bool.and_eq_true_iff.mp hn).2

theorem c01_closedN (env : REnv) : c05_Closed env (fun _ => True) c01_QN c01_QNL where
  toc05_Seq := c01_seqN
  fuel := trivial
  text _ _ hd _ := hd
  unhandled st name as cs hg :=
    c05_spec_weaken (c01_readUnhandled_leaf hg st as cs true) fun _ h hd _ => h.1.trans hd
  handler ra ih st name as cs h hg := by
    obtain ⟨k, rfl⟩ := handlerOf_known hg
    rw [readNamed_name]
    refine c05_spec_imp fun hd => c05_spec_imp fun hn => ?_
    simp only [c05_noDel, Bool.and_eq_true] at hn
    exact c01_readHandler_noDefer env ra (fun st ns hd hn => c05_spec_weaken (ih st ns) fun _ h => h hd hn)
      st as cs k (c01_kindOf_handlerH hg) hd hn.1 hn.2

theorem c01_readAllWith_noDefer (rd : c05_Rd)
    (hrd : ∀ st n, st.deleted = [] → c05_noDel n = true →
      c05_spec (fun _ => True) (fun p => p.2.deleted = []) (rd st n)) :
    ∀ (ns : List XmlNode) (st : RState), st.deleted = [] → c05_noDelL ns = true →
      c05_spec (fun _ => True) (fun p => p.2.deleted = []) (readAllWith rd st ns) :=
  fun ns st hd hn => c05_spec_weaken (c05_readAllWith_seq c01_seqN rd
    (fun st n => c05_spec_imp fun hd => c05_spec_imp fun hn => hrd st n hd hn) ns st) fun _ h => h hd hn

theorem c01_readElem_noDefer (env : REnv) : ∀ (f : Nat) (st : RState) (n : XmlNode),
    st.deleted = [] → c05_noDel n = true → c05_spec (fun _ => True) (fun p => p.2.deleted = []) (readElem env f st n) :=
  fun f st n hd hn => c05_spec_weaken (c05_readElem_closed (c01_closedN env) f st n) fun _ h => h hd hn

end Mammoth
