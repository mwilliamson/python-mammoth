/-
  `strip_empty` characterised as pruning by a content predicate.
-/
import Proofs.HtmlText
namespace Mammoth

mutual
/-- a node has content: non-empty text, a force-write marker, a void element without children,
    or an element with some contentful child -/
def hasContent : Node → Bool
  | .text s => !s.isEmpty
  | .forceWrite => true
  | .elem t cs => isVoid t cs || anyContent cs
def anyContent : List Node → Bool
  | [] => false
  | c :: cs => hasContent c || anyContent cs
end

mutual
/-- keep exactly the contentful nodes, recursively -/
def pruneNode : Node → Node
  | .elem t cs => .elem t (prune cs)
  | n => n
def prune : List Node → List Node
  | [] => []
  | c :: cs => if hasContent c then pruneNode c :: prune cs else prune cs
end

theorem anyContent_append (a b : List Node) : anyContent (a ++ b) = (anyContent a || anyContent b) := by
  induction a with
  | nil => simp [anyContent]
  | cons x xs ih => simp [anyContent, ih, Bool.or_assoc]

theorem isVoid_nonempty (t : Tag) (c : Node) (cs : List Node) : isVoid t (c :: cs) = false := by
  simp [isVoid]

theorem prune_isEmpty (ns : List Node) : (prune ns).isEmpty = !anyContent ns := by
  induction ns with
  | nil => rfl
  | cons c cs ih => cases h : hasContent c <;> simp [prune, anyContent, h, ih]

mutual
theorem stripNode_eq (n : Node) : stripNode n = if hasContent n then [pruneNode n] else [] := by
  match n with
  | .text s => by_cases h : s.isEmpty <;> simp [stripNode, hasContent, pruneNode, h]
  | .forceWrite => simp [stripNode, hasContent, pruneNode]
  | .elem t cs =>
    unfold stripNode
    simp only [hasContent, pruneNode]
    rw [stripList_eq cs, prune_isEmpty]
    by_cases hv : isVoid t cs = true <;> by_cases ha : anyContent cs = true <;> simp [hv, ha]
theorem stripList_eq (ns : List Node) : stripList ns = prune ns := by
  match ns with
  | [] => simp [stripList, prune]
  | c :: cs =>
    unfold stripList prune
    rw [stripNode_eq c, stripList_eq cs]
    by_cases h : hasContent c = true <;> simp [h]
end

theorem stripList_isEmpty (ns : List Node) : (stripList ns).isEmpty = !anyContent ns := by
  rw [stripList_eq, prune_isEmpty]

/-! ### nothing empty survives -/
mutual
/-- every element (at any depth) is void-and-childless or has a contentful child -/
def allContent : Node → Bool
  | .elem t cs => hasContent (.elem t cs) && allContentL cs
  | n => hasContent n
def allContentL : List Node → Bool
  | [] => true
  | c :: cs => allContent c && allContentL cs
end

mutual
theorem hasContent_pruneNode (n : Node) (h : hasContent n = true) : hasContent (pruneNode n) = true := by
  match n with
  | .text s => simpa [pruneNode] using h
  | .forceWrite => simp [pruneNode, hasContent]
  | .elem t cs =>
    simp only [pruneNode, hasContent, Bool.or_eq_true] at h ⊢
    cases h with
    | inl hv =>
      left
      cases cs with
      | nil => simpa [prune] using hv
      | cons c cs => rw [isVoid_nonempty] at hv; cases hv
    | inr ha => right; exact anyContent_prune cs ha
theorem anyContent_prune (ns : List Node) (h : anyContent ns = true) : anyContent (prune ns) = true := by
  match ns with
  | [] => simp [anyContent] at h
  | c :: cs =>
    simp only [anyContent, Bool.or_eq_true] at h
    unfold prune
    by_cases hc : hasContent c = true
    · simp only [hc, if_true, anyContent, Bool.or_eq_true]
      left; exact hasContent_pruneNode c hc
    · simp only [hc]
      cases h with
      | inl h1 => exact absurd h1 hc
      | inr h2 => simpa using anyContent_prune cs h2
end

mutual
theorem allContent_pruneNode (n : Node) (h : hasContent n = true) : allContent (pruneNode n) = true := by
  match n with
  | .text s => simpa [pruneNode, allContent] using h
  | .forceWrite => simp [pruneNode, allContent, hasContent]
  | .elem t cs =>
    have h1 := hasContent_pruneNode (.elem t cs) h
    simp only [pruneNode] at h1
    simp only [pruneNode, allContent, Bool.and_eq_true]
    exact ⟨h1, allContentL_prune cs⟩
theorem allContentL_prune (ns : List Node) : allContentL (prune ns) = true := by
  match ns with
  | [] => simp [prune, allContentL]
  | c :: cs =>
    unfold prune
    by_cases hc : hasContent c = true
    · simp only [hc, if_true, allContentL, Bool.and_eq_true]
      exact ⟨allContent_pruneNode c hc, allContentL_prune cs⟩
    · simp only [hc]
      simpa using allContentL_prune cs
end

end Mammoth
