/-
  C16, converter half — the specification of the converter's messages.

  `c16_cevs cfg e` lists, by recursion over the document tree, what the converter records while visiting
  `e`, in order: the warnings ("Unrecognised paragraph/run style …" when no mapping matches an element that
  has a style id; the warning of `Image.open` for an image that cannot be opened), the note references and
  the (enabled) comment references.  Nothing is recorded below a paragraph, run or table that a mapping
  sends to `!` (its content is never visited).

  `c16_docEvents cfg d`: the body, then the notes that the body references (in order of reference), then
  the comments referenced from the body and from those notes.

  `c16_visit_events` … `c16_visitDocument_events`: the converter's state after visiting records exactly
  these events.
-/
import Proofs.C16_Clean
import Proofs.C10_Convert
import Proofs.C01_Refine
namespace Mammoth

/-- what the converter records -/
inductive c16_CEv where
  | warn (m : Str)
  | noteRef (ty id : Str)
  | commentRef (id : Str)
deriving DecidableEq, Repr

/-- a paragraph / run with a style id that no mapping matches -/
def c16_unrecognised (cfg : Cfg) (t : Target) (kind : Str) (sid sname : Option Str) : List c16_CEv :=
  match findPath cfg t, sid with
  | none, some i =>
    [.warn (S!"Unrecognised " ++ kind ++ S!" style: " ++ pyOpt sname ++ S!" (Style ID: " ++ i ++ S!")")]
  | _, _ => []

/-- an image: the warning of `Image.open`, when the image converter opens images and opening fails -/
def c16_imageEvents (cfg : Cfg) (i : ImageProps) : List c16_CEv :=
  if c16_opens cfg then
    match c16_openError cfg i.src with
    | some m => [.warn m]
    | none => []
  else []

mutual
def c16_cevs (cfg : Cfg) : Elem → List c16_CEv
  | .paragraph p cs =>
    c16_unrecognised cfg (.paragraph p) S!"paragraph" p.styleId p.styleName ++
      (if (c01_path cfg (.paragraph p) (.elements [pathElem S!"p" true])).isIgnore then [] else c16_cevsL cfg cs)
  | .run r cs =>
    c16_unrecognised cfg (.run r.styleId r.styleName) S!"run" r.styleId r.styleName ++
      (if (c01_runPaths cfg r).any HtmlPath.isIgnore then [] else c16_cevsL cfg cs)
  | .hyperlink _ cs => c16_cevsL cfg cs
  | .table sid sname rows =>
    if (c01_path cfg (.table sid sname) (.elements [pathElem S!"table" true])).isIgnore then []
    else c16_cevsL cfg rows
  | .row _ cells => c16_cevsL cfg cells
  | .cell _ _ _ cs => c16_cevsL cfg cs
  | .image i => c16_imageEvents cfg i
  | .noteRef ty id => [.noteRef ty id]
  | .commentRef id =>
    match findPath cfg .commentReference with
    | some (.elements _) => [.commentRef id]
    | _ => []
  | _ => []
def c16_cevsL (cfg : Cfg) : List Elem → List c16_CEv
  | [] => []
  | e :: es => c16_cevs cfg e ++ c16_cevsL cfg es
end

def c16_cWarns : List c16_CEv → List Str
  | [] => []
  | .warn m :: r => m :: c16_cWarns r
  | _ :: r => c16_cWarns r
def c16_cRefs : List c16_CEv → List (Str × Str)
  | [] => []
  | .noteRef ty id :: r => (ty, id) :: c16_cRefs r
  | _ :: r => c16_cRefs r
def c16_cCRefs : List c16_CEv → List Str
  | [] => []
  | .commentRef id :: r => id :: c16_cCRefs r
  | _ :: r => c16_cCRefs r

/-- `self._comments[id]` (last wins) -/
def c16_findComment (cfg : Cfg) (id : Str) : Option Comment :=
  lookupLast id (cfg.comments.map fun c => (c.id, c))

def c16_cComments (cfg : Cfg) (evs : List c16_CEv) : List Comment :=
  (c16_cCRefs evs).filterMap (c16_findComment cfg)

/-- THE EVENTS OF A DOCUMENT: body; the notes referenced from the body, in order of reference; the comments
    referenced from the body and from those notes, in order of reference -/
def c16_docEvents (cfg : Cfg) (d : Document) : List c16_CEv :=
  let body := c16_cevsL cfg d.children
  let notes := (c16_cRefs body).filterMap (c16_findNote d.notes)
  let noteEvs := notes.flatMap fun n => c16_cevsL cfg n.body
  let comments := c16_cComments cfg (body ++ noteEvs)
  body ++ noteEvs ++ comments.flatMap fun c => c16_cevsL cfg c.body

/-- THE WARNINGS THE CONVERTER MUST PRODUCE FOR A DOCUMENT (before `unique`) -/
def c16_docWarnings (cfg : Cfg) (d : Document) : List Str :=
  c16_cWarns (c16_docEvents { cfg with comments := d.comments } d)

theorem c16_cWarns_append (a b : List c16_CEv) : c16_cWarns (a ++ b) = c16_cWarns a ++ c16_cWarns b := by
  induction a with
  | nil => rfl
  | cons x xs ih => cases x <;> simp [c16_cWarns, ih]
theorem c16_cRefs_append (a b : List c16_CEv) : c16_cRefs (a ++ b) = c16_cRefs a ++ c16_cRefs b := by
  induction a with
  | nil => rfl
  | cons x xs ih => cases x <;> simp [c16_cRefs, ih]
theorem c16_cCRefs_append (a b : List c16_CEv) : c16_cCRefs (a ++ b) = c16_cCRefs a ++ c16_cCRefs b := by
  induction a with
  | nil => rfl
  | cons x xs ih => cases x <;> simp [c16_cCRefs, ih]
theorem c16_cComments_append (cfg : Cfg) (a b : List c16_CEv) :
    c16_cComments cfg (a ++ b) = c16_cComments cfg a ++ c16_cComments cfg b := by
  simp [c16_cComments, c16_cCRefs_append]

/-! ### the Hoare-style statement -/

/-- running from `st` to `st'` has recorded exactly the events `evs` -/
structure c16_CPost (cfg : Cfg) (st : ConvState) (evs : List c16_CEv) (st' : ConvState) : Prop where
  msgs : st'.messages = st.messages ++ c16_cWarns evs
  refs : st'.noteRefs = st.noteRefs ++ c16_cRefs evs
  comments : st'.refComments.map Prod.snd = st.refComments.map Prod.snd ++ c16_cComments cfg evs

def c16_CH (cfg : Cfg) {α} (m : ConvM α) (evs : List c16_CEv) : Prop :=
  ∀ st a st', m.run st = .ok (a, st') → c16_CPost cfg st evs st'

theorem c16_CPost_same (cfg : Cfg) {st st' : ConvState} (h1 : st'.messages = st.messages)
    (h2 : st'.noteRefs = st.noteRefs) (h3 : st'.refComments = st.refComments) : c16_CPost cfg st [] st' :=
  ⟨by rw [h1]; exact (List.append_nil _).symm, by rw [h2]; exact (List.append_nil _).symm,
   by rw [h3]; exact (List.append_nil _).symm⟩

theorem c16_CPost_refl (cfg : Cfg) (st : ConvState) : c16_CPost cfg st [] st := c16_CPost_same cfg rfl rfl rfl

theorem c16_CPost_trans {cfg : Cfg} {a b c : ConvState} {e1 e2 : List c16_CEv}
    (p : c16_CPost cfg a e1 b) (q : c16_CPost cfg b e2 c) : c16_CPost cfg a (e1 ++ e2) c :=
  ⟨by rw [q.msgs, p.msgs, c16_cWarns_append, List.append_assoc],
   by rw [q.refs, p.refs, c16_cRefs_append, List.append_assoc],
   by rw [q.comments, p.comments, c16_cComments_append, List.append_assoc]⟩

theorem c16_CH_pure (cfg : Cfg) {α} (a : α) : c16_CH cfg (pure a : ConvM α) [] := by
  intro st b st' h
  rw [run_pure] at h; cases h
  exact c16_CPost_refl cfg st

theorem c16_CH_bind (cfg : Cfg) {α β} (m : ConvM α) (f : α → ConvM β) (e1 e2 : List c16_CEv)
    (hm : c16_CH cfg m e1) (hf : ∀ a, c16_CH cfg (f a) e2) : c16_CH cfg (m >>= f) (e1 ++ e2) := by
  intro st b st' h
  rw [run_bind] at h
  split at h
  · rename_i a s hr
    exact c16_CPost_trans (hm st a s hr) (hf a s b st' h)
  · cases h

/-- `m`, then a pure repackaging of the result -/
theorem c16_CH_map (cfg : Cfg) {α β} (m : ConvM α) (g : α → β) (evs : List c16_CEv)
    (hm : c16_CH cfg m evs) : c16_CH cfg (m >>= fun a => pure (g a)) evs := by
  have := c16_CH_bind cfg m (fun a => (pure (g a) : ConvM β)) evs [] hm (fun a => c16_CH_pure cfg _)
  simpa using this

theorem c16_CH_modify_other (cfg : Cfg) (f : ConvState → ConvState)
    (hf : ∀ s, (f s).messages = s.messages ∧ (f s).noteRefs = s.noteRefs ∧ (f s).refComments = s.refComments) :
    c16_CH cfg (modify f : ConvM PUnit) [] := by
  intro st b st' h
  rw [run_modify] at h; cases h
  obtain ⟨h1, h2, h3⟩ := hf st
  exact c16_CPost_same cfg h1 h2 h3

theorem c16_CH_warn (cfg : Cfg) (m : Str) : c16_CH cfg (warn m) [.warn m] := by
  intro st b st' h
  unfold warn at h
  rw [run_modify] at h; cases h
  exact ⟨rfl, by simp [c16_cRefs], by simp [c16_cComments, c16_cCRefs]⟩

theorem c16_CH_throw (cfg : Cfg) {α} (e : Err) (evs : List c16_CEv) : c16_CH cfg (throw e : ConvM α) evs := by
  intro st b st' h
  rw [run_throw] at h; cases h

theorem c16_CPost_warnState (cfg : Cfg) (t : Target) (kind : Str) (sid sname : Option Str) (st : ConvState) :
    c16_CPost cfg st (c16_unrecognised cfg t kind sid sname) (c01_warnState cfg t kind sid sname st) := by
  unfold c01_warnState c16_unrecognised
  cases findPath cfg t with
  | some p => exact c16_CPost_refl cfg st
  | none =>
    cases sid with
    | none => exact c16_CPost_refl cfg st
    | some i => exact ⟨rfl, by simp [c16_cRefs], by simp [c16_cComments, c16_cCRefs]⟩

theorem c16_CH_findPathWarn (cfg : Cfg) {β} (t : Target) (kind : Str) (sid sname : Option Str) (d : HtmlPath)
    (f : HtmlPath → ConvM β) (evs : List c16_CEv) (hf : c16_CH cfg (f (c01_path cfg t d)) evs) :
    c16_CH cfg (findPathWarn cfg t kind sid sname d >>= f) (c16_unrecognised cfg t kind sid sname ++ evs) := by
  intro st b st' h
  rw [run_bind] at h
  have e : (findPathWarn cfg t kind sid sname d).run st =
      .ok (c01_path cfg t d, c01_warnState cfg t kind sid sname st) := c01_findPathWarn_run ..
  rw [e] at h
  exact c16_CPost_trans (c16_CPost_warnState cfg t kind sid sname st) (hf _ b st' h)

/-! ### images -/

/-- opening the image, then an `img` or the warning -/
theorem c16_CH_open (cfg : Cfg) (i : ImageProps) (g : Bytes → List Node) :
    c16_CH cfg (do
        match ← openImage cfg i.src with
        | .ok bytes => pure (g bytes)
        | .error msg => do warn msg; pure [])
      (match c16_openError cfg i.src with | some m => [.warn m] | none => []) := by
  intro st b st' h
  rw [run_bind] at h
  split at h
  · rename_i res s hr
    obtain ⟨⟨t, rfl⟩, he⟩ := c16_openImage_post cfg i.src st res s hr
    have p : c16_CPost cfg st [] { st with ioTrace := t } := c16_CPost_same cfg rfl rfl rfl
    rw [he]
    cases res with
    | ok bytes =>
      simp only [run_pure] at h; cases h
      exact p
    | error msg =>
      simp only at h ⊢
      exact c16_CPost_trans p
        (c16_CH_map cfg (warn msg) (fun _ => ([] : List Node)) [.warn msg] (c16_CH_warn cfg msg) _ b st' h)
  · cases h

theorem c16_CH_convertImage (cfg : Cfg) (i : ImageProps) :
    c16_CH cfg (convertImage cfg i) (c16_imageEvents cfg i) := by
  unfold convertImage c16_imageEvents c16_opens
  apply c16_CH_bind cfg _ _ [] _
  · exact c16_CH_modify_other cfg _ (fun s => ⟨rfl, rfl, rfl⟩)
  · intro _
    simp only
    cases cfg.imageConv with
    | dataUri => exact c16_CH_open cfg i _
    | fixed attrs opens =>
      simp only
      cases opens with
      | true =>
        simp only [if_true]
        exact c16_CH_open cfg i _
      | false =>
        simp only [Bool.false_eq_true, if_false]
        exact c16_CH_pure cfg _

/-! ### the visitor -/

mutual
theorem c16_visit_events (cfg : Cfg) (hdr : Bool) (e : Elem) : c16_CH cfg (visit cfg hdr e) (c16_cevs cfg e) := by
  match e with
  | .paragraph p cs =>
    rw [visit, c16_cevs]
    apply c16_CH_findPathWarn
    cases hpath : c01_path cfg (.paragraph p) (.elements [pathElem S!"p" true]) with
    | ignore => exact c16_CH_pure cfg _
    | elements es =>
      simp only [HtmlPath.isIgnore, Bool.false_eq_true, if_false]
      exact c16_CH_map cfg _ _ _ (c16_visitAll_events cfg hdr cs)
  | .run r cs =>
    rw [visit, c16_cevs]
    apply c16_CH_findPathWarn
    simp only
    rw [← c01_runPaths]
    split
    · exact c16_CH_pure cfg _
    · exact c16_CH_map cfg _ _ _ (c16_visitAll_events cfg hdr cs)
  | .hyperlink _ cs | .row _ cs | .cell _ _ _ cs =>
    rw [visit, c16_cevs]
    exact c16_CH_map cfg _ _ _ (c16_visitAll_events cfg hdr cs)
  | .table sid sname rows =>
    rw [visit, c16_cevs]
    rw [← c01_path]
    cases hpath : c01_path cfg (.table sid sname) (.elements [pathElem S!"table" true]) with
    | ignore => exact c16_CH_pure cfg _
    | elements es =>
      simp only [HtmlPath.isIgnore, Bool.false_eq_true, if_false]
      exact c16_CH_map cfg _ _ _ (c16_visitRows_events cfg true rows)
  | .brk ty =>
    rw [visit]; simp only [c16_cevs]
    split
    · exact c16_CH_pure cfg _
    · exact c16_CH_pure cfg _
    · split <;> exact c16_CH_pure cfg _
  | .image i => rw [visit]; simp only [c16_cevs]; exact c16_CH_convertImage cfg i
  | .text _ | .checkbox _ | .tab | .bookmark _ =>
    rw [visit]
    simp only [c16_cevs]
    exact c16_CH_pure cfg _
  | .noteRef ty id =>
    rw [c16_cevs]
    intro st ns st' h
    rw [StateT.run, c01_visit_noteRef] at h
    cases h
    exact ⟨by simp [c16_cWarns], rfl, by simp [c16_cComments, c16_cCRefs]⟩
  | .commentRef id =>
    rw [c16_cevs]
    cases hp : findPath cfg .commentReference with
    | none => rw [visit]; simp only [hp]; exact c16_CH_pure cfg _
    | some p =>
      cases p with
      | ignore => rw [visit]; simp only [hp]; exact c16_CH_pure cfg _
      | elements es =>
        simp only
        intro st ns st' h
        rw [visit] at h
        simp only [hp] at h
        cases hl : lookupLast id (cfg.comments.map fun c => (c.id, c)) with
        | none => simp only [hl, run_throw] at h; cases h
        | some cm =>
          simp only [hl, run_bind, run_get, run_modify, run_pure] at h
          cases h
          exact ⟨by simp [c16_cWarns], by simp [c16_cRefs],
            by simp [c16_cComments, c16_cCRefs, c16_findComment, hl]⟩
theorem c16_visitAll_events (cfg : Cfg) (hdr : Bool) (es : List Elem) :
    c16_CH cfg (visitAll cfg hdr es) (c16_cevsL cfg es) := by
  match es with
  | [] => rw [visitAll]; simp only [c16_cevsL]; exact c16_CH_pure cfg _
  | e :: es =>
    rw [visitAll, c16_cevsL]
    exact c16_CH_bind cfg _ _ _ _ (c16_visit_events cfg hdr e)
      (fun a => c16_CH_map cfg _ _ _ (c16_visitAll_events cfg hdr es))
theorem c16_visitRows_events (cfg : Cfg) (inHead : Bool) (rs : List Elem) :
    c16_CH cfg (visitRows cfg inHead rs) (c16_cevsL cfg rs) := by
  match rs with
  | [] => rw [visitRows]; simp only [c16_cevsL]; exact c16_CH_pure cfg _
  | r :: rs =>
    rw [visitRows, c16_cevsL]
    split
    · exact c16_CH_bind cfg _ _ _ _ (c16_visit_events cfg true r)
        (fun a => c16_CH_map cfg _ _ _ (c16_visitRows_events cfg true rs))
    · exact c16_CH_bind cfg _ _ _ _ (c16_visit_events cfg false r)
        (fun a => c16_CH_map cfg _ _ _ (c16_visitRows_events cfg false rs))
end

/-! ### notes, comments, the document -/

theorem c16_CH_mapMConcat (cfg : Cfg) {α} (f : α → ConvM (List Node)) (g : α → List c16_CEv)
    (h : ∀ x, c16_CH cfg (f x) (g x)) : ∀ xs : List α, c16_CH cfg (mapMConcat f xs) (xs.flatMap g)
  | [] => by rw [mapMConcat]; exact c16_CH_pure cfg _
  | x :: xs => by
    rw [mapMConcat, List.flatMap_cons]
    exact c16_CH_bind cfg _ _ _ _ (h x) (fun a => c16_CH_map cfg _ _ _ (c16_CH_mapMConcat cfg f g h xs))

/-- the whole run of `visitDocument` from a state without references: the state afterwards has recorded
    exactly the events of the document -/
theorem c16_visitDocument_events (cfg : Cfg) (d : Document) (st st' : ConvState) (ns : List Node)
    (hn : st.noteRefs = []) (hc : st.refComments = [])
    (h : (visitDocument cfg d).run st = .ok (ns, st')) : c16_CPost cfg st (c16_docEvents cfg d) st' := by
  obtain ⟨nodes, st1, notes, noteNodes, st2, commentNodes, h1, hm, h2, h3⟩ := c16_visitDocument_inv cfg d st st' ns h
  have p1 := c16_visitAll_events cfg false d.children st nodes st1 h1
  have p2 := c16_CH_mapMConcat cfg (visitNote cfg) (fun n => c16_cevsL cfg n.body)
    (fun n => c16_CH_map cfg _ _ _ (c16_visitAll_events cfg false n.body)) notes st1 noteNodes st2 h2
  have p3 := c16_CH_mapMConcat cfg (visitComment cfg) (fun lc => c16_cevsL cfg lc.2.body)
    (fun lc => c16_CH_map cfg _ _ _ (c16_visitAll_events cfg false lc.2.body)) st2.refComments st2 commentNodes st' h3
  have hnotes : notes = (c16_cRefs (c16_cevsL cfg d.children)).filterMap (c16_findNote d.notes) := by
    have := c16_mapM_resolve_eq d.notes _ notes hm
    rw [p1.refs, hn, List.nil_append] at this
    exact this
  have p12 := c16_CPost_trans p1 p2
  have hcomments : st2.refComments.map Prod.snd =
      c16_cComments cfg (c16_cevsL cfg d.children ++ notes.flatMap fun n => c16_cevsL cfg n.body) := by
    rw [p12.comments, hc]; rfl
  rw [← List.flatMap_map (f := Prod.snd) (g := fun c : Comment => c16_cevsL cfg c.body), hcomments] at p3
  have p123 := c16_CPost_trans p12 p3
  rw [hnotes] at p123
  exact p123

end Mammoth
