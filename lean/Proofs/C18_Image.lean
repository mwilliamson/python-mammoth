/-
  C18 — exact behaviour of `openImage` / `convertImage` on linked images.
-/
import Proofs.C18_Io
namespace Mammoth

/-- the warning text of `Files.open` when the open itself fails -/
def c18_openMsg (uri : Str) (dir : Str) : Str :=
  S!"could not open external image: '" ++ uri ++ S!"' (document directory: '" ++ dir ++ S!"')"

/-- the warning text of `Files.open` for a relative uri when the input has no file name -/
def c18_noNameMsg (uri : Str) : Str :=
  S!"could not find external image '" ++ uri ++ S!"', fileobj has no name"

theorem c18_openImage_noname (cfg : Cfg) (uri : Str) (st : ConvState)
    (habs : isAbsoluteUri uri = false) (hb : cfg.base = none) :
    (openImage cfg (.linked uri)).run st = .ok (.error (c18_noNameMsg uri), st) := by
  simp only [openImage, habs, hb]
  rfl

theorem c18_openImage_abs (cfg : Cfg) (uri : Str) (st : ConvState)
    (habs : isAbsoluteUri uri = true) :
    (openImage cfg (.linked uri)).run st =
      .ok ((match cfg.world uri with
            | some b => .ok b
            | none => .error (c18_openMsg uri (pyOpt cfg.base))),
           { st with ioTrace := st.ioTrace ++ [.urlopen uri] }) := by
  simp only [openImage, habs]
  cases cfg.world uri <;> rfl

theorem c18_openImage_rel (cfg : Cfg) (uri b : Str) (st : ConvState)
    (habs : isAbsoluteUri uri = false) (hb : cfg.base = some b) :
    (openImage cfg (.linked uri)).run st =
      .ok ((match cfg.world (osPathJoin b uri) with
            | some bs => .ok bs
            | none => .error (c18_openMsg uri b)),
           { st with ioTrace := st.ioTrace ++ [.openFile (osPathJoin b uri)] }) := by
  simp only [openImage, habs, hb]
  cases cfg.world (osPathJoin b uri) <;> rfl

/-- the control flow of `convertImage`, whichever converter is configured; what the nodes are (`ok`, `no`)
    plays no part in the proofs below -/
theorem c18_convertImage_shape (cfg : Cfg) (i : ImageProps) :
    ∃ (ok : Bytes → List Node) (no : List Node), convertImage cfg i = (do
      modify fun s => { s with imageCalls := s.imageCalls ++ [i] }
      if c18_opens cfg then do
        match ← openImage cfg i.src with
        | .ok bytes => pure (ok bytes)
        | .error msg => do warn msg; pure []
      else pure no) := by
  unfold convertImage c18_opens
  cases cfg.imageConv with
  | dataUri => exact ⟨_, [], rfl⟩
  | fixed attrs opens => cases opens <;> exact ⟨fun _ => _, _, rfl⟩

/-- when the image converter opens the image and the open yields a warning text, `convertImage`
    records the call, emits that warning and produces no node -/
theorem c18_convertImage_warn (cfg : Cfg) (i : ImageProps) (st s : ConvState) (msg : Str)
    (ho : c18_opens cfg = true)
    (h : (openImage cfg i.src).run { st with imageCalls := st.imageCalls ++ [i] }
          = .ok (.error msg, s)) :
    (convertImage cfg i).run st = .ok ([], { s with messages := s.messages ++ [msg] }) := by
  obtain ⟨ok, no, e⟩ := c18_convertImage_shape cfg i
  rw [e, StateT.run_bind, StateT.run_modify, ho]
  simp only [pure_bind, if_true]
  rw [StateT.run_bind, h]
  rfl

theorem c18_convertImage_ok_of_open (cfg : Cfg) (i : ImageProps) (st : ConvState)
    (h : ∀ s, ∃ r, (openImage cfg i.src).run s = .ok r) :
    ∃ r, (convertImage cfg i).run st = .ok r := by
  obtain ⟨ok, no, e⟩ := c18_convertImage_shape cfg i
  obtain ⟨⟨x, s⟩, hx⟩ := h { st with imageCalls := st.imageCalls ++ [i] }
  rw [e, StateT.run_bind, StateT.run_modify]
  simp only [pure_bind]
  split
  · rw [StateT.run_bind, hx]
    cases x <;> exact ⟨_, rfl⟩
  · exact ⟨_, rfl⟩

end Mammoth
