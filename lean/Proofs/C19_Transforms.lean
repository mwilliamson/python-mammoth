/-
  C19 helpers: specification functions and lemmas for `MammothModel/Transforms.lean`.
-/
import MammothModel.Transforms
namespace Mammoth

/-! ### specification functions -/

mutual
/-- all nodes of `e` in post-order (children left to right, each before its parent), `e` last -/
def c19_postorder : Elem → List Elem
  | .paragraph p cs => c19_postorderL cs ++ [.paragraph p cs]
  | .run r cs => c19_postorderL cs ++ [.run r cs]
  | .hyperlink h cs => c19_postorderL cs ++ [.hyperlink h cs]
  | .table a b cs => c19_postorderL cs ++ [.table a b cs]
  | .row h cs => c19_postorderL cs ++ [.row h cs]
  | .cell c r v cs => c19_postorderL cs ++ [.cell c r v cs]
  | .text s => [.text s]
  | .checkbox b => [.checkbox b]
  | .brk t => [.brk t]
  | .tab => [.tab]
  | .image i => [.image i]
  | .bookmark n => [.bookmark n]
  | .noteRef t i => [.noteRef t i]
  | .commentRef i => [.commentRef i]
def c19_postorderL : List Elem → List Elem
  | [] => []
  | c :: cs => c19_postorder c ++ c19_postorderL cs
end

mutual
/-- number of nodes of `e`, itself included -/
def c19_size : Elem → Nat
  | .paragraph _ cs => c19_sizeL cs + 1
  | .run _ cs => c19_sizeL cs + 1
  | .hyperlink _ cs => c19_sizeL cs + 1
  | .table _ _ cs => c19_sizeL cs + 1
  | .row _ cs => c19_sizeL cs + 1
  | .cell _ _ _ cs => c19_sizeL cs + 1
  | .text _ => 1
  | .checkbox _ => 1
  | .brk _ => 1
  | .tab => 1
  | .image _ => 1
  | .bookmark _ => 1
  | .noteRef _ _ => 1
  | .commentRef _ => 1
def c19_sizeL : List Elem → Nat
  | [] => 0
  | c :: cs => c19_size c + c19_sizeL cs
end

/-- the argument list contributed by one node: itself if it is a target -/
def c19_callIf (isT : Elem → Bool) (e : Elem) : List Elem := if isT e then [e] else []

mutual
/-- the arguments the element transform `g` is called with, in call order: for every node, after
    the calls for its children, the node REBUILT with its transformed children — if that is a target -/
def c19_calls (isT : Elem → Bool) (g : Elem → Elem) : Elem → List Elem
  | .paragraph p cs => c19_callsL isT g cs ++ c19_callIf isT (.paragraph p (transformL isT g cs))
  | .run r cs => c19_callsL isT g cs ++ c19_callIf isT (.run r (transformL isT g cs))
  | .hyperlink h cs => c19_callsL isT g cs ++ c19_callIf isT (.hyperlink h (transformL isT g cs))
  | .table a b cs => c19_callsL isT g cs ++ c19_callIf isT (.table a b (transformL isT g cs))
  | .row h cs => c19_callsL isT g cs ++ c19_callIf isT (.row h (transformL isT g cs))
  | .cell c r v cs => c19_callsL isT g cs ++ c19_callIf isT (.cell c r v (transformL isT g cs))
  | .text s => c19_callIf isT (.text s)
  | .checkbox b => c19_callIf isT (.checkbox b)
  | .brk t => c19_callIf isT (.brk t)
  | .tab => c19_callIf isT .tab
  | .image i => c19_callIf isT (.image i)
  | .bookmark n => c19_callIf isT (.bookmark n)
  | .noteRef t i => c19_callIf isT (.noteRef t i)
  | .commentRef i => c19_callIf isT (.commentRef i)
def c19_callsL (isT : Elem → Bool) (g : Elem → Elem) : List Elem → List Elem
  | [] => []
  | c :: cs => c19_calls isT g c ++ c19_callsL isT g cs
end

/-- the logging monad: state = the list of arguments seen so far -/
abbrev c19_LogM := StateM (List Elem)

/-- a callback that records its argument and then answers like the pure `g` -/
def c19_logged (g : Elem → Elem) (e : Elem) : c19_LogM Elem := do
  modify (· ++ [e])
  pure (g e)

/-- `isT` looks at the class (and own fields) of an element only, not at its children -/
def c19_shapeOnly (isT : Elem → Bool) : Prop := ∀ (e : Elem) (cs : List Elem), isT (e.withChildren cs) = isT e

/-! ### simp lemmas -/

@[simp] theorem c19_transformL_nil (isT : Elem → Bool) (f : Elem → Elem) : transformL isT f [] = [] := by
  simp [transformL]
@[simp] theorem c19_transformL_cons (isT : Elem → Bool) (f : Elem → Elem) (c : Elem) (cs : List Elem) :
    transformL isT f (c :: cs) = transform isT f c :: transformL isT f cs := by simp [transformL]
@[simp] theorem c19_postorderL_nil : c19_postorderL [] = [] := by simp [c19_postorderL]
@[simp] theorem c19_postorderL_cons (c : Elem) (cs : List Elem) :
    c19_postorderL (c :: cs) = c19_postorder c ++ c19_postorderL cs := by simp [c19_postorderL]
@[simp] theorem c19_descendantsL_nil : descendantsL [] = [] := by simp [descendantsL]
@[simp] theorem c19_descendantsL_cons (c : Elem) (cs : List Elem) :
    descendantsL (c :: cs) = descendants c ++ c :: descendantsL cs := by simp [descendantsL]
@[simp] theorem c19_sizeL_nil : c19_sizeL [] = 0 := by simp [c19_sizeL]
@[simp] theorem c19_sizeL_cons (c : Elem) (cs : List Elem) : c19_sizeL (c :: cs) = c19_size c + c19_sizeL cs := by
  simp [c19_sizeL]
@[simp] theorem c19_callsL_nil (isT : Elem → Bool) (g : Elem → Elem) : c19_callsL isT g [] = [] := by
  simp [c19_callsL]
@[simp] theorem c19_callsL_cons (isT : Elem → Bool) (g : Elem → Elem) (c : Elem) (cs : List Elem) :
    c19_callsL isT g (c :: cs) = c19_calls isT g c ++ c19_callsL isT g cs := by simp [c19_callsL]

theorem c19_transformL_eq_map (isT : Elem → Bool) (f : Elem → Elem) (cs : List Elem) :
    transformL isT f cs = cs.map (transform isT f) := by
  induction cs with
  | nil => rfl
  | cons c cs ih => simp [ih]

theorem c19_descendantsL_append (a b : List Elem) : descendantsL (a ++ b) = descendantsL a ++ descendantsL b := by
  induction a with
  | nil => simp
  | cons x xs ih => simp [ih]

theorem c19_descendantsL_flatMap (cs : List Elem) :
    descendantsL cs = cs.flatMap (fun c => descendants c ++ [c]) := by
  induction cs with
  | nil => rfl
  | cons c cs ih => simp [ih]

/-! ### one step of each traversal, uniformly in the class of the node -/

theorem c19_withChildren_children (e : Elem) : e.withChildren e.children = e := by
  cases e <;> rfl

theorem c19_transform_step (isT : Elem → Bool) (f : Elem → Elem) (e : Elem) :
    transform isT f e = applyIf isT f (e.withChildren (transformL isT f e.children)) := by
  cases e <;> rfl

theorem c19_transformM_step {m : Type → Type} [Monad m] [LawfulMonad m] (isT : Elem → Bool)
    (f : Elem → m Elem) (e : Elem) :
    transformM isT f e = transformLM isT f e.children >>= fun cs => applyIfM isT f (e.withChildren cs) := by
  cases e <;> simp only [transformM, transformLM, Elem.withChildren, Elem.children, pure_bind]

theorem c19_descendants_children (e : Elem) : descendants e = descendantsL e.children := by
  cases e <;> rfl

theorem c19_postorder_step (e : Elem) : c19_postorder e = c19_postorderL e.children ++ [e] := by
  cases e <;> rfl

theorem c19_size_step (e : Elem) : c19_size e = c19_sizeL e.children + 1 := by
  cases e <;> rfl

theorem c19_calls_step (isT : Elem → Bool) (g : Elem → Elem) (e : Elem) :
    c19_calls isT g e = c19_callsL isT g e.children
      ++ c19_callIf isT (e.withChildren (transformL isT g e.children)) := by
  cases e <;> rfl

mutual
theorem c19_induct_elem {P : Elem → Prop} {PL : List Elem → Prop} (node : ∀ e, PL e.children → P e)
    (nil : PL []) (cons : ∀ c cs, P c → PL cs → PL (c :: cs)) (e : Elem) : P e := by
  match e with
  | .paragraph _ cs | .run _ cs | .hyperlink _ cs | .table _ _ cs | .row _ cs | .cell _ _ _ cs =>
    exact node _ (c19_induct_list node nil cons cs)
  | .text _ | .checkbox _ | .brk _ | .tab | .image _ | .bookmark _ | .noteRef _ _ | .commentRef _ =>
    exact node _ nil
theorem c19_induct_list {P : Elem → Prop} {PL : List Elem → Prop} (node : ∀ e, PL e.children → P e)
    (nil : PL []) (cons : ∀ c cs, P c → PL cs → PL (c :: cs)) (es : List Elem) : PL es := by
  match es with
  | [] => exact nil
  | c :: cs => exact cons c cs (c19_induct_elem node nil cons c) (c19_induct_list node nil cons cs)
end

theorem c19_induct {P : Elem → Prop} {PL : List Elem → Prop} (node : ∀ e, PL e.children → P e)
    (nil : PL []) (cons : ∀ c cs, P c → PL cs → PL (c :: cs)) : (∀ e, P e) ∧ ∀ es, PL es :=
  ⟨c19_induct_elem node nil cons, c19_induct_list node nil cons⟩

/-! ### identity -/

theorem c19_transform_id_both (isT : Elem → Bool) :
    (∀ e, transform isT id e = e) ∧ ∀ es, transformL isT id es = es := by
  refine c19_induct ?_ rfl ?_
  · intro e ih
    rw [c19_transform_step, ih, c19_withChildren_children, applyIf]
    split <;> rfl
  · intro c cs hc hcs
    rw [c19_transformL_cons, hc, hcs]

theorem c19_transform_id (isT : Elem → Bool) (e : Elem) : transform isT id e = e :=
  (c19_transform_id_both isT).1 e
theorem c19_transformL_id (isT : Elem → Bool) (es : List Elem) : transformL isT id es = es :=
  (c19_transform_id_both isT).2 es

/-! ### nothing to do -/

theorem c19_transform_noTarget_both (isT : Elem → Bool) (f : Elem → Elem) :
    (∀ e, (c19_postorder e).all (fun x => !isT x) = true → transform isT f e = e) ∧
    ∀ es, (c19_postorderL es).all (fun x => !isT x) = true → transformL isT f es = es := by
  refine c19_induct ?_ (fun _ => rfl) ?_
  · intro e ih h
    rw [c19_postorder_step, List.all_append, Bool.and_eq_true] at h
    have he : isT e = false := by simpa using h.2
    rw [c19_transform_step, ih h.1, c19_withChildren_children, applyIf, he]
    rfl
  · intro c cs hc hcs h
    rw [c19_postorderL_cons, List.all_append, Bool.and_eq_true] at h
    rw [c19_transformL_cons, hc h.1, hcs h.2]

theorem c19_transformL_noTarget (isT : Elem → Bool) (f : Elem → Elem) (es : List Elem)
    (h : (c19_postorderL es).all (fun x => !isT x) = true) : transformL isT f es = es :=
  (c19_transform_noTarget_both isT f).2 es h

/-! ### descendants, post-order, size -/

theorem c19_postorder_eq_both :
    (∀ e, c19_postorder e = descendants e ++ [e]) ∧ ∀ es, c19_postorderL es = descendantsL es := by
  refine c19_induct ?_ rfl ?_
  · intro e ih
    rw [c19_postorder_step, ih, c19_descendants_children]
  · intro c cs hc hcs
    rw [c19_postorderL_cons, hc, hcs, c19_descendantsL_cons, List.append_assoc]
    rfl

theorem c19_postorder_eq (e : Elem) : c19_postorder e = descendants e ++ [e] := c19_postorder_eq_both.1 e
theorem c19_postorderL_eq (es : List Elem) : c19_postorderL es = descendantsL es := c19_postorder_eq_both.2 es

theorem c19_descendants_length_both :
    (∀ e, (descendants e).length + 1 = c19_size e) ∧ ∀ es, (descendantsL es).length = c19_sizeL es := by
  refine c19_induct ?_ rfl ?_
  · intro e ih
    rw [c19_descendants_children, ih, c19_size_step]
  · intro c cs hc hcs
    rw [c19_descendantsL_cons, List.length_append, List.length_cons, c19_sizeL_cons, ← hc, hcs]
    omega

theorem c19_descendants_length (e : Elem) : (descendants e).length + 1 = c19_size e :=
  c19_descendants_length_both.1 e
theorem c19_descendantsL_length (es : List Elem) : (descendantsL es).length = c19_sizeL es :=
  c19_descendants_length_both.2 es

/-! ### the calls, for a record-only callback and in general -/

theorem c19_callIf_eq_filter (isT : Elem → Bool) (e : Elem) : c19_callIf isT e = [e].filter isT := by
  cases h : isT e <;> simp [c19_callIf, h]

theorem c19_calls_id_both (isT : Elem → Bool) :
    (∀ e, c19_calls isT id e = (c19_postorder e).filter isT) ∧
    ∀ es, c19_callsL isT id es = (c19_postorderL es).filter isT := by
  refine c19_induct ?_ rfl ?_
  · intro e ih
    rw [c19_calls_step, ih, c19_transformL_id, c19_withChildren_children, c19_callIf_eq_filter,
      c19_postorder_step, List.filter_append]
  · intro c cs hc hcs
    rw [c19_callsL_cons, hc, hcs, c19_postorderL_cons, List.filter_append]

theorem c19_callsL_id (isT : Elem → Bool) (es : List Elem) :
    c19_callsL isT id es = (c19_postorderL es).filter isT :=
  (c19_calls_id_both isT).2 es

/-- what a target node is shown as: itself with its children already transformed -/
def c19_view (isT : Elem → Bool) (g : Elem → Elem) (x : Elem) : Elem :=
  x.withChildren (transformL isT g x.children)

theorem c19_calls_shape_both (isT : Elem → Bool) (g : Elem → Elem) (hT : c19_shapeOnly isT) :
    (∀ e, c19_calls isT g e = ((c19_postorder e).filter isT).map (c19_view isT g)) ∧
    ∀ es, c19_callsL isT g es = ((c19_postorderL es).filter isT).map (c19_view isT g) := by
  refine c19_induct ?_ rfl ?_
  · intro e ih
    -- the rebuilt node is a target exactly when `e` is: `isT` does not look at the children
    have hv : c19_callIf isT (c19_view isT g e) = ([e].filter isT).map (c19_view isT g) := by
      rw [c19_callIf, c19_view, hT]
      cases h : isT e <;> simp [h, c19_view]
    rw [c19_calls_step, ih, c19_postorder_step, List.filter_append, List.map_append, ← hv, c19_view]
  · intro c cs hc hcs
    rw [c19_callsL_cons, hc, hcs, c19_postorderL_cons, List.filter_append, List.map_append]

theorem c19_callsL_shape (isT : Elem → Bool) (g : Elem → Elem) (hT : c19_shapeOnly isT) (es : List Elem) :
    c19_callsL isT g es = ((c19_postorderL es).filter isT).map (c19_view isT g) :=
  (c19_calls_shape_both isT g hT).2 es

/-! ### running the monadic traversal with the logging callback -/

theorem c19_applyIfM_logged (isT : Elem → Bool) (g : Elem → Elem) (e : Elem) (log : List Elem) :
    (applyIfM isT (c19_logged g) e).run log = (applyIf isT g e, log ++ c19_callIf isT e) := by
  unfold applyIfM applyIf c19_callIf
  by_cases h : isT e = true
  · simp only [h, if_true]; rfl
  · simp only [h]; simp; rfl

theorem c19_run_bind {α β} (x : c19_LogM α) (f : α → c19_LogM β) (log : List Elem) :
    (x >>= f).run log = (f (x.run log).1).run (x.run log).2 := rfl

theorem c19_transformM_logged_both (isT : Elem → Bool) (g : Elem → Elem) :
    (∀ e log, (transformM isT (c19_logged g) e).run log = (transform isT g e, log ++ c19_calls isT g e)) ∧
    ∀ es log, (transformLM isT (c19_logged g) es).run log
      = (transformL isT g es, log ++ c19_callsL isT g es) := by
  refine c19_induct ?_ ?_ ?_
  · intro e ih log
    rw [c19_transformM_step, c19_run_bind, ih, c19_applyIfM_logged, c19_transform_step, c19_calls_step,
      List.append_assoc]
  · intro log
    rw [c19_callsL_nil, List.append_nil]
    rfl
  · intro c cs hc hcs log
    rw [transformLM, c19_run_bind, hc, c19_run_bind, hcs, c19_transformL_cons, c19_callsL_cons,
      List.append_assoc]
    rfl

theorem c19_transformM_logged (isT : Elem → Bool) (g : Elem → Elem) (e : Elem) (log : List Elem) :
    (transformM isT (c19_logged g) e).run log = (transform isT g e, log ++ c19_calls isT g e) :=
  (c19_transformM_logged_both isT g).1 e log

/-! ### a callback without effects (any lawful monad) -/

theorem c19_applyIfM_pure {m : Type → Type} [Monad m] (isT : Elem → Bool) (f : Elem → Elem) (e : Elem) :
    applyIfM (m := m) isT (fun x => pure (f x)) e = pure (applyIf isT f e) := by
  unfold applyIfM applyIf
  split <;> rfl

theorem c19_transformM_pure_both {m : Type → Type} [Monad m] [LawfulMonad m] (isT : Elem → Bool)
    (f : Elem → Elem) :
    (∀ e, transformM (m := m) isT (fun x => pure (f x)) e = pure (transform isT f e)) ∧
    ∀ es, transformLM (m := m) isT (fun x => pure (f x)) es = pure (transformL isT f es) := by
  refine c19_induct ?_ ?_ ?_
  · intro e ih
    rw [c19_transformM_step, ih, pure_bind, c19_applyIfM_pure, c19_transform_step]
  · rw [transformLM, c19_transformL_nil]
  · intro c cs hc hcs
    rw [transformLM, hc, hcs, pure_bind, pure_bind, c19_transformL_cons]

theorem c19_transformLM_Id (isT : Elem → Bool) (f : Elem → Elem) (es : List Elem) :
    transformLM (m := Id) isT (fun x => pure (f x)) es = pure (transformL isT f es) :=
  (c19_transformM_pure_both isT f).2 es

/-! ### the result depends on `f` only through its values on the actual call arguments -/

theorem c19_applyIf_congr (isT : Elem → Bool) (f g : Elem → Elem) (n : Elem)
    (h : ∀ x ∈ c19_callIf isT n, f x = g x) : applyIf isT f n = applyIf isT g n := by
  unfold applyIf
  by_cases ht : isT n = true
  · simp only [ht, if_true]; exact h n (by simp [c19_callIf, ht])
  · simp only [ht]; rfl

theorem c19_transform_congr_both (isT : Elem → Bool) (f g : Elem → Elem) :
    (∀ e, (∀ x ∈ c19_calls isT f e, f x = g x) → transform isT f e = transform isT g e) ∧
    ∀ es, (∀ x ∈ c19_callsL isT f es, f x = g x) → transformL isT f es = transformL isT g es := by
  refine c19_induct ?_ (fun _ => rfl) ?_
  · intro e ih h
    rw [c19_calls_step] at h
    rw [c19_transform_step, c19_transform_step, ← ih (fun x hx => h x (List.mem_append_left _ hx))]
    exact c19_applyIf_congr isT f g _ (fun x hx => h x (List.mem_append_right _ hx))
  · intro c cs hc hcs h
    rw [c19_callsL_cons] at h
    rw [c19_transformL_cons, c19_transformL_cons, hc (fun x hx => h x (List.mem_append_left _ hx)),
      hcs (fun x hx => h x (List.mem_append_right _ hx))]

theorem c19_transformL_congr (isT : Elem → Bool) (f g : Elem → Elem) (es : List Elem)
    (h : ∀ x ∈ c19_callsL isT f es, f x = g x) : transformL isT f es = transformL isT g es :=
  (c19_transform_congr_both isT f g).2 es h

end Mammoth
