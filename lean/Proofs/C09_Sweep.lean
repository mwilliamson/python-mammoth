/-
  C09 — the sweep of `calculateRowSpans` (`sweepCells` / `sweepRows`): one step, what it does to the
  column owners, the increments and the drops.
-/
import Proofs.C09_Grid
import Proofs.Basics
namespace Mammoth

abbrev c09_Id := Nat × Nat

def c09_cnt (k : c09_Id) (l : List c09_Id) : Nat := (l.filter (· == k)).length

theorem c09_cnt_append (k : c09_Id) (l l' : List c09_Id) : c09_cnt k (l ++ l') = c09_cnt k l + c09_cnt k l' := by
  simp [c09_cnt]

theorem c09_cnt_single (k o : c09_Id) : c09_cnt k [o] = if o = k then 1 else 0 := by
  by_cases h : o = k <;> simp [c09_cnt, h]

theorem c09_cnt_of_not_mem (k : c09_Id) (l : List c09_Id) (h : k ∉ l) : c09_cnt k l = 0 := by
  simp only [c09_cnt, List.length_eq_zero_iff, List.filter_eq_nil_iff]
  intro a ha hk
  have : a = k := by simpa using hk
  exact h (this ▸ ha)

/-! ### one step of the sweep -/

/-- the owner of column `c` in the dict `columns` -/
def c09_own (sw : Sweep) (c : Nat) : Option c09_Id := lookupLast c sw.cols

/-- what the sweep does with one cell at position `pos` of row `r`, starting at column `ci` -/
def c09_step (r pos ci : Nat) (vm : Bool) (sw : Sweep) : Sweep :=
  match (if vm then lookupLast ci sw.cols else none) with
  | some owner => { sw with incs := sw.incs ++ [owner], drops := sw.drops ++ [(r, pos)] }
  | none => { sw with cols := sw.cols ++ [(ci, (r, pos))] }

theorem c09_sweepCells_cons (r : Nat) (colspan rowspan : Nat) (vm : Bool) (ch : List Elem) (rest : List Elem)
    (pos ci : Nat) (sw : Sweep) :
    sweepCells r (.cell colspan rowspan vm ch :: rest) pos ci sw
      = sweepCells r rest (pos + 1) (ci + colspan) (c09_step r pos ci vm sw) := rfl

/-- the cell merges into the open cell of its column -/
def c09_hits (ci : Nat) (vm : Bool) (sw : Sweep) : Bool := vm && (c09_own sw ci).isSome

theorem c09_step_hit {r pos ci : Nat} {vm : Bool} {sw : Sweep} (h : c09_hits ci vm sw = true) :
    ∃ o, c09_own sw ci = some o ∧
      c09_step r pos ci vm sw = { sw with incs := sw.incs ++ [o], drops := sw.drops ++ [(r, pos)] } := by
  simp only [c09_hits, Bool.and_eq_true] at h
  obtain ⟨hv, ho⟩ := h
  cases hl : c09_own sw ci with
  | none => simp [hl] at ho
  | some o =>
    refine ⟨o, rfl, ?_⟩
    simp only [c09_own] at hl
    simp [c09_step, hv, hl]

theorem c09_step_miss {r pos ci : Nat} {vm : Bool} {sw : Sweep} (h : c09_hits ci vm sw = false) :
    c09_step r pos ci vm sw = { sw with cols := sw.cols ++ [(ci, (r, pos))] } := by
  simp only [c09_hits, Bool.and_eq_false_iff] at h
  rcases h with hv | ho
  · simp [c09_step, hv]
  · have : lookupLast ci sw.cols = none := by simpa [c09_own] using ho
    cases vm <;> simp [c09_step, this]

theorem c09_own_step (r pos ci : Nat) (vm : Bool) (sw : Sweep) (c : Nat) :
    c09_own (c09_step r pos ci vm sw) c =
      if c09_hits ci vm sw = true then c09_own sw c
      else if c = ci then some (r, pos) else c09_own sw c := by
  cases h : c09_hits ci vm sw with
  | true =>
    obtain ⟨o, _, hs⟩ := c09_step_hit (r := r) (pos := pos) h
    simp [hs, c09_own]
  | false =>
    rw [c09_step_miss h]
    simp only [c09_own, lookupLast_append, lookupLast]
    split <;> rfl

theorem c09_cnt_step (r pos ci : Nat) (vm : Bool) (sw : Sweep) (k : c09_Id) :
    c09_cnt k (c09_step r pos ci vm sw).incs =
      c09_cnt k sw.incs + (if vm = true ∧ c09_own sw ci = some k then 1 else 0) := by
  cases h : c09_hits ci vm sw with
  | true =>
    obtain ⟨o, ho, hs⟩ := c09_step_hit (r := r) (pos := pos) h
    have hv : vm = true := by simp [c09_hits] at h; exact h.1
    rw [hs]; simp only [c09_cnt_append, c09_cnt_single, ho, hv, true_and, Option.some.injEq]
  | false =>
    rw [c09_step_miss h]
    have : ¬ (vm = true ∧ c09_own sw ci = some k) := by
      rintro ⟨hv, ho⟩; simp [c09_hits, hv, ho] at h
    simp [this]

theorem c09_drops_step (r pos ci : Nat) (vm : Bool) (sw : Sweep) (v : c09_Id) :
    v ∈ (c09_step r pos ci vm sw).drops ↔ v ∈ sw.drops ∨ (v = (r, pos) ∧ c09_hits ci vm sw = true) := by
  cases h : c09_hits ci vm sw with
  | true =>
    obtain ⟨o, _, hs⟩ := c09_step_hit (r := r) (pos := pos) h
    simp [hs]
  | false =>
    rw [c09_step_miss h]; simp

/-! ### "before": the cells already processed when the sweep is at position `pos` of row `r` -/

def c09_before (k : c09_Id) (r pos : Nat) : Prop := k.1 < r ∨ (k.1 = r ∧ k.2 < pos)

theorem c09_before_succ {k : c09_Id} {r pos : Nat} (h : c09_before k r pos) : c09_before k r (pos + 1) := by
  unfold c09_before at *; omega

theorem c09_before_ne {k : c09_Id} {r pos : Nat} (h : c09_before k r pos) : (r, pos) ≠ k := by
  intro he; subst he; simp [c09_before] at h

/-- everything recorded in the sweep state refers to cells already processed -/
structure c09_Fresh (sw : Sweep) (r pos : Nat) : Prop where
  cols : ∀ c v, (c, v) ∈ sw.cols → c09_before v r pos
  incs : ∀ v, v ∈ sw.incs → c09_before v r pos
  drops : ∀ v, v ∈ sw.drops → c09_before v r pos

theorem c09_Fresh.own {sw : Sweep} {r pos : Nat} (h : c09_Fresh sw r pos) {c : Nat} {v : c09_Id}
    (ho : c09_own sw c = some v) : c09_before v r pos :=
  h.cols c v (lookupLast_mem ho)

theorem c09_Fresh.mono {sw : Sweep} {r pos r' pos' : Nat} (h : c09_Fresh sw r pos)
    (hm : ∀ v, c09_before v r pos → c09_before v r' pos') : c09_Fresh sw r' pos' :=
  ⟨fun c v hv => hm v (h.cols c v hv), fun v hv => hm v (h.incs v hv), fun v hv => hm v (h.drops v hv)⟩

theorem c09_Fresh.step {sw : Sweep} {r pos : Nat} (h : c09_Fresh sw r pos) (ci : Nat) (vm : Bool) :
    c09_Fresh (c09_step r pos ci vm sw) r (pos + 1) := by
  have hself : c09_before (r, pos) r (pos + 1) := by simp [c09_before]
  cases hh : c09_hits ci vm sw with
  | true =>
    obtain ⟨o, ho, hs⟩ := c09_step_hit (r := r) (pos := pos) hh
    rw [hs]
    refine ⟨fun c v hv => c09_before_succ (h.cols c v hv), ?_, ?_⟩
    · intro v hv
      simp only [List.mem_append, List.mem_singleton] at hv
      rcases hv with hv | hv
      · exact c09_before_succ (h.incs v hv)
      · subst hv; exact c09_before_succ (h.own ho)
    · intro v hv
      simp only [List.mem_append, List.mem_singleton] at hv
      rcases hv with hv | hv
      · exact c09_before_succ (h.drops v hv)
      · subst hv; exact hself
  | false =>
    rw [c09_step_miss hh]
    refine ⟨?_, fun v hv => c09_before_succ (h.incs v hv), fun v hv => c09_before_succ (h.drops v hv)⟩
    intro c v hv
    simp only [List.mem_append, List.mem_singleton, Prod.mk.injEq] at hv
    rcases hv with hv | hv
    · exact c09_before_succ (h.cols c v hv)
    · rw [hv.2]; exact hself

end Mammoth
