/-
  C10, the reader: the complex-field state machine (`read_fld_char` on the stack of open fields) and
  `current_hyperlink_kwargs`; the reader branches for `w:fldChar`, `w:instrText`, `w:r` as equations and
  what `w:r` and `w:hyperlink` build from their children.
-/
import MammothModel.Reader
import Proofs.C05_ReadBody
namespace Mammoth

inductive c10_fldKind where
  | begin | end_ | separate | other
deriving DecidableEq, Repr

/-- the kind of a `w:fldChar`, by its `w:fldCharType` attribute -/
def c10_kind (as : Attrs) : c10_fldKind :=
  let ty := attr? S!"w:fldCharType" as
  if ty == some S!"begin" then .begin
  else if ty == some S!"end" then .end_
  else if ty == some S!"separate" then .separate
  else .other

/-- the events that touch the reader state: `w:fldChar` and `w:instrText` -/
inductive c10_ev where
  | fld (as : Attrs) (cs : List XmlNode)
  | instr (text : Str)

def c10_step (st : RState) : c10_ev → Except Err RState
  | .fld as cs => (readFldChar st as cs).map (·.2)
  | .instr t => .ok { st with instr := st.instr ++ t }

def c10_run : RState → List c10_ev → Except Err RState
  | st, [] => .ok st
  | st, e :: es =>
    match c10_step st e with
    | .ok st' => c10_run st' es
    | .error err => .error err

/-- starting at depth `d`, no `end`/`separate` ever meets an empty stack -/
def c10_wellNested : Nat → List c10_ev → Bool
  | _, [] => true
  | d, .instr _ :: es => c10_wellNested d es
  | d, .fld as _ :: es =>
    match c10_kind as with
    | .begin => c10_wellNested (d + 1) es
    | .end_ => decide (0 < d) && c10_wellNested (d - 1) es
    | .separate => decide (0 < d) && c10_wellNested d es
    | .other => c10_wellNested d es

def c10_isKind (k : c10_fldKind) : c10_ev → Bool
  | .fld as _ => c10_kind as == k
  | .instr _ => false

def c10_begins (es : List c10_ev) : Nat := (es.filter (c10_isKind .begin)).length
def c10_ends (es : List c10_ev) : Nat := (es.filter (c10_isKind .end_)).length

/-- the field that `end` pops: one that never saw its `separate` is parsed now -/
def c10_endField (st : RState) (top : Field) : Field :=
  match top with
  | .begin _ => parseCurrentInstr st top
  | other => other

/-- what `end` emits: a checkbox field yields its checkbox, every other field nothing -/
def c10_endResult : Field → ReadResult
  | .checkbox c => rrElems [.checkbox c]
  | _ => {}

theorem c10_readFldChar_kind (st : RState) (as : Attrs) (cs : List XmlNode) :
    readFldChar st as cs =
      match c10_kind as with
      | .begin => .ok ({}, { st with stack := .begin cs :: st.stack, instr := [] })
      | .end_ =>
        match st.stack with
        | [] => .error (.index S!"pop from empty list")
        | top :: rest => .ok (c10_endResult (c10_endField st top), { st with stack := rest })
      | .separate =>
        match st.stack with
        | [] => .error (.index S!"pop from empty list")
        | top :: rest => .ok ({}, { st with stack := parseCurrentInstr st top :: rest })
      | .other => .ok ({}, st) := by
  unfold readFldChar c10_kind
  simp only
  generalize attr? S!"w:fldCharType" as = ty
  cases h1 : ty == some S!"begin"
  case true => rfl
  cases h2 : ty == some S!"end"
  case true =>
    cases st.stack with
    | nil => rfl
    | cons top rest =>
      show (match c10_endField st top with
            | .checkbox c => (Except.ok (rrElems [.checkbox c], _) : Except Err (ReadResult × RState))
            | _ => .ok ({}, _)) = .ok (c10_endResult (c10_endField st top), _)
      cases c10_endField st top <;> rfl
  cases h3 : ty == some S!"separate" <;> rfl

theorem c10_counts_instr (t : Str) (es : List c10_ev) :
    c10_begins (.instr t :: es) = c10_begins es ∧ c10_ends (.instr t :: es) = c10_ends es := by
  simp [c10_begins, c10_ends, c10_isKind]

theorem c10_counts_fld (as : Attrs) (cs : List XmlNode) (es : List c10_ev) :
    c10_begins (.fld as cs :: es) = (if c10_kind as = .begin then 1 else 0) + c10_begins es ∧
    c10_ends (.fld as cs :: es) = (if c10_kind as = .end_ then 1 else 0) + c10_ends es := by
  simp only [c10_begins, c10_ends, List.filter_cons, c10_isKind, beq_iff_eq]
  constructor <;> split <;> simp <;> omega

theorem c10_step_fld (st : RState) (as : Attrs) (cs : List XmlNode) :
    c10_step st (.fld as cs) = (readFldChar st as cs).map (·.2) := rfl

theorem c10_step_spec (st : RState) (e : c10_ev) :
    (c10_step st e = .error (.index S!"pop from empty list") ∧
      ∀ es, c10_wellNested st.stack.length (e :: es) = false) ∨
    ∃ st', c10_step st e = .ok st' ∧
      (∀ es, c10_wellNested st.stack.length (e :: es) = c10_wellNested st'.stack.length es) ∧
      ∀ es, st'.stack.length + c10_ends (e :: es) + c10_begins es =
        st.stack.length + c10_begins (e :: es) + c10_ends es := by
  cases e with
  | instr t =>
    refine .inr ⟨_, rfl, fun _ => rfl, fun es => ?_⟩
    rw [(c10_counts_instr t es).1, (c10_counts_instr t es).2]
    exact Nat.add_right_comm ..
  | fld as cs =>
    simp only [c10_step_fld, c10_readFldChar_kind, fun es => (c10_counts_fld as cs es).1,
      fun es => (c10_counts_fld as cs es).2, c10_wellNested]
    cases c10_kind as with
    | begin | other => exact .inr ⟨_, rfl, fun _ => rfl, fun _ => by simp; omega⟩
    | separate | end_ =>
      cases st.stack with
      | nil => exact .inl ⟨rfl, fun _ => rfl⟩
      | cons top rest => exact .inr ⟨_, rfl, fun _ => rfl, fun _ => by simp; omega⟩

theorem c10_run_ok : ∀ (evs : List c10_ev) (st : RState), c10_wellNested st.stack.length evs = true →
    ∃ st', c10_run st evs = .ok st' ∧ st'.stack.length + c10_ends evs = st.stack.length + c10_begins evs
  | [], st, _ => ⟨st, rfl, rfl⟩
  | e :: es, st, h => by
    rcases c10_step_spec st e with ⟨_, hf⟩ | ⟨st1, hs, hw, hl⟩
    · rw [hf] at h; cases h
    · obtain ⟨st', h1, h2⟩ := c10_run_ok es st1 (hw es ▸ h)
      refine ⟨st', ?_, by have := hl es; omega⟩
      rw [c10_run, hs]; exact h1

theorem c10_run_err : ∀ (evs : List c10_ev) (st : RState), c10_wellNested st.stack.length evs = false →
    c10_run st evs = .error (.index S!"pop from empty list")
  | [], _, h => by cases h
  | e :: es, st, h => by
    rw [c10_run]
    rcases c10_step_spec st e with ⟨he, _⟩ | ⟨st1, hs, hw, _⟩
    · rw [he]
    · rw [hs]; exact c10_run_err es st1 (hw es ▸ h)

theorem c10_wellNested_take : ∀ (evs : List c10_ev) (st : RState) (n : Nat),
    c10_wellNested st.stack.length evs = true →
    c10_ends (evs.take n) ≤ st.stack.length + c10_begins (evs.take n)
  | [], _, _, _ => by simp [c10_ends]
  | _ :: _, _, 0, _ => Nat.zero_le _
  | e :: es, st, n+1, h => by
    rcases c10_step_spec st e with ⟨_, hf⟩ | ⟨st1, _, hw, hl⟩
    · rw [hf] at h; cases h
    · have h1 := c10_wellNested_take es st1 n (hw es ▸ h)
      have h2 := hl (es.take n)
      rw [List.take_succ_cons]
      omega

theorem c10_kind_begin (as : Attrs) (h : attr? S!"w:fldCharType" as = some S!"begin") :
    c10_kind as = .begin := by simp [c10_kind, h]
theorem c10_kind_end (as : Attrs) (h : attr? S!"w:fldCharType" as = some S!"end") :
    c10_kind as = .end_ := by simp [c10_kind, h]
theorem c10_kind_separate (as : Attrs) (h : attr? S!"w:fldCharType" as = some S!"separate") :
    c10_kind as = .separate := by simp [c10_kind, h]

/-! ### `current_hyperlink_kwargs` -/

def c10_linkOf : Field → Option LinkProps
  | .hyperlink kw => some kw
  | _ => none

def c10_isHyperlink (f : Field) : Bool := (c10_linkOf f).isSome

theorem c10_currentHyperlink_skip (pre rest : List Field) (h : pre.all (fun f => !c10_isHyperlink f) = true) :
    currentHyperlink (pre ++ rest) = currentHyperlink rest := by
  induction pre with
  | nil => rfl
  | cons f pre ih =>
    simp only [List.all_cons, Bool.and_eq_true] at h
    cases f with
    | hyperlink kw => simp [c10_isHyperlink, c10_linkOf] at h
    | _ => simpa [currentHyperlink] using ih h.2

theorem c10_reader_fldChar (env : REnv) (f : Nat) (st : RState) (as : Attrs) (cs : List XmlNode) :
    readElem env (f+1) st (.elem S!"w:fldChar" as cs) = readFldChar st as cs :=
  c05_readElem_handler env f st as cs .fldChar (by decide)

theorem c10_reader_instr (env : REnv) (f : Nat) (st : RState) (as : Attrs) (cs : List XmlNode) :
    readElem env (f+1) st (.elem S!"w:instrText" as cs) =
      .ok ({}, { st with instr := st.instr ++ innerTextL cs }) :=
  c05_readElem_handler env f st as cs .instrText (by decide)

/-- what `run` builds from the result `r` of its children read up to state `st1` -/
def c10_runResult (env : REnv) (cs : List XmlNode) (r : ReadResult) (st1 : RState) : ReadResult :=
  { elements := [.run (readRunProps (findChildOrNull S!"w:rPr" cs).2
                  (readStyle (findChildOrNull S!"w:rPr" cs).2 S!"w:rStyle" S!"Run" env.styles.character).1)
                (match currentHyperlink st1.stack with
                  | none => r.elements
                  | some kw => [.hyperlink kw r.elements])],
    extra := r.extra,
    messages := (readStyle (findChildOrNull S!"w:rPr" cs).2 S!"w:rStyle" S!"Run" env.styles.character).2
                  ++ r.messages }

theorem c10_reader_run (env : REnv) (f : Nat) (st : RState) (as : Attrs) (cs : List XmlNode) :
    readElem env (f+1) st (.elem S!"w:r" as cs) =
      (readAllWith (readElem env f) st cs >>= fun p => pure (c10_runResult env cs p.1 p.2, p.2)) :=
  c05_readElem_handler env f st as cs .run (by decide)

/-- `w:tgtFrame`, empty counts as absent -/
def c10_tgtFrame (as : Attrs) : Option Str :=
  match attr? S!"w:tgtFrame" as with
  | some t => if t.isEmpty then none else some t
  | none => none

/-- what `hyperlink` builds from the result `r` of its children -/
def c10_hyperlinkResult (env : REnv) (as : Attrs) (r : ReadResult) : Except Err ReadResult :=
  match attr? S!"r:id" as with
  | some rid =>
    match env.rels.targetById rid with
    | .ok href =>
      .ok { r with elements := [.hyperlink
              { href := some (match attr? S!"w:anchor" as with
                              | some a => replaceFragment href a
                              | none => href),
                targetFrame := c10_tgtFrame as } r.elements] }
    | .error e => .error e
  | none =>
    match attr? S!"w:anchor" as with
    | some a => .ok { r with elements := [.hyperlink { anchor := some a, targetFrame := c10_tgtFrame as } r.elements] }
    | none => .ok r

end Mammoth
