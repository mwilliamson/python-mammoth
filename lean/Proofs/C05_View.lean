/-
  C05 — what `docx.read` (`readPackage`) reads from a package, as data (`c05_View`): the shared environment
  (content types, styles, numbering), and for the footnotes, endnotes, comments and main document parts their
  relationships and the XML nodes handed to the body reader.  `c05_view p = some v` says that all parts that
  are present parse (an ABSENT optional part is fine: it contributes nothing); then `readPackage` is the
  body reader run on the four node lists (`c05_readPackage_view`).
-/
import MammothModel.Package
namespace Mammoth

structure c05_View where
  shared : REnv
  fnRels : Rels
  fnElems : List (Attrs × List XmlNode)
  enRels : Rels
  enElems : List (Attrs × List XmlNode)
  cmRels : Rels
  cmElems : List (Attrs × List XmlNode)
  bodyRels : Rels
  body : List XmlNode

/-- the `w:footnote` / `w:endnote` elements that are notes (separators are skipped) -/
def c05_noteSel (ty : Str) (cs : List XmlNode) : List (Attrs × List XmlNode) :=
  (findChildren (S!"w:" ++ ty) cs).filter fun (as, _) => isNoteElement as

/-- relationships and selected elements of an optional part; `none` = the part is present but does not parse -/
def c05_partView (p : Package) (path : Str) (sel : List XmlNode → List (Attrs × List XmlNode)) :
    Option (Rels × List (Attrs × List XmlNode)) :=
  if p.exists path then
    match p.readRels (relsPathFor path) with
    | .error _ => none
    | .ok rels =>
      match p.readXml path with
      | .error _ => none
      | .ok (_, cs) => some (rels, sel cs)
  else some ([], [])

def c05_view (p : Package) : Option c05_View :=
  match findPartPaths p with
  | .error _ => none
  | .ok paths =>
    match readSharedEnv p paths with
    | .error _ => none
    | .ok shared =>
      match c05_partView p paths.footnotes (c05_noteSel S!"footnote") with
      | none => none
      | some fn =>
        match c05_partView p paths.endnotes (c05_noteSel S!"endnote") with
        | none => none
        | some en =>
          match c05_partView p paths.comments (findChildren S!"w:comment") with
          | none => none
          | some cm =>
            match p.readRels (relsPathFor paths.mainDocument) with
            | .error _ => none
            | .ok rels =>
              match p.readXml paths.mainDocument with
              | .error _ => none
              | .ok (_, cs) =>
                match findChild S!"w:body" cs with
                | none => none
                | some (_, body) =>
                  some { shared := shared, fnRels := fn.1, fnElems := fn.2, enRels := en.1, enElems := en.2,
                         cmRels := cm.1, cmElems := cm.2, bodyRels := rels, body := body }

/-- `readPackage` in terms of the view -/
def c05_readView (v : c05_View) (fuel : Nat) : Except Err (Document × List Str) := do
  let (fns, fm) ← readNoteElems { v.shared with rels := v.fnRels } fuel S!"footnote" {} v.fnElems
  let (ens, em) ← readNoteElems { v.shared with rels := v.enRels } fuel S!"endnote" {} v.enElems
  let (cms, cm) ← readCommentElems { v.shared with rels := v.cmRels } fuel {} v.cmElems
  let (r, _) ← readAll { v.shared with rels := v.bodyRels } fuel {} v.body
  pure ({ children := r.elements, notes := fns ++ ens, comments := cms }, fm ++ em ++ cm ++ r.messages)

theorem c05_readNoteElems_nil (env : REnv) (fuel : Nat) (ty : Str) (st : RState) :
    readNoteElems env fuel ty st [] = .ok ([], []) := by
  unfold readNoteElems; rfl

theorem c05_readCommentElems_nil (env : REnv) (fuel : Nat) (st : RState) :
    readCommentElems env fuel st [] = .ok ([], []) := by
  unfold readCommentElems; rfl

theorem c05_partView_spec {α} (p : Package) (path : Str) (sel : List XmlNode → List (Attrs × List XmlNode))
    (k : Rels → List (Attrs × List XmlNode) → Except Err α) (d : α) (hd : k [] [] = .ok d) :
    let read := if p.exists path then do
        let rels ← p.readRels (relsPathFor path)
        let (_, cs) ← p.readXml path
        k rels (sel cs)
      else .ok d
    match c05_partView p path sel with
    | some re => read = k re.1 re.2
    | none => ∃ e, read = .error e := by
  unfold c05_partView
  by_cases hex : p.exists path = true
  · simp only [if_pos hex]
    cases p.readRels (relsPathFor path) with
    | error e => exact ⟨e, rfl⟩
    | ok rels =>
      cases p.readXml path with
      | error e => exact ⟨e, rfl⟩
      | ok acs => rfl
  · simp only [if_neg hex]
    exact hd.symm

theorem c05_readNotesPart_view (p : Package) (shared : REnv) (fuel : Nat) (path ty : Str)
    (rels : Rels) (elems : List (Attrs × List XmlNode))
    (h : c05_partView p path (c05_noteSel ty) = some (rels, elems)) :
    readNotesPart p shared fuel path ty = readNoteElems { shared with rels := rels } fuel ty {} elems := by
  have := c05_partView_spec p path (c05_noteSel ty)
    (fun rels elems => readNoteElems { shared with rels := rels } fuel ty {} elems) _ (c05_readNoteElems_nil ..)
  rw [h] at this
  exact this

theorem c05_readCommentsPart_view (p : Package) (shared : REnv) (fuel : Nat) (path : Str)
    (rels : Rels) (elems : List (Attrs × List XmlNode))
    (h : c05_partView p path (findChildren S!"w:comment") = some (rels, elems)) :
    readCommentsPart p shared fuel path = readCommentElems { shared with rels := rels } fuel {} elems := by
  have := c05_partView_spec p path (findChildren S!"w:comment")
    (fun rels elems => readCommentElems { shared with rels := rels } fuel {} elems) _ (c05_readCommentElems_nil ..)
  rw [h] at this
  exact this

theorem c05_readNotesPart_fails (p : Package) (shared : REnv) (fuel : Nat) (path ty : Str)
    (h : c05_partView p path (c05_noteSel ty) = none) : ∃ e, readNotesPart p shared fuel path ty = .error e := by
  have := c05_partView_spec p path (c05_noteSel ty)
    (fun rels elems => readNoteElems { shared with rels := rels } fuel ty {} elems) _ (c05_readNoteElems_nil ..)
  rw [h] at this
  exact this

theorem c05_readCommentsPart_fails (p : Package) (shared : REnv) (fuel : Nat) (path : Str)
    (h : c05_partView p path (findChildren S!"w:comment") = none) :
    ∃ e, readCommentsPart p shared fuel path = .error e := by
  have := c05_partView_spec p path (findChildren S!"w:comment")
    (fun rels elems => readCommentElems { shared with rels := rels } fuel {} elems) _ (c05_readCommentElems_nil ..)
  rw [h] at this
  exact this

/-- when all present parts parse, `readPackage` is the body reader run on the view -/
theorem c05_readPackage_view (p : Package) (v : c05_View) (fuel : Nat) (h : c05_view p = some v) :
    readPackage p fuel = c05_readView v fuel := by
  unfold c05_view at h
  cases h1 : findPartPaths p with
  | error e => rw [h1] at h; cases h
  | ok paths =>
  rw [h1] at h; dsimp only at h
  cases h2 : readSharedEnv p paths with
  | error e => rw [h2] at h; cases h
  | ok shared =>
  rw [h2] at h; dsimp only at h
  cases h3 : c05_partView p paths.footnotes (c05_noteSel S!"footnote") with
  | none => rw [h3] at h; cases h
  | some fn =>
  rw [h3] at h; dsimp only at h
  cases h4 : c05_partView p paths.endnotes (c05_noteSel S!"endnote") with
  | none => rw [h4] at h; cases h
  | some en =>
  rw [h4] at h; dsimp only at h
  cases h5 : c05_partView p paths.comments (findChildren S!"w:comment") with
  | none => rw [h5] at h; cases h
  | some cm =>
  rw [h5] at h; dsimp only at h
  cases h6 : p.readRels (relsPathFor paths.mainDocument) with
  | error e => rw [h6] at h; cases h
  | ok rels =>
  rw [h6] at h; dsimp only at h
  cases h7 : p.readXml paths.mainDocument with
  | error e => rw [h7] at h; cases h
  | ok acs =>
  obtain ⟨as, cs⟩ := acs
  rw [h7] at h; dsimp only at h
  cases h8 : findChild S!"w:body" cs with
  | none => rw [h8] at h; cases h
  | some ab =>
  obtain ⟨bas, body⟩ := ab
  rw [h8] at h; dsimp only at h
  cases h
  obtain ⟨fnr, fne⟩ := fn
  obtain ⟨enr, ene⟩ := en
  obtain ⟨cmr, cme⟩ := cm
  unfold readPackage c05_readView
  rw [h1]
  simp only [bind, Except.bind]
  rw [h2]
  simp only
  rw [c05_readNotesPart_view p shared fuel _ _ fnr fne h3, c05_readNotesPart_view p shared fuel _ _ enr ene h4,
    c05_readCommentsPart_view p shared fuel _ cmr cme h5, h6]
  simp only [h7, h8]

end Mammoth
