/-
  C16 — from the reader to the package: the messages of `docx.read` (`readPackage`) are the warnings that
  the specification `c16_xmlWarnings` prescribes for the four stories of the package — footnotes, endnotes,
  comments, body, in this order — each read in its own environment (shared styles, numbering and content
  types; the relationships of its own part).

  All notes of one part are read by ONE body reader: field state and deferred content carry over from one
  note to the next.  Reading them one after the other is therefore the same as reading the concatenation of
  their contents, which is how `c16_noteNodes` presents a notes part to the specification.
-/
import Proofs.C16_XmlAnomaly
import MammothModel.Package
namespace Mammoth

/-- the content of the notes of a notes part, in order (separators are not notes) -/
def c16_noteNodes (ty : Str) (rootChildren : List XmlNode) : List XmlNode :=
  ((findChildren (S!"w:" ++ ty) rootChildren).filter fun e => isNoteElement e.1).flatMap (·.2)

/-- the content of the comments of the comments part, in order -/
def c16_commentNodes (rootChildren : List XmlNode) : List XmlNode :=
  (findChildren S!"w:comment" rootChildren).flatMap (·.2)

/-- a notes part as a story: its reader environment and its nodes (nothing if the part is absent) -/
def c16_notesStory (p : Package) (shared : REnv) (path ty : Str) : Except Err (REnv × List XmlNode) :=
  if p.exists path then do
    let rels ← p.readRels (relsPathFor path)
    let (_, cs) ← p.readXml path
    pure ({ shared with rels := rels }, c16_noteNodes ty cs)
  else pure (shared, [])

def c16_commentsStory (p : Package) (shared : REnv) (path : Str) : Except Err (REnv × List XmlNode) :=
  if p.exists path then do
    let rels ← p.readRels (relsPathFor path)
    let (_, cs) ← p.readXml path
    pure ({ shared with rels := rels }, c16_commentNodes cs)
  else pure (shared, [])

def c16_bodyStory (p : Package) (shared : REnv) (path : Str) : Except Err (REnv × List XmlNode) := do
  let rels ← p.readRels (relsPathFor path)
  let (_, cs) ← p.readXml path
  match findChild S!"w:body" cs with
  | none => throw (.value S!"Could not find the body element: are you sure this is a docx file?")
  | some (_, body) => pure ({ shared with rels := rels }, body)

/-- THE STORIES OF A PACKAGE in the order in which `docx.read` reads them:
    footnotes, endnotes, comments, body -/
def c16_pkgStories (p : Package) : Except Err (List (REnv × List XmlNode)) := do
  let paths ← findPartPaths p
  let shared ← readSharedEnv p paths
  let fn ← c16_notesStory p shared paths.footnotes S!"footnote"
  let en ← c16_notesStory p shared paths.endnotes S!"endnote"
  let cm ← c16_commentsStory p shared paths.comments
  let body ← c16_bodyStory p shared paths.mainDocument
  pure [fn, en, cm, body]

def c16_storiesWarnings : List (REnv × List XmlNode) → List Str
  | [] => []
  | (env, ns) :: rest => c16_xmlWarnings env ns ++ c16_storiesWarnings rest

/-- THE WARNINGS THE READER MUST PRODUCE FOR A PACKAGE -/
def c16_readerWarnings (p : Package) : Except Err (List Str) :=
  (c16_pkgStories p).map c16_storiesWarnings

/-! ### notes and comments: one reader for the whole part -/

theorem c16_specL_append_msgs (env : REnv) (xs ys : List XmlNode) (b : c16_Buf) (fs : c16_FS) :
    ((c16_specL env (xs ++ ys) b).eff fs).msgs =
      ((c16_specL env xs b).eff fs).msgs ++
        ((c16_specL env ys (c16_specL env xs b).buf).eff ((c16_specL env xs b).eff fs).fs).msgs := by
  rw [c16_specL_append]; rfl

theorem c16_readNoteElems_msgs (env : REnv) (fuel : Nat) (ty : Str) :
    ∀ (elems : List (Attrs × List XmlNode)) (st : RState) (ns : List Note) (ms : List Str),
      readNoteElems env fuel ty st elems = .ok (ns, ms) →
      ms = ((c16_specL env (elems.flatMap (·.2)) (c16_pend env st.deleted)).eff (c16_abs st)).msgs
  | [], st, ns, ms, h => by
    simp only [readNoteElems, Except.ok.injEq, Prod.mk.injEq] at h
    rw [← h.2]; rfl
  | (as, cs) :: rest, st, ns, ms, h => by
    simp only [readNoteElems] at h
    obtain ⟨⟨r, st1⟩, hr, h⟩ := bind_ok h
    have h : ∃ id, (do
        let __x ← readNoteElems env fuel ty st1 rest
        (pure ((⟨ty, id, r.elements⟩ : Note) :: __x.fst, r.messages ++ __x.snd) : Except Err _)) = .ok (ns, ms) := by
      split at h
      · obtain ⟨id, _, h⟩ := bind_ok h; exact ⟨id, h⟩
      · obtain ⟨id, hid, _⟩ := bind_ok h; cases hid
    obtain ⟨id, h⟩ := h
    obtain ⟨⟨ns1, ms1⟩, hrest, h⟩ := bind_ok h
    simp only [pure, Except.pure, Except.ok.injEq, Prod.mk.injEq] at h
    obtain ⟨_, rfl⟩ := h
    have hp := c16_readAll_spec env fuel st cs r st1 hr
    have ih := c16_readNoteElems_msgs env fuel ty rest st1 ns1 ms1 hrest
    rw [List.flatMap_cons, c16_specL_append_msgs, ← hp.sum.msgs, ← hp.fs, ← hp.buf, ← ih]

theorem c16_readCommentElems_msgs (env : REnv) (fuel : Nat) :
    ∀ (elems : List (Attrs × List XmlNode)) (st : RState) (xs : List Comment) (ms : List Str),
      readCommentElems env fuel st elems = .ok (xs, ms) →
      ms = ((c16_specL env (elems.flatMap (·.2)) (c16_pend env st.deleted)).eff (c16_abs st)).msgs
  | [], st, xs, ms, h => by
    simp only [readCommentElems, Except.ok.injEq, Prod.mk.injEq] at h
    rw [← h.2]; rfl
  | (as, cs) :: rest, st, xs, ms, h => by
    simp only [readCommentElems] at h
    obtain ⟨⟨r, st1⟩, hr, h⟩ := bind_ok h
    have h : ∃ id, (do
        let __x ← readCommentElems env fuel st1 rest
        (pure ((⟨id, r.elements, optStripped (attr? S!"w:author" as), optStripped (attr? S!"w:initials" as)⟩ : Comment)
                :: __x.fst, r.messages ++ __x.snd) : Except Err _)) = .ok (xs, ms) := by
      split at h
      · obtain ⟨id, _, h⟩ := bind_ok h; exact ⟨id, h⟩
      · obtain ⟨id, hid, _⟩ := bind_ok h; cases hid
    obtain ⟨id, h⟩ := h
    obtain ⟨⟨xs1, ms1⟩, hrest, h⟩ := bind_ok h
    simp only [pure, Except.pure, Except.ok.injEq, Prod.mk.injEq] at h
    obtain ⟨_, rfl⟩ := h
    have hp := c16_readAll_spec env fuel st cs r st1 hr
    have ih := c16_readCommentElems_msgs env fuel rest st1 xs1 ms1 hrest
    rw [List.flatMap_cons, c16_specL_append_msgs, ← hp.sum.msgs, ← hp.fs, ← hp.buf, ← ih]

/-- from the initial state the messages of `read_all` are `c16_xmlWarnings` -/
theorem c16_readAll_initial (env : REnv) (fuel : Nat) (ns : List XmlNode) (r : ReadResult) (st' : RState)
    (h : readAll env fuel {} ns = .ok (r, st')) : r.messages = c16_xmlWarnings env ns := by
  have hp := c16_readAll_spec env fuel {} ns r st' h
  rw [hp.sum.msgs]
  show ((c16_specL env ns (c16_pend env [])).eff _).msgs = _
  rw [c16_pend_nil]; rfl

theorem c16_readNotesPart_msgs (p : Package) (shared : REnv) (fuel : Nat) (path ty : Str)
    (ns : List Note) (ms : List Str) (h : readNotesPart p shared fuel path ty = .ok (ns, ms)) :
    ∃ env nodes, c16_notesStory p shared path ty = .ok (env, nodes) ∧ ms = c16_xmlWarnings env nodes := by
  unfold readNotesPart at h
  unfold c16_notesStory
  split at h
  · rename_i he
    rw [if_pos he]
    obtain ⟨rels, hrels, h⟩ := bind_ok h
    obtain ⟨⟨as, cs⟩, hxml, h⟩ := bind_ok h
    rw [hrels, hxml]
    refine ⟨_, _, rfl, ?_⟩
    have := c16_readNoteElems_msgs _ fuel ty _ {} ns ms h
    rw [this]
    show ((c16_specL _ _ (c16_pend _ [])).eff _).msgs = _
    rw [c16_pend_nil]; rfl
  · rename_i he
    rw [if_neg he]
    cases h
    exact ⟨_, _, rfl, rfl⟩

theorem c16_readCommentsPart_msgs (p : Package) (shared : REnv) (fuel : Nat) (path : Str)
    (xs : List Comment) (ms : List Str) (h : readCommentsPart p shared fuel path = .ok (xs, ms)) :
    ∃ env nodes, c16_commentsStory p shared path = .ok (env, nodes) ∧ ms = c16_xmlWarnings env nodes := by
  unfold readCommentsPart at h
  unfold c16_commentsStory
  split at h
  · rename_i he
    rw [if_pos he]
    obtain ⟨rels, hrels, h⟩ := bind_ok h
    obtain ⟨⟨as, cs⟩, hxml, h⟩ := bind_ok h
    rw [hrels, hxml]
    refine ⟨_, _, rfl, ?_⟩
    have := c16_readCommentElems_msgs _ fuel _ {} xs ms h
    rw [this]
    show ((c16_specL _ _ (c16_pend _ [])).eff _).msgs = _
    rw [c16_pend_nil]; rfl
  · rename_i he
    rw [if_neg he]
    cases h
    exact ⟨_, _, rfl, rfl⟩

/-- THE MESSAGES OF `docx.read` ARE THE WARNINGS OF THE SPECIFICATION, story by story -/
theorem c16_readPackage_messages (p : Package) (fuel : Nat) (doc : Document) (msgs : List Str)
    (h : readPackage p fuel = .ok (doc, msgs)) : c16_readerWarnings p = .ok msgs := by
  unfold readPackage at h
  unfold c16_readerWarnings c16_pkgStories
  obtain ⟨paths, hpaths, h⟩ := bind_ok h
  obtain ⟨shared, hshared, h⟩ := bind_ok h
  obtain ⟨⟨fns, fm⟩, hfn, h⟩ := bind_ok h
  obtain ⟨⟨ens, em⟩, hen, h⟩ := bind_ok h
  obtain ⟨⟨cms, cm⟩, hcm, h⟩ := bind_ok h
  obtain ⟨rels, hrels, h⟩ := bind_ok h
  obtain ⟨⟨ras, rcs⟩, hxml, h⟩ := bind_ok h
  obtain ⟨e1, n1, s1, rfl⟩ := c16_readNotesPart_msgs p shared fuel _ _ fns fm hfn
  obtain ⟨e2, n2, s2, rfl⟩ := c16_readNotesPart_msgs p shared fuel _ _ ens em hen
  obtain ⟨e3, n3, s3, rfl⟩ := c16_readCommentsPart_msgs p shared fuel _ cms cm hcm
  rw [hpaths]
  simp only [bind, Except.bind, hshared, s1, s2, s3, c16_bodyStory, hrels, hxml]
  dsimp only at h
  split at h
  · cases h
  · rename_i bas body hbody
    rw [hbody]
    obtain ⟨⟨r, stf⟩, hr, h⟩ := bind_ok h
    simp only [pure, Except.pure, Except.ok.injEq, Prod.mk.injEq] at h
    obtain ⟨_, rfl⟩ := h
    have := c16_readAll_initial _ fuel body r stf hr
    simp only [Except.map, pure, Except.pure, c16_storiesWarnings, List.append_nil, this, List.append_assoc]

end Mammoth
