/-
  C09 — `calculate_row_spans` beyond well-formed grids:
  * tables without any vertical-merge continuation mark are returned unchanged,
  * the `thead`/`tbody` split point (`bodyIndex`) is decided by the document's header flags alone.
-/
import Proofs.C09_General
namespace Mammoth

/-- a cell without the `_vmerge` mark -/
def c09e7_plainCell : Elem → Bool
  | .cell _ _ vm _ => !vm
  | _ => false

/-- a row all of whose children are cells without the `_vmerge` mark -/
def c09e7_plainRow : Elem → Bool
  | .row _ cells => cells.all c09e7_plainCell
  | _ => false

theorem c09e7_plainCell_eq {e : Elem} (h : c09e7_plainCell e = true) : ∃ c r cs, e = .cell c r false cs := by
  unfold c09e7_plainCell at h
  split at h
  · rw [Bool.not_eq_true'] at h
    rw [h]
    exact ⟨_, _, _, rfl⟩
  · cases h

theorem c09e7_plainRow_eq {e : Elem} (h : c09e7_plainRow e = true) :
    ∃ hd cells, e = .row hd cells ∧ cells.all c09e7_plainCell = true := by
  unfold c09e7_plainRow at h
  split at h
  · exact ⟨_, _, rfl, h⟩
  · cases h

theorem c09e7_sweepCells_plain (r : Nat) (cells : List Elem) (h : cells.all c09e7_plainCell = true) :
    ∀ pos ci sw, (sweepCells r cells pos ci sw).incs = sw.incs ∧ (sweepCells r cells pos ci sw).drops = sw.drops := by
  induction cells with
  | nil => intro pos ci sw; exact ⟨rfl, rfl⟩
  | cons c cs ih =>
    intro pos ci sw
    rw [List.all_cons, Bool.and_eq_true] at h
    obtain ⟨colspan, rowspan, content, rfl⟩ := c09e7_plainCell_eq h.1
    rw [c09_sweepCells_cons, c09_step_miss rfl]
    exact ih h.2 _ _ _

theorem c09e7_sweepRows_plain (rows : List Elem) (h : rows.all c09e7_plainRow = true) :
    ∀ r sw, (sweepRows rows r sw).incs = sw.incs ∧ (sweepRows rows r sw).drops = sw.drops := by
  induction rows with
  | nil => intro r sw; exact ⟨rfl, rfl⟩
  | cons c cs ih =>
    intro r sw
    rw [List.all_cons, Bool.and_eq_true] at h
    obtain ⟨hd, cells, rfl, hcells⟩ := c09e7_plainRow_eq h.1
    have h1 := c09e7_sweepCells_plain r cells hcells 0 0 sw
    have h2 := ih h.2 (r + 1) (sweepCells r cells 0 0 sw)
    exact ⟨h2.1.trans h1.1, h2.2.trans h1.2⟩

theorem c09e7_rebuildCells_plain (sw : Sweep) (hi : sw.incs = []) (hd : sw.drops = []) (r : Nat)
    (cells : List Elem) (h : cells.all c09e7_plainCell = true) :
    ∀ pos, rebuildCells sw r cells pos = cells := by
  induction cells with
  | nil => intro pos; rfl
  | cons c cs ih =>
    intro pos
    rw [List.all_cons, Bool.and_eq_true] at h
    obtain ⟨colspan, rowspan, content, rfl⟩ := c09e7_plainCell_eq h.1
    simp only [rebuildCells, hi, hd, ih h.2, List.contains_nil, Bool.false_eq_true, if_false, List.filter_nil,
      List.length_nil, Nat.add_zero]

theorem c09e7_rebuildRows_plain (sw : Sweep) (hi : sw.incs = []) (hd : sw.drops = [])
    (rows : List Elem) (h : rows.all c09e7_plainRow = true) :
    ∀ r, rebuildRows sw rows r = rows := by
  induction rows with
  | nil => intro r; rfl
  | cons c cs ih =>
    intro r
    rw [List.all_cons, Bool.and_eq_true] at h
    obtain ⟨hd', cells, rfl, hcells⟩ := c09e7_plainRow_eq h.1
    rw [rebuildRows, c09e7_rebuildCells_plain sw hi hd r cells hcells 0, ih h.2]

theorem c09e7_plain_shape (rows : List Elem) (h : rows.all c09e7_plainRow = true) : c09e7_shape rows = true := by
  rw [c09e7_shape, List.all_eq_true]
  intro x hx
  obtain ⟨hd, cells, rfl, hcells⟩ := c09e7_plainRow_eq (List.all_eq_true.mp h x hx)
  rw [Bool.and_eq_true, rowCells, List.all_eq_true]
  refine ⟨rfl, fun c hc => ?_⟩
  obtain ⟨_, _, _, rfl⟩ := c09e7_plainCell_eq (List.all_eq_true.mp hcells c hc)
  rfl

theorem c09e7_isHeaderRow_flag (e : Elem) : isHeaderRow e = (c09_rowFlag e).getD false := by
  cases e <;> rfl

theorem c09e7_bodyIndex_flags : ∀ (l l' : List Elem), l'.map c09_rowFlag = l.map c09_rowFlag →
    bodyIndex l' = bodyIndex l := by
  intro l
  induction l with
  | nil => intro l' h; cases l' with
    | nil => rfl
    | cons _ _ => simp at h
  | cons a as ih =>
    intro l' h
    cases l' with
    | nil => simp at h
    | cons b bs =>
      simp only [List.map_cons, List.cons.injEq] at h
      simp only [bodyIndex, c09e7_isHeaderRow_flag, h.1, ih bs h.2]

/-- number of consecutive indices `r, r+1, …` (at most `n` of them) at which `hdr` holds -/
def c09e7_lead (hdr : Nat → Bool) : Nat → Nat → Nat
  | _, 0 => 0
  | r, n + 1 => if hdr r then 1 + c09e7_lead hdr (r + 1) n else 0

theorem c09e7_bodyIndex_toElemsFrom (hdr : Nat → Bool) (rows : List c09_Row) :
    ∀ r, bodyIndex (c09_toElemsFrom hdr r rows) = c09e7_lead hdr r rows.length := by
  induction rows with
  | nil => intro r; rfl
  | cons row rest ih =>
    intro r
    simp only [c09_toElemsFrom, bodyIndex, isHeaderRow, List.length_cons, c09e7_lead, ih (r + 1)]

end Mammoth
