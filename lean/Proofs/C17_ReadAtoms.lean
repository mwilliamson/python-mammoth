/-
  C17, reader half — small facts used by the refinement proof: element names versus handler names, the
  specification's relationship / part-name / alt-text functions versus the model's, and the results of
  the two image readers (`readInline`, `v:imagedata`).
-/
import Proofs.C17_XmlSpec
import Proofs.C17_ElemImages
import Proofs.C05_ReadBody
namespace Mammoth

/-! ### element names and handlers -/

/-- the kind of image content each handler of the reader stands for -/
def c17_kindH : Handler → c17_Kind
  | .inline => .drawing | .imagedata => .imagedata | .paragraph => .paragraph | .pict => .pict
  | .alternateContent => .alt | .sdt => .sdt
  | .run | .table | .tableRow | .tableCell | .childElements | .hyperlink => .through
  | _ => .skip

theorem c17_kinds_agree :
    (Generated.handlers.all fun p =>
      Handler.all.any fun k => p.2 == k.name && c17_kindOf p.1 == c17_kindH k) = true := by decide +kernel

theorem c17_kinds_known : c17_kinds.all (fun p => (handlerOf p.1).isSome) = true := by decide +kernel

/-- a name with a handler has the kind of that handler -/
theorem c17_kindOf_handler {name h : Str} (hh : handlerOf name = some h) :
    ∃ k : Handler, h = k.name ∧ c17_kindOf name = c17_kindH k := by
  have := List.all_eq_true.mp c17_kinds_agree _ (lookupLast_mem hh)
  obtain ⟨k, _, hk⟩ := List.any_eq_true.mp this
  rw [Bool.and_eq_true] at hk
  exact ⟨k, eq_of_beq hk.1, eq_of_beq hk.2⟩

/-- a name without a handler is skipped -/
theorem c17_kindOf_none {name : Str} (hh : handlerOf name = none) : c17_kindOf name = .skip := by
  rcases c17_kindIn_mem c17_kinds name with h | hp
  · exact h
  · have := List.all_eq_true.mp c17_kinds_known _ hp
    dsimp only at this
    rw [hh] at this
    cases this

/-! ### the specification's helpers are the model's -/

theorem c17_relTarget_eq (rs : Rels) (id : Str) :
    c17_relTarget rs id = lookupLast id (rs.map fun r => (r.id, r.target)) := by
  induction rs with
  | nil => rfl
  | cons r rest ih =>
    simp only [c17_relTarget, List.map_cons, lookupLast, ih]
    cases lookupLast id (rest.map fun r => (r.id, r.target)) with
    | some w => simp
    | none =>
      simp only [Option.none_or]
      by_cases h : r.id = id
      · simp [h]
      · have : ¬ id = r.id := fun e => h e.symm
        simp [h, this]

theorem c17_targetById_ok {rs : Rels} {id t : Str} (h : rs.targetById id = .ok t) :
    c17_relTarget rs id = some t := by
  rw [c17_relTarget_eq]
  unfold Rels.targetById at h
  split at h
  · rename_i t' ht; cases h; exact ht
  · cases h

theorem c17_partName_eq (t : Str) : uriToZipEntryName S!"word" t = c17_partName t := by
  unfold uriToZipEntryName c17_partName
  split
  · rfl
  · rename_i h
    split
    · rename_i rest; exact absurd rfl (h rest)
    · simp

theorem c17_lstripWs_nil (s : Str) : lstripWs s = [] ↔ s.all isSpace = true := by
  induction s with
  | nil => simp [lstripWs]
  | cons c cs ih =>
    simp only [lstripWs, List.all_cons, Bool.and_eq_true]
    by_cases hc : isSpace c = true
    · simp [hc, ih]
    · simp [hc]

theorem c17_lstripWs_head (s : Str) (c : Char) (rest : Str) (h : lstripWs s = c :: rest) : isSpace c = false := by
  induction s with
  | nil => simp [lstripWs] at h
  | cons d ds ih =>
    simp only [lstripWs] at h
    by_cases hd : isSpace d = true
    · rw [if_pos hd] at h; exact ih h
    · rw [if_neg hd] at h
      cases h
      simpa using hd

/-- `strip()` leaves nothing iff the string is blank -/
theorem c17_strip_isEmpty (s : Str) : (strip s).isEmpty = c17_isBlank s := by
  unfold strip rstripWs c17_isBlank
  cases hl : lstripWs s with
  | nil =>
    have := (c17_lstripWs_nil s).mp hl
    simp [lstripWs, this]
  | cons c rest =>
    have hc := c17_lstripWs_head s c rest hl
    have hne : s.all isSpace ≠ true := fun h => by
      rw [(c17_lstripWs_nil s).mpr h] at hl; cases hl
    have h2 : lstripWs (c :: rest).reverse ≠ [] := by
      intro h
      have := (c17_lstripWs_nil _).mp h
      rw [List.all_reverse] at this
      simp only [List.all_cons, Bool.and_eq_true] at this
      rw [hc] at this
      exact absurd this.1 (by simp)
    have h3 : ((lstripWs (c :: rest).reverse).reverse).isEmpty = false := by
      cases hr : lstripWs (c :: rest).reverse with
      | nil => exact absurd hr h2
      | cons a b => simp
    rw [h3]
    cases hb : s.all isSpace with
    | true => exact absurd hb hne
    | false => rfl

theorem c17_inlineAlt_eq (cs : List XmlNode) :
    c17_inlineAlt cs = c17_altText (findChildOrNull S!"wp:docPr" cs).1 := by
  unfold c17_inlineAlt c17_altText
  simp only []
  cases hd : attr? S!"descr" (findChildOrNull S!"wp:docPr" cs).1 with
  | none => simp [strip, rstripWs, lstripWs]
  | some d =>
    simp only [Option.getD_some, c17_strip_isEmpty]
    cases c17_isBlank d <;> simp

/-- the blips of a drawing, depth first, are the model's breadth-wise collection -/
theorem c17_inlineBlips_eq (cs : List XmlNode) :
    (c17_inlineBlips cs).map (·.1) = c17_descend c17_blipPath cs := by
  simp only [c17_inlineBlips, c17_blipPath, c17_descend, flatChildren, List.flatMap_assoc, List.map_flatMap]

/-! ### results without children -/

/-- a result made of childless elements, with nothing in the extra channel, whose images are `l` -/
def c17_leafRes (r : ReadResult) (l : List ImageProps) : Prop :=
  r.extra = [] ∧ r.elements.all c01_atom = true ∧ c17_elemImagesL r.elements = l

theorem c17_leafRes_empty : c17_leafRes {} [] := ⟨rfl, rfl, by simp⟩
theorem c17_leafRes_msg (m : Str) : c17_leafRes (rrMsg m) [] := ⟨rfl, rfl, by simp [rrMsg]⟩

theorem c17_leafRes_concat {a b : ReadResult} {la lb : List ImageProps}
    (ha : c17_leafRes a la) (hb : c17_leafRes b lb) : c17_leafRes (a.concat b) (la ++ lb) := by
  obtain ⟨a1, a2, a3⟩ := ha
  obtain ⟨b1, b2, b3⟩ := hb
  refine ⟨by simp [ReadResult.concat, a1, b1], by simp only [ReadResult.concat, List.all_append, a2, b2]; rfl, ?_⟩
  simp [ReadResult.concat, c17_elemImagesL_append, a3, b3]

/-- a result whose elements are childless and carry no image -/
theorem c17_leafRes_of_silent {r : ReadResult} (h1 : r.extra = []) (h2 : r.elements.all c01_atom = true)
    (h3 : c17_elemImagesL r.elements = []) : c17_leafRes r [] := ⟨h1, h2, h3⟩

theorem c17_leafRes_atom (e : Elem) (ha : c01_atom e = true) (hi : c17_elemImages e = []) :
    c17_leafRes (rrElems [e]) [] :=
  ⟨rfl, by simp [rrElems, ha], by simp [rrElems, hi]⟩

theorem c17_leafRes_break (as : Attrs) : c17_leafRes (readBreak as) [] := by
  have hb (s : Str) : c17_leafRes (rrElems [.brk s]) [] := c17_leafRes_atom _ rfl (by simp [c17_elemImages])
  unfold readBreak
  split
  · exact hb _
  · split
    · exact hb _
    · split
      · exact hb _
      · split
        · exact hb _
        · exact c17_leafRes_msg _

theorem c17_leafRes_symbol (as : Attrs) (r : ReadResult) (h : readSymbol as = .ok r) : c17_leafRes r [] := by
  unfold readSymbol at h
  dsimp only at h
  split at h
  · cases h; exact c17_leafRes_msg _
  split at h
  · cases h
  split at h
  · cases h; exact c17_leafRes_atom _ rfl rfl
  · cases h; exact c17_leafRes_msg _

theorem c17_leafRes_fldChar (st : RState) (as : Attrs) (cs : List XmlNode) (r : ReadResult) (st' : RState)
    (h : readFldChar st as cs = .ok (r, st')) : c17_leafRes r [] ∧ st'.deleted = st.deleted := by
  unfold readFldChar at h
  dsimp only at h
  split at h
  · cases h; exact ⟨c17_leafRes_empty, rfl⟩
  · split at h
    · split at h
      · cases h
      · split at h
        · cases h; exact ⟨c17_leafRes_atom _ rfl (by simp [c17_elemImages]), rfl⟩
        · cases h; exact ⟨c17_leafRes_empty, rfl⟩
    · split at h
      · split at h
        · cases h
        · cases h; exact ⟨c17_leafRes_empty, rfl⟩
      · cases h; exact ⟨c17_leafRes_empty, rfl⟩

theorem c17_leafRes_image (env : REnv) (path : Str) (src : ImageSrc) (alt : Option Str) :
    c17_leafRes (readImage env path src alt) [c17_image env path src alt] := by
  rw [c17_readImage_eq, c17_findContentType_eq]
  exact ⟨rfl, rfl, by simp [c17_elemImages, c17_image]⟩

theorem c17_leafRes_embedded (env : REnv) (rid : Str) (alt : Option Str) (r : ReadResult)
    (h : readEmbeddedImage env rid alt = .ok r) : c17_leafRes r (c17_embedded env rid alt) := by
  unfold readEmbeddedImage at h
  cases ht : env.rels.targetById rid with
  | error e => rw [ht] at h; cases h
  | ok t =>
    rw [ht] at h
    simp only [bind, Except.bind, pure, Except.pure, Except.ok.injEq] at h
    rw [← h, c17_partName_eq]
    unfold c17_embedded
    rw [c17_targetById_ok ht]
    exact c17_leafRes_image _ _ _ _

theorem c17_leafRes_blip (env : REnv) (as : Attrs) (alt : Option Str) (r : ReadResult)
    (h : readBlip env as alt = .ok r) : c17_leafRes r (c17_blip env as alt) := by
  unfold readBlip at h
  unfold c17_blip
  split at h
  · rename_i rid he
    rw [he]
    exact c17_leafRes_embedded _ _ _ _ h
  · rename_i he
    rw [he]
    dsimp only
    split at h
    · rename_i rid hl
      rw [hl]
      dsimp only
      cases ht : env.rels.targetById rid with
      | error e => rw [ht] at h; cases h
      | ok t =>
        rw [ht] at h
        simp only [bind, Except.bind, pure, Except.pure, Except.ok.injEq] at h
        rw [← h]
        unfold c17_linked
        rw [c17_targetById_ok ht]
        exact c17_leafRes_image _ _ _ _
    · rename_i hl
      rw [hl]
      cases h; exact c17_leafRes_msg _

theorem c17_leafRes_mapM {α} (f : α → Except Err ReadResult) (g : α → List ImageProps)
    (hf : ∀ a r, f a = .ok r → c17_leafRes r (g a)) :
    ∀ (l : List α) (rs : List ReadResult) (acc : ReadResult) (la : List ImageProps),
      l.mapM f = .ok rs → c17_leafRes acc la → c17_leafRes (rs.foldl ReadResult.concat acc) (la ++ l.flatMap g) := by
  intro l
  induction l with
  | nil =>
    intro rs acc la h hacc
    simp only [List.mapM_nil, pure, Except.pure, Except.ok.injEq] at h
    subst h
    simpa using hacc
  | cons a l ih =>
    intro rs acc la h hacc
    rw [List.mapM_cons] at h
    cases hfa : f a with
    | error e => rw [hfa] at h; cases h
    | ok b1 =>
      cases hl : l.mapM f with
      | error e => rw [hfa, hl] at h; cases h
      | ok bs1 =>
        rw [hfa, hl] at h
        simp only [bind, Except.bind, pure, Except.pure, Except.ok.injEq] at h
        subst h
        simp only [List.foldl_cons, List.flatMap_cons]
        rw [← List.append_assoc]
        exact ih bs1 _ _ hl (c17_leafRes_concat hacc (hf a b1 hfa))

/-- `wp:inline` / `wp:anchor` -/
theorem c17_leafRes_inline (env : REnv) (cs : List XmlNode) (r : ReadResult)
    (h : readInline env cs = .ok r) : c17_leafRes r (c17_drawing env cs) := by
  rw [c17_readInline_eq] at h
  cases hm : (c17_inlineBlips cs).mapM (fun (b : Attrs × List XmlNode) => readBlip env b.1 (c17_inlineAlt cs)) with
  | error e => rw [hm] at h; cases h
  | ok rs =>
    rw [hm] at h
    simp only [Except.map, Except.ok.injEq] at h
    rw [← h]
    have := c17_leafRes_mapM (fun (b : Attrs × List XmlNode) => readBlip env b.1 (c17_inlineAlt cs))
      (fun b => c17_blip env b.1 (c17_inlineAlt cs))
      (fun a r ha => c17_leafRes_blip env a.1 _ r ha) _ rs {} [] hm c17_leafRes_empty
    simp only [List.nil_append] at this
    unfold c17_drawing
    rw [← c17_inlineBlips_eq, ← c17_inlineAlt_eq, List.flatMap_map]
    exact this

/-- `v:imagedata` -/
theorem c17_leafRes_imagedata (env : REnv) (as : Attrs) (st : RState) (r : ReadResult) (st' : RState)
    (h : (match attr? S!"r:id" as with
          | none => Except.ok (rrMsg S!"A v:imagedata element without a relationship ID was ignored", st)
          | some rid => (readEmbeddedImage env rid (attr? S!"o:title" as)).map (·, st)) = .ok (r, st')) :
    c17_leafRes r (c17_imagedata env as) ∧ st' = st := by
  unfold c17_imagedata
  split at h
  · rename_i hid
    rw [hid]
    cases h; exact ⟨c17_leafRes_msg _, rfl⟩
  · rename_i rid hid
    rw [hid]
    cases hs : readEmbeddedImage env rid (attr? S!"o:title" as) with
    | error e => rw [hs] at h; cases h
    | ok r1 =>
      rw [hs] at h
      simp only [Except.map, Except.ok.injEq, Prod.mk.injEq] at h
      obtain ⟨rfl, rfl⟩ := h
      exact ⟨c17_leafRes_embedded env _ _ r1 hs, rfl⟩

end Mammoth
