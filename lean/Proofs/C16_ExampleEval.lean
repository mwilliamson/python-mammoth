/-
  C16 — the example packages of Proofs/C16_Example.lean, evaluated.
-/
import Proofs.C16_ApiSpec
import Proofs.C16_Example
namespace Mammoth

theorem c16_exParts_noEmbedded (a b : List XmlNode) : readEmbeddedStyleMap ⟨c16_exParts a b⟩ = .ok none := rfl

/-- the two example packages under the default options, one closed statement; the default style map enters as
    the value `c08_defaultMapValue` -/
theorem c16_ex_runs :
    (c16_pkgXmlClean c16_exCleanPkg = true ∧
     (match readPackage c16_exCleanPkg 30 with
      | .ok (doc, _) => c16_docClean (c16_apiCfg c16_exCleanPkg none (fun _ => none) {} none) doc
      | .error _ => false) = true ∧
     ((apiConvert c16_exCleanPkg 30 none (fun _ => none) id {}).toOption.map (·.messages)) = some []) ∧
    ((readPackage c16_exAnomalyPkg 30).toOption.map (·.2)) =
      some [S!"An unrecognised element was ignored: w:foo", S!"An unrecognised element was ignored: w:foo"] ∧
    ((apiConvert c16_exAnomalyPkg 30 none (fun _ => none) id {}).toOption.map (·.messages)) =
      some [S!"An unrecognised element was ignored: w:foo"] := by
  rw [c16_apiConvert_default c16_exCleanPkg (he := c16_exParts_noEmbedded _ _),
    c16_apiConvert_default c16_exAnomalyPkg (he := c16_exParts_noEmbedded _ _), c05_apiRest, c05_apiRest,
    ← c16_apiCfg_eq, c16_apiCfg_default, c16_apiCfg_default]
  decide +kernel

end Mammoth
