/-
  C05 — the "parts parse" clause of the domain is necessary: when `c05_view p = none` (a part that is present
  does not parse, or the main document / its body is missing), `readPackage` fails, whatever the fuel.
-/
import Proofs.C05_View
namespace Mammoth

theorem c05_bind_fails {α β} (x : Except Err α) (f : α → Except Err β)
    (h : ∀ a, x = .ok a → ∃ e, f a = .error e) : ∃ e, (x >>= f) = .error e := by
  cases x with
  | error e => exact ⟨e, rfl⟩
  | ok a => exact h a rfl

theorem c05_fails_bind {α β} {x : Except Err α} (hx : ∃ e, x = .error e) (f : α → Except Err β) :
    ∃ e, (x >>= f) = .error e := by
  obtain ⟨e, rfl⟩ := hx
  exact ⟨e, rfl⟩

theorem c05_view_none_fails (p : Package) (fuel : Nat) (h : c05_view p = none) :
    ∃ e, readPackage p fuel = .error e := by
  unfold c05_view at h
  unfold readPackage
  apply c05_bind_fails; intro paths h1
  rw [h1] at h; dsimp only at h
  apply c05_bind_fails; intro shared h2
  rw [h2] at h; dsimp only at h
  cases h3 : c05_partView p paths.footnotes (c05_noteSel S!"footnote") with
  | none => exact c05_fails_bind (c05_readNotesPart_fails p shared fuel _ _ h3) _
  | some fn =>
  rw [h3] at h; dsimp only at h
  apply c05_bind_fails; intro fnr _
  cases h4 : c05_partView p paths.endnotes (c05_noteSel S!"endnote") with
  | none => exact c05_fails_bind (c05_readNotesPart_fails p shared fuel _ _ h4) _
  | some en =>
  rw [h4] at h; dsimp only at h
  apply c05_bind_fails; intro enr _
  cases h5 : c05_partView p paths.comments (findChildren S!"w:comment") with
  | none => exact c05_fails_bind (c05_readCommentsPart_fails p shared fuel _ h5) _
  | some cm =>
  rw [h5] at h; dsimp only at h
  apply c05_bind_fails; intro cmr _
  apply c05_bind_fails; intro rels h6
  rw [h6] at h; dsimp only at h
  apply c05_bind_fails; intro acs h7
  rw [h7] at h; dsimp only at h ⊢
  cases h8 : findChild S!"w:body" acs.2 with
  | none => exact ⟨_, rfl⟩
  | some ab => rw [h8] at h; cases h

end Mammoth
