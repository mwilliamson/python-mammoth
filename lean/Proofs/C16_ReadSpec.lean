/-
  C16, reader half — the refinement: for every environment, amount of fuel, reader state and XML node,
  a successful run of the element reader returns exactly the messages (and the table shape, and the field
  state, and the deferred buffer) that `c16_spec` prescribes.
-/
import Proofs.C16_ReadLeaf
import Proofs.ReaderObs
namespace Mammoth

/-! ### equations of the specification, by kind -/

section
variable (env : REnv) {name : Str} (as : Attrs) (cs : List XmlNode) (b : c16_Buf)

theorem c16_spec_unknown (h : c16_kindOf name = .unknown) :
    c16_spec env (.elem name as cs) b = ⟨c16_emit (c16_unknownWarn name) false, b⟩ := by simp [c16_spec, h]
theorem c16_spec_atom (h : c16_kindOf name = .atom) :
    c16_spec env (.elem name as cs) b = ⟨c16_emit [] true, b⟩ := by simp [c16_spec, h]
theorem c16_spec_sym (h : c16_kindOf name = .sym) :
    c16_spec env (.elem name as cs) b = ⟨c16_emit (c16_symWarn as) (c16_symChar as).isSome, b⟩ := by
  simp [c16_spec, h]
theorem c16_spec_br (h : c16_kindOf name = .br) :
    c16_spec env (.elem name as cs) b = ⟨c16_emit (c16_breakWarn as) (c16_breakWarn as).isEmpty, b⟩ := by
  simp [c16_spec, h]
theorem c16_spec_bookmark (h : c16_kindOf name = .bookmark) :
    c16_spec env (.elem name as cs) b =
      ⟨c16_emit [] (decide (attr? S!"w:name" as ≠ some S!"_GoBack")), b⟩ := by simp [c16_spec, h]
theorem c16_spec_fldChar (h : c16_kindOf name = .fldChar) :
    c16_spec env (.elem name as cs) b = ⟨c16_fldChar as, b⟩ := by simp [c16_spec, h]
theorem c16_spec_instrText (h : c16_kindOf name = .instrText) :
    c16_spec env (.elem name as cs) b =
      ⟨fun fs => ⟨[], 0, true, ⟨fs.stack, fs.instr ++ innerTextL cs⟩⟩, b⟩ := by simp [c16_spec, h]
theorem c16_spec_inline (h : c16_kindOf name = .inline) :
    c16_spec env (.elem name as cs) b =
      ⟨c16_emit (c16_blipsWarn env (c16_blips cs)) ((c16_blips cs).any c16_blipHasImage), b⟩ := by
  simp [c16_spec, h]
theorem c16_spec_imagedata (h : c16_kindOf name = .imagedata) :
    c16_spec env (.elem name as cs) b = ⟨c16_emit (c16_imagedataWarn env as) (attr? S!"r:id" as).isSome, b⟩ := by
  simp [c16_spec, h]
theorem c16_spec_run (h : c16_kindOf name = .run) :
    c16_spec env (.elem name as cs) b =
      ⟨c16_box (c16_styleWarn S!"Run" S!"w:rPr" S!"w:rStyle" env.styles.character cs) (c16_specL env cs b).eff,
       (c16_specL env cs b).buf⟩ := by simp [c16_spec, h]
theorem c16_spec_paragraph (h : c16_kindOf name = .paragraph) :
    c16_spec env (.elem name as cs) b =
      if c16_delMark cs then
        ⟨c16_skip, c16_bufCons (c16_seq (c16_bufHead b) (c16_specL env cs (c16_bufTail b)).eff)
                      (c16_specL env cs (c16_bufTail b)).buf⟩
      else
        ⟨c16_box (c16_styleWarn S!"Paragraph" S!"w:pPr" S!"w:pStyle" env.styles.paragraph cs)
            (c16_seq (c16_bufHead b) (c16_specL env cs (c16_bufTail b)).eff),
         (c16_specL env cs (c16_bufTail b)).buf⟩ := by simp [c16_spec, h]
theorem c16_spec_table (h : c16_kindOf name = .table) :
    c16_spec env (.elem name as cs) b =
      ⟨c16_tableEff (c16_styleWarn S!"Table" S!"w:tblPr" S!"w:tblStyle" env.styles.table cs) (c16_specL env cs b).eff,
       (c16_specL env cs b).buf⟩ := by simp [c16_spec, h]
theorem c16_spec_row (h : c16_kindOf name = .row) :
    c16_spec env (.elem name as cs) b = ⟨c16_rowEff (c16_specL env cs b).eff, (c16_specL env cs b).buf⟩ := by
  simp [c16_spec, h]
theorem c16_spec_cell (h : c16_kindOf name = .cell) :
    c16_spec env (.elem name as cs) b = ⟨c16_cellEff (c16_specL env cs b).eff, (c16_specL env cs b).buf⟩ := by
  simp [c16_spec, h]
theorem c16_spec_through (h : c16_kindOf name = .through) :
    c16_spec env (.elem name as cs) b = c16_specL env cs b := by simp [c16_spec, h]
theorem c16_spec_pict (h : c16_kindOf name = .pict) :
    c16_spec env (.elem name as cs) b = ⟨c16_pictEff (c16_specL env cs b).eff, (c16_specL env cs b).buf⟩ := by
  simp [c16_spec, h]
theorem c16_spec_hyperlink (h : c16_kindOf name = .hyperlink) :
    c16_spec env (.elem name as cs) b =
      if (attr? S!"r:id" as).isSome || (attr? S!"w:anchor" as).isSome then
        ⟨c16_box [] (c16_specL env cs b).eff, (c16_specL env cs b).buf⟩
      else c16_specL env cs b := by simp [c16_spec, h]
theorem c16_spec_alt (h : c16_kindOf name = .alt) :
    c16_spec env (.elem name as cs) b = c16_specL env (findChildOrNull S!"mc:Fallback" cs).2 b := by
  simp [c16_spec, h, c16_specIn_eq]
theorem c16_spec_sdt (h : c16_kindOf name = .sdt) :
    c16_spec env (.elem name as cs) b =
      if c16_isCheckboxSdt cs then ⟨c16_emit [] true, b⟩
      else c16_specL env (findChildOrNull S!"w:sdtContent" cs).2 b := by
  simp [c16_spec, h, c16_specIn_eq]
end

/-- a paragraph that opens with the nodes `ds` held back: traversing `ds ++ cs` from the empty buffer is
    reading level 0 of `c16_pend ds` and then traversing `cs` with the deeper levels -/
theorem c16_pend_key (env : REnv) (ds cs : List XmlNode) :
    (c16_specL env (ds ++ cs) c16_noBuf).eff =
        c16_seq (c16_bufHead (c16_pend env ds)) (c16_specL env cs (c16_bufTail (c16_pend env ds))).eff ∧
    (c16_specL env (ds ++ cs) c16_noBuf).buf = (c16_specL env cs (c16_bufTail (c16_pend env ds))).buf := by
  rw [c16_specL_append]
  exact ⟨rfl, rfl⟩

theorem c16_readStyle_msgs (kind propsTag tag : Str) (table : List (Option Str × Option Str)) (cs : List XmlNode) :
    (readStyle (findChildOrNull propsTag cs).2 tag kind table).2 = c16_styleWarn kind propsTag tag table cs := by
  unfold readStyle c16_styleWarn
  cases childAttr tag S!"w:val" (findChildOrNull propsTag cs).2 with
  | none => rfl
  | some sid =>
    dsimp only
    cases lookupLast (some sid) table <;> rfl

/-! ### the refinement statement -/

/-- starting in state `st`, the reader returned `r` and ended in `st'`; the specification, started with
    the buffer that stands for `st.deleted`, is `s`: run in the field state of `st` it gives the messages
    and the table shape of `r` and the field state of `st'`; its buffer stands for `st'.deleted` -/
structure c16_R (env : REnv) (st : RState) (s : c16_Step) (r : ReadResult) (st' : RState) : Prop where
  sum : c16_Sum r (s.eff (c16_abs st))
  fs : c16_abs st' = (s.eff (c16_abs st)).fs
  buf : c16_pend env st'.deleted = s.buf

theorem c16_code_cons_other (e : Elem) (es : List Elem) (ho : c16_other e = true) :
    c16_code (e :: es) = 2 ∧ (e :: es).all isCell = false := by
  simp only [c16_other, Bool.and_eq_true, Bool.not_eq_true'] at ho
  simp [c16_code, ho.1, ho.2]

/-- a leaf of the traversal that leaves the state alone -/
theorem c16_R_leaf (env : REnv) (st : RState) (r : ReadResult) (ms : List Str) (elem : Bool)
    (h : c16_Sum r (c16_emit ms elem (c16_abs st))) :
    c16_R env st ⟨c16_emit ms elem, c16_pend env st.deleted⟩ r st := ⟨h, rfl, rfl⟩

abbrev c16_Q (env : REnv) (st : RState) (n : XmlNode) (p : ReadResult × RState) : Prop :=
  c16_R env st (c16_spec env n (c16_pend env st.deleted)) p.1 p.2

abbrev c16_QL (env : REnv) (st : RState) (ns : List XmlNode) (p : ReadResult × RState) : Prop :=
  c16_R env st (c16_specL env ns (c16_pend env st.deleted)) p.1 p.2

/-- one element, given the reader for lists of children -/
theorem c16_readHandler_spec (env : REnv) (ra : c05_RdAll)
    (ih : ∀ st ns, c05_spec (fun _ => True) (c16_QL env st ns) (ra st ns))
    (st : RState) {name : Str} (as : Attrs) (cs : List XmlNode) (k : Handler)
    (hk : c16_kindOf name = c16_kindH k) :
    c05_spec (fun _ => True) (c16_Q env st (.elem name as cs)) (readHandler env ra st as cs k) := by
  unfold c16_Q
  cases k with
  | text | tab | noBreakHyphen | softHyphen =>
    rw [c16_spec_atom env as cs _ hk]
    exact c05_spec_ok _ (c16_R_leaf env st _ _ _ (c16_Sum_one _ [] _ rfl))
  | footnoteRef | endnoteRef | commentRef =>
    rw [c16_spec_atom env as cs _ hk]
    dsimp only [readHandler, readNoteRef]
    cases attr? S!"w:id" as with
    | none => exact ⟨fun _ _ => trivial, fun _ h => nomatch h⟩
    | some id => exact c05_spec_ok _ (c16_R_leaf env st _ _ _ (c16_Sum_one _ [] _ rfl))
  | run =>
    rw [c16_spec_run env as cs _ hk, ← c16_readStyle_msgs]
    refine c05_spec_bind _ _ (ih st cs) fun p hp => c05_spec_pure _ ⟨?_, hp.fs, hp.buf⟩
    exact c16_Sum_box _ _ _ _ _ rfl hp.sum.msgs
  | paragraph =>
    obtain ⟨k1, k2⟩ := c16_pend_key env st.deleted cs
    rw [c16_spec_paragraph env as cs _ hk, ← k1, ← k2]
    refine c05_spec_ite (c16_delMark cs = true) _ _ (fun hd => ?_) (fun hd => ?_)
    · -- the mark is deleted: the content joins the held-back nodes
      rw [if_pos hd]
      exact c05_spec_ok _ ⟨c16_Sum_empty _, rfl, rfl⟩
    · rw [if_neg hd]
      have hp0 := ih { st with deleted := [] } (st.deleted ++ cs)
      unfold c16_QL at hp0
      rw [show c16_pend env ({ st with deleted := [] } : RState).deleted = c16_noBuf from c16_pend_nil env] at hp0
      refine c05_spec_bind _ _ hp0 fun p hp => ?_
      refine c05_spec_bind (Q := fun _ => True) _ _ ⟨fun _ _ => trivial, fun _ _ => trivial⟩ fun num _ => ?_
      refine c05_spec_pure _ ⟨?_, hp.fs, hp.buf⟩
      rw [← c16_readStyle_msgs]
      obtain ⟨c1, c2⟩ := c16_code_cons_other (.paragraph _ p.1.elements) p.1.extra rfl
      exact ⟨congrArg _ hp.sum.msgs, c1, c2⟩
  | fldChar =>
    rw [c16_spec_fldChar env as cs _ hk]
    refine ⟨fun _ _ => trivial, fun p h => ?_⟩
    obtain ⟨h1, h2, h3⟩ := c16_readFldChar st as cs p.1 p.2 h
    exact ⟨h1, h2, by rw [h3]⟩
  | instrText =>
    rw [c16_spec_instrText env as cs _ hk]
    exact c05_spec_ok _ ⟨⟨rfl, rfl, rfl⟩, rfl, rfl⟩
  | symbol =>
    rw [c16_spec_sym env as cs _ hk]
    dsimp only [readHandler]
    exact c05_spec_map _ _ ⟨fun _ _ => trivial, fun r h => c16_readSymbol as r (c16_abs st) h⟩
      fun r hr => c16_R_leaf env st _ _ _ hr
  | break_ =>
    rw [c16_spec_br env as cs _ hk]
    exact c05_spec_ok _ (c16_R_leaf env st _ _ _ (c16_readBreak as _))
  | inline =>
    rw [c16_spec_inline env as cs _ hk]
    dsimp only [readHandler]
    exact c05_spec_map _ _ ⟨fun _ _ => trivial, fun r h => c16_readInline env cs r (c16_abs st) h⟩
      fun r hr => c16_R_leaf env st _ _ _ hr
  | imagedata =>
    rw [c16_spec_imagedata env as cs _ hk, c16_imagedataWarn]
    dsimp only [readHandler]
    cases attr? S!"r:id" as with
    | none => exact c05_spec_ok _ (c16_R_leaf env st _ _ _ (c16_Sum_msg _ _))
    | some rid =>
      refine c05_spec_map _ _ ⟨fun _ _ => trivial, fun r h => c16_readEmbedded env rid _ r h⟩ fun r hr => ?_
      obtain ⟨hm, i, he⟩ := hr
      exact c16_R_leaf env st _ _ _ (c16_Sum_emit _ _ _ _ hm (by rw [he]; rfl) (by rw [he]; rfl))
  | table =>
    rw [c16_spec_table env as cs _ hk]
    refine c05_spec_bind _ _ (ih st cs) fun p hp => c05_spec_pure _ ⟨⟨?_, rfl, rfl⟩, hp.fs, hp.buf⟩
    show (readStyle _ _ _ _).2 ++ (p.1.messages ++ (calculateRowSpans p.1.elements).2) = _ ++ (_ ++ c16_gridWarn _)
    rw [c16_readStyle_msgs, c16_calculateRowSpans_msgs, hp.sum.msgs, hp.sum.code]
  | tableRow =>
    rw [c16_spec_row env as cs _ hk]
    refine c05_spec_bind _ _ (ih st cs) fun p hp => c05_spec_pure _ ⟨⟨hp.sum.msgs, ?_, rfl⟩, hp.fs, hp.buf⟩
    exact (c16_code_row _ _).trans (congrArg (if · then 0 else 1) hp.sum.cells)
  | tableCell =>
    rw [c16_spec_cell env as cs _ hk, readHandler_tableCell]
    refine c05_spec_bind (Q := fun _ => True) _ _ ⟨fun _ _ => trivial, fun _ _ => trivial⟩ fun _ _ => ?_
    exact c05_spec_bind _ _ (ih st cs) fun p hp => c05_spec_pure _ ⟨⟨hp.sum.msgs, rfl, rfl⟩, hp.fs, hp.buf⟩
  | pict =>
    rw [c16_spec_pict env as cs _ hk]
    exact c05_spec_bind _ _ (ih st cs) fun p hp => c05_spec_pure _ ⟨⟨hp.sum.msgs, rfl, rfl⟩, hp.fs, hp.buf⟩
  | childElements =>
    rw [c16_spec_through env as cs _ hk]
    exact ih st cs
  | alternateContent =>
    rw [c16_spec_alt env as cs _ hk]
    exact ih st _
  | sdt =>
    rw [c16_spec_sdt env as cs _ hk, c16_isCheckboxSdt]
    dsimp only [readHandler]
    cases findChild S!"wordml:checkbox" (findChildOrNull S!"w:sdtPr" cs).2 with
    | some cb => exact c05_spec_ok _ (c16_R_leaf env st _ _ _ (c16_Sum_one _ [] _ rfl))
    | none => exact ih st _
  | hyperlink =>
    rw [c16_spec_hyperlink env as cs _ hk]
    refine c05_spec_bind _ _ (ih st cs) fun p hp => ?_
    have hbox (l : LinkProps) : c16_R env st ⟨c16_box [] (c16_specL env cs (c16_pend env st.deleted)).eff,
        (c16_specL env cs (c16_pend env st.deleted)).buf⟩ { p.1 with elements := [.hyperlink l p.1.elements] } p.2 :=
      ⟨⟨hp.sum.msgs, rfl, rfl⟩, hp.fs, hp.buf⟩
    dsimp only
    cases attr? S!"r:id" as with
    | some rid =>
      exact c05_spec_bind (Q := fun _ => True) _ _ ⟨fun _ _ => trivial, fun _ _ => trivial⟩
        fun _ _ => c05_spec_pure _ (hbox _)
    | none =>
      cases attr? S!"w:anchor" as with
      | some a => exact c05_spec_pure _ (hbox _)
      | none => exact c05_spec_pure _ hp
  | bookmarkStart =>
    rw [c16_spec_bookmark env as cs _ hk]
    refine c05_spec_ite _ _ _ (fun hb => ?_) (fun hb => ?_)
    · rw [decide_eq_false fun h => h (eq_of_beq hb)]
      exact c05_spec_ok _ (c16_R_leaf env st _ _ _ (c16_Sum_msg [] _))
    · have hb' : attr? S!"w:name" as ≠ some S!"_GoBack" := fun e => hb (beq_iff_eq.mpr e)
      rw [decide_eq_true hb']
      exact c05_spec_ok _ (c16_R_leaf env st _ _ _ (c16_Sum_one _ [] _ rfl))

theorem c16_closed (env : REnv) : c05_Closed env (fun _ => True) (c16_Q env) (c16_QL env) where
  fuel := trivial
  nil st := by
    dsimp only [c16_QL]
    rw [c16_specL_nil]
    exact ⟨c16_Sum_empty _, rfl, rfl⟩
  text st s := by
    dsimp only [c16_Q]
    rw [c16_spec_text]
    exact ⟨c16_Sum_empty _, rfl, rfl⟩
  skip st s ns p h := by
    dsimp only [c16_QL] at h ⊢
    rw [c16_specL_cons, c16_spec_text]
    simpa only [c16_seq_skip_left] using h
  cons st name as cs ns p1 p2 h1 h2 := by
    dsimp only [c16_Q, c16_QL] at h1 h2 ⊢
    rw [c16_specL_cons]
    rw [h1.buf] at h2
    have hfs := h2.fs
    rw [h1.fs] at hfs
    exact ⟨c16_Sum_concat h1.sum h1.fs h2.sum, hfs, h2.buf⟩
  unhandled st name as cs hg := by
    unfold c16_Q
    rw [readUnhandled, c16_spec_unknown env as cs _ (c16_kindOf_none hg), c16_unknownWarn]
    by_cases hi : name ∈ Generated.ignored
    · rw [if_pos hi, if_pos (by simpa using hi)]
      exact c05_spec_ok _ (c16_R_leaf env st _ _ _ (c16_Sum_msg [] _))
    · rw [if_neg hi, if_neg (by simpa using hi)]
      exact c05_spec_ok _ (c16_R_leaf env st _ _ _ (c16_Sum_msg _ _))
  handler ra ih st name as cs h hg := by
    obtain ⟨k, rfl, hk⟩ := c16_kindOf_handler hg
    rw [readNamed_name]
    exact c16_readHandler_spec env ra ih st as cs k hk

theorem c16_readElem_spec (env : REnv) (f : Nat) (st : RState) (n : XmlNode) (r : ReadResult) (st' : RState)
    (h : readElem env f st n = .ok (r, st')) :
    c16_R env st (c16_spec env n (c16_pend env st.deleted)) r st' :=
  (c05_readElem_closed (c16_closed env) f st n).ok _ h

theorem c16_readAll_spec (env : REnv) (f : Nat) (st : RState) (ns : List XmlNode) (r : ReadResult) (st' : RState)
    (h : readAll env f st ns = .ok (r, st')) :
    c16_R env st (c16_specL env ns (c16_pend env st.deleted)) r st' :=
  (c05_readAll_closed (c16_closed env) f st ns).ok _ h

end Mammoth
