/-
  C12 (conversion) — `_add_or_update_element` on the trees the CONVERTER reads (`XmlNode`: names in
  `prefix:local` form, text nodes kept), and what `office_xml.read` (`collapseAlt`) + `find_children`
  see of its effect.

  `xAddOrUpdate` mirrors `_add_or_update_element` / `_find_child` of mammoth/docx/style_map.py line by
  line: the first element in `parent.iter()` order (the parent itself, then all descendants in document
  order) with the tag and the same value of the identifying attribute gets `attrib = attributes`;
  if there is none, a new child is appended to the PARENT (the root).
-/
import MammothModel.Embed
namespace Mammoth

/-- the test inside `_find_child` -/
def xMatches (name idAttr : Str) (attrs : Attrs) (n : Str) (as : Attrs) : Bool :=
  n == name && attr? idAttr as == attr? idAttr attrs

mutual
/-- `existing_child.attrib = attributes` for the first element (document order) satisfying `p` -/
def xSetFirst (p : Str → Attrs → Bool) (attrs : Attrs) : XmlNode → Option XmlNode
  | .text _ => none
  | .elem n as cs =>
    if p n as then some (.elem n attrs cs)
    else match xSetFirstL p attrs cs with
      | some cs' => some (.elem n as cs')
      | none => none
def xSetFirstL (p : Str → Attrs → Bool) (attrs : Attrs) : List XmlNode → Option (List XmlNode)
  | [] => none
  | c :: cs =>
    match xSetFirst p attrs c with
    | some c' => some (c' :: cs)
    | none =>
      match xSetFirstL p attrs cs with
      | some cs' => some (c :: cs')
      | none => none
end

mutual
/-- the attributes of the element `_find_child` returns -/
def xFindFirst (p : Str → Attrs → Bool) : XmlNode → Option Attrs
  | .text _ => none
  | .elem n as cs => if p n as then some as else xFindFirstL p cs
def xFindFirstL (p : Str → Attrs → Bool) : List XmlNode → Option Attrs
  | [] => none
  | c :: cs =>
    match xFindFirst p c with
    | some as => some as
    | none => xFindFirstL p cs
end

/-- `_add_or_update_element(parent, name, identifying_attribute, attributes)`; `none`: the document
    element is not an element (impossible for a parsed file) -/
def xAddOrUpdate (root : XmlNode) (name idAttr : Str) (attrs : Attrs) : Option XmlNode :=
  match root with
  | .text _ => none
  | .elem n as cs =>
    match xSetFirst (xMatches name idAttr attrs) attrs (.elem n as cs) with
    | some r' => some r'
    | none => some (.elem n as (cs ++ [.elem name attrs []]))

/-! ### the shape of an update: exactly one element changes its attributes -/

/-- `t'` is `t` with the attributes `old` of ONE element satisfying `p` replaced by `new` -/
inductive c12_D1 (p : Str → Attrs → Bool) (old new : Attrs) : XmlNode → XmlNode → Prop
  | here (n : Str) (cs : List XmlNode) : p n old = true →
      c12_D1 p old new (.elem n old cs) (.elem n new cs)
  | under (n : Str) (as : Attrs) (a : List XmlNode) (c c' : XmlNode) (b : List XmlNode) :
      c12_D1 p old new c c' → c12_D1 p old new (.elem n as (a ++ c :: b)) (.elem n as (a ++ c' :: b))

/-- the same for lists of nodes: equal, or one node changed -/
def c12_D1L (p : Str → Attrs → Bool) (old new : Attrs) (l l' : List XmlNode) : Prop :=
  l' = l ∨ ∃ a c c' b, l = a ++ c :: b ∧ l' = a ++ c' :: b ∧ c12_D1 p old new c c'

theorem c12_D1L_refl {p old new} (l : List XmlNode) : c12_D1L p old new l l := Or.inl rfl

theorem c12_D1L_one {p old new} {c c' : XmlNode} (a b : List XmlNode) (h : c12_D1 p old new c c') :
    c12_D1L p old new (a ++ c :: b) (a ++ c' :: b) := Or.inr ⟨a, c, c', b, rfl, rfl, h⟩

theorem c12_D1L_append {p old new} {l l' : List XmlNode} (x y : List XmlNode)
    (h : c12_D1L p old new l l') : c12_D1L p old new (x ++ l ++ y) (x ++ l' ++ y) := by
  rcases h with h | ⟨a, c, c', b, h1, h2, hd⟩
  · subst h; exact Or.inl rfl
  · subst h1; subst h2
    refine Or.inr ⟨x ++ a, c, c', b ++ y, ?_, ?_, hd⟩ <;> simp

theorem c12_D1_name {p old new} {t t' : XmlNode} (h : c12_D1 p old new t t') :
    ∃ n as cs as' cs', t = .elem n as cs ∧ t' = .elem n as' cs' := by
  cases h with
  | here n cs _ => exact ⟨_, _, _, _, _, rfl, rfl⟩
  | under n as a c c' b _ => exact ⟨_, _, _, _, _, rfl, rfl⟩

/-- inversion: the element itself changed (same children), or one child did (same attributes) -/
theorem c12_D1_inv {p old new} {n n' : Str} {as as' : Attrs} {cs cs' : List XmlNode}
    (h : c12_D1 p old new (.elem n as cs) (.elem n' as' cs')) :
    n' = n ∧ ((cs' = cs ∧ as = old ∧ as' = new ∧ p n old = true) ∨
      (as' = as ∧ ∃ a c c' b, cs = a ++ c :: b ∧ cs' = a ++ c' :: b ∧ c12_D1 p old new c c')) := by
  cases h with
  | here _ _ hp => exact ⟨rfl, Or.inl ⟨rfl, rfl, rfl, hp⟩⟩
  | under _ _ a c c' b hd => exact ⟨rfl, Or.inr ⟨rfl, a, c, c', b, rfl, rfl, hd⟩⟩

mutual
theorem c12_xSetFirst_D1 (p : Str → Attrs → Bool) (new : Attrs) (t t' : XmlNode)
    (h : xSetFirst p new t = some t') :
    ∃ old, xFindFirst p t = some old ∧ c12_D1 p old new t t' := by
  match t with
  | .text _ => cases h
  | .elem n as cs =>
    rw [xSetFirst] at h
    split at h
    next hp =>
      cases h
      exact ⟨as, by rw [xFindFirst, if_pos hp], .here n cs hp⟩
    next hp =>
      split at h
      next cs' hl =>
        cases h
        obtain ⟨old, hf, a, c, c', b, rfl, rfl, hd⟩ := c12_xSetFirstL_D1 p new cs cs' hl
        exact ⟨old, by rw [xFindFirst, if_neg hp, hf], .under n as a c c' b hd⟩
      next => cases h
theorem c12_xSetFirstL_D1 (p : Str → Attrs → Bool) (new : Attrs) (cs cs' : List XmlNode)
    (h : xSetFirstL p new cs = some cs') :
    ∃ old, xFindFirstL p cs = some old ∧
      ∃ a c c' b, cs = a ++ c :: b ∧ cs' = a ++ c' :: b ∧ c12_D1 p old new c c' := by
  match cs with
  | [] => cases h
  | x :: xs =>
    rw [xSetFirstL] at h
    split at h
    next x' hx =>
      cases h
      obtain ⟨old, hf, hd⟩ := c12_xSetFirst_D1 p new x x' hx
      exact ⟨old, by rw [xFindFirstL, hf], [], x, x', xs, rfl, rfl, hd⟩
    next hx =>
      split at h
      next xs' hl =>
        cases h
        obtain ⟨old, hf, a, c, c', b, rfl, rfl, hd⟩ := c12_xSetFirstL_D1 p new xs xs' hl
        exact ⟨old, by rw [xFindFirstL, c12_xSetFirst_none p new x hx, hf], x :: a, c, c', b, rfl, rfl, hd⟩
      next => cases h
theorem c12_xSetFirst_none (p : Str → Attrs → Bool) (new : Attrs) (t : XmlNode)
    (h : xSetFirst p new t = none) : xFindFirst p t = none := by
  match t with
  | .text _ => rfl
  | .elem n as cs =>
    rw [xSetFirst] at h
    split at h
    next => cases h
    next hp =>
      rw [xFindFirst, if_neg hp]
      split at h
      next => cases h
      next hl => exact c12_xSetFirstL_none p new cs hl
theorem c12_xSetFirstL_none (p : Str → Attrs → Bool) (new : Attrs) (cs : List XmlNode)
    (h : xSetFirstL p new cs = none) : xFindFirstL p cs = none := by
  match cs with
  | [] => rfl
  | x :: xs =>
    rw [xSetFirstL] at h
    split at h
    next => cases h
    next hx =>
      rw [xFindFirstL, c12_xSetFirst_none p new x hx]
      split at h
      next => cases h
      next hl => exact c12_xSetFirstL_none p new xs hl
end

/-! ### `office_xml.read` keeps that shape -/

def c12_acName : Str := S!"mc:AlternateContent"
def c12_fbName : Str := S!"mc:Fallback"

theorem c12_collapseAlt_elem_ne (n : Str) (as : Attrs) (cs : List XmlNode) (h : (n == c12_acName) = false) :
    collapseAlt (.elem n as cs) = [.elem n as (collapseAltL cs)] := by
  unfold c12_acName at h
  simp [collapseAlt, h]

theorem c12_collapseAlt_elem_ac (n : Str) (as : Attrs) (cs : List XmlNode) (h : (n == c12_acName) = true) :
    collapseAlt (.elem n as cs) = collapseAltFallback cs := by
  unfold c12_acName at h
  simp [collapseAlt, h]

theorem c12_collapseAltL_append (xs ys : List XmlNode) :
    collapseAltL (xs ++ ys) = collapseAltL xs ++ collapseAltL ys := by
  induction xs with
  | nil => simp [collapseAltL]
  | cons x xs ih => simp [collapseAltL, ih]

theorem c12_collapseAltL_cons (x : XmlNode) (xs : List XmlNode) :
    collapseAltL (x :: xs) = collapseAlt x ++ collapseAltL xs := by simp [collapseAltL]

/-- the fallback of `a ++ c :: b` when `c` changes inside -/
theorem c12_fallback_D1 {p old new} (c c' : XmlNode) (b : List XmlNode)
    (hd : c12_D1 p old new c c') (ih : c12_D1L p old new (collapseAlt c) (collapseAlt c')) :
    ∀ a : List XmlNode, c12_D1L p old new (collapseAltFallback (a ++ c :: b)) (collapseAltFallback (a ++ c' :: b))
  | [] => by
    obtain ⟨n, as, cs, as', cs', rfl, rfl⟩ := c12_D1_name hd
    simp only [List.nil_append, collapseAltFallback]
    by_cases hf : (n == S!"mc:Fallback") = true
    · rw [if_pos hf, if_pos hf]
      have hne : (n == c12_acName) = false := by
        have := eq_of_beq hf; subst this; decide
      rw [c12_collapseAlt_elem_ne n as cs hne, c12_collapseAlt_elem_ne n as' cs' hne] at ih
      obtain ⟨_, hinv⟩ := c12_D1_inv hd
      rcases hinv with ⟨hcs, _, _, _⟩ | ⟨_, a2, d, d', b2, h1, h2, hdd⟩
      · subst hcs; exact Or.inl rfl
      · -- use the induction hypothesis on the singleton lists
        rcases ih with ih | ⟨a3, e, e', b3, h3, h4, hee⟩
        · injection ih with ih _
          injection ih with _ _ ih
          exact Or.inl ih
        · -- the singleton decomposes only as `[] ++ e :: []`
          have ha3 : a3 = [] := by
            cases a3 with
            | nil => rfl
            | cons y ys =>
              have := congrArg List.length h3
              simp at this
          subst ha3
          simp only [List.nil_append] at h3 h4
          injection h3 with h3 hb3
          injection h4 with h4 _
          subst h3; subst h4
          obtain ⟨_, hinv2⟩ := c12_D1_inv hee
          rcases hinv2 with ⟨hcs2, _, _, _⟩ | ⟨_, a4, f, f', b4, h5, h6, hff⟩
          · exact Or.inl hcs2
          · exact Or.inr ⟨a4, f, f', b4, h5, h6, hff⟩
    · rw [if_neg hf, if_neg hf]; exact Or.inl rfl
  | .text _ :: a => by
    simp only [List.cons_append, collapseAltFallback]
    exact c12_fallback_D1 c c' b hd ih a
  | .elem n as cs :: a => by
    simp only [List.cons_append, collapseAltFallback]
    by_cases hf : (n == S!"mc:Fallback") = true
    · rw [if_pos hf, if_pos hf]; exact Or.inl rfl
    · rw [if_neg hf, if_neg hf]
      exact c12_fallback_D1 c c' b hd ih a

/-- `collapseAlt` of a tree in which one element (not an `mc:AlternateContent`) changed its
    attributes: nothing visible changed, or one element of the result changed the same way -/
theorem c12_collapseAlt_D1 {p old new} (hp : ∀ n, p n old = true → (n == c12_acName) = false)
    {t t' : XmlNode} (h : c12_D1 p old new t t') :
    c12_D1L p old new (collapseAlt t) (collapseAlt t') := by
  induction h with
  | here n cs hpn =>
    rw [c12_collapseAlt_elem_ne n old cs (hp n hpn), c12_collapseAlt_elem_ne n new cs (hp n hpn)]
    exact c12_D1L_one [] [] (.here n _ hpn)
  | under n as a c c' b hd ih =>
    by_cases hac : (n == c12_acName) = true
    · rw [c12_collapseAlt_elem_ac n as _ hac, c12_collapseAlt_elem_ac n as _ hac]
      exact c12_fallback_D1 c c' b hd ih a
    · have hac' : (n == c12_acName) = false := by simpa using hac
      rw [c12_collapseAlt_elem_ne n as _ hac', c12_collapseAlt_elem_ne n as _ hac']
      rw [c12_collapseAltL_append, c12_collapseAltL_append, c12_collapseAltL_cons, c12_collapseAltL_cons]
      rcases ih with ih | ⟨a2, d, d', b2, h1, h2, hdd⟩
      · rw [ih]; exact Or.inl rfl
      · rw [h1, h2]
        have e1 : collapseAltL a ++ ((a2 ++ d :: b2) ++ collapseAltL b)
            = (collapseAltL a ++ a2) ++ d :: (b2 ++ collapseAltL b) := by simp
        have e2 : collapseAltL a ++ ((a2 ++ d' :: b2) ++ collapseAltL b)
            = (collapseAltL a ++ a2) ++ d' :: (b2 ++ collapseAltL b) := by simp
        rw [e1, e2]
        exact c12_D1L_one [] [] (.under n as _ d d' _ hdd)

/-- a new child appended to an `mc:AlternateContent` is never its fallback -/
theorem c12_fallback_append (cs : List XmlNode) (n : Str) (as : Attrs) (ks : List XmlNode)
    (hn : (n == S!"mc:Fallback") = false) :
    collapseAltFallback (cs ++ [.elem n as ks]) = collapseAltFallback cs := by
  induction cs with
  | nil => simp [collapseAltFallback, hn]
  | cons x xs ih =>
    cases x with
    | text s => simp only [List.cons_append, collapseAltFallback]; exact ih
    | elem m bs js =>
      simp only [List.cons_append, collapseAltFallback]
      by_cases hf : (m == S!"mc:Fallback") = true
      · rw [if_pos hf, if_pos hf]
      · rw [if_neg hf, if_neg hf]; exact ih

/-! ### what `find_children(name)` sees -/

/-- the attribute dictionaries of the children named `nm`, in order -/
def c12_attrsOf (nm : Str) (cs : List XmlNode) : List Attrs := (findChildren nm cs).map (·.1)

theorem c12_attrsOf_nil (nm : Str) : c12_attrsOf nm [] = [] := by simp [c12_attrsOf, findChildren]

theorem c12_attrsOf_cons_elem (nm n : Str) (as : Attrs) (ks cs : List XmlNode) :
    c12_attrsOf nm (.elem n as ks :: cs) = (if n == nm then [as] else []) ++ c12_attrsOf nm cs := by
  simp only [c12_attrsOf, findChildren]
  split <;> simp

theorem c12_attrsOf_cons_text (nm s : Str) (cs : List XmlNode) :
    c12_attrsOf nm (.text s :: cs) = c12_attrsOf nm cs := by
  simp only [c12_attrsOf, findChildren]

theorem c12_attrsOf_append (nm : Str) (xs ys : List XmlNode) :
    c12_attrsOf nm (xs ++ ys) = c12_attrsOf nm xs ++ c12_attrsOf nm ys := by
  induction xs with
  | nil => simp [c12_attrsOf_nil]
  | cons x xs ih =>
    cases x with
    | text s => simp only [List.cons_append, c12_attrsOf_cons_text, ih]
    | elem n as ks => simp only [List.cons_append, c12_attrsOf_cons_elem, ih, List.append_assoc]

/-- one node changed: the attribute dictionaries seen are the same, or the dictionary `old` of an
    element named `nm` satisfying `p` became `new` -/
theorem c12_attrsOf_D1L {p old new} (nm : Str) {cs cs' : List XmlNode} (h : c12_D1L p old new cs cs') :
    c12_attrsOf nm cs' = c12_attrsOf nm cs ∨
    (p nm old = true ∧ ∃ A B, c12_attrsOf nm cs = A ++ old :: B ∧ c12_attrsOf nm cs' = A ++ new :: B) := by
  rcases h with h | ⟨a, c, c', b, h1, h2, hd⟩
  · exact Or.inl (by rw [h])
  · subst h1; subst h2
    cases hd with
    | here n ks hpn =>
      by_cases hn : (n == nm) = true
      · have := eq_of_beq hn; subst this
        refine Or.inr ⟨hpn, c12_attrsOf n a, c12_attrsOf n b, ?_, ?_⟩ <;>
          simp [c12_attrsOf_append, c12_attrsOf_cons_elem]
      · refine Or.inl ?_
        simp [c12_attrsOf_append, c12_attrsOf_cons_elem, hn]
    | under n as a2 d d' b2 hdd =>
      refine Or.inl ?_
      simp [c12_attrsOf_append, c12_attrsOf_cons_elem]

/-- the first element of the collapsed document: `(attributes, children)` as `_read_entry` returns them -/
def c12_rootOf (l : List XmlNode) : Except Err (Attrs × List XmlNode) :=
  match l with
  | .elem _ as cs :: _ => .ok (as, cs)
  | _ => .error (.index S!"root")

theorem c12_rootOf_D1L {p old new} {l l' : List XmlNode} (h : c12_D1L p old new l l') :
    (∃ e, c12_rootOf l = .error e ∧ c12_rootOf l' = .error e) ∨
    (∃ as cs as' cs', c12_rootOf l = .ok (as, cs) ∧ c12_rootOf l' = .ok (as', cs') ∧
      c12_D1L p old new cs cs') := by
  rcases h with h | ⟨a, c, c', b, h1, h2, hd⟩
  · subst h
    cases hl : c12_rootOf l' with
    | error e => exact Or.inl ⟨e, rfl, rfl⟩
    | ok r => exact Or.inr ⟨r.1, r.2, r.1, r.2, rfl, rfl, Or.inl rfl⟩
  · subst h1; subst h2
    cases a with
    | nil =>
      obtain ⟨n, as, cs, as', cs', rfl, rfl⟩ := c12_D1_name hd
      refine Or.inr ⟨as, cs, as', cs', rfl, rfl, ?_⟩
      obtain ⟨_, hinv⟩ := c12_D1_inv hd
      rcases hinv with ⟨hcs, _, _, _⟩ | ⟨_, a2, d, d', b2, h1, h2, hdd⟩
      · exact Or.inl hcs
      · exact Or.inr ⟨a2, d, d', b2, h1, h2, hdd⟩
    | cons x xs =>
      cases x with
      | text s => exact Or.inl ⟨_, rfl, rfl⟩
      | elem n as cs => exact Or.inr ⟨as, cs, as, cs, rfl, rfl, Or.inl rfl⟩

end Mammoth
