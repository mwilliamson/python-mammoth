/-
  C11, from the XML — content without `w:fldChar` leaves the stack of open complex fields alone, so a run outside
  every complex field stays outside: the hypothesis "no open hyperlink field after the children" of the run theorems
  follows from conditions on the XML and on the reader state before the run.
-/
import Proofs.C11_Xml
import Proofs.ReaderObs
namespace Mammoth

mutual
/-- no `w:fldChar` element anywhere in the tree -/
def c11x_noFld : XmlNode → Bool
  | .text _ => true
  | .elem name _ cs => name != S!"w:fldChar" && c11x_noFldL cs
def c11x_noFldL : List XmlNode → Bool
  | [] => true
  | c :: cs => c11x_noFld c && c11x_noFldL cs
end

theorem c11x_noFldL_append (a b : List XmlNode) :
    c11x_noFldL (a ++ b) = (c11x_noFldL a && c11x_noFldL b) :=
  andL_append rfl (fun _ _ => rfl) a b

theorem c11x_noFldL_findChild (name : Str) (cs : List XmlNode) (h : c11x_noFldL cs = true) :
    c11x_noFldL (findChildOrNull name cs).2 = true :=
  andL_findChild (fun _ _ => rfl) (fun _ _ _ => rfl) name cs h

theorem c11x_fld_name : Generated.handlers.all (fun p => p.2 != S!"read_fld_char" || p.1 == S!"w:fldChar") = true := by
  decide

theorem c11x_handler_fld {name : Str} (hg : handlerOf name = some Handler.fldChar.name) : name = S!"w:fldChar" := by
  exact eq_of_beq (List.all_eq_true.mp c11x_fld_name _ (lookupLast_mem hg))

/-- postcondition: the field stack is `s0`, and nothing deferred contains a `w:fldChar` -/
abbrev c11x_Q (s0 : List Field) : ReadResult × RState → Prop :=
  fun p => p.2.stack = s0 ∧ c11x_noFldL p.2.deleted = true

abbrev c11x_T : Err → Prop := fun _ => True

theorem c11x_spec_any {α} (x : Except Err α) : c05_spec c11x_T (fun _ => True) x :=
  ⟨fun _ _ => trivial, fun _ _ => trivial⟩

theorem c11x_spec_error {α} {Q : α → Prop} (e : Err) : c05_spec c11x_T Q (.error e) :=
  ⟨fun _ _ => trivial, fun _ ha => by cases ha⟩

theorem c11x_spec_throw {α} {Q : α → Prop} (e : Err) : c05_spec c11x_T Q (throw e) := c11x_spec_error e

/-- Every handler but `read_fld_char` passes the stack through, up to the recursive call. -/
theorem c11x_readHandler_stack (env : REnv) (ra : c05_RdAll)
    (ih : ∀ st ns, c11x_noFldL ns = true → c11x_noFldL st.deleted = true →
      c05_spec c11x_T (c11x_Q st.stack) (ra st ns))
    (st : RState) (as : Attrs) (cs : List XmlNode) (k : Handler)
    (hk : k ≠ .fldChar) (hcs : c11x_noFldL cs = true) (hdel : c11x_noFldL st.deleted = true) :
    c05_spec c11x_T (c11x_Q st.stack) (readHandler env ra st as cs k) := by
  cases k with
  | fldChar => exact absurd rfl hk
  | text | tab | noBreakHyphen | softHyphen | break_ | instrText => exact c05_spec_ok _ ⟨rfl, hdel⟩
  | bookmarkStart => exact c05_spec_ite _ _ _ (fun _ => c05_spec_ok _ ⟨rfl, hdel⟩) (fun _ => c05_spec_ok _ ⟨rfl, hdel⟩)
  | symbol | inline => exact c05_spec_map _ _ (c11x_spec_any _) fun _ _ => ⟨rfl, hdel⟩
  | footnoteRef | endnoteRef | commentRef =>
    dsimp only [readHandler, readNoteRef]
    split
    · exact c11x_spec_error _
    · exact c05_spec_ok _ ⟨rfl, hdel⟩
  | run | table | tableRow | pict =>
    exact c05_spec_bind _ _ (ih _ _ hcs hdel) fun _ h => c05_spec_pure _ h
  | childElements => exact ih _ _ hcs hdel
  | alternateContent => exact ih _ _ (c11x_noFldL_findChild _ cs hcs) hdel
  | paragraph =>
    have hall : c11x_noFldL (st.deleted ++ cs) = true := by rw [c11x_noFldL_append, hdel, hcs]; rfl
    dsimp only [readHandler]
    split
    · exact c05_spec_ok _ ⟨rfl, hall⟩
    · refine c05_spec_bind _ _ (ih { st with deleted := [] } _ hall rfl) fun _ h => ?_
      exact c05_spec_bind (Q := fun _ => True) _ _ (c11x_spec_any _) fun _ _ => c05_spec_pure _ h
  | tableCell =>
    rw [readHandler_tableCell]
    exact c05_spec_bind (Q := fun _ => True) _ _ (c11x_spec_any _)
      fun _ _ => c05_spec_bind _ _ (ih _ _ hcs hdel) fun _ h => c05_spec_pure _ h
  | hyperlink =>
    refine c05_spec_bind _ _ (ih _ _ hcs hdel) fun _ h => ?_
    dsimp only
    split
    · exact c05_spec_bind (Q := fun _ => True) _ _ (c11x_spec_any _) fun _ _ => c05_spec_pure _ h
    · split <;> exact c05_spec_pure _ h
  | imagedata =>
    dsimp only [readHandler]
    split
    · exact c05_spec_ok _ ⟨rfl, hdel⟩
    · exact c05_spec_map _ _ (c11x_spec_any _) fun _ _ => ⟨rfl, hdel⟩
  | sdt =>
    dsimp only [readHandler]
    split
    · exact c05_spec_ok _ ⟨rfl, hdel⟩
    · exact ih _ _ (c11x_noFldL_findChild _ cs hcs) hdel

abbrev c11x_QE (st : RState) (n : XmlNode) (p : ReadResult × RState) : Prop :=
  c11x_noFld n = true → c11x_noFldL st.deleted = true → c11x_Q st.stack p

abbrev c11x_QL (st : RState) (ns : List XmlNode) (p : ReadResult × RState) : Prop :=
  c11x_noFldL ns = true → c11x_noFldL st.deleted = true → c11x_Q st.stack p

theorem c11x_closed (env : REnv) : c05_Closed env c11x_T c11x_QE c11x_QL where
  nil _ _ hd := ⟨rfl, hd⟩
  skip _ _ _ _ h hs hd := h (Bool.and_eq_true_iff.mp hs).2 hd
  cons _ _ _ _ _ _ _ h1 h2 hs hd :=
    have a := h1 (Bool.and_eq_true_iff.mp hs).1 hd
    have b := h2 (Bool.and_eq_true_iff.mp hs).2 a.2
    ⟨b.1.trans a.1, b.2⟩
  fuel := trivial
  text _ _ _ hd := ⟨rfl, hd⟩
  unhandled st name as cs _ := by
    rw [readUnhandled]
    split <;> exact c05_spec_ok _ fun _ hd => ⟨rfl, hd⟩
  handler ra ih st name as cs h hg := by
    obtain ⟨k, rfl⟩ := handlerOf_known hg
    rw [readNamed_name]
    refine c05_spec_imp fun hs => c05_spec_imp fun hd => ?_
    simp only [c11x_noFld, Bool.and_eq_true, bne_iff_ne] at hs
    exact c11x_readHandler_stack env ra (fun st ns h1 h2 => c05_spec_weaken (ih st ns) fun _ h => h h1 h2)
      st as cs k (fun hk => hs.1 (c11x_handler_fld (hk ▸ hg))) hs.2 hd

/-- CONTENT WITHOUT `w:fldChar` LEAVES THE FIELD STACK ALONE: if the nodes `ns` and whatever was deferred from deleted
    paragraphs contain no `w:fldChar`, reading `ns` ends with the stack of open complex fields it started with -/
theorem c11x_readAll_stack (env : REnv) (f : Nat) (st st1 : RState) (ns : List XmlNode) (r : ReadResult)
    (hns : c11x_noFldL ns = true) (hdel : c11x_noFldL st.deleted = true)
    (h : readAllWith (readElem env f) st ns = .ok (r, st1)) : st1.stack = st.stack :=
  ((c05_readAll_closed (c11x_closed env) f st ns).ok _ h hns hdel).1

end Mammoth
