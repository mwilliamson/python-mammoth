/-
  C02 — escape laws: helper definitions (decoder, entity check) and lemmas about
  `escapeChar` / `escape` (MammothModel/Html.lean).
-/
import MammothModel.Html
namespace Mammoth

/-- five-way case analysis on a character, the way the escape table sees it -/
theorem c02_char_cases (c : Char) :
    c = '"' ∨ c = '&' ∨ c = '<' ∨ c = '>' ∨ (c ≠ '"' ∧ c ≠ '&' ∧ c ≠ '<' ∧ c ≠ '>') := by
  by_cases h1 : c = '"'
  · exact Or.inl h1
  · by_cases h2 : c = '&'
    · exact Or.inr (Or.inl h2)
    · by_cases h3 : c = '<'
      · exact Or.inr (Or.inr (Or.inl h3))
      · by_cases h4 : c = '>'
        · exact Or.inr (Or.inr (Or.inr (Or.inl h4)))
        · exact Or.inr (Or.inr (Or.inr (Or.inr ⟨h1, h2, h3, h4⟩)))

/-- `escapeChar` (defined by lookup in the extracted table) spelled out as a case distinction. -/
theorem c02_escapeChar_cases (c : Char) :
    escapeChar c =
      if c = '"' then S!"&quot;" else if c = '&' then S!"&amp;"
      else if c = '<' then S!"&lt;" else if c = '>' then S!"&gt;" else [c] := by
  simp only [escapeChar, Generated.escapeTable, lookupChar, beq_iff_eq]
  rcases c02_char_cases c with h | h | h | h | ⟨h1, h2, h3, h4⟩
  · simp [h]
  · simp [h]
  · simp [h]
  · simp [h]
  · simp [h1, h2, h3, h4]

theorem c02_escapeChar_quot : escapeChar '"' = S!"&quot;" := by rw [c02_escapeChar_cases]; simp
theorem c02_escapeChar_amp : escapeChar '&' = S!"&amp;" := by rw [c02_escapeChar_cases]; simp
theorem c02_escapeChar_lt : escapeChar '<' = S!"&lt;" := by rw [c02_escapeChar_cases]; simp
theorem c02_escapeChar_gt : escapeChar '>' = S!"&gt;" := by rw [c02_escapeChar_cases]; simp
theorem c02_escapeChar_other (c : Char) (h1 : c ≠ '"') (h2 : c ≠ '&') (h3 : c ≠ '<') (h4 : c ≠ '>') :
    escapeChar c = [c] := by rw [c02_escapeChar_cases]; simp [h1, h2, h3, h4]

@[simp] theorem c02_escape_nil : escape [] = [] := by simp [escape]
@[simp] theorem c02_escape_cons (c : Char) (cs : Str) : escape (c :: cs) = escapeChar c ++ escape cs := by
  simp [escape]

theorem c02_escape_append (a b : Str) : escape (a ++ b) = escape a ++ escape b := by
  induction a with
  | nil => simp
  | cons c cs ih => simp [ih]

/-! ### the decoder -/

/-- Decoder for exactly the four entities `&amp; &lt; &gt; &quot;`; everything else (including an
    `&` that does not start one of them) is copied. -/
def c02_unescape : Str → Str
  | '&' :: 'a' :: 'm' :: 'p' :: ';' :: r => '&' :: c02_unescape r
  | '&' :: 'l' :: 't' :: ';' :: r => '<' :: c02_unescape r
  | '&' :: 'g' :: 't' :: ';' :: r => '>' :: c02_unescape r
  | '&' :: 'q' :: 'u' :: 'o' :: 't' :: ';' :: r => '"' :: c02_unescape r
  | c :: cs => c :: c02_unescape cs
  | [] => []

theorem c02_unescape_amp (r : Str) : c02_unescape (S!"&amp;" ++ r) = '&' :: c02_unescape r := by
  simp [c02_unescape]
theorem c02_unescape_lt (r : Str) : c02_unescape (S!"&lt;" ++ r) = '<' :: c02_unescape r := by
  simp [c02_unescape]
theorem c02_unescape_gt (r : Str) : c02_unescape (S!"&gt;" ++ r) = '>' :: c02_unescape r := by
  simp [c02_unescape]
theorem c02_unescape_quot (r : Str) : c02_unescape (S!"&quot;" ++ r) = '"' :: c02_unescape r := by
  simp [c02_unescape]
theorem c02_unescape_other (c : Char) (r : Str) (h : c ≠ '&') : c02_unescape (c :: r) = c :: c02_unescape r := by
  rw [c02_unescape]
  all_goals simp_all

/-! ### every `&` of the output starts an entity -/

/-- every `&` in the string is immediately followed by `amp;`, `lt;`, `gt;` or `quot;` -/
def c02_ampsOk : Str → Bool
  | [] => true
  | c :: cs =>
    (c != '&' || startsWith cs S!"amp;" || startsWith cs S!"lt;" || startsWith cs S!"gt;"
      || startsWith cs S!"quot;") && c02_ampsOk cs

/-- no markup character survives escaping -/
theorem c02_escape_safe (s : Str) : ∀ c ∈ escape s, c ≠ '<' ∧ c ≠ '>' ∧ c ≠ '"' := by
  induction s with
  | nil => simp
  | cons d ds ih =>
    intro c hc
    rw [c02_escape_cons, List.mem_append] at hc
    rcases hc with hc | hc
    · rcases c02_char_cases d with h | h | h | h | ⟨h1, h2, h3, h4⟩
      · rw [h, c02_escapeChar_quot] at hc
        revert c
        decide
      · rw [h, c02_escapeChar_amp] at hc
        revert c
        decide
      · rw [h, c02_escapeChar_lt] at hc
        revert c
        decide
      · rw [h, c02_escapeChar_gt] at hc
        revert c
        decide
      · rw [c02_escapeChar_other d h1 h2 h3 h4, List.mem_singleton] at hc
        rw [hc]
        exact ⟨h3, h4, h1⟩
    · exact ih c hc

end Mammoth
