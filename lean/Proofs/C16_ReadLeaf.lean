/-
  C16, reader half — small facts used by the refinement proof: element names versus handler names, the
  summary of an element list that the table reader looks at, the abstraction of the reader's field state,
  and the results of the childless readers (symbols, breaks, images, field characters).
-/
import Proofs.C16_XmlSpec
import Proofs.C01_ReadAtoms
namespace Mammoth

/-! ### element names and handlers -/

def c16_kindH : Handler → c16_Kind
  | .text | .tab | .noBreakHyphen | .softHyphen | .footnoteRef | .endnoteRef | .commentRef => .atom
  | .symbol => .sym | .break_ => .br | .bookmarkStart => .bookmark | .fldChar => .fldChar
  | .instrText => .instrText | .run => .run | .paragraph => .paragraph | .table => .table
  | .tableRow => .row | .tableCell => .cell | .childElements => .through | .pict => .pict
  | .hyperlink => .hyperlink | .inline => .inline | .imagedata => .imagedata
  | .alternateContent => .alt | .sdt => .sdt

theorem c16_kinds_agree :
    (Generated.handlers.all fun p =>
      Handler.all.any fun k => p.2 == k.name && c16_kindOf p.1 == c16_kindH k) = true := by decide +kernel

theorem c16_kinds_known : c16_kinds.all (fun p => (handlerOf p.1).isSome) = true := by decide +kernel

theorem c16_kindOf_handler {name h : Str} (hh : handlerOf name = some h) :
    ∃ k : Handler, h = k.name ∧ c16_kindOf name = c16_kindH k := by
  have := List.all_eq_true.mp c16_kinds_agree _ (lookupLast_mem hh)
  obtain ⟨k, _, hk⟩ := List.any_eq_true.mp this
  rw [Bool.and_eq_true] at hk
  exact ⟨k, eq_of_beq hk.1, eq_of_beq hk.2⟩

theorem c16_kindIn_unknown (tbl : List (Str × c16_Kind)) (name : Str) :
    c16_kindIn tbl name = .unknown ∨ ∃ p ∈ tbl, p.1 = name := by
  induction tbl with
  | nil => exact Or.inl rfl
  | cons p tbl ih =>
    obtain ⟨k, v⟩ := p
    simp only [c16_kindIn]
    split
    · rename_i hk; exact Or.inr ⟨(k, v), List.mem_cons_self, hk.symm⟩
    · rcases ih with h | ⟨q, hq, hqn⟩
      · exact Or.inl h
      · exact Or.inr ⟨q, List.mem_cons_of_mem _ hq, hqn⟩

/-- a name without a handler is of kind `unknown` -/
theorem c16_kindOf_none {name : Str} (hh : handlerOf name = none) : c16_kindOf name = .unknown := by
  rcases c16_kindIn_unknown c16_kinds name with h | ⟨p, hp, hpn⟩
  · exact h
  · have := List.all_eq_true.mp c16_kinds_known p hp
    rw [hpn, hh] at this
    cases this

/-! ### what the table reader looks at -/

/-- 0: only rows made of cells only; 1: only rows, one with a non-cell; 2: something that is not a row -/
def c16_code (es : List Elem) : Nat :=
  if !es.all isRow then 2 else if !(es.all fun r => (rowCells r).all isCell) then 1 else 0

theorem c16_code_nil : c16_code [] = 0 := rfl

theorem c16_code_append (a b : List Elem) : c16_code (a ++ b) = max (c16_code a) (c16_code b) := by
  unfold c16_code
  simp only [List.all_append]
  cases a.all isRow <;> cases b.all isRow <;>
    cases (a.all fun r => (rowCells r).all isCell) <;> cases (b.all fun r => (rowCells r).all isCell) <;> rfl

theorem c16_calculateRowSpans_msgs (rows : List Elem) : (calculateRowSpans rows).2 = c16_gridWarn (c16_code rows) := by
  unfold calculateRowSpans c16_code c16_gridWarn
  cases rows.all isRow <;> cases (rows.all fun r => (rowCells r).all isCell) <;> rfl

/-- neither a row nor a cell -/
def c16_other (e : Elem) : Bool := !isRow e && !isCell e

theorem c16_code_others (es : List Elem) (h : es.all c16_other = true) :
    c16_code es = (if es.isEmpty then 0 else 2) ∧ es.all isCell = es.isEmpty := by
  cases es with
  | nil => exact ⟨rfl, rfl⟩
  | cons e es =>
    simp only [List.all_cons, Bool.and_eq_true, c16_other, Bool.not_eq_true'] at h
    simp [c16_code, h.1.1, h.1.2]

theorem c16_code_row (hd : Bool) (cells : List Elem) :
    c16_code [.row hd cells] = (if cells.all isCell then 0 else 1) := by
  simp only [c16_code, List.all_cons, List.all_nil, isRow, rowCells, Bool.and_true, Bool.not_true]
  cases cells.all isCell <;> rfl

/-- the result `r` is summarised by `o` -/
structure c16_Sum (r : ReadResult) (o : c16_Out) : Prop where
  msgs : r.messages = o.msgs
  code : c16_code r.elements = o.code
  cells : r.elements.all isCell = o.cells

theorem c16_Sum_empty (fs : c16_FS) : c16_Sum {} (c16_skip fs) := ⟨rfl, rfl, rfl⟩

/-- messages `ms` and elements none of which is a row or a cell -/
theorem c16_Sum_emit (r : ReadResult) (ms : List Str) (elem : Bool) (fs : c16_FS)
    (hm : r.messages = ms) (ho : r.elements.all c16_other = true) (he : r.elements.isEmpty = !elem) :
    c16_Sum r (c16_emit ms elem fs) := by
  obtain ⟨h1, h2⟩ := c16_code_others _ ho
  refine ⟨hm, ?_, ?_⟩
  · rw [h1, he]; cases elem <;> rfl
  · rw [h2, he]; rfl

theorem c16_Sum_one (e : Elem) (ms : List Str) (fs : c16_FS) (ho : c16_other e = true) :
    c16_Sum { elements := [e], messages := ms } (c16_emit ms true fs) :=
  c16_Sum_emit _ ms true fs rfl (by simp [ho]) rfl

theorem c16_Sum_msg (ms : List Str) (fs : c16_FS) :
    c16_Sum { messages := ms } (c16_emit ms false fs) :=
  c16_Sum_emit _ ms false fs rfl rfl rfl

/-- one element that is neither row nor cell, with messages `pre ++` those of its content -/
theorem c16_Sum_box (e : Elem) (ex : List Elem) (pre ms : List Str) (o : c16_Out) (ho : c16_other e = true)
    (hm : ms = o.msgs) :
    c16_Sum { elements := [e], extra := ex, messages := pre ++ ms } ⟨pre ++ o.msgs, 2, false, o.fs⟩ := by
  simp only [c16_other, Bool.and_eq_true, Bool.not_eq_true'] at ho
  exact ⟨by rw [hm], by simp [c16_code, ho.1], by simp [ho.2]⟩

theorem c16_Sum_concat {a b : ReadResult} {ea eb : c16_Eff} {fs fs1 : c16_FS}
    (ha : c16_Sum a (ea fs)) (hfs : fs1 = (ea fs).fs) (hb : c16_Sum b (eb fs1)) :
    c16_Sum (a.concat b) (c16_seq ea eb fs) := by
  subst hfs
  refine ⟨?_, ?_, ?_⟩
  · simp [ReadResult.concat, c16_seq, ha.msgs, hb.msgs]
  · simp [ReadResult.concat, c16_seq, c16_code_append, ha.code, hb.code]
  · simp [ReadResult.concat, c16_seq, List.all_append, ha.cells, hb.cells]

/-! ### the field state of the reader, abstracted -/

def c16_absField : Field → Option Bool
  | .begin _ => none
  | .checkbox _ => some true
  | _ => some false

def c16_abs (st : RState) : c16_FS := ⟨st.stack.map c16_absField, st.instr⟩

theorem c16_absField_parse (instr : Str) (cs : List XmlNode) :
    c16_absField (parseInstrText instr cs) = some (c16_isCheckboxInstr instr) := by
  unfold parseInstrText c16_isCheckboxInstr
  cases matchExternalLink instr with
  | some u => rfl
  | none =>
    cases matchInternalLink instr with
    | some a => rfl
    | none =>
      cases hc : matchCheckbox instr with
      | false => simp [c16_absField]
      | true =>
        simp only [if_true, Option.isNone_none, Bool.and_self]
        split <;> rfl

theorem c16_absField_current (st : RState) (f : Field) :
    c16_absField (parseCurrentInstr st f) = some (c16_isCheckboxInstr st.instr) := by
  unfold parseCurrentInstr
  split <;> exact c16_absField_parse _ _

/-- the field an `end` closes: an unparsed one is parsed now -/
theorem c16_absField_resolved (st : RState) (top : Field) :
    c16_absField (match top with | .begin _ => parseCurrentInstr st top | other => other) =
      some ((c16_absField top).getD (c16_isCheckboxInstr st.instr)) := by
  cases top with
  | begin fcs => exact c16_absField_current st _
  | checkbox c => rfl
  | hyperlink kw => rfl
  | unknown => rfl

theorem c16_fldEnd (f : Field) (b : Bool) (hp : c16_absField f = some b) (s : RState) (fs : c16_FS)
    (r : ReadResult) (st' : RState)
    (h : (match (generalizing := false) f with
          | .checkbox c => .ok (rrElems [.checkbox c], s)
          | _ => .ok ({}, s) : Except Err (ReadResult × RState)) = .ok (r, st')) :
    c16_Sum r (if b then ⟨[], 2, false, fs⟩ else ⟨[], 0, true, fs⟩) ∧ st' = s := by
  cases f with
  | begin x => cases hp
  | checkbox c => cases h; cases hp; exact ⟨⟨rfl, rfl, rfl⟩, rfl⟩
  | hyperlink kw => cases h; cases hp; exact ⟨⟨rfl, rfl, rfl⟩, rfl⟩
  | unknown => cases h; cases hp; exact ⟨⟨rfl, rfl, rfl⟩, rfl⟩

/-- `w:fldChar` -/
theorem c16_readFldChar (st : RState) (as : Attrs) (cs : List XmlNode) (r : ReadResult) (st' : RState)
    (h : readFldChar st as cs = .ok (r, st')) :
    c16_Sum r (c16_fldChar as (c16_abs st)) ∧ c16_abs st' = (c16_fldChar as (c16_abs st)).fs ∧
      st'.deleted = st.deleted := by
  unfold readFldChar at h
  unfold c16_fldChar
  dsimp only at h ⊢
  by_cases h1 : attr? S!"w:fldCharType" as = some S!"begin"
  · rw [if_pos (beq_iff_eq.mpr h1)] at h
    rw [if_pos h1]
    cases h
    exact ⟨⟨rfl, rfl, rfl⟩, rfl, rfl⟩
  rw [if_neg (mt beq_iff_eq.mp h1)] at h
  rw [if_neg h1]
  by_cases h2 : attr? S!"w:fldCharType" as = some S!"end"
  · rw [if_pos (beq_iff_eq.mpr h2)] at h
    rw [if_pos h2]
    cases hs : st.stack with
    | nil => rw [hs] at h; cases h
    | cons top rest =>
      rw [hs] at h
      dsimp only at h
      simp only [c16_abs, hs, List.map_cons]
      obtain ⟨hsum, rfl⟩ := c16_fldEnd _ _ (c16_absField_resolved st top) _
        ⟨rest.map c16_absField, st.instr⟩ r st' h
      exact ⟨hsum, by split <;> rfl, rfl⟩
  rw [if_neg (mt beq_iff_eq.mp h2)] at h
  rw [if_neg h2]
  by_cases h3 : attr? S!"w:fldCharType" as = some S!"separate"
  · rw [if_pos (beq_iff_eq.mpr h3)] at h
    rw [if_pos h3]
    cases hs : st.stack with
    | nil => rw [hs] at h; cases h
    | cons top rest =>
      rw [hs] at h
      cases h
      simp only [c16_abs, hs, List.map_cons, c16_absField_current]
      exact ⟨⟨rfl, rfl, rfl⟩, trivial, trivial⟩
  · rw [if_neg (mt beq_iff_eq.mp h3)] at h
    rw [if_neg h3]
    cases h
    exact ⟨⟨rfl, rfl, rfl⟩, rfl, rfl⟩

/-! ### symbols, breaks, images -/

/-- the model's lookup of the code point -/
def c16_modelCp (font : Option Str) (ch : Str) (code : Nat) : Option Nat :=
  match dingbat font code with
  | some c => some c
  | none =>
    match ch with
    | 'F' :: '0' :: a :: b :: _ =>
      if a != '\n' && b != '\n' then (parseHex (ch.drop 2)).bind (dingbat font) else none
    | _ => none

theorem c16_symChar_eq (as : Attrs) (ch : Str) (code : Nat) (hch : attr? S!"w:char" as = some ch)
    (hcode : parseHex ch = some code) :
    c16_symChar as = c16_modelCp (attr? S!"w:font" as) ch code := by
  simp only [c16_symChar, hch]
  unfold c16_symLook c16_modelCp
  dsimp only
  rw [hcode]
  simp only [Option.bind_some]
  exact c01_sym_cp _ ch code

theorem c16_readSymbol (as : Attrs) (r : ReadResult) (fs : c16_FS) (h : readSymbol as = .ok r) :
    c16_Sum r (c16_emit (c16_symWarn as) (c16_symChar as).isSome fs) := by
  unfold readSymbol at h
  dsimp only at h
  split at h
  · rename_i hch
    cases h
    have hs : c16_symChar as = none := by unfold c16_symChar; rw [hch]
    unfold c16_symWarn
    rw [hs]
    exact c16_Sum_msg _ fs
  · rename_i ch hch
    split at h
    · cases h
    · rename_i code hcode
      have hs := c16_symChar_eq as ch code hch hcode
      unfold c16_modelCp at hs
      split at h
      · rename_i c hc
        cases h
        have hs := hs.trans hc
        unfold c16_symWarn
        rw [hs]
        exact c16_Sum_one _ _ fs rfl
      · rename_i hc
        cases h
        have hs := hs.trans hc
        unfold c16_symWarn
        rw [hs]
        exact c16_Sum_msg _ fs

theorem c16_readBreak (as : Attrs) (fs : c16_FS) :
    c16_Sum (readBreak as) (c16_emit (c16_breakWarn as) (c16_breakWarn as).isEmpty fs) := by
  unfold readBreak c16_breakWarn
  cases attr? S!"w:type" as with
  | none => exact c16_Sum_one _ _ fs rfl
  | some t =>
    dsimp only
    by_cases h : t = [] ∨ t = S!"textWrapping" ∨ t = S!"page" ∨ t = S!"column"
    · rw [if_pos h]
      rcases h with rfl | rfl | rfl | rfl
      all_goals exact c16_Sum_one _ _ fs rfl
    · rw [if_neg h]
      simp only [not_or] at h
      obtain ⟨h1, h2, h3, h4⟩ := h
      have e1 : t.isEmpty = false := by cases t with | nil => exact absurd rfl h1 | cons _ _ => rfl
      have e2 : (t == S!"textWrapping") = false := by simpa using h2
      have e3 : (t == S!"page") = false := by simpa using h3
      have e4 : (t == S!"column") = false := by simpa using h4
      simp only [e1, e2, e3, e4, Bool.or_self, Bool.false_eq_true, if_false]
      exact c16_Sum_msg _ fs

theorem c16_readImage (env : REnv) (path : Str) (src : ImageSrc) (alt : Option Str) :
    (readImage env path src alt).messages = c16_imageWarn env path ∧
    ∃ i, (readImage env path src alt).elements = [.image i] := by
  unfold readImage c16_imageWarn
  cases findContentType env.contentTypes path with
  | none => exact ⟨rfl, _, rfl⟩
  | some c =>
    dsimp only
    by_cases hc : c ∈ Generated.browserImageTypes
    · have : Generated.browserImageTypes.contains c = true := by simpa using hc
      simp only [this, if_true, hc]
      exact ⟨rfl, _, rfl⟩
    · have : Generated.browserImageTypes.contains c = false := by simpa using hc
      simp only [this, Bool.false_eq_true, if_false, hc]
      exact ⟨rfl, _, rfl⟩

theorem c16_readEmbedded (env : REnv) (rid : Str) (alt : Option Str) (r : ReadResult)
    (h : readEmbeddedImage env rid alt = .ok r) :
    r.messages = c16_embeddedWarn env rid ∧ ∃ i, r.elements = [.image i] := by
  unfold readEmbeddedImage at h
  unfold c16_embeddedWarn
  cases ht : env.rels.targetById rid with
  | error e => rw [ht] at h; cases h
  | ok t =>
    rw [ht] at h
    simp only [bind, Except.bind, pure, Except.pure, Except.ok.injEq] at h
    rw [← h]; exact c16_readImage _ _ _ _

theorem c16_readBlip (env : REnv) (as : Attrs) (alt : Option Str) (r : ReadResult)
    (h : readBlip env as alt = .ok r) :
    r.messages = c16_blipWarn env as ∧ r.elements.all c16_other = true ∧
      r.elements.isEmpty = !c16_blipHasImage as := by
  unfold readBlip at h
  unfold c16_blipWarn c16_blipHasImage
  split at h
  · rename_i rid hrid
    rw [hrid]
    obtain ⟨h1, i, h2⟩ := c16_readEmbedded _ _ _ _ h
    exact ⟨h1, by rw [h2]; rfl, by rw [h2]; rfl⟩
  · rename_i hne
    rw [hne]
    split at h
    · rename_i rid hrid
      rw [hrid]
      cases ht : env.rels.targetById rid with
      | error e => rw [ht] at h; cases h
      | ok t =>
        rw [ht] at h
        simp only [bind, Except.bind, pure, Except.pure, Except.ok.injEq] at h
        rw [← h]
        obtain ⟨h1, i, h2⟩ := c16_readImage env t (.linked t) alt
        simp only [ht]
        exact ⟨h1, by rw [h2]; rfl, by rw [h2]; rfl⟩
    · rename_i hnl
      rw [hnl]
      cases h
      exact ⟨rfl, rfl, rfl⟩

theorem c16_isEmpty_append {α} (a b : List α) : (a ++ b).isEmpty = (a.isEmpty && b.isEmpty) := by
  cases a <;> cases b <;> rfl

theorem c16_blips_eq (cs : List XmlNode) :
    (flatChildren S!"a:blip" (flatChildren S!"pic:blipFill" (flatChildren S!"pic:pic"
      (flatChildren S!"a:graphicData" (findChildren S!"a:graphic" cs))))).map (·.1) = c16_blips cs := rfl

theorem c16_mapM_blips (env : REnv) (alt : Option Str) :
    ∀ (bl : List (Attrs × List XmlNode)) (rs : List ReadResult) (acc : ReadResult),
      bl.mapM (fun x => readBlip env x.1 alt) = .ok rs →
      (rs.foldl ReadResult.concat acc).messages = acc.messages ++ c16_blipsWarn env (bl.map (·.1)) ∧
      ((rs.foldl ReadResult.concat acc).elements.all c16_other =
        (acc.elements.all c16_other)) ∧
      ((rs.foldl ReadResult.concat acc).elements.isEmpty =
        (acc.elements.isEmpty && !(bl.map (·.1)).any c16_blipHasImage))
  | [], rs, acc, h => by
    simp only [List.mapM_nil, pure, Except.pure, Except.ok.injEq] at h
    subst h
    simp [c16_blipsWarn]
  | b :: bl, rs, acc, h => by
    rw [List.mapM_cons] at h
    obtain ⟨r1, hr1, h⟩ := bind_ok h
    obtain ⟨rs1, hrs1, h⟩ := bind_ok h
    simp only [pure, Except.pure, Except.ok.injEq] at h
    subst h
    obtain ⟨m1, o1, e1⟩ := c16_readBlip env b.1 alt r1 hr1
    obtain ⟨m2, o2, e2⟩ := c16_mapM_blips env alt bl rs1 (acc.concat r1) hrs1
    simp only [List.foldl_cons, List.map_cons, c16_blipsWarn, List.any_cons]
    refine ⟨?_, ?_, ?_⟩
    · rw [m2]; simp [ReadResult.concat, m1]
    · rw [o2]; simp [ReadResult.concat, List.all_append, o1]
    · rw [e2]
      simp only [ReadResult.concat, c16_isEmpty_append, e1]
      cases acc.elements.isEmpty <;> cases c16_blipHasImage b.1 <;> simp

theorem c16_readInline (env : REnv) (cs : List XmlNode) (r : ReadResult) (fs : c16_FS)
    (h : readInline env cs = .ok r) :
    c16_Sum r (c16_emit (c16_blipsWarn env (c16_blips cs)) ((c16_blips cs).any c16_blipHasImage) fs) := by
  unfold readInline at h
  dsimp only at h
  obtain ⟨rs, hrs, h⟩ := bind_ok h
  simp only [pure, Except.pure, Except.ok.injEq] at h
  rw [← h, ← c16_blips_eq]
  obtain ⟨m, o, e⟩ := c16_mapM_blips env _ _ rs {} hrs
  refine c16_Sum_emit _ _ _ fs ?_ ?_ ?_
  · rw [m]; exact List.nil_append _
  · rw [o]; rfl
  · rw [e]; exact Bool.true_and _

end Mammoth
