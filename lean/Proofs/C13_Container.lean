/-
  C13 — an ignored element among the children of an element that is being read.
-/
import Proofs.C13_Reader
namespace Mammoth

/-- the names `readElem` looks up directly among the children of the element it reads -/
def c13_lookedUp : List Str :=
  [S!"w:rPr", S!"w:pPr", S!"w:tblPr", S!"w:trPr", S!"w:tcPr", S!"mc:Fallback", S!"w:sdtPr", S!"w:sdtContent",
   S!"wp:docPr", S!"a:graphic"]

theorem c13_findChild_insert (X xn : Str) (xas : Attrs) (xcs : List XmlNode) (hne : (xn == X) = false)
    (a b : List XmlNode) : findChild X (a ++ .elem xn xas xcs :: b) = findChild X (a ++ b) := by
  induction a with
  | nil => simp [findChild, hne]
  | cons c cs ih =>
    cases c with
    | text s => simpa [findChild] using ih
    | elem n as cs' =>
      simp only [List.cons_append, findChild, ih]

theorem c13_findChildOrNull_insert (X xn : Str) (xas : Attrs) (xcs : List XmlNode) (hne : (xn == X) = false)
    (a b : List XmlNode) : findChildOrNull X (a ++ .elem xn xas xcs :: b) = findChildOrNull X (a ++ b) := by
  simp only [findChildOrNull, c13_findChild_insert X xn xas xcs hne]

theorem c13_findChildren_insert (X xn : Str) (xas : Attrs) (xcs : List XmlNode) (hne : (xn == X) = false)
    (a b : List XmlNode) : findChildren X (a ++ .elem xn xas xcs :: b) = findChildren X (a ++ b) := by
  induction a with
  | nil => simp [findChildren, hne]
  | cons c cs ih =>
    cases c with
    | text s => simpa [findChildren] using ih
    | elem n as cs' =>
      simp only [List.cons_append, findChildren, ih]

theorem c13_notLooked (xn : Str) (h : c13_lookedUp.contains xn = false) :
    (xn == S!"w:rPr") = false ∧ (xn == S!"w:pPr") = false ∧ (xn == S!"w:tblPr") = false ∧
    (xn == S!"w:trPr") = false ∧ (xn == S!"w:tcPr") = false ∧ (xn == S!"mc:Fallback") = false ∧
    (xn == S!"w:sdtPr") = false ∧ (xn == S!"w:sdtContent") = false ∧ (xn == S!"wp:docPr") = false ∧
    (xn == S!"a:graphic") = false := by
  simpa only [c13_lookedUp, List.contains_cons, List.contains_nil, Bool.or_false, Bool.or_eq_false_iff] using h

theorem c13_readInline_insert (env : REnv) (xn : Str) (xas : Attrs) (xcs : List XmlNode)
    (hl : c13_lookedUp.contains xn = false) (a b : List XmlNode) :
    readInline env (a ++ .elem xn xas xcs :: b) = readInline env (a ++ b) := by
  obtain ⟨_, _, _, _, _, _, _, _, h9, h10⟩ := c13_notLooked xn hl
  unfold readInline
  simp only [c13_findChildOrNull_insert _ xn xas xcs h9, c13_findChildren_insert _ xn xas xcs h10]

/-- one more child that the dispatcher ignores, that no handler looks up by name, and that contains no
    text, does not change how its parent is read -/
theorem c13_container (env : REnv) (f : Nat) (st : RState) (nm : Str) (as : Attrs)
    (xn : Str) (xas : Attrs) (xcs : List XmlNode) (a b : List XmlNode)
    (hi : Generated.ignored.contains xn = true) (hl : c13_lookedUp.contains xn = false)
    (ht : innerTextL xcs = [])
    (hfld : handlerOf nm ≠ some S!"read_fld_char")
    (hdel : handlerOf nm = some S!"paragraph" →
      (findChild S!"w:del" (findChildOrNull S!"w:rPr" (findChildOrNull S!"w:pPr" (a ++ b)).2).2).isSome = false) :
    readElem env (f + 2) st (.elem nm as (a ++ .elem xn xas xcs :: b))
      = readElem env (f + 2) st (.elem nm as (a ++ b)) := by
  obtain ⟨h1, h2, h3, h4, h5, h6, h7, h8, h9, h10⟩ := c13_notLooked xn hl
  have hins : ∀ st' pre, readAllWith (readElem env (f + 1)) st' (pre ++ (a ++ .elem xn xas xcs :: b))
      = readAllWith (readElem env (f + 1)) st' (pre ++ (a ++ b)) := by
    intro st' pre
    rw [← List.append_assoc, ← List.append_assoc]
    exact c13_readAllWith_insert _ _ (fun s => c13_readElem_ignored env f s xn xas xcs hi) _ _ _
  have hins0 := fun st' => hins st' []
  simp only [List.nil_append] at hins0
  have htxt : innerTextL (a ++ .elem xn xas xcs :: b) = innerTextL (a ++ b) := by
    simp [c13_innerTextL_append, ht]
  cases hh : handlerOf nm with
  | none => rw [c05_readElem_unhandled _ _ _ _ _ hh, c05_readElem_unhandled _ _ _ _ _ hh]
  | some h =>
    obtain ⟨k, rfl⟩ := handlerOf_known hh
    rw [c05_readElem_handler _ _ _ _ _ k hh, c05_readElem_handler _ _ _ _ _ k hh]
    cases k with
    | fldChar => exact absurd hh hfld
    | paragraph =>
      simp only [readHandler, c13_findChildOrNull_insert, h2, hins, hdel hh, Bool.false_eq_true, if_false]
    | _ =>
      simp only [readHandler, c13_findChildOrNull_insert, h1, h3, h4, h5, h6, h7, h8,
        c13_readInline_insert env xn xas xcs hl, htxt, hins0]
end Mammoth
