/-
  C08 — numbering resolution: helper lemmas about `findLevel` (fuel) used by Properties/C08.
-/
import MammothModel.Reader
namespace Mammoth

/-- one unfolding of `findLevel` -/
theorem c08_findLevel_succ (n : Numbering) (f : Nat) (numId : Option Str) (lvl : Str) :
    findLevel n (f+1) numId lvl =
      match lookupLast numId n.nums with
      | none => .ok none
      | some absId =>
        match lookupLast (some absId) n.abstractNums with
        | none => .ok none
        | some an =>
          match an.numStyleLink with
          | none => .ok ((lookupLast lvl an.levels).map toNumLevel)
          | some link =>
            match lookupLast (some link) n.styles.numbering with
            | none => .ok none
            | some styleNumId => findLevel n f styleNumId lvl := by
  rfl

/-- once the fuel is enough, more fuel does not change the answer -/
theorem c08_findLevel_fuel_mono (n : Numbering) (f : Nat) (numId : Option Str) (lvl : Str)
    (r : Option NumLevel) (h : findLevel n f numId lvl = .ok r) : findLevel n (f+1) numId lvl = .ok r := by
  induction f generalizing numId with
  | zero => simp [findLevel] at h
  | succ f ih =>
    rw [c08_findLevel_succ] at h ⊢
    cases h1 : lookupLast numId n.nums with
    | none => simpa [h1] using h
    | some absId =>
      cases h2 : lookupLast (some absId) n.abstractNums with
      | none => simpa [h1, h2] using h
      | some an =>
        cases h3 : an.numStyleLink with
        | none => simpa [h1, h2, h3] using h
        | some link =>
          cases h4 : lookupLast (some link) n.styles.numbering with
          | none => simpa [h1, h2, h3, h4] using h
          | some k =>
            simp only [h1, h2, h3, h4] at h ⊢
            exact ih _ h

end Mammoth
