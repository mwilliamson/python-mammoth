/-
  C16, reader half — an anomaly at ANY depth yields its warning.

  `c16_occurs p n`: some element at a position of the tree `n` that the reader reads (the content of runs,
  paragraphs, tables, rows, cells, read-through containers, text boxes, hyperlinks, the first
  `mc:Fallback` of alternate content, the `w:sdtContent` of a structured document tag — not the inside of
  `w:t`, of property elements, of unknown elements) satisfies `p`.

  If every element satisfying `p` reports `w` for itself (`c16_ownWarn`), then `w` is among the messages
  of the specification, in every field state — or is still waiting in the deferred buffer (content of a
  deleted-mark paragraph that no later paragraph has taken over yet).  Nothing deferred is ever lost by
  the traversal: it is reported by the next paragraph or stays in the buffer.
-/
import Proofs.C16_XmlClean
set_option linter.unusedSectionVars false
namespace Mammoth

/-- the warnings an element reports for itself, whatever surrounds it and whatever it contains
    (the style of a paragraph with a deleted mark is never looked at) -/
def c16_ownWarn (env : REnv) (name : Str) (as : Attrs) (cs : List XmlNode) : List Str :=
  match c16_kindOf name with
  | .unknown => c16_unknownWarn name
  | .sym => c16_symWarn as
  | .br => c16_breakWarn as
  | .inline => c16_blipsWarn env (c16_blips cs)
  | .imagedata => c16_imagedataWarn env as
  | .run => c16_styleWarn S!"Run" S!"w:rPr" S!"w:rStyle" env.styles.character cs
  | .paragraph =>
    if c16_delMark cs then [] else c16_styleWarn S!"Paragraph" S!"w:pPr" S!"w:pStyle" env.styles.paragraph cs
  | .table => c16_styleWarn S!"Table" S!"w:tblPr" S!"w:tblStyle" env.styles.table cs
  | _ => []

mutual
def c16_occurs (p : Str → Attrs → List XmlNode → Bool) : XmlNode → Bool
  | .text _ => false
  | .elem name as cs =>
    p name as cs ||
    (match c16_kindOf name with
     | .run => c16_occursL p cs
     | .paragraph => c16_occursL p cs
     | .table => c16_occursL p cs
     | .row => c16_occursL p cs
     | .cell => c16_occursL p cs
     | .through => c16_occursL p cs
     | .pict => c16_occursL p cs
     | .hyperlink => c16_occursL p cs
     | .alt => c16_occursIn p S!"mc:Fallback" cs
     | .sdt => !c16_isCheckboxSdt cs && c16_occursIn p S!"w:sdtContent" cs
     | _ => false)
def c16_occursL (p : Str → Attrs → List XmlNode → Bool) : List XmlNode → Bool
  | [] => false
  | c :: cs => c16_occurs p c || c16_occursL p cs
def c16_occursIn (p : Str → Attrs → List XmlNode → Bool) (child : Str) : List XmlNode → Bool
  | [] => false
  | .text _ :: rest => c16_occursIn p child rest
  | .elem n _ cs :: rest => if n = child then c16_occursL p cs else c16_occursIn p child rest
end

/-- `w` is reported in every field state -/
def c16_EffHas (w : Str) (e : c16_Eff) : Prop := ∀ fs, w ∈ (e fs).msgs
/-- `w` is waiting at some level of the buffer -/
def c16_BufHas (w : Str) (b : c16_Buf) : Prop := ∃ k, c16_EffHas w (b k)
/-- reported, or still waiting -/
def c16_Has (w : Str) (s : c16_Step) : Prop := c16_EffHas w s.eff ∨ c16_BufHas w s.buf

theorem c16_not_BufHas_noBuf (w : Str) : ¬ c16_BufHas w c16_noBuf := by
  rintro ⟨k, h⟩
  have := h {}
  simp [c16_noBuf, c16_skip] at this

theorem c16_EffHas_seq_left {w : Str} {a b : c16_Eff} (h : c16_EffHas w a) : c16_EffHas w (c16_seq a b) :=
  fun fs => by simp only [c16_seq]; exact List.mem_append_left _ (h fs)
theorem c16_EffHas_seq_right {w : Str} {a b : c16_Eff} (h : c16_EffHas w b) : c16_EffHas w (c16_seq a b) :=
  fun fs => by simp only [c16_seq]; exact List.mem_append_right _ (h _)
theorem c16_EffHas_box {w : Str} {pre : List Str} {e : c16_Eff} (h : w ∈ pre ∨ c16_EffHas w e) :
    c16_EffHas w (c16_box pre e) := fun fs => by
  simp only [c16_box]
  rcases h with h | h
  · exact List.mem_append_left _ h
  · exact List.mem_append_right _ (h fs)
theorem c16_EffHas_table {w : Str} {pre : List Str} {e : c16_Eff} (h : w ∈ pre ∨ c16_EffHas w e) :
    c16_EffHas w (c16_tableEff pre e) := fun fs => by
  simp only [c16_tableEff]
  rcases h with h | h
  · exact List.mem_append_left _ h
  · exact List.mem_append_right _ (List.mem_append_left _ (h fs))

/-- a leaf of the traversal: it reports its own warnings and leaves the buffer alone -/
theorem c16_Has_leaf {w : Str} {ms : List Str} {e : Bool} {b : c16_Buf} {P : Prop} (own : P → w ∈ ms)
    (h : P ∨ false = true ∨ c16_BufHas w b) : c16_Has w ⟨c16_emit ms e, b⟩ := by
  rcases h with h | h | h
  · exact Or.inl (fun _ => own h)
  · cases h
  · exact Or.inr h

/-- a container that reports `pre` and then what its content reports -/
theorem c16_Has_wrap {w : Str} {s : c16_Step} {f : c16_Eff → c16_Eff}
    (hf : ∀ e, c16_EffHas w e → c16_EffHas w (f e)) (h : c16_Has w s) : c16_Has w ⟨f s.eff, s.buf⟩ := by
  rcases h with h | h
  · exact Or.inl (hf _ h)
  · exact Or.inr h

section
variable (env : REnv) (p : Str → Attrs → List XmlNode → Bool) (w : Str)
  (hp : ∀ name as cs, p name as cs = true → w ∈ c16_ownWarn env name as cs)
include hp

mutual
theorem c16_occurs_has (n : XmlNode) (b : c16_Buf) (h : c16_occurs p n = true ∨ c16_BufHas w b) :
    c16_Has w (c16_spec env n b) := by
  match n with
  | .text s =>
    rw [c16_spec_text]
    rcases h with h | h
    · simp [c16_occurs] at h
    · exact Or.inr h
  | .elem name as cs =>
    have hsplit : p name as cs = true ∨
        ((match c16_kindOf name with
          | .run => c16_occursL p cs | .paragraph => c16_occursL p cs | .table => c16_occursL p cs
          | .row => c16_occursL p cs | .cell => c16_occursL p cs | .through => c16_occursL p cs
          | .pict => c16_occursL p cs | .hyperlink => c16_occursL p cs
          | .alt => c16_occursIn p S!"mc:Fallback" cs
          | .sdt => !c16_isCheckboxSdt cs && c16_occursIn p S!"w:sdtContent" cs
          | _ => false) = true ∨ c16_BufHas w b) := by
      rw [c16_occurs, Bool.or_eq_true, or_assoc] at h
      exact h
    clear h
    have own : p name as cs = true → w ∈ c16_ownWarn env name as cs := hp name as cs
    unfold c16_ownWarn at own
    generalize hk : c16_kindOf name = k at own hsplit
    cases k with
    | unknown =>
      rw [c16_spec_unknown env as cs b hk]
      exact c16_Has_leaf own hsplit
    | atom =>
      rw [c16_spec_atom env as cs b hk]
      exact c16_Has_leaf own hsplit
    | sym =>
      rw [c16_spec_sym env as cs b hk]
      exact c16_Has_leaf own hsplit
    | br =>
      rw [c16_spec_br env as cs b hk]
      exact c16_Has_leaf own hsplit
    | bookmark =>
      rw [c16_spec_bookmark env as cs b hk]
      exact c16_Has_leaf own hsplit
    | inline =>
      rw [c16_spec_inline env as cs b hk]
      exact c16_Has_leaf own hsplit
    | imagedata =>
      rw [c16_spec_imagedata env as cs b hk]
      exact c16_Has_leaf own hsplit
    | fldChar =>
      rw [c16_spec_fldChar env as cs b hk]
      rcases hsplit with h | h | h
      · cases own h
      · cases h
      · exact Or.inr h
    | instrText =>
      rw [c16_spec_instrText env as cs b hk]
      rcases hsplit with h | h | h
      · cases own h
      · cases h
      · exact Or.inr h
    | run =>
      rw [c16_spec_run env as cs b hk]
      rcases hsplit with h | h
      · exact Or.inl (c16_EffHas_box (Or.inl (own h)))
      · exact c16_Has_wrap (fun e he => c16_EffHas_box (Or.inr he)) (c16_occursL_has cs b h)
    | paragraph =>
      rw [c16_spec_paragraph env as cs b hk]
      -- what the content and the buffer give
      have hall : (c16_occursL p cs = true ∨ c16_BufHas w b) →
          c16_EffHas w (c16_seq (c16_bufHead b) (c16_specL env cs (c16_bufTail b)).eff) ∨
          c16_BufHas w (c16_specL env cs (c16_bufTail b)).buf := by
        intro h
        have hin : c16_EffHas w (c16_bufHead b) ∨ (c16_occursL p cs = true ∨ c16_BufHas w (c16_bufTail b)) := by
          rcases h with h | ⟨k, h⟩
          · exact Or.inr (Or.inl h)
          · cases k with
            | zero => exact Or.inl h
            | succ k => exact Or.inr (Or.inr ⟨k, h⟩)
        rcases hin with h0 | h1
        · exact Or.inl (c16_EffHas_seq_left h0)
        · rcases c16_occursL_has cs (c16_bufTail b) h1 with h2 | h2
          · exact Or.inl (c16_EffHas_seq_right h2)
          · exact Or.inr h2
      dsimp only at own
      by_cases hd : c16_delMark cs = true
      · rw [if_pos hd] at own ⊢
        rcases hsplit with h | h
        · cases own h
        · rcases hall h with h2 | ⟨k, h2⟩
          · exact Or.inr ⟨0, h2⟩
          · exact Or.inr ⟨k + 1, h2⟩
      · rw [if_neg hd] at own ⊢
        rcases hsplit with h | h
        · exact Or.inl (c16_EffHas_box (Or.inl (own h)))
        · rcases hall h with h2 | h2
          · exact Or.inl (c16_EffHas_box (Or.inr h2))
          · exact Or.inr h2
    | table =>
      rw [c16_spec_table env as cs b hk]
      rcases hsplit with h | h
      · exact Or.inl (c16_EffHas_table (Or.inl (own h)))
      · exact c16_Has_wrap (fun e he => c16_EffHas_table (Or.inr he)) (c16_occursL_has cs b h)
    | row =>
      rw [c16_spec_row env as cs b hk]
      rcases hsplit with h | h
      · cases own h
      · exact c16_Has_wrap (f := c16_rowEff) (fun e he fs => he fs) (c16_occursL_has cs b h)
    | cell =>
      rw [c16_spec_cell env as cs b hk]
      rcases hsplit with h | h
      · cases own h
      · exact c16_Has_wrap (f := c16_cellEff) (fun e he fs => he fs) (c16_occursL_has cs b h)
    | through =>
      rw [c16_spec_through env as cs b hk]
      rcases hsplit with h | h
      · cases own h
      · exact c16_occursL_has cs b h
    | pict =>
      rw [c16_spec_pict env as cs b hk]
      rcases hsplit with h | h
      · cases own h
      · exact c16_Has_wrap (f := c16_pictEff) (fun e he fs => he fs) (c16_occursL_has cs b h)
    | hyperlink =>
      rw [c16_spec_hyperlink env as cs b hk]
      rcases hsplit with h | h
      · cases own h
      · split
        · exact c16_Has_wrap (fun e he => c16_EffHas_box (Or.inr he)) (c16_occursL_has cs b h)
        · exact c16_occursL_has cs b h
    | alt =>
      simp only [c16_spec, hk]
      rcases hsplit with h | h
      · cases own h
      · exact c16_occursIn_has S!"mc:Fallback" cs b h
    | sdt =>
      simp only [c16_spec, hk]
      rcases hsplit with h | h
      · cases own h
      · split
        · rename_i hcb
          rcases h with h | h
          · rw [hcb] at h; cases h
          · exact Or.inr h
        · rename_i hcb
          rw [Bool.not_eq_true] at hcb
          rw [hcb] at h
          exact c16_occursIn_has S!"w:sdtContent" cs b h
theorem c16_occursL_has (ns : List XmlNode) (b : c16_Buf) (h : c16_occursL p ns = true ∨ c16_BufHas w b) :
    c16_Has w (c16_specL env ns b) := by
  match ns with
  | [] =>
    rw [c16_specL_nil]
    rcases h with h | h
    · simp [c16_occursL] at h
    · exact Or.inr h
  | n :: ns =>
    rw [c16_specL_cons]
    rw [c16_occursL, Bool.or_eq_true, or_right_comm] at h
    rcases h with h1 | h2
    · rcases c16_occurs_has n b h1 with e1 | b1
      · exact Or.inl (c16_EffHas_seq_left e1)
      · rcases c16_occursL_has ns _ (Or.inr b1) with e2 | b2
        · exact Or.inl (c16_EffHas_seq_right e2)
        · exact Or.inr b2
    · rcases c16_occursL_has ns (c16_spec env n b).buf (Or.inl h2) with e2 | b2
      · exact Or.inl (c16_EffHas_seq_right e2)
      · exact Or.inr b2
theorem c16_occursIn_has (child : Str) (ns : List XmlNode) (b : c16_Buf)
    (h : c16_occursIn p child ns = true ∨ c16_BufHas w b) : c16_Has w (c16_specIn env child ns b) := by
  match ns with
  | [] =>
    simp only [c16_specIn]
    rcases h with h | h
    · simp [c16_occursIn] at h
    · exact Or.inr h
  | .text s :: rest =>
    simp only [c16_specIn]
    simp only [c16_occursIn] at h
    exact c16_occursIn_has child rest b h
  | .elem n as cs :: rest =>
    simp only [c16_specIn]
    simp only [c16_occursIn] at h
    split
    · rename_i hn
      rw [if_pos hn] at h
      exact c16_occursL_has cs b h
    · rename_i hn
      rw [if_neg hn] at h
      exact c16_occursIn_has child rest b h
end

/-- AN ANOMALY AT ANY DEPTH IS REPORTED: if an element satisfying `p` occurs at a read position of `ns`
    (or of the nodes the reader was already holding back), the reader's messages contain `w` — or the
    anomaly sits in content of a deleted-mark paragraph still waiting for a paragraph -/
theorem c16_read_anomaly (f : Nat) (st : RState) (ns : List XmlNode) (r : ReadResult) (st' : RState)
    (h : readAll env f st ns = .ok (r, st'))
    (ho : c16_occursL p ns = true ∨ c16_occursL p st.deleted = true) :
    w ∈ r.messages ∨ c16_BufHas w (c16_pend env st'.deleted) := by
  have hr := c16_readAll_spec env f st ns r st' h
  have hin : c16_occursL p ns = true ∨ c16_BufHas w (c16_pend env st.deleted) := by
    rcases ho with h1 | h2
    · exact Or.inl h1
    · -- the anomaly is among the nodes held back: it is waiting in the buffer
      rcases c16_occursL_has env p w hp st.deleted c16_noBuf (Or.inl h2) with e | ⟨k, hk⟩
      · exact Or.inr ⟨0, e⟩
      · exact Or.inr ⟨k + 1, hk⟩
  rcases c16_occursL_has env p w hp ns _ hin with e | b
  · left; rw [hr.sum.msgs]; exact e _
  · right; rw [hr.buf]; exact b
end

end Mammoth
