/-
  C20 helpers: decimal numerals, the image writer's counter, path functions, stderr lines.
-/
import MammothModel.Cli
namespace Mammoth

/-! ### decimal numerals -/

theorem c20_natToStr_eq (n : Nat) : natToStr n = Nat.toDigits 10 n := by
  simp [natToStr]

theorem c20_natToStr_digit (n : Nat) (c : Char) (h : c ∈ natToStr n) : c.isDigit = true := by
  rw [c20_natToStr_eq] at h
  exact Nat.isDigit_of_mem_toDigits (by decide) (by decide) h

theorem c20_natToStr_not_mem (n : Nat) (c : Char) (hc : c.isDigit = false) : c ∉ natToStr n := by
  intro h
  rw [c20_natToStr_digit n c h] at hc
  cases hc

theorem c20_natToStr_ne_nil (n : Nat) : natToStr n ≠ [] := by
  rw [c20_natToStr_eq]; exact Nat.toDigits_ne_nil

theorem c20_natToStr_inj (n m : Nat) (h : natToStr n = natToStr m) : n = m := by
  rw [c20_natToStr_eq, c20_natToStr_eq] at h
  have := congrArg (fun l => Nat.ofDigitChars 10 l 0) h
  simpa [Nat.ofDigitChars_ten_toDigits] using this

/-- a separator-free prefix is determined by the whole -/
theorem c20_prefix_inj (c : Char) (a b x y : Str) (ha : c ∉ a) (hb : c ∉ b)
    (h : a ++ c :: x = b ++ c :: y) : a = b ∧ x = y := by
  induction a generalizing b with
  | nil =>
    cases b with
    | nil => simp at h; exact ⟨rfl, h⟩
    | cons d b =>
      simp only [List.nil_append, List.cons_append, List.cons.injEq] at h
      exact absurd (h.1 ▸ List.mem_cons_self ..) hb
  | cons d a ih =>
    cases b with
    | nil =>
      simp only [List.nil_append, List.cons_append, List.cons.injEq] at h
      exact absurd (h.1 ▸ List.mem_cons_self ..) ha
    | cons e b =>
      simp only [List.cons_append, List.cons.injEq] at h
      obtain ⟨r1, r2⟩ := ih b (fun hh => ha (List.mem_cons_of_mem _ hh))
        (fun hh => hb (List.mem_cons_of_mem _ hh)) h.2
      exact ⟨by rw [h.1, r1], r2⟩

/-- the image file name `"{n}.{subtype}"` -/
def c20_imageName (n : Nat) (contentType : Str) : Str :=
  natToStr n ++ ['.'] ++ imageSubtype contentType

theorem c20_imageName_inj (n m : Nat) (c1 c2 : Str) (h : c20_imageName n c1 = c20_imageName m c2) :
    n = m := by
  simp only [c20_imageName, List.append_assoc, List.cons_append, List.nil_append] at h
  exact c20_natToStr_inj n m
    (c20_prefix_inj '.' _ _ _ _ (c20_natToStr_not_mem n '.' rfl) (c20_natToStr_not_mem m '.' rfl)
      h).1

theorem c20_imageName_not_abs (n : Nat) (ct : Str) : startsWith (c20_imageName n ct) ['/'] = false := by
  have hne := c20_natToStr_ne_nil n
  have hs := c20_natToStr_not_mem n '/' rfl
  unfold c20_imageName
  cases hd : natToStr n with
  | nil => exact absurd hd hne
  | cons d ds =>
    have : d ≠ '/' := fun e => hs (by rw [hd, e]; exact List.mem_cons_self ..)
    simp [startsWith, this]

theorem c20_posixJoin_inj (dir a b : Str) (ha : startsWith a ['/'] = false)
    (hb : startsWith b ['/'] = false) (h : posixJoin dir a = posixJoin dir b) : a = b := by
  unfold posixJoin at h
  simp only [ha, hb, Bool.false_eq_true, if_false] at h
  split at h
  · exact List.append_cancel_left h
  · exact List.append_cancel_left h

theorem c20_afterFirst_append (c : Char) (a r : Str) (h : c ∉ a) : afterFirst c (a ++ r) = afterFirst c r := by
  induction a with
  | nil => rfl
  | cons x xs ih =>
    rw [List.cons_append, afterFirst, if_neg (by simpa using (List.ne_of_not_mem_cons h).symm)]
    exact ih (List.not_mem_of_not_mem_cons h)

/-! ### the image writer -/

theorem c20_step (n : Nat) (ct : Str) (b : Bytes) :
    imageWriterStep n ct b = (c20_imageName n ct, n + 1) := rfl

theorem c20_run_cons (dir : Str) (n : Nat) (ct : Str) (b : Bytes) (rest : List (Str × Bytes)) :
    imageWriterRun dir n ((ct, b) :: rest) =
      ((posixJoin dir (c20_imageName n ct), b) :: (imageWriterRun dir (n + 1) rest).1,
       c20_imageName n ct :: (imageWriterRun dir (n + 1) rest).2.1,
       (imageWriterRun dir (n + 1) rest).2.2) := rfl

theorem c20_run_eq (dir : Str) (n : Nat) (imgs : List (Str × Bytes)) :
    imageWriterRun dir n imgs =
      ((imgs.zipIdx n).map fun p => (posixJoin dir (c20_imageName p.2 p.1.1), p.1.2),
       (imgs.zipIdx n).map fun p => c20_imageName p.2 p.1.1,
       n + imgs.length) := by
  induction imgs generalizing n with
  | nil => rfl
  | cons i rest ih =>
    rw [c20_run_cons, ih (n + 1), List.zipIdx_cons, List.length_cons, Nat.add_assoc, Nat.add_comm 1]
    rfl

/-- counter invariant: after the run the counter has advanced by the number of images -/
theorem c20_run_counter (dir : Str) (n : Nat) (imgs : List (Str × Bytes)) :
    (imageWriterRun dir n imgs).2.2 = n + imgs.length := by
  rw [c20_run_eq]

theorem c20_zipIdx_lt {α} (l : List α) (n : Nat) : (l.zipIdx n).Pairwise fun a b => a.2 < b.2 := by
  rw [← List.pairwise_map (f := Prod.snd) (R := (· < ·)), List.zipIdx_map_snd]
  exact List.pairwise_lt_range'

/-! ### images without content type / that cannot be opened -/

/-- all images have a content type and open -/
def c20_lift (imgs : List (Str × Bytes)) : List (Option Str × Option Bytes) :=
  imgs.map fun i => (some i.1, some i.2)

/-- the images that open, with their content types (`none` if some content type is missing) -/
def c20_opened : List (Option Str × Option Bytes) → List (Str × Bytes)
  | [] => []
  | (some ct, some b) :: rest => (ct, b) :: c20_opened rest
  | _ :: rest => c20_opened rest

/-- every image has a content type -/
def c20_typed (imgs : List (Option Str × Option Bytes)) : Bool := imgs.all (·.1.isSome)

theorem c20_runO_lift (dir : Str) (n : Nat) (imgs : List (Str × Bytes)) :
    imageWriterRunO dir n (c20_lift imgs) =
      ((imageWriterRun dir n imgs).1, (imageWriterRun dir n imgs).2.1,
       (imageWriterRun dir n imgs).2.2, false) := by
  induction imgs generalizing n with
  | nil => rfl
  | cons i rest ih =>
    obtain ⟨ct, b⟩ := i
    simp only [c20_lift, List.map_cons] at ih ⊢
    rw [imageWriterRunO, c20_run_cons, c20_step]
    simp only []
    rw [ih (n + 1)]

/-- with all content types known: the `src`s and the counter are those of a run over the images
    that could be opened; every file written is one of that run or an empty file left by a failed
    open; and all files of that run are written, in order -/
theorem c20_runO_typed (dir : Str) (n : Nat) (imgs : List (Option Str × Option Bytes))
    (h : c20_typed imgs = true) :
    (imageWriterRunO dir n imgs).2.1 = (imageWriterRun dir n (c20_opened imgs)).2.1 ∧
    (imageWriterRunO dir n imgs).2.2.1 = n + (c20_opened imgs).length ∧
    (imageWriterRunO dir n imgs).2.2.2 = false ∧
    (∀ f ∈ (imageWriterRunO dir n imgs).1,
        f ∈ (imageWriterRun dir n (c20_opened imgs)).1 ∨ f.2 = []) ∧
    (imageWriterRun dir n (c20_opened imgs)).1.Sublist (imageWriterRunO dir n imgs).1 := by
  induction imgs generalizing n with
  | nil => simp [imageWriterRunO, imageWriterRun, c20_opened]
  | cons i rest ih =>
    have hr : c20_typed rest = true := by
      simp only [c20_typed, List.all_cons, Bool.and_eq_true] at h; exact h.2
    obtain ⟨ct, b⟩ := i
    cases ct with
    | none => simp [c20_typed] at h
    | some ct =>
      cases b with
      | none =>
        obtain ⟨i1, i2, i3, i4, i5⟩ := ih n hr
        rw [imageWriterRunO]
        simp only [c20_opened]
        refine ⟨i1, i2, i3, ?_, i5.cons _⟩
        intro f hf
        rcases List.mem_cons.mp hf with rfl | hf
        · exact Or.inr rfl
        · exact i4 f hf
      | some b =>
        obtain ⟨i1, i2, i3, i4, i5⟩ := ih (n + 1) hr
        rw [imageWriterRunO, c20_step]
        simp only [c20_opened]
        rw [c20_run_cons]
        refine ⟨by simp only []; rw [i1], by simp only [List.length_cons]; rw [i2]; omega, i3, ?_,
          i5.cons_cons _⟩
        intro f hf
        rcases List.mem_cons.mp hf with rfl | hf
        · exact Or.inl (List.mem_cons_self ..)
        · rcases i4 f hf with h1 | h1
          · exact Or.inl (List.mem_cons_of_mem _ h1)
          · exact Or.inr h1

/-- with all content types known: the file written for the image at (0-based) position `k` is named with the
    number `n +` (how many of the images BEFORE it could be opened); it holds the image's bytes, or nothing
    when the image could not be opened -/
theorem c20_runO_get (dir : Str) (n : Nat) (imgs : List (Option Str × Option Bytes))
    (ht : c20_typed imgs = true) (k : Nat) (ct : Str) (ob : Option Bytes) (h : imgs[k]? = some (some ct, ob)) :
    (imageWriterRunO dir n imgs).1[k]? =
      some (posixJoin dir (c20_imageName (n + ((imgs.take k).filter (·.2.isSome)).length) ct), ob.getD []) := by
  induction imgs generalizing n k with
  | nil => simp at h
  | cons x rest ih =>
    simp only [c20_typed, List.all_cons, Bool.and_eq_true] at ht
    obtain ⟨xct, xb⟩ := x
    obtain ⟨xct, rfl⟩ := Option.isSome_iff_exists.mp ht.1
    cases k with
    | zero =>
      simp only [List.getElem?_cons_zero, Option.some.injEq, Prod.mk.injEq] at h
      obtain ⟨h1, rfl⟩ := h
      cases h1
      cases xb <;> rfl
    | succ k =>
      simp only [List.getElem?_cons_succ] at h
      cases xb with
      | none =>
        rw [imageWriterRunO]
        exact ih n ht.2 k h
      | some b =>
        rw [imageWriterRunO, c20_step]
        simp only [List.getElem?_cons_succ, List.take_succ_cons, List.filter_cons, Option.isSome_some, if_true,
          List.length_cons]
        rw [ih (n + 1) ht.2 k h, Nat.add_assoc, Nat.add_comm 1]

theorem c20_runO_length (dir : Str) (n : Nat) (imgs : List (Option Str × Option Bytes))
    (ht : c20_typed imgs = true) : (imageWriterRunO dir n imgs).1.length = imgs.length := by
  induction imgs generalizing n with
  | nil => rfl
  | cons x rest ih =>
    simp only [c20_typed, List.all_cons, Bool.and_eq_true] at ht
    obtain ⟨xct, xb⟩ := x
    obtain ⟨xct, rfl⟩ := Option.isSome_iff_exists.mp ht.1
    cases xb with
    | none => rw [imageWriterRunO]; simp [ih n ht.2]
    | some b => rw [imageWriterRunO]; simp [ih _ ht.2]

/-- an image without content type crashes the writer -/
theorem c20_runO_crash (dir : Str) (n : Nat) (imgs : List (Option Str × Option Bytes))
    (h : c20_typed imgs = false) : (imageWriterRunO dir n imgs).2.2.2 = true := by
  induction imgs generalizing n with
  | nil => simp [c20_typed] at h
  | cons i rest ih =>
    obtain ⟨ct, b⟩ := i
    cases ct with
    | none => rfl
    | some ct =>
      have hr : c20_typed rest = false := by
        simp only [c20_typed, List.all_cons] at h ⊢; simpa using h
      cases b with
      | none => rw [imageWriterRunO]; exact ih n hr
      | some b => rw [imageWriterRunO]; exact ih _ hr

/-! ### the command in `--output-dir` mode -/

theorem c20_cliRun_dir (args : CliArgs) (value : Str) (messages : List Str) (images : List (Str × Bytes))
    (dir : Str) (h1 : args.outputDir = some dir) (h2 : args.output = none) :
    cliRun args value messages images =
      { files := (imageWriterRun dir 1 images).1
          ++ [(posixJoin dir (cliOutputName args.path), utf8Encode value)],
        stderrText := stderrTextOf messages, stderr := messages,
        srcs := (imageWriterRun dir 1 images).2.1 } := by
  simp [cliRun, CliArgs.valid, h1, h2]

theorem c20_cliRunO_dir (args : CliArgs) (value : Str) (messages : List Str)
    (images : List (Option Str × Option Bytes)) (dir : Str)
    (h1 : args.outputDir = some dir) (h2 : args.output = none) (ht : c20_typed images = true) :
    cliRunO args value messages images =
      { files := (imageWriterRunO dir 1 images).1
          ++ [(posixJoin dir (cliOutputName args.path), utf8Encode value)],
        stderrText := stderrTextOf messages, stderr := messages,
        srcs := (imageWriterRunO dir 1 images).2.1 } := by
  simp [cliRunO, CliArgs.valid, h1, h2, (c20_runO_typed dir 1 images ht).2.2.1]

/-! ### stderr -/

theorem c20_splitOnChar_ne_nil (sep : Char) (s : Str) : splitOnChar sep s ≠ [] := by
  cases s with
  | nil => simp [splitOnChar]
  | cons c cs =>
    unfold splitOnChar
    cases splitOnChar sep cs with
    | nil => simp
    | cons p ps => by_cases h : (c == sep) = true <;> simp [h]

theorem c20_splitOnChar_line (sep : Char) (m rest : Str) (h : sep ∉ m) :
    splitOnChar sep (m ++ sep :: rest) = m :: splitOnChar sep rest := by
  induction m with
  | nil =>
    simp only [List.nil_append]
    conv => lhs; unfold splitOnChar
    cases hs : splitOnChar sep rest with
    | nil => exact absurd hs (c20_splitOnChar_ne_nil sep rest)
    | cons p ps => simp
  | cons c m ih =>
    simp only [List.cons_append]
    conv => lhs; unfold splitOnChar
    rw [ih (List.not_mem_of_not_mem_cons h)]
    simp [(List.ne_of_not_mem_cons h).symm]

theorem c20_stderr_lines (ms : List Str) (h : ∀ m ∈ ms, '\n' ∉ m) :
    splitOnChar '\n' (stderrTextOf ms) = ms ++ [[]] := by
  induction ms with
  | nil => simp [stderrTextOf, splitOnChar]
  | cons m ms ih =>
    simp only [stderrTextOf, List.append_assoc, List.cons_append, List.nil_append]
    rw [c20_splitOnChar_line '\n' m _ (h m (List.mem_cons_self ..)),
      ih (fun x hx => h x (List.mem_cons_of_mem _ hx))]

/-! ### `basename`, `splitext` -/

theorem c20_rfindNext_absent (c : Char) (s : Str) (h : c ∉ s) : rfindNext c s = 0 := by
  induction s with
  | nil => rfl
  | cons x xs ih =>
    simp [rfindNext, ih (List.not_mem_of_not_mem_cons h), (List.ne_of_not_mem_cons h).symm]

theorem c20_rfindNext_last (c : Char) (a b : Str) (h : c ∉ b) :
    rfindNext c (a ++ c :: b) = a.length + 1 := by
  induction a with
  | nil => simp [rfindNext, c20_rfindNext_absent c b h]
  | cons x xs ih => simp [rfindNext, ih]

theorem c20_rfindNext_le (c : Char) (s : Str) : rfindNext c s ≤ s.length := by
  induction s with
  | nil => simp [rfindNext]
  | cons x xs ih =>
    simp only [rfindNext, List.length_cons]
    split
    · omega
    · split <;> omega

theorem c20_basename_no_sep (p : Str) : '/' ∉ basename p := by
  unfold basename
  induction p with
  | nil => simp [rfindNext]
  | cons x xs ih =>
    simp only [rfindNext]
    by_cases hr : rfindNext '/' xs ≠ 0
    · rw [if_pos hr]; simpa using ih
    · rw [if_neg hr]
      have hr0 : rfindNext '/' xs = 0 := by omega
      rw [hr0] at ih
      simp only [List.drop_zero] at ih
      by_cases hx : (x == '/') = true
      · rw [if_pos hx]; simpa using ih
      · rw [if_neg hx]
        simp only [List.drop_zero, List.mem_cons, not_or]
        refine ⟨?_, ih⟩
        intro e; apply hx; rw [← e]; rfl

theorem c20_splitext_dot (stem ext : Str) (hs : '/' ∉ stem) (he : '/' ∉ ext) (hd : '.' ∉ ext) :
    splitext (stem ++ '.' :: ext) =
      if stem.any (· != '.') then (stem, '.' :: ext) else (stem ++ '.' :: ext, []) := by
  have h1 : rfindNext '/' (stem ++ '.' :: ext) = 0 := by
    apply c20_rfindNext_absent
    simp only [List.mem_append, List.mem_cons, not_or]
    exact ⟨hs, by decide, he⟩
  have h2 := c20_rfindNext_last '.' stem ext hd
  unfold splitext
  simp only [h1, h2, List.drop_zero, Nat.add_sub_cancel, List.take_left', List.drop_left']
  have : stem.length + 1 > 0 := by omega
  simp only [this, if_true]

end Mammoth
