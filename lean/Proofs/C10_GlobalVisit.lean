/-
  C10, the whole output forest: the EVENTS of a document element (bookmarks, links, note and comment references met
  in reading order, as the converter visits them) and the theorem that the summary of the converter's
  output (ids, hrefs, anchors) is the one these events prescribe.
-/
import Proofs.C10_Global
namespace Mammoth

/-- what matters for ids and hrefs, in reading order -/
inductive c10_Ev where
  | bookmark (name : Str)          -- a bookmark (name already formatted: a missing one is `None`)
  | link (h : LinkProps)           -- a hyperlink
  | noteRef (ty id : Str)          -- a note reference
  | commentRef (id : Str)          -- a comment reference, when a style mapping enables them
  | item (ty id : Str)             -- the `li` of a note / the `dt` of a comment (`ty = "comment"`)
  | back (ty id : Str)             -- the back-link that ends a note or comment body
deriving DecidableEq, Repr

/-! #### the events of the input, by recursion over the document tree -/
mutual
/-- the events of one element: nothing below an ignored paragraph / run / table; a disabled comment
    reference is no event -/
def c10_evs (cfg : Cfg) : Elem → List c10_Ev
  | .paragraph p cs =>
    if (c01_path cfg (.paragraph p) (.elements [pathElem S!"p" true])).isIgnore then [] else c10_evsL cfg cs
  | .run r cs => if (c01_runPaths cfg r).any HtmlPath.isIgnore then [] else c10_evsL cfg cs
  | .hyperlink h cs => .link h :: c10_evsL cfg cs
  | .table sid sname rows =>
    if (c01_path cfg (.table sid sname) (.elements [pathElem S!"table" true])).isIgnore then []
    else c10_evsL cfg rows
  | .row _ cells => c10_evsL cfg cells
  | .cell _ _ _ cs => c10_evsL cfg cs
  | .bookmark name => [.bookmark (pyOpt name)]
  | .noteRef ty id => [.noteRef ty id]
  | .commentRef id =>
    match findPath cfg .commentReference with
    | some (.elements _) => [.commentRef id]
    | _ => []
  | _ => []
def c10_evsL (cfg : Cfg) : List Elem → List c10_Ev
  | [] => []
  | e :: es => c10_evs cfg e ++ c10_evsL cfg es
end

/-! #### what the events prescribe -/

def c10_commentTy : Str := S!"comment"

/-- the id an event gives rise to -/
def c10_evId (cfg : Cfg) : c10_Ev → List Str
  | .bookmark n => [htmlId cfg n]
  | .noteRef ty id => [referenceId cfg ty id]
  | .commentRef id => [referenceId cfg c10_commentTy id]
  | .item ty id => [referentId cfg ty id]
  | _ => []
/-- the href an event gives rise to -/
def c10_evHref (cfg : Cfg) : c10_Ev → List Str
  | .link h => [c10_linkHref cfg h]
  | .noteRef ty id => [['#'] ++ referentId cfg ty id]
  | .commentRef id => [['#'] ++ referentId cfg c10_commentTy id]
  | .back ty id => [['#'] ++ referenceId cfg ty id]
  | _ => []

def c10_evIds (cfg : Cfg) (evs : List c10_Ev) : List Str := evs.flatMap (c10_evId cfg)
def c10_evHrefs (cfg : Cfg) (evs : List c10_Ev) : List Str := evs.flatMap (c10_evHref cfg)

/-- the note references among the events -/
def c10_evRefs : List c10_Ev → List (Str × Str)
  | [] => []
  | .noteRef ty id :: r => (ty, id) :: c10_evRefs r
  | _ :: r => c10_evRefs r
/-- the comment references among the events -/
def c10_evCRefs : List c10_Ev → List Str
  | [] => []
  | .commentRef id :: r => id :: c10_evCRefs r
  | _ :: r => c10_evCRefs r

def c10_findComment (cfg : Cfg) (id : Str) : Option Comment :=
  lookupLast id (cfg.comments.map fun c => (c.id, c))

/-- the comments the comment references among the events stand for -/
def c10_evComments (cfg : Cfg) (evs : List c10_Ev) : List Comment :=
  (c10_evCRefs evs).filterMap (c10_findComment cfg)

/-- the anchors (id, href, label): the k-th note reference is labelled `[k]`, the k-th comment reference
    `[` initials k `]`; `n`, `c` are the numbers of note / comment references met before -/
def c10_evAnchors (cfg : Cfg) : Nat → Nat → List c10_Ev → List (Str × Str × Str)
  | _, _, [] => []
  | n, c, .noteRef ty id :: r =>
    (referenceId cfg ty id, ['#'] ++ referentId cfg ty id, ['['] ++ natToStr (n + 1) ++ [']'])
      :: c10_evAnchors cfg (n + 1) c r
  | n, c, .commentRef id :: r =>
    match c10_findComment cfg id with
    | some cm =>
      (referenceId cfg c10_commentTy id, ['#'] ++ referentId cfg c10_commentTy id,
        ['['] ++ commentAuthorLabel cm ++ natToStr (c + 1) ++ [']']) :: c10_evAnchors cfg n (c + 1) r
    | none => c10_evAnchors cfg n c r
  | n, c, _ :: r => c10_evAnchors cfg n c r

def c10_evSum (cfg : Cfg) (n c : Nat) (evs : List c10_Ev) : c10_Sum :=
  (c10_evIds cfg evs, c10_evHrefs cfg evs, c10_evAnchors cfg n c evs, true)

theorem c10_evRefs_append (a b : List c10_Ev) : c10_evRefs (a ++ b) = c10_evRefs a ++ c10_evRefs b := by
  induction a with
  | nil => rfl
  | cons x xs ih => cases x <;> simp [c10_evRefs, ih]

theorem c10_evCRefs_append (a b : List c10_Ev) : c10_evCRefs (a ++ b) = c10_evCRefs a ++ c10_evCRefs b := by
  induction a with
  | nil => rfl
  | cons x xs ih => cases x <;> simp [c10_evCRefs, ih]

theorem c10_evComments_append (cfg : Cfg) (a b : List c10_Ev) :
    c10_evComments cfg (a ++ b) = c10_evComments cfg a ++ c10_evComments cfg b := by
  simp [c10_evComments, c10_evCRefs_append]

theorem c10_evAnchors_append (cfg : Cfg) (a b : List c10_Ev) (n c : Nat) :
    c10_evAnchors cfg n c (a ++ b) =
      c10_evAnchors cfg n c a ++
        c10_evAnchors cfg (n + (c10_evRefs a).length) (c + (c10_evComments cfg a).length) b := by
  induction a generalizing n c with
  | nil => simp [c10_evAnchors, c10_evRefs, c10_evComments, c10_evCRefs]
  | cons x xs ih =>
    cases x with
    | noteRef ty id =>
      simp only [List.cons_append, c10_evAnchors, ih, c10_evRefs, c10_evComments, c10_evCRefs, List.length_cons]
      simp [Nat.add_assoc, Nat.add_comm 1]
    | commentRef id =>
      simp only [List.cons_append, c10_evAnchors, c10_evRefs, c10_evComments, c10_evCRefs, List.filterMap_cons]
      cases c10_findComment cfg id with
      | none => simp only [ih]; rfl
      | some cm =>
        simp only [ih, List.length_cons, c10_evComments]
        simp [Nat.add_assoc, Nat.add_comm 1]
    | _ => simpa [c10_evAnchors, c10_evRefs, c10_evComments, c10_evCRefs] using ih n c

theorem c10_evSum_append (cfg : Cfg) (a b : List c10_Ev) (n c : Nat) :
    c10_evSum cfg n c (a ++ b) =
      c10_add (c10_evSum cfg n c a)
        (c10_evSum cfg (n + (c10_evRefs a).length) (c + (c10_evComments cfg a).length) b) := by
  simp [c10_evSum, c10_add, c10_evIds, c10_evHrefs, c10_evAnchors_append]

/-! #### the Hoare-style statement -/

/-- after running from `st` with result `ns`, `st'`: the output's summary is the one `evs` prescribes
    (labels counted from the state's counters), and the state has recorded exactly the references -/
def c10_Post (cfg : Cfg) (st : ConvState) (evs : List c10_Ev) (ns : List Node) (st' : ConvState) : Prop :=
  c10_sum ns = c10_evSum cfg st.noteRefs.length st.refComments.length evs ∧
  st'.noteRefs = st.noteRefs ++ c10_evRefs evs ∧
  st'.refComments.map Prod.snd = st.refComments.map Prod.snd ++ c10_evComments cfg evs ∧
  (∀ id ∈ c10_evCRefs evs, (c10_findComment cfg id).isSome = true)

def c10_H (cfg : Cfg) (m : ConvM (List Node)) (evs : List c10_Ev) : Prop :=
  ∀ st ns st', m.run st = .ok (ns, st') → c10_Post cfg st evs ns st'

def c10_H2 (cfg : Cfg) (m : ConvM (List Node × List Node)) (evs : List c10_Ev) : Prop :=
  ∀ st h b st', m.run st = .ok ((h, b), st') → c10_Post cfg st evs (h ++ b) st'

/-- the computation leaves the two reference lists alone -/
def c10_keeps {α} (m : ConvM α) : Prop :=
  ∀ st a st', m.run st = .ok (a, st') → st'.noteRefs = st.noteRefs ∧ st'.refComments = st.refComments

theorem c10_Post_len (cfg : Cfg) (st : ConvState) (evs : List c10_Ev) (ns : List Node) (st' : ConvState)
    (h : c10_Post cfg st evs ns st') :
    st'.noteRefs.length = st.noteRefs.length + (c10_evRefs evs).length ∧
    st'.refComments.length = st.refComments.length + (c10_evComments cfg evs).length := by
  obtain ⟨_, h2, h3, _⟩ := h
  constructor
  · rw [h2, List.length_append]
  · have := congrArg List.length h3
    simpa using this

theorem c10_H_pure (cfg : Cfg) (ns : List Node) (evs : List c10_Ev)
    (h1 : ∀ n c, c10_sum ns = c10_evSum cfg n c evs) (h2 : c10_evRefs evs = [])
    (h3 : c10_evCRefs evs = []) : c10_H cfg (pure ns) evs := by
  intro st ns' st' h
  rw [run_pure] at h; cases h
  exact ⟨h1 _ _, by simp [h2], by simp [c10_evComments, h3], by simp [h3]⟩

theorem c10_H_nil (cfg : Cfg) (ns : List Node) (h : c10_sum ns = c10_zero) : c10_H cfg (pure ns) [] :=
  c10_H_pure cfg ns [] (fun _ _ => by rw [h]; rfl) rfl rfl

theorem c10_H_keeps_bind {α} (cfg : Cfg) (m : ConvM α) (f : α → ConvM (List Node)) (evs : List c10_Ev)
    (hm : c10_keeps m) (hf : ∀ a, c10_H cfg (f a) evs) : c10_H cfg (m >>= f) evs := by
  intro st ns st' h
  obtain ⟨a, s, hr, h⟩ := run_bind_ok.mp h
  obtain ⟨e1, e2⟩ := hm st a s hr
  have := hf a s ns st' h
  unfold c10_Post at this ⊢
  rw [e1, e2] at this
  exact this

theorem c10_H_findPathWarn (cfg : Cfg) (t : Target) (kind : Str) (sid sname : Option Str) (d : HtmlPath)
    (f : HtmlPath → ConvM (List Node)) (evs : List c10_Ev) (hf : c10_H cfg (f (c01_path cfg t d)) evs) :
    c10_H cfg (findPathWarn cfg t kind sid sname d >>= f) evs := by
  intro st ns st' h
  rw [run_bind] at h
  have e : (findPathWarn cfg t kind sid sname d).run st =
      .ok (c01_path cfg t d, c01_warnState cfg t kind sid sname st) := c01_findPathWarn_run ..
  rw [e] at h
  have := hf _ ns st' h
  have e1 : (c01_warnState cfg t kind sid sname st).noteRefs = st.noteRefs := by
    unfold c01_warnState; split <;> rfl
  have e2 : (c01_warnState cfg t kind sid sname st).refComments = st.refComments := by
    unfold c01_warnState; split <;> rfl
  unfold c10_Post at this ⊢
  rw [e1, e2] at this
  exact this

/-- wrap the result in something that adds the static events `pre` before and `post` after -/
theorem c10_H_wrap (cfg : Cfg) (m : ConvM (List Node)) (g : List Node → List Node)
    (pre evs post : List c10_Ev) (hm : c10_H cfg m evs)
    (hpre : c10_evRefs pre = [] ∧ c10_evCRefs pre = [] ∧ ∀ n c, c10_evAnchors cfg n c pre = [])
    (hpost : c10_evRefs post = [] ∧ c10_evCRefs post = [] ∧ ∀ n c, c10_evAnchors cfg n c post = [])
    (hg : ∀ ns, c10_sum (g ns) = c10_add (c10_evSum cfg 0 0 pre) (c10_add (c10_sum ns) (c10_evSum cfg 0 0 post))) :
    c10_H cfg (m >>= fun ns => pure (g ns)) (pre ++ evs ++ post) := by
  intro st ns st' h
  obtain ⟨a, s, hr, h⟩ := run_bind_ok.mp h
  rw [run_pure] at h; cases h
  obtain ⟨p1, p2, p3, p4⟩ := hm st a st' hr
  refine ⟨?_, ?_, ?_, ?_⟩
  · rw [hg, p1]
    simp only [c10_evSum_append, c10_evComments, hpre.1, hpre.2.1, List.length_nil, Nat.add_zero,
      List.filterMap_nil]
    simp [c10_evSum, c10_add, hpre.2.2, hpost.2.2]
  · simp [c10_evRefs_append, hpre.1, hpost.1, p2]
  · simp [c10_evComments, c10_evCRefs_append, hpre.2.1, hpost.2.1, p3]
  · simpa [c10_evCRefs_append, hpre.2.1, hpost.2.1] using p4

theorem c10_H_map (cfg : Cfg) (m : ConvM (List Node)) (g : List Node → List Node) (evs : List c10_Ev)
    (hm : c10_H cfg m evs) (hg : ∀ ns, c10_sum (g ns) = c10_sum ns) :
    c10_H cfg (m >>= fun ns => pure (g ns)) evs := by
  have := c10_H_wrap cfg m g [] evs [] hm ⟨rfl, rfl, fun _ _ => rfl⟩ ⟨rfl, rfl, fun _ _ => rfl⟩
    (by intro ns; rw [hg]; simp [c10_evSum, c10_evIds, c10_evHrefs, c10_evAnchors, c10_add])
  simpa using this

theorem c10_Post_seq (cfg : Cfg) (st s1 s2 : ConvState) (e1 e2 : List c10_Ev) (a b : List Node)
    (p : c10_Post cfg st e1 a s1) (q : c10_Post cfg s1 e2 b s2) : c10_Post cfg st (e1 ++ e2) (a ++ b) s2 := by
  obtain ⟨l1, l2⟩ := c10_Post_len cfg st e1 a s1 p
  obtain ⟨p1, p2, p3, p4⟩ := p
  obtain ⟨q1, q2, q3, q4⟩ := q
  refine ⟨?_, ?_, ?_, ?_⟩
  · rw [c10_sum_append, p1, q1, c10_evSum_append, l1, l2]
  · rw [q2, p2, c10_evRefs_append, List.append_assoc]
  · rw [q3, p3, c10_evComments_append, List.append_assoc]
  · intro id hid
    rw [c10_evCRefs_append, List.mem_append] at hid
    exact hid.elim (p4 id) (q4 id)

theorem c10_H_seq (cfg : Cfg) (m1 m2 : ConvM (List Node)) (e1 e2 : List c10_Ev)
    (h1 : c10_H cfg m1 e1) (h2 : c10_H cfg m2 e2) :
    c10_H cfg (do let a ← m1; let b ← m2; pure (a ++ b)) (e1 ++ e2) := by
  intro st ns st' h
  obtain ⟨a, s1, hr1, h⟩ := run_bind_ok.mp h
  obtain ⟨b, s2, hr2, h⟩ := run_bind_ok.mp h
  rw [run_pure] at h; cases h
  exact c10_Post_seq cfg st s1 st' e1 e2 a b (h1 st a s1 hr1) (h2 s1 b st' hr2)

theorem c10_rows_cons {P1 P2 P : ConvState → List Node → ConvState → Prop}
    (seq : ∀ st s1 s2 a b, P1 st a s1 → P2 s1 b s2 → P st (a ++ b) s2)
    {m1 : ConvM (List Node)} {m2 : ConvM (List Node × List Node)}
    (k : List Node → List Node × List Node → List Node × List Node)
    (h1 : ∀ st a s, m1.run st = .ok (a, s) → P1 st a s)
    (h2 : ∀ st h b s, m2.run st = .ok ((h, b), s) → P2 st (h ++ b) s)
    (hk : ∀ a s1 h b s2, m2.run s1 = .ok ((h, b), s2) → (k a (h, b)).1 ++ (k a (h, b)).2 = a ++ (h ++ b))
    (st : ConvState) (h b : List Node) (st' : ConvState)
    (hr : (m1 >>= fun a => m2 >>= fun hb => pure (k a hb)).run st = .ok ((h, b), st')) : P st (h ++ b) st' := by
  obtain ⟨a, s1, hr1, hr⟩ := run_bind_ok.mp hr
  obtain ⟨⟨h', b'⟩, s2, hr2, hr⟩ := run_bind_ok.mp hr
  simp only [run_pure, Except.ok.injEq, Prod.mk.injEq] at hr
  obtain ⟨e, rfl⟩ := hr
  have := seq st s1 s2 a (h' ++ b') (h1 st a s1 hr1) (h2 s1 h' b' s2 hr2)
  rw [← hk a s1 h' b' s2 hr2, e] at this
  exact this

/-! #### keeps -/

theorem c10_keeps_pure {α} (a : α) : c10_keeps (pure a : ConvM α) := by
  intro st b st' h; rw [run_pure] at h; cases h; exact ⟨rfl, rfl⟩
theorem c10_keeps_throw {α} (e : Err) : c10_keeps (throw e : ConvM α) := by
  intro st b st' h; rw [run_throw] at h; cases h
theorem c10_keeps_modify (f : ConvState → ConvState)
    (hf : ∀ s, (f s).noteRefs = s.noteRefs ∧ (f s).refComments = s.refComments) :
    c10_keeps (modify f : ConvM PUnit) := by
  intro st b st' h; rw [run_modify] at h; cases h; exact hf st
theorem c10_keeps_bind {α β} (m : ConvM α) (f : α → ConvM β) (hm : c10_keeps m)
    (hf : ∀ a, c10_keeps (f a)) : c10_keeps (m >>= f) := by
  intro st b st' h
  obtain ⟨a, s, hr, h⟩ := run_bind_ok.mp h
  obtain ⟨e1, e2⟩ := hm st a s hr
  obtain ⟨e3, e4⟩ := hf a s b st' h
  exact ⟨e3.trans e1, e4.trans e2⟩
theorem c10_keeps_warn (m : Str) : c10_keeps (warn m) :=
  c10_keeps_modify _ (fun _ => ⟨rfl, rfl⟩)

theorem c10_keeps_openImage (cfg : Cfg) (src : ImageSrc) : c10_keeps (openImage cfg src) := by
  unfold openImage
  cases src with
  | embedded name =>
    simp only
    split
    · exact c10_keeps_pure _
    · exact c10_keeps_throw _
  | linked uri =>
    simp only
    split
    · apply c10_keeps_bind
      · exact c10_keeps_modify _ (fun s => ⟨rfl, rfl⟩)
      · intro _; split <;> exact c10_keeps_pure _
    · split
      · apply c10_keeps_bind
        · exact c10_keeps_modify _ (fun s => ⟨rfl, rfl⟩)
        · intro _; split <;> exact c10_keeps_pure _
      · exact c10_keeps_pure _

theorem c10_cleanAlt (o : Option Str) :
    c10_cleanAttrs (match o with
      | some a => if a.isEmpty then [] else [(S!"alt", a)]
      | none => []) = true := by
  cases o with
  | none => rfl
  | some a => simp only; split <;> simp [c10_cleanAttrs]

theorem c10_H_convertImage (cfg : Cfg) (hc : c10_cleanCfg cfg = true) (i : ImageProps) :
    c10_H cfg (convertImage cfg i) [] := by
  unfold convertImage
  apply c10_H_keeps_bind
  · exact c10_keeps_modify _ (fun s => ⟨rfl, rfl⟩)
  · intro _
    extract_lets altAttr
    have himg : ∀ x, c10_cleanAttrs x = true → c10_H cfg (pure [el S!"img" (altAttr ++ x) []]) [] := by
      intro x hx
      apply c10_H_nil
      rw [c10_sum_el _ _ _ (by rw [c10_cleanAttrs_append, Bool.and_eq_true]; exact ⟨c10_cleanAlt i.altText, hx⟩)]
      rfl
    split
    · apply c10_H_keeps_bind _ _ _ _ (c10_keeps_openImage _ _)
      intro r
      split
      · exact himg _ rfl
      · exact c10_H_keeps_bind _ _ _ _ (c10_keeps_warn _) (fun _ => c10_H_nil _ _ rfl)
    · rename_i attrs opens hi
      have ha : c10_cleanAttrs attrs = true := by
        simp only [c10_cleanCfg, hi, Bool.and_eq_true] at hc
        exact hc.2
      split
      · apply c10_H_keeps_bind _ _ _ _ (c10_keeps_openImage _ _)
        intro r
        split
        · rw [List.append_assoc]
          exact himg _ (by rw [c10_cleanAttrs_append, ha]; rfl)
        · exact c10_H_keeps_bind _ _ _ _ (c10_keeps_warn _) (fun _ => c10_H_nil _ _ rfl)
      · exact himg _ ha
/-! #### the visitor -/

theorem c10_ofList_href_id (x y : Str) :
    Dict.ofList [(S!"href", x), (S!"id", y)] = [(S!"href", x), (S!"id", y)] := rfl
theorem c10_ofList_id (x : Str) : Dict.ofList [(S!"id", x)] = [(S!"id", x)] := rfl

theorem c10_sum_noteRef (cfg : Cfg) (ty id : Str) (n c : Nat) :
    c10_sum [el S!"sup" [] [el S!"a" [(S!"href", ['#'] ++ referentId cfg ty id), (S!"id", referenceId cfg ty id)]
        [.text (['['] ++ natToStr (n + 1) ++ [']'])]]] = c10_evSum cfg n c [.noteRef ty id] := by
  rw [c10_sum_el _ _ _ rfl]
  simp [el, c10_ofList_href_id, c10_sum_elem, c10_tagSum, c10_tagVals, c10_tagAnchor, c10_add, c10_evSum, c10_evIds, c10_evHrefs,
    c10_evId, c10_evHref, c10_evAnchors, c10_zero, hasContent, anyContent]

theorem c10_sum_commentRef (cfg : Cfg) (id : Str) (cm : Comment) (n c : Nat)
    (hc : c10_findComment cfg id = some cm) :
    c10_sum [el S!"a" [(S!"href", ['#'] ++ referentId cfg S!"comment" id), (S!"id", referenceId cfg S!"comment" id)]
        [.text (['['] ++ commentAuthorLabel cm ++ natToStr (c + 1) ++ [']'])]]
      = c10_evSum cfg n c [.commentRef id] := by
  simp [el, c10_ofList_href_id, c10_sum_elem, c10_tagSum, c10_tagVals, c10_tagAnchor, c10_add, c10_evSum, c10_evIds, c10_evHrefs,
    c10_evId, c10_evHref, c10_evAnchors, c10_zero, hasContent, anyContent, hc, c10_commentTy]

theorem c10_sum_bookmark (cfg : Cfg) (name : Str) (n c : Nat) :
    c10_sum [cel S!"a" [(S!"id", htmlId cfg name)] [.forceWrite]] = c10_evSum cfg n c [.bookmark name] := by
  simp [cel, c10_ofList_id, c10_sum_elem, c10_tagSum, c10_tagVals, c10_tagAnchor, c10_add, c10_evSum, c10_evIds, c10_evHrefs,
    c10_evId, c10_evHref, c10_evAnchors, c10_zero, hasContent, anyContent]

theorem c10_sum_link (cfg : Cfg) (h : LinkProps) (ns : List Node) :
    c10_sum [cel S!"a" (c10_linkAttrs cfg h) ns] =
      c10_add (c10_evSum cfg 0 0 [.link h]) (c10_add (c10_sum ns) (c10_evSum cfg 0 0 [])) := by
  have e : Dict.ofList (c10_linkAttrs cfg h) = c10_linkAttrs cfg h := by
    unfold c10_linkAttrs; cases h.targetFrame <;> rfl
  unfold cel
  rw [c10_sum_elem]
  have e2 : c10_tagSum { name := S!"a", attrs := Dict.ofList (c10_linkAttrs cfg h), collapsible := true } ns =
      c10_evSum cfg 0 0 [.link h] := by
    rw [e]
    unfold c10_linkAttrs
    cases h.targetFrame <;>
      simp [c10_tagSum, c10_tagVals, c10_tagAnchor, c10_evSum, c10_evIds, c10_evHrefs, c10_evId, c10_evHref,
        c10_evAnchors]
  show c10_add (c10_tagSum _ ns) _ = _
  rw [e2]
  simp [c10_evSum, c10_evIds, c10_evHrefs, c10_evAnchors, c10_add]

theorem c10_cleanCell (a b : Nat) : c10_cleanAttrs (cellAttrs a b) = true := by
  unfold cellAttrs
  rw [c10_cleanAttrs_append]
  split <;> split <;> simp [c10_cleanAttrs]

mutual
theorem c10_H_visit (cfg : Cfg) (hc : c10_cleanCfg cfg = true) (hdr : Bool) (e : Elem) :
    c10_H cfg (visit cfg hdr e) (c10_evs cfg e) := by
  match e with
  | .paragraph p cs =>
    rw [visit, c10_evs]
    apply c10_H_findPathWarn
    have hp := c10_path_clean cfg hc (.paragraph p) (.elements [pathElem S!"p" true]) rfl
    cases hpath : c01_path cfg (.paragraph p) (.elements [pathElem S!"p" true]) with
    | ignore => exact c10_H_nil _ _ rfl
    | elements es =>
      rw [hpath] at hp
      simp only [HtmlPath.isIgnore, Bool.false_eq_true, if_false]
      apply c10_H_map _ _ _ _ (c10_H_visitAll cfg hc hdr cs)
      intro ns
      rw [c10_sum_wrapElems _ _ (by simpa [c10_cleanPath] using hp)]
      split <;> simp
  | .run r cs =>
    rw [visit, c10_evs]
    apply c10_H_findPathWarn
    have hp := c10_runPaths_clean cfg hc r
    simp only
    rw [← c01_runPaths]
    split
    · rename_i hi
      apply c10_H_nil
      rw [c10_sum_wrapAll _ hp]
      simp [hi]
    · rename_i hi
      apply c10_H_map _ _ _ _ (c10_H_visitAll cfg hc hdr cs)
      intro ns
      rw [c10_sum_wrapAll _ hp]
      simp [hi]
  | .text _ | .tab => rw [visit]; simp only [c10_evs]; exact c10_H_nil _ _ (by simp)
  | .hyperlink h cs =>
    rw [visit, c10_evs]
    have := c10_H_wrap cfg (visitAll cfg hdr cs) (fun ns => [cel S!"a" (c10_linkAttrs cfg h) ns])
      [.link h] (c10_evsL cfg cs) [] (c10_H_visitAll cfg hc hdr cs) ⟨rfl, rfl, fun _ _ => rfl⟩
      ⟨rfl, rfl, fun _ _ => rfl⟩ (fun ns => c10_sum_link cfg h ns)
    simp only [List.append_nil, List.singleton_append] at this
    exact this
  | .checkbox c =>
    rw [visit]; simp only [c10_evs]
    apply c10_H_nil
    rw [c10_sum_el _ _ _ (by cases c <;> rfl)]; rfl
  | .table sid sname rows =>
    rw [visit, c10_evs]
    rw [← c01_path]
    have hp := c10_path_clean cfg hc (.table sid sname) (.elements [pathElem S!"table" true]) rfl
    cases hpath : c01_path cfg (.table sid sname) (.elements [pathElem S!"table" true]) with
    | ignore => exact c10_H_nil _ _ rfl
    | elements es =>
      rw [hpath] at hp
      simp only [HtmlPath.isIgnore, Bool.false_eq_true, if_false]
      intro st ns st' h
      obtain ⟨⟨hd, bd⟩, s, hr, h⟩ := run_bind_ok.mp h
      rw [run_pure] at h; cases h
      obtain ⟨i1, i2, i3, i4⟩ := c10_H_visitRows cfg hc true rows st hd bd st' hr
      refine ⟨?_, i2, i3, i4⟩
      rw [← i1, c10_sum_wrapElems _ _ (by simpa [c10_cleanPath] using hp), c10_sum_fw_cons]
      split
      · rename_i hbi
        have : hd = [] := c01_visitRows_head_nil cfg rows (by simpa using hbi) st hd bd st' hr
        simp [this]
      · rw [c10_sum_cons, c10_sum_el _ _ _ rfl, c10_sum_el _ _ _ rfl, c10_sum_append]
  | .row h cells =>
    rw [visit, c10_evs]
    apply c10_H_map _ _ _ _ (c10_H_visitAll cfg hc hdr cells)
    intro ns
    rw [c10_sum_el _ _ _ rfl, c10_sum_fw_cons]
  | .cell a b c cs =>
    rw [visit, c10_evs]
    apply c10_H_map _ _ _ _ (c10_H_visitAll cfg hc hdr cs)
    intro ns
    rw [c10_sum_el _ _ _ (c10_cleanCell a b), c10_sum_fw_cons]
  | .brk ty =>
    rw [visit]; simp only [c10_evs]
    split
    · rename_i es hf
      have := c10_findPath_clean cfg hc _ _ hf
      apply c10_H_nil
      rw [c10_sum_wrapElems _ _ (by simpa [c10_cleanPath] using this)]; rfl
    · exact c10_H_nil _ _ rfl
    · split
      · apply c10_H_nil
        rw [c10_sum_cleanElem _ _ rfl]; rfl
      · exact c10_H_nil _ _ rfl
  | .image i => rw [visit]; simp only [c10_evs]; exact c10_H_convertImage cfg hc i
  | .bookmark n =>
    rw [visit, c10_evs]
    exact c10_H_pure _ _ _ (fun n' c => c10_sum_bookmark cfg (pyOpt n) n' c) rfl rfl
  | .noteRef ty id =>
    rw [c10_evs]
    intro st ns st' h
    rw [StateT.run, c01_visit_noteRef] at h
    cases h
    exact ⟨c10_sum_noteRef cfg ty id _ _, rfl, by simp [c10_evComments, c10_evCRefs], by simp [c10_evCRefs]⟩
  | .commentRef id =>
    rw [c10_evs]
    cases hp : findPath cfg .commentReference with
    | none => rw [visit]; simp only [hp]; exact c10_H_nil _ _ rfl
    | some p =>
      cases p with
      | ignore => rw [visit]; simp only [hp]; exact c10_H_nil _ _ rfl
      | elements es =>
        have hcl := c10_findPath_clean cfg hc _ _ hp
        simp only
        intro st ns st' h
        rw [visit] at h
        simp only [hp] at h
        cases hl : lookupLast id (cfg.comments.map fun c => (c.id, c)) with
        | none => simp only [hl, run_throw] at h; cases h
        | some cm =>
          simp only [hl, run_bind, run_get, run_modify, run_pure] at h
          cases h
          refine ⟨?_, by simp [c10_evRefs], ?_, ?_⟩
          · rw [c10_sum_wrapElems _ _ (by simpa [c10_cleanPath] using hcl)]
            exact c10_sum_commentRef cfg id cm _ _ hl
          · simp [c10_evComments, c10_evCRefs, c10_findComment, hl]
          · simp [c10_evCRefs, c10_findComment, hl]
theorem c10_H_visitAll (cfg : Cfg) (hc : c10_cleanCfg cfg = true) (hdr : Bool) (es : List Elem) :
    c10_H cfg (visitAll cfg hdr es) (c10_evsL cfg es) := by
  match es with
  | [] => rw [visitAll, c10_evsL]; exact c10_H_nil _ _ rfl
  | e :: es =>
    rw [visitAll, c10_evsL]
    exact c10_H_seq cfg _ _ _ _ (c10_H_visit cfg hc hdr e) (c10_H_visitAll cfg hc hdr es)
theorem c10_H_visitRows (cfg : Cfg) (hc : c10_cleanCfg cfg = true) (inHead : Bool) (rs : List Elem) :
    c10_H2 cfg (visitRows cfg inHead rs) (c10_evsL cfg rs) := by
  match rs with
  | [] =>
    rw [visitRows, c10_evsL]
    intro st h b st' hr
    rw [run_pure] at hr; cases hr
    exact c10_H_nil cfg [] rfl st [] st rfl
  | r :: rs =>
    rw [visitRows, c10_evsL]
    split
    · exact c10_rows_cons (fun st s1 s2 a b => c10_Post_seq cfg st s1 s2 _ _ a b) (fun a hb => (a ++ hb.1, hb.2))
        (c10_H_visit cfg hc true r) (c10_H_visitRows cfg hc true rs) (fun a _ h b _ _ => List.append_assoc a h b)
    · -- after the first body row nothing goes to the head any more
      exact c10_rows_cons (fun st s1 s2 a b => c10_Post_seq cfg st s1 s2 _ _ a b) (fun a hb => (hb.1, a ++ hb.2))
        (c10_H_visit cfg hc false r) (c10_H_visitRows cfg hc false rs)
        (fun a s1 h b s2 hr => by rw [c01_visitRows_false_head cfg rs s1 h b s2 hr]; rfl)
end

end Mammoth
