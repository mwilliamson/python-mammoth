/-
  C17 — the images of a document tree, in document order, and what `calculate_row_spans` does to them
  (it can only remove the images of cells it takes for vertical-merge continuations; without such marks it
  removes nothing): the images are one more kind of leaf for `Proofs/C01_Sweep.lean`.
-/
import Proofs.C01_Sweep
namespace Mammoth

mutual
/-- the images of a document element, in document order -/
def c17_elemImages : Elem → List ImageProps
  | .image i => [i]
  | .paragraph _ cs => c17_elemImagesL cs
  | .run _ cs => c17_elemImagesL cs
  | .hyperlink _ cs => c17_elemImagesL cs
  | .table _ _ cs => c17_elemImagesL cs
  | .row _ cs => c17_elemImagesL cs
  | .cell _ _ _ cs => c17_elemImagesL cs
  | .text _ => []
  | .tab => []
  | .noteRef _ _ => []
  | .commentRef _ => []
  | .checkbox _ => []
  | .brk _ => []
  | .bookmark _ => []
def c17_elemImagesL : List Elem → List ImageProps
  | [] => []
  | e :: es => c17_elemImages e ++ c17_elemImagesL es
end

@[simp] theorem c17_elemImagesL_nil : c17_elemImagesL [] = [] := by simp [c17_elemImagesL]
@[simp] theorem c17_elemImagesL_cons (e : Elem) (es : List Elem) :
    c17_elemImagesL (e :: es) = c17_elemImages e ++ c17_elemImagesL es := by simp [c17_elemImagesL]

theorem c17_leafHom : c01_LeafHom c17_elemImages c17_elemImagesL :=
  ⟨rfl, fun _ _ => rfl, fun _ _ => rfl, fun _ _ => rfl, fun _ _ => rfl, fun _ _ _ => rfl, fun _ _ => rfl,
    fun _ _ _ _ => rfl⟩

theorem c17_elemImagesL_append (a b : List Elem) :
    c17_elemImagesL (a ++ b) = c17_elemImagesL a ++ c17_elemImagesL b :=
  c17_leafHom.append a b

/-! ### the sweep only removes images -/

theorem c17_spansL_both (es : List Elem) :
    (c17_elemImagesL (c01_spansL es)).Sublist (c17_elemImagesL es) ∧
    (c01_noVmL es = true → c17_elemImagesL (c01_spansL es) = c17_elemImagesL es) :=
  ⟨(c01_spansL_both c17_leafHom es).1, fun hn => ((c01_spansL_both c17_leafHom es).2 hn).1⟩

theorem c17_spans_sublist (e : Elem) : (c17_elemImages (c01_spans e)).Sublist (c17_elemImages e) :=
  (c01_spans_both c17_leafHom e).1

theorem c17_spans_images (e : Elem) (hn : c01_noVm e = true) :
    c17_elemImages (c01_spans e) = c17_elemImages e :=
  ((c01_spans_both c17_leafHom e).2 hn).1

/-! ### the relation between what the reader returns and the tree before any sweep -/

/-- `es` is the row-span sweep of some tree `pe` whose images are exactly `ls`; when `nv` holds,
    `pe` has no continuation mark (so the sweep removed nothing) -/
def c17_Pre (nv : Bool) (es : List Elem) (ls : List ImageProps) : Prop := c01_PreOf c17_elemImagesL nv es ls

theorem c17_Pre_sublist {nv : Bool} {es : List Elem} {ls : List ImageProps} (h : c17_Pre nv es ls) :
    (c17_elemImagesL es).Sublist ls :=
  c01_PreOf_sublist c17_leafHom h

theorem c17_Pre_eq {es : List Elem} {ls : List ImageProps} (h : c17_Pre true es ls) :
    c17_elemImagesL es = ls :=
  c01_PreOf_eq c17_leafHom h

theorem c17_Pre_mono {nv nv' : Bool} {es : List Elem} {ls : List ImageProps} (hm : nv' = true → nv = true)
    (h : c17_Pre nv es ls) : c17_Pre nv' es ls :=
  c01_PreOf_mono hm h

theorem c17_Pre_nil (nv : Bool) : c17_Pre nv [] [] := c01_PreOf_nil c17_leafHom nv

theorem c17_Pre_append {nv : Bool} {a b : List Elem} {la lb : List ImageProps}
    (ha : c17_Pre nv a la) (hb : c17_Pre nv b lb) : c17_Pre nv (a ++ b) (la ++ lb) :=
  c01_PreOf_append c17_leafHom ha hb

theorem c17_Pre_atoms (nv : Bool) (es : List Elem) (h : es.all c01_atom = true) :
    c17_Pre nv es (c17_elemImagesL es) :=
  c01_PreOf_atoms _ nv es h

theorem c17_Pre_run {nv : Bool} {es : List Elem} {ls : List ImageProps} (p : RunProps) (h : c17_Pre nv es ls) :
    c17_Pre nv [.run p es] ls :=
  c01_PreOf_wrap c17_leafHom (.run p) (.run p) (fun _ => rfl) (fun _ => rfl) (fun _ _ h => h) h

theorem c17_Pre_hyperlink {nv : Bool} {es : List Elem} {ls : List ImageProps} (p : LinkProps)
    (h : c17_Pre nv es ls) : c17_Pre nv [.hyperlink p es] ls :=
  c01_PreOf_wrap c17_leafHom (.hyperlink p) (.hyperlink p) (fun _ => rfl) (fun _ => rfl) (fun _ _ h => h) h

theorem c17_Pre_paragraph {nv : Bool} {es : List Elem} {ls : List ImageProps} (p : ParaProps)
    (h : c17_Pre nv es ls) : c17_Pre nv [.paragraph p es] ls :=
  c01_PreOf_wrap c17_leafHom (.paragraph p) (.paragraph p) (fun _ => rfl) (fun _ => rfl) (fun _ _ h => h) h

theorem c17_Pre_row {nv : Bool} {es : List Elem} {ls : List ImageProps} (b : Bool) (h : c17_Pre nv es ls) :
    c17_Pre nv [.row b es] ls :=
  c01_PreOf_wrap c17_leafHom (.row b) (.row b) (fun _ => rfl) (fun _ => rfl) (fun _ _ h => h) h

theorem c17_Pre_cell {nv : Bool} {es : List Elem} {ls : List ImageProps} (c r : Nat) (v : Bool)
    (hv : nv = true → v = false) (h : c17_Pre nv es ls) : c17_Pre nv [.cell c r v es] ls :=
  c01_PreOf_wrap c17_leafHom (.cell c r v) (.cell c r v) (fun _ => rfl) (fun _ => rfl)
    (fun hn _ h => by simp [c01_noVm, hv hn, h]) h

theorem c17_Pre_table {nv : Bool} {es : List Elem} {ls : List ImageProps} (a b : Option Str)
    (h : c17_Pre nv es ls) : c17_Pre nv [.table a b (calculateRowSpans es).1] ls :=
  c01_PreOf_wrap c17_leafHom (.table a b) (fun es => .table a b (calculateRowSpans es).1) (fun _ => rfl) (fun _ => rfl)
    (fun _ _ h => h) h

end Mammoth
