/-
  C09, from the XML — the reader half: what `readElem` makes of `w:tbl` / `w:tr` / `w:tc`, as an equation with a
  structured reading of the table (`c09x_readRows`: the abstract grid of C09 with the cells' contents read by the
  element reader in document order), and the abstract grid read off the XML alone (`c09x_xmlGrid`).
-/
import Proofs.C11_Xml
import Proofs.C09_Grid
import Proofs.C05_ReadBody
namespace Mammoth

/-! ### the properties of cells, rows and tables, read off the XML -/

/-- `w:gridSpan/@w:val` of the cell properties as a decimal number; 1 if absent; `none` if it is not a number -/
def c09x_gridSpan (tcPr : List XmlNode) : Option Nat :=
  match (c11x_propVal S!"w:gridSpan" tcPr).join with
  | none => some 1
  | some g => parseDec g

/-- …with the reader's error (`int(…)` raises ValueError) -/
def c09x_spanE (tcPr : List XmlNode) : Except Err Nat :=
  match (c11x_propVal S!"w:gridSpan" tcPr).join with
  | none => .ok 1
  | some g =>
    match parseDec g with
    | some n => .ok n
    | none => .error (.value g)

theorem c09x_spanE_ok {tcPr : List XmlNode} {n : Nat} (h : c09x_spanE tcPr = .ok n) : c09x_gridSpan tcPr = some n := by
  unfold c09x_spanE at h
  unfold c09x_gridSpan
  cases hv : (c11x_propVal S!"w:gridSpan" tcPr).join with
  | none => rw [hv] at h; cases h; rfl
  | some g =>
    rw [hv] at h
    dsimp only at h ⊢
    cases hp : parseDec g with
    | none => rw [hp] at h; cases h
    | some m => rw [hp] at h; cases h; rfl

/-- the vertical-merge kind of a cell: no `w:vMerge` — none; `w:vMerge` without a value, with an empty value or
    `continue` — continuation of the cell above; any other value (`restart`) — a new merged cell begins -/
def c09x_merge (tcPr : List XmlNode) : c09_Merge :=
  match c11x_propVal S!"w:vMerge" tcPr with
  | none => .none
  | some none => .cont
  | some (some v) => if v = S!"continue" ∨ v = [] then .cont else .restart

theorem c09x_readVmerge (tcPr : List XmlNode) : readVmerge tcPr = (c09x_merge tcPr == .cont) := by
  unfold readVmerge c09x_merge c11x_propVal
  rw [c11x_findChild]
  cases (c11x_named S!"w:vMerge" tcPr).head? with
  | none => rfl
  | some p =>
    obtain ⟨as, cs⟩ := p
    simp only [Option.map_some, c11x_attr_eq]
    cases c11x_attr S!"w:val" as with
    | none => rfl
    | some v =>
      by_cases h1 : v = S!"continue"
      · subst h1; rfl
      · by_cases h2 : v = []
        · subst h2; rfl
        · have e1 : (v == S!"continue") = false := by simpa using h1
          have e2 : v.isEmpty = false := by cases v <;> simp_all
          simp only [e1, e2, h1, h2, or_self, if_false]; rfl

/-- the cell properties: children of the first `w:tcPr` -/
abbrev c09x_tcPr (cs : List XmlNode) : List XmlNode := c11x_childrenOf S!"w:tcPr" cs

/-- a row is a header row iff its `w:trPr` has a `w:tblHeader` child -/
def c09x_isHeader (trChildren : List XmlNode) : Bool :=
  (c11x_named S!"w:tblHeader" (c11x_childrenOf S!"w:trPr" trChildren)).head?.isSome

theorem c09x_isHeader_eq (cs : List XmlNode) :
    (findChild S!"w:tblHeader" (findChildOrNull S!"w:trPr" cs).2).isSome = c09x_isHeader cs := by
  rw [c11x_childrenOf_eq, c11x_findChild]; rfl

/-- style id, style name and warning of an element with a style reference `tag` in its properties -/
def c09x_style (props : List XmlNode) (tag kind : Str) (table : List (Option Str × Option Str)) :
    (Option Str × Option Str) × List Str :=
  match (c11x_propVal tag props).join with
  | none => ((none, none), [])
  | some sid =>
    match lookupLast (some sid) table with
    | none => ((some sid, none),
               [kind ++ S!" style with ID " ++ sid ++ S!" was referenced but not defined in the document"])
    | some name => ((some sid, name), [])

theorem c09x_readStyle (props : List XmlNode) (tag kind : Str) (table : List (Option Str × Option Str)) :
    readStyle props tag kind table = c09x_style props tag kind table := by
  unfold readStyle c09x_style
  rw [c11x_childAttr]
  rfl

abbrev c09x_tblStyle (env : REnv) (cs : List XmlNode) : (Option Str × Option Str) × List Str :=
  c09x_style (c11x_childrenOf S!"w:tblPr" cs) S!"w:tblStyle" S!"Table" env.styles.table

/-! ### the reader on `w:tc`, `w:tr`, `w:tbl` and on elements without a handler -/

theorem c09x_handler_tc : handlerOf S!"w:tc" = some S!"table_cell" := by decide

theorem c09x_reader_cell (env : REnv) (f : Nat) (st : RState) (as : Attrs) (cs : List XmlNode) :
    readElem env (f+1) st (.elem S!"w:tc" as cs) =
      (c09x_spanE (c09x_tcPr cs) >>= fun colspan =>
        readAllWith (readElem env f) st cs >>= fun p =>
        pure ({ p.1 with elements := [.cell colspan 1 (c09x_merge (c09x_tcPr cs) == .cont) p.1.elements] }, p.2)) := by
  rw [c05_readElem_handler _ _ _ _ _ .tableCell c09x_handler_tc, readHandler_tableCell]
  unfold readGridSpan c09x_spanE c09x_tcPr
  rw [← c09x_readVmerge, ← c11x_childAttr, ← c11x_childrenOf_eq]
  rfl

theorem c09x_reader_row (env : REnv) (f : Nat) (st : RState) (as : Attrs) (cs : List XmlNode) :
    readElem env (f+1) st (.elem S!"w:tr" as cs) =
      (readAllWith (readElem env f) st cs >>= fun p =>
        pure ({ p.1 with elements := [.row (c09x_isHeader cs) p.1.elements] }, p.2)) := by
  rw [← c09x_isHeader_eq]; rfl

theorem c09x_reader_table (env : REnv) (f : Nat) (st : RState) (as : Attrs) (cs : List XmlNode) :
    readElem env (f+1) st (.elem S!"w:tbl" as cs) =
      (readAllWith (readElem env f) st cs >>= fun p =>
        pure ({ elements := [.table (c09x_tblStyle env cs).1.1 (c09x_tblStyle env cs).1.2
                  (calculateRowSpans p.1.elements).1],
                extra := p.1.extra,
                messages := (c09x_tblStyle env cs).2 ++ (p.1.messages ++ (calculateRowSpans p.1.elements).2) },
              p.2)) := by
  unfold c09x_tblStyle
  rw [← c09x_readStyle, ← c11x_childrenOf_eq]; rfl

/-- what an element without a handler leaves in the messages: nothing if its name is on the ignore list -/
def c09x_skipMsgs (name : Str) : List Str :=
  if Generated.ignored.contains name then [] else [S!"An unrecognised element was ignored: " ++ name]

theorem c09x_reader_skip (env : REnv) (f : Nat) (st : RState) (name : Str) (as : Attrs) (cs : List XmlNode)
    (h : handlerOf name = none) :
    readElem env (f+1) st (.elem name as cs) = .ok ({ messages := c09x_skipMsgs name }, st) := by
  rw [c05_readElem_unhandled _ _ _ _ _ h, readUnhandled, c09x_skipMsgs]
  split <;> rfl

theorem c09x_readAllWith_cons (rd : c05_Rd) (st : RState) (n : Str) (as : Attrs) (cs rest : List XmlNode) :
    readAllWith rd st (.elem n as cs :: rest) =
      (rd st (.elem n as cs) >>= fun p => readAllWith rd p.2 rest >>= fun q => pure (p.1.concat q.1, q.2)) := rfl

/-! ### a structured reading of a table -/

/-- what reading produces besides the grid: the extra elements, the messages, the reader state -/
abbrev c09x_Res (α : Type) := (α × List Elem × List Str) × RState

/-- THE CELLS OF A ROW from the children of a `w:tr`, left to right: each `w:tc` gives a cell with the span and merge
    kind of its `w:tcPr` and the elements that the element reader (fuel `f`) makes of its children, read in
    document order; every other child has no handler and only leaves a message -/
def c09x_readCells (env : REnv) (f : Nat) : RState → List XmlNode → Except Err (c09x_Res c09_Row)
  | st, [] => .ok (([], [], []), st)
  | st, .text _ :: rest => c09x_readCells env f st rest
  | st, .elem name _ cs :: rest =>
    if name = S!"w:tc" then
      match c09x_spanE (c09x_tcPr cs) with
      | .error e => .error e
      | .ok span =>
        match readAllWith (readElem env f) st cs with
        | .error e => .error e
        | .ok (r, st1) =>
          match c09x_readCells env f st1 rest with
          | .error e => .error e
          | .ok ((row, extra, msgs), st2) =>
            .ok ((⟨span, c09x_merge (c09x_tcPr cs), r.elements⟩ :: row, r.extra ++ extra, r.messages ++ msgs), st2)
    else
      match c09x_readCells env f st rest with
      | .error e => .error e
      | .ok ((row, extra, msgs), st2) => .ok ((row, extra, c09x_skipMsgs name ++ msgs), st2)

/-- THE ROWS OF A TABLE from the children of a `w:tbl`: each `w:tr` gives (header flag, cells) -/
def c09x_readRows (env : REnv) (f : Nat) : RState → List XmlNode → Except Err (c09x_Res (List (Bool × c09_Row)))
  | st, [] => .ok (([], [], []), st)
  | st, .text _ :: rest => c09x_readRows env f st rest
  | st, .elem name _ cs :: rest =>
    if name = S!"w:tr" then
      match c09x_readCells env f st cs with
      | .error e => .error e
      | .ok ((row, extra1, msgs1), st1) =>
        match c09x_readRows env f st1 rest with
        | .error e => .error e
        | .ok ((rows, extra, msgs), st2) =>
          .ok (((c09x_isHeader cs, row) :: rows, extra1 ++ extra, msgs1 ++ msgs), st2)
    else
      match c09x_readRows env f st rest with
      | .error e => .error e
      | .ok ((rows, extra, msgs), st2) => .ok ((rows, extra, c09x_skipMsgs name ++ msgs), st2)

/-- every element child of the row is a `w:tc` or has no handler (`w:trPr`, unknown elements) -/
def c09x_rowShape (cs : List XmlNode) : Bool :=
  cs.all fun n =>
    match n with
    | .text _ => true
    | .elem name _ _ => name == S!"w:tc" || (handlerOf name).isNone

/-- every element child of the table is a `w:tr` of that shape or has no handler (`w:tblPr`, `w:tblGrid`, …) -/
def c09x_tableShape (cs : List XmlNode) : Bool :=
  cs.all fun n =>
    match n with
    | .text _ => true
    | .elem name _ rcs => (name == S!"w:tr" && c09x_rowShape rcs) || (handlerOf name).isNone

theorem c09x_readCells_tc (env : REnv) (f : Nat) (st : RState) (as : Attrs) (cs rest : List XmlNode) :
    c09x_readCells env f st (.elem S!"w:tc" as cs :: rest) =
      (c09x_spanE (c09x_tcPr cs) >>= fun span =>
       readAllWith (readElem env f) st cs >>= fun q =>
       c09x_readCells env f q.2 rest >>= fun p =>
       pure ((⟨span, c09x_merge (c09x_tcPr cs), q.1.elements⟩ :: p.1.1, q.1.extra ++ p.1.2.1,
              q.1.messages ++ p.1.2.2), p.2)) := by
  rw [c09x_readCells, if_pos rfl]
  cases c09x_spanE (c09x_tcPr cs) with
  | error e => rfl
  | ok span =>
    cases readAllWith (readElem env f) st cs with
    | error e => rfl
    | ok q =>
      obtain ⟨r, st1⟩ := q
      dsimp only [bind, Except.bind]
      cases c09x_readCells env f st1 rest <;> rfl

theorem c09x_readCells_other (env : REnv) (f : Nat) (st : RState) {name : Str} (hn : name ≠ S!"w:tc") (as : Attrs)
    (cs rest : List XmlNode) :
    c09x_readCells env f st (.elem name as cs :: rest) =
      (c09x_readCells env f st rest >>= fun p =>
        pure ((p.1.1, p.1.2.1, c09x_skipMsgs name ++ p.1.2.2), p.2)) := by
  rw [c09x_readCells, if_neg hn]
  cases c09x_readCells env f st rest <;> rfl

theorem c09x_readRows_tr (env : REnv) (f : Nat) (st : RState) (as : Attrs) (cs rest : List XmlNode) :
    c09x_readRows env f st (.elem S!"w:tr" as cs :: rest) =
      (c09x_readCells env f st cs >>= fun q =>
       c09x_readRows env f q.2 rest >>= fun p =>
       pure (((c09x_isHeader cs, q.1.1) :: p.1.1, q.1.2.1 ++ p.1.2.1, q.1.2.2 ++ p.1.2.2), p.2)) := by
  rw [c09x_readRows, if_pos rfl]
  cases c09x_readCells env f st cs with
  | error e => rfl
  | ok q =>
    obtain ⟨row, st1⟩ := q
    dsimp only [bind, Except.bind]
    cases c09x_readRows env f st1 rest <;> rfl

theorem c09x_readRows_other (env : REnv) (f : Nat) (st : RState) {name : Str} (hn : name ≠ S!"w:tr") (as : Attrs)
    (cs rest : List XmlNode) :
    c09x_readRows env f st (.elem name as cs :: rest) =
      (c09x_readRows env f st rest >>= fun p =>
        pure ((p.1.1, p.1.2.1, c09x_skipMsgs name ++ p.1.2.2), p.2)) := by
  rw [c09x_readRows, if_neg hn]
  cases c09x_readRows env f st rest <;> rfl

def c09x_cellsOut (p : c09x_Res c09_Row) : ReadResult × RState :=
  ({ elements := p.1.1.map c09_toCell, extra := p.1.2.1, messages := p.1.2.2 }, p.2)

def c09x_rowElems (rows : List (Bool × c09_Row)) : List Elem :=
  rows.map fun p => .row p.1 (p.2.map c09_toCell)

def c09x_rowsOut (p : c09x_Res (List (Bool × c09_Row))) : ReadResult × RState :=
  ({ elements := c09x_rowElems p.1.1, extra := p.1.2.1, messages := p.1.2.2 }, p.2)

/-- reading the children of a `w:tr` is the structured reading of its cells -/
theorem c09x_readAll_cells (env : REnv) (f : Nat) : ∀ (cs : List XmlNode) (st : RState), c09x_rowShape cs = true →
    readAllWith (readElem env (f+1)) st cs = (c09x_readCells env f st cs).map c09x_cellsOut
  | [], st, _ => rfl
  | .text _ :: rest, st, h => c09x_readAll_cells env f rest st h
  | .elem name as cs :: rest, st, h => by
    rw [c09x_rowShape, List.all_cons, Bool.and_eq_true] at h
    have ih := fun st => c09x_readAll_cells env f rest st h.2
    rw [c09x_readAllWith_cons]
    by_cases hn : name = S!"w:tc"
    · subst hn
      rw [c09x_reader_cell, c09x_readCells_tc]
      cases c09x_spanE (c09x_tcPr cs) with
      | error e => rfl
      | ok span =>
        cases readAllWith (readElem env f) st cs with
        | error e => rfl
        | ok q =>
          dsimp only [bind, Except.bind, pure, Except.pure]
          rw [ih]
          cases c09x_readCells env f q.2 rest <;> rfl
    · have hh : handlerOf name = none :=
        Option.isNone_iff_eq_none.mp ((Bool.or_eq_true _ _).mp h.1 |>.resolve_left (hn ∘ beq_iff_eq.mp))
      rw [c09x_reader_skip env f st name as cs hh, c09x_readCells_other env f st hn]
      dsimp only [bind, Except.bind]
      rw [ih]
      cases c09x_readCells env f st rest <;> rfl

/-- reading the children of a `w:tbl` is the structured reading of its rows -/
theorem c09x_readAll_rows (env : REnv) (f : Nat) : ∀ (cs : List XmlNode) (st : RState), c09x_tableShape cs = true →
    readAllWith (readElem env (f+2)) st cs = (c09x_readRows env f st cs).map c09x_rowsOut
  | [], st, _ => rfl
  | .text _ :: rest, st, h => c09x_readAll_rows env f rest st h
  | .elem name as cs :: rest, st, h => by
    rw [c09x_tableShape, List.all_cons, Bool.and_eq_true, Bool.or_eq_true, Bool.and_eq_true] at h
    have ih := fun st => c09x_readAll_rows env f rest st h.2
    rw [c09x_readAllWith_cons]
    by_cases hn : name = S!"w:tr"
    · subst hn
      have hrow : c09x_rowShape cs = true := (h.1.resolve_right (by decide)).2
      rw [c09x_reader_row, c09x_readAll_cells env f cs st hrow, c09x_readRows_tr]
      cases c09x_readCells env f st cs with
      | error e => rfl
      | ok q =>
        dsimp only [bind, Except.bind, pure, Except.pure, Except.map, c09x_cellsOut]
        rw [ih]
        cases c09x_readRows env f q.2 rest <;> rfl
    · have hh : handlerOf name = none :=
        Option.isNone_iff_eq_none.mp (h.1.resolve_left fun h1 => hn (beq_iff_eq.mp h1.1))
      rw [c09x_reader_skip env (f+1) st name as cs hh, c09x_readRows_other env f st hn]
      dsimp only [bind, Except.bind]
      rw [ih]
      cases c09x_readRows env f st rest <;> rfl

/-! ### the rows as the `TableRow`s of an abstract grid -/

/-- header flag of row `i` -/
def c09x_hdrFn (flags : List Bool) (i : Nat) : Bool := flags[i]?.getD false

theorem c09x_rowElems_eq : ∀ (rows : List (Bool × c09_Row)) (hdr : Nat → Bool) (r : Nat),
    (∀ k, hdr (r + k) = c09x_hdrFn (rows.map (·.1)) k) →
    c09x_rowElems rows = c09_toElemsFrom hdr r (rows.map (·.2))
  | [], _, _, _ => rfl
  | (h, row) :: rest, hdr, r, hh => by
    have h0 : hdr r = h := hh 0
    rw [c09x_rowElems, List.map_cons, List.map_cons, c09_toElemsFrom, h0]
    refine congrArg _ (c09x_rowElems_eq rest hdr (r + 1) fun k => ?_)
    rw [Nat.add_assoc, Nat.add_comm 1 k]
    exact hh (k + 1)

theorem c09x_rowElems_toElems (rows : List (Bool × c09_Row)) :
    c09x_rowElems rows = c09_toElems (c09x_hdrFn (rows.map (·.1))) (rows.map (·.2)) :=
  c09x_rowElems_eq rows _ 0 fun k => by rw [Nat.zero_add]

/-- what the table reader returns for the rows `rows` read with `extra`, `msgs` -/
def c09x_tableResult (env : REnv) (cs : List XmlNode) (p : c09x_Res (List (Bool × c09_Row))) : ReadResult × RState :=
  let out := calculateRowSpans (c09_toElems (c09x_hdrFn (p.1.1.map (·.1))) (p.1.1.map (·.2)))
  ({ elements := [.table (c09x_tblStyle env cs).1.1 (c09x_tblStyle env cs).1.2 out.1],
     extra := p.1.2.1,
     messages := (c09x_tblStyle env cs).2 ++ (p.1.2.2 ++ out.2) }, p.2)

/-- READING A TABLE: a `w:tbl` of the table shape is read as ONE table element whose rows are
    `calculate_row_spans` of the rows of the grid read by `c09x_readRows` -/
theorem c09x_read_table (env : REnv) (f : Nat) (st : RState) (as : Attrs) (cs : List XmlNode)
    (h : c09x_tableShape cs = true) :
    readElem env (f+3) st (.elem S!"w:tbl" as cs) = (c09x_readRows env f st cs).map (c09x_tableResult env cs) := by
  rw [c09x_reader_table, c09x_readAll_rows env f cs st h]
  cases c09x_readRows env f st cs with
  | error e => rfl
  | ok p =>
    simp only [Except.map, bind, Except.bind, pure, Except.pure, c09x_rowsOut, c09x_tableResult,
      c09x_rowElems_toElems]

/-! ### the abstract grid read off the XML alone -/

/-- forget the content of a cell -/
def c09x_strip (c : c09_Cell) : c09_Cell := { c with content := [] }

/-- the cells of a row, from the XML: span (0, never valid, if `w:gridSpan` is not a number) and merge kind of every
    `w:tc` child -/
def c09x_xmlRow (trChildren : List XmlNode) : c09_Row :=
  (c11x_named S!"w:tc" trChildren).map fun p =>
    ⟨(c09x_gridSpan (c09x_tcPr p.2)).getD 0, c09x_merge (c09x_tcPr p.2), []⟩

/-- THE GRID OF THE DOCUMENT TABLE, from the XML: one row per `w:tr` child -/
def c09x_xmlGrid (tblChildren : List XmlNode) : List c09_Row :=
  (c11x_named S!"w:tr" tblChildren).map fun p => c09x_xmlRow p.2

/-- the header flags of the rows, from the XML -/
def c09x_xmlHdr (tblChildren : List XmlNode) : List Bool :=
  (c11x_named S!"w:tr" tblChildren).map fun p => c09x_isHeader p.2

theorem c09x_named_other {name m : Str} (h : m ≠ name) (as : Attrs) (cs rest : List XmlNode) :
    c11x_named name (.elem m as cs :: rest) = c11x_named name rest := by
  simp only [c11x_named, List.filterMap_cons, if_neg h]

theorem c09x_xmlRow_tc (as : Attrs) (cs rest : List XmlNode) :
    c09x_xmlRow (.elem S!"w:tc" as cs :: rest) =
      ⟨(c09x_gridSpan (c09x_tcPr cs)).getD 0, c09x_merge (c09x_tcPr cs), []⟩ :: c09x_xmlRow rest := rfl

theorem c09x_readCells_grid (env : REnv) (f : Nat) : ∀ (cs : List XmlNode) (st : RState) (p : c09x_Res c09_Row),
    c09x_readCells env f st cs = .ok p → p.1.1.map c09x_strip = c09x_xmlRow cs
  | [], st, p, h => by cases h; rfl
  | .text _ :: rest, st, p, h => c09x_readCells_grid env f rest st p h
  | .elem name as cs :: rest, st, p, h => by
    by_cases hn : name = S!"w:tc"
    · subst hn
      rw [c09x_readCells_tc] at h
      obtain ⟨span, hs, h⟩ := bind_ok h
      obtain ⟨q, _, h⟩ := bind_ok h
      obtain ⟨p', hp', h⟩ := bind_ok h
      cases h
      rw [c09x_xmlRow_tc, ← c09x_readCells_grid env f rest q.2 p' hp', c09x_spanE_ok hs]
      rfl
    · rw [c09x_readCells_other env f st hn] at h
      obtain ⟨p', hp', h⟩ := bind_ok h
      cases h
      rw [c09x_xmlRow, c09x_named_other hn]
      exact c09x_readCells_grid env f rest st p' hp'

theorem c09x_readRows_grid (env : REnv) (f : Nat) :
    ∀ (cs : List XmlNode) (st : RState) (p : c09x_Res (List (Bool × c09_Row))),
    c09x_readRows env f st cs = .ok p →
      p.1.1.map (fun q => q.2.map c09x_strip) = c09x_xmlGrid cs ∧ p.1.1.map (·.1) = c09x_xmlHdr cs
  | [], st, p, h => by cases h; exact ⟨rfl, rfl⟩
  | .text _ :: rest, st, p, h => c09x_readRows_grid env f rest st p h
  | .elem name as cs :: rest, st, p, h => by
    by_cases hn : name = S!"w:tr"
    · subst hn
      rw [c09x_readRows_tr] at h
      obtain ⟨q, hq, h⟩ := bind_ok h
      obtain ⟨p', hp', h⟩ := bind_ok h
      cases h
      obtain ⟨ih1, ih2⟩ := c09x_readRows_grid env f rest q.2 p' hp'
      constructor
      · show _ :: _ = c09x_xmlRow cs :: c09x_xmlGrid rest
        rw [← ih1, ← c09x_readCells_grid env f cs st q hq]
      · show _ :: _ = _ :: c09x_xmlHdr rest
        rw [← ih2]
    · rw [c09x_readRows_other env f st hn] at h
      obtain ⟨p', hp', h⟩ := bind_ok h
      cases h
      rw [c09x_xmlGrid, c09x_xmlHdr, c09x_named_other hn]
      exact c09x_readRows_grid env f rest st p' hp'

end Mammoth
