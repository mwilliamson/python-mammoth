/-
  C13 — the body reader and the part lookup.
-/
import MammothModel.Package
import Proofs.C05_ReadBody
namespace Mammoth

/-! ### `_inner_text` -/

@[simp] theorem c13_innerTextL_nil : innerTextL [] = [] := by simp [innerTextL]
@[simp] theorem c13_innerTextL_cons (c : XmlNode) (cs : List XmlNode) :
    innerTextL (c :: cs) = innerText c ++ innerTextL cs := by simp [innerTextL]
@[simp] theorem c13_innerText_text (s : Str) : innerText (.text s) = s := by simp [innerText]
@[simp] theorem c13_innerText_elem (n : Str) (as : Attrs) (cs : List XmlNode) :
    innerText (.elem n as cs) = innerTextL cs := by simp [innerText]

theorem c13_innerTextL_append (a b : List XmlNode) : innerTextL (a ++ b) = innerTextL a ++ innerTextL b := by
  induction a with
  | nil => simp
  | cons x xs ih => simp [ih, List.append_assoc]

mutual
/-- merge every run of adjacent text nodes into one text node, at every depth -/
def c13_mergeText : XmlNode → XmlNode
  | .text s => .text s
  | .elem n as cs => .elem n as (c13_mergeTextL cs)
def c13_mergeTextL : List XmlNode → List XmlNode
  | [] => []
  | c :: cs =>
    match c13_mergeText c, c13_mergeTextL cs with
    | .text s, .text t :: rest => .text (s ++ t) :: rest
    | c', rest => c' :: rest
end

mutual
theorem c13_innerText_merge (n : XmlNode) : innerText (c13_mergeText n) = innerText n := by
  match n with
  | .text s => simp [c13_mergeText]
  | .elem nm as cs => simp [c13_mergeText, c13_innerTextL_merge cs]
theorem c13_innerTextL_merge (ns : List XmlNode) : innerTextL (c13_mergeTextL ns) = innerTextL ns := by
  match ns with
  | [] => simp [c13_mergeTextL]
  | c :: cs =>
    have ihc := c13_innerText_merge c
    have ih := c13_innerTextL_merge cs
    unfold c13_mergeTextL
    split
    · next s t rest h1 h2 =>
      rw [h1] at ihc; rw [h2] at ih
      simp at ihc ih
      simp [← ihc, ← ih, List.append_assoc]
    · next c' rest _ =>
      simp [ihc, ih]
end

/-! ### `_read_xml_elements` -/

def c13_isElem : XmlNode → Bool
  | .elem _ _ _ => true
  | .text _ => false

@[simp] theorem c13_concat_empty_left (r : ReadResult) : ReadResult.concat {} r = r := by
  cases r; simp [ReadResult.concat]

@[simp] theorem c13_concat_empty_right (r : ReadResult) : ReadResult.concat r {} = r := by
  cases r; simp [ReadResult.concat]

theorem c13_readAllWith_text (rd : RState → XmlNode → Except Err (ReadResult × RState)) (st : RState)
    (s : Str) (rest : List XmlNode) : readAllWith rd st (.text s :: rest) = readAllWith rd st rest := by
  simp [readAllWith]

theorem c13_readAllWith_elem (rd : RState → XmlNode → Except Err (ReadResult × RState)) (st : RState)
    (n : Str) (as : Attrs) (cs rest : List XmlNode) :
    readAllWith rd st (.elem n as cs :: rest) =
      (do let (r1, st1) ← rd st (.elem n as cs)
          let (r2, st2) ← readAllWith rd st1 rest
          pure (r1.concat r2, st2)) := by
  simp [readAllWith]

/-- a node that the element reader maps to the empty result without touching the state can be
    inserted anywhere in (or removed from) the list -/
theorem c13_readAllWith_insert (rd : RState → XmlNode → Except Err (ReadResult × RState))
    (n : XmlNode) (hn : ∀ st, rd st n = .ok ({}, st)) (a b : List XmlNode) (st : RState) :
    readAllWith rd st (a ++ n :: b) = readAllWith rd st (a ++ b) := by
  induction a generalizing st with
  | nil =>
    cases n with
    | text s => simp [c13_readAllWith_text]
    | elem nm as cs =>
      simp only [List.nil_append, c13_readAllWith_elem, hn st]
      simp only [bind, Except.bind]
      cases readAllWith rd st b with
      | error e => rfl
      | ok p => simp [pure, Except.pure]
  | cons c cs ih =>
    cases c with
    | text s => simp only [List.cons_append, c13_readAllWith_text, ih]
    | elem nm as cs' =>
      simp only [List.cons_append, c13_readAllWith_elem]
      cases rd st (.elem nm as cs') with
      | error e => rfl
      | ok p => simp [bind, Except.bind, ih]

/-! ### ignored elements -/

theorem c13_readElem_ignored (env : REnv) (f : Nat) (st : RState) (name : Str) (as : Attrs)
    (cs : List XmlNode) (h : Generated.ignored.contains name = true) :
    readElem env (f + 1) st (.elem name as cs) = .ok ({}, st) := by
  rw [c05_readElem_unhandled _ _ _ _ _ (handlerOf_ignored name (by simpa using h)), readUnhandled, if_pos h]

/-! ### paths -/

theorem c13_lstripChar_id (ch : Char) (s : Str) (h : startsWith s [ch] = false) : lstripChar ch s = s := by
  cases s with
  | nil => rfl
  | cons c cs =>
    simp only [startsWith, Bool.and_true] at h
    simp [lstripChar, h]

theorem c13_joinPath_absolute (base rest : Str) :
    joinPath [base, '/' :: rest] = '/' :: rest := by
  by_cases hb : base.isEmpty = true
  · simp [joinPath, hb, startsWith, joinWith]
  · simp [joinPath, hb, startsWith, joinWith]

theorem c13_joinPath_relative (base x : Str) (hb : base.isEmpty = false) (hx : x.isEmpty = false)
    (hxs : startsWith x ['/'] = false) :
    joinPath [base, x] = base ++ ['/'] ++ x := by
  by_cases hbs : startsWith base ['/'] = true
  · simp [joinPath, hb, hx, hxs, hbs, joinWith]
  · simp [joinPath, hb, hx, hxs, hbs, joinWith]

theorem c13_startsWith_append (a b : Str) (ch : Char) (ha : a.isEmpty = false) :
    startsWith (a ++ b) [ch] = startsWith a [ch] := by
  cases a with
  | nil => simp at ha
  | cons c cs => simp [startsWith]

/-- `target.lstrip("/")` of `join_path(base, target)` -/
def c13_normTarget (base t : Str) : Str := lstripChar '/' (joinPath [base, t])

end Mammoth
