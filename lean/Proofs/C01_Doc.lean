/-
  C01 — the whole document: body, then the referenced notes, then the referenced comments.
-/
import Proofs.C01_Refine
namespace Mammoth

theorem c01_text_backLink (href : Str) : textOf (backLink href) = S!" ↑" := by
  simp [backLink, cel, el, upArrow]

theorem c01_proj_bind_map (x : ConvM (List Node)) (f : List Node → List Node) (g : Str → Str)
    (hf : ∀ ns, textOfL (f ns) = g (textOfL ns)) (st : ConvState) :
    c01_proj ((x >>= fun ns => pure (f ns)) st) =
      match c01_proj (x st) with
      | .error e => .error e
      | .ok (t, s) => .ok (g t, s) := by
  rw [app_bind]
  cases x st with
  | error e => rfl
  | ok p => obtain ⟨a, s⟩ := p; simp [hf]

theorem c01_text_visitNote (cfg : Cfg) (n : Note) (st : ConvState) :
    c01_proj (visitNote cfg n st) = c01_noteText cfg st n := by
  unfold visitNote c01_noteText
  rw [c01_proj_bind_map _ _ (fun t => t ++ S!" ↑")
        (by intro ns; simp [el, c01_text_backLink]), c01_text_visitAll]
  cases c01_elemsText cfg st _ with
  | error e => rfl
  | ok p => rfl

theorem c01_text_visitComment (cfg : Cfg) (lc : Str × Comment) (st : ConvState) :
    c01_proj (visitComment cfg lc st) = c01_commentText cfg st lc := by
  unfold visitComment c01_commentText
  rw [c01_proj_bind_map _ _ (fun t => S!"Comment " ++ lc.1 ++ t ++ S!" ↑")
        (by intro ns; simp [el, c01_text_backLink]), c01_text_visitAll]
  cases c01_elemsText cfg st _ with
  | error e => rfl
  | ok p => rfl

theorem c01_text_mapMConcat {α} (f : α → ConvM (List Node))
    (g : ConvState → α → Except Err (Str × ConvState))
    (hfg : ∀ x st, c01_proj (f x st) = g st x) (xs : List α) (st : ConvState) :
    c01_proj (mapMConcat f xs st) = c01_seqText g st xs := by
  induction xs generalizing st with
  | nil => simp [mapMConcat, c01_seqText]
  | cons x xs ih =>
    simp only [mapMConcat, c01_seqText]
    rw [c01_proj_append, hfg x st]
    cases g st x with
    | error e => rfl
    | ok p =>
      obtain ⟨a, st1⟩ := p
      simp only []
      rw [ih st1]
      rfl

theorem c01_text_visitDocument (cfg : Cfg) (d : Document) (st : ConvState) :
    c01_proj (visitDocument cfg d st) = c01_docTextSt cfg d st := by
  unfold visitDocument c01_docTextSt
  rw [app_bind]
  have h1 := c01_text_visitAll cfg false d.children st
  cases hb : visitAll cfg false d.children st with
  | error e => rw [hb] at h1; simp [← h1]
  | ok p =>
    obtain ⟨nodes, st1⟩ := p
    rw [hb] at h1
    simp only [c01_proj_ok] at h1
    simp only [← h1]
    rw [app_bind, app_get]
    simp only []
    cases hn : st1.noteRefs.mapM (resolveNote d.notes) with
    | error e =>
      simp only []
      rw [app_bind, app_throw]
      rfl
    | ok notes =>
      simp only []
      rw [app_bind, app_pure]
      simp only []
      rw [app_bind]
      have h2 := c01_text_mapMConcat (visitNote cfg) (c01_noteText cfg) (c01_text_visitNote cfg) notes st1
      rw [← c01_notesText] at h2
      cases hnn : mapMConcat (visitNote cfg) notes st1 with
      | error e => rw [hnn] at h2; simp [← h2]
      | ok q =>
        obtain ⟨noteNodes, st2⟩ := q
        rw [hnn] at h2
        simp only [c01_proj_ok] at h2
        simp only [← h2]
        rw [app_bind, app_get]
        simp only []
        rw [app_bind]
        have h3 := c01_text_mapMConcat (visitComment cfg) (c01_commentText cfg) (c01_text_visitComment cfg)
          st2.refComments st2
        rw [← c01_commentsText] at h3
        cases hc : mapMConcat (visitComment cfg) st2.refComments st2 with
        | error e => rw [hc] at h3; simp [← h3]
        | ok r =>
          obtain ⟨commentNodes, st3⟩ := r
          rw [hc] at h3
          simp only [c01_proj_ok] at h3
          simp [← h3, el]

theorem c01_convertDoc_ok {cfg : Cfg} {d : Document} {r : ConvResult} (h : convertDoc cfg d = .ok r) :
    ∃ st, visitDocument { cfg with comments := d.comments } d {} = .ok (r.nodes, st) ∧
      r.noteRefs = st.noteRefs ∧ r.messages = unique st.messages ∧
      r.ioTrace = st.ioTrace ∧ r.imageCalls = st.imageCalls := by
  unfold convertDoc at h
  cases hv : visitDocument { cfg with comments := d.comments } d {} with
  | error e => simp [StateT.run, hv] at h
  | ok p =>
    obtain ⟨nodes, st⟩ := p
    simp only [StateT.run, hv, Except.ok.injEq] at h
    rw [← h]
    exact ⟨st, rfl, rfl, rfl, rfl, rfl⟩

end Mammoth
