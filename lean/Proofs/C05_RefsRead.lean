/-
  C05 — the reader does not invent references: if every reference in the XML read (and in the deferred
  content) resolves (`c05_xrefs`), every reference in the document elements produced resolves
  (`c05_refsOk`), and the deferred content left behind still satisfies `c05_xrefs`.
-/
import Proofs.C05_Refs
import Proofs.ReaderObs
namespace Mammoth

abbrev c05_anyErr : Err → Prop := fun _ => True

/-- the elements and the extra elements of a reader result resolve -/
abbrev c05_Px (R : c05_Refs) : ReadResult → Prop :=
  fun r => c05_refsOkL R r.elements = true ∧ c05_refsOkL R r.extra = true

abbrev c05_Qx (env : REnv) (R : c05_Refs) : ReadResult × RState → Prop :=
  fun p => c05_Px R p.1 ∧ c05_xrefsL env R p.2.deleted = true

theorem c05_Px_empty (R : c05_Refs) : c05_Px R {} := ⟨rfl, rfl⟩

theorem c05_Px_concat (R : c05_Refs) (a b : ReadResult) (ha : c05_Px R a) (hb : c05_Px R b) :
    c05_Px R (a.concat b) := by
  unfold ReadResult.concat
  exact ⟨by rw [c05_refsOkL_append, ha.1, hb.1]; rfl, by rw [c05_refsOkL_append, ha.2, hb.2]; rfl⟩

/-! ### tables: `calculate_row_spans` keeps the cells' children -/

theorem c05_refsOkL_rebuildCells (R : c05_Refs) (sw : Sweep) (r : Nat) (cells : List Elem) (pos : Nat)
    (h : c05_refsOkL R cells = true) : c05_refsOkL R (rebuildCells sw r cells pos) = true := by
  fun_induction rebuildCells sw r cells pos with
  | case1 => rfl
  | case2 colspan rowspan vm cs rest pos hdrop ih =>
    simp only [c05_refsOkL, Bool.and_eq_true] at h
    exact ih h.2
  | case3 colspan rowspan vm cs rest pos hdrop ih =>
    simp only [c05_refsOkL, c05_refsOk, Bool.and_eq_true] at h ⊢
    exact ⟨h.1, ih h.2⟩
  | case4 e rest pos hne ih =>
    simp only [c05_refsOkL, Bool.and_eq_true] at h ⊢
    exact ⟨h.1, ih h.2⟩

theorem c05_refsOkL_rebuildRows (R : c05_Refs) (sw : Sweep) (rows : List Elem) (r : Nat)
    (h : c05_refsOkL R rows = true) : c05_refsOkL R (rebuildRows sw rows r) = true := by
  fun_induction rebuildRows sw rows r with
  | case1 => rfl
  | case2 hd cells rest r ih =>
    simp only [c05_refsOkL, c05_refsOk, Bool.and_eq_true] at h ⊢
    exact ⟨c05_refsOkL_rebuildCells R sw r cells 0 h.1, ih h.2⟩
  | case3 e rest r hne ih =>
    simp only [c05_refsOkL, Bool.and_eq_true] at h ⊢
    exact ⟨h.1, ih h.2⟩

theorem c05_refsOkL_rowSpans (R : c05_Refs) (rows : List Elem) (h : c05_refsOkL R rows = true) :
    c05_refsOkL R (calculateRowSpans rows).1 = true := by
  unfold calculateRowSpans
  split
  · exact h
  · split
    · exact h
    · exact c05_refsOkL_rebuildRows R _ rows 0 h

/-! ### leaf readers -/

theorem c05_readFldChar_rx (R : c05_Refs) (st : RState) (as : Attrs) (cs : List XmlNode) :
    c05_spec c05_anyErr (fun p => c05_Px R p.1 ∧ p.2.deleted = st.deleted) (readFldChar st as cs) :=
  ⟨fun _ _ => trivial, fun p hp => by
    obtain ⟨hd, h | ⟨c, h⟩⟩ := (c05_readFldChar_kind st as cs).ok p hp
    · exact ⟨h ▸ ⟨rfl, rfl⟩, hd⟩
    · exact ⟨h ▸ ⟨rfl, rfl⟩, hd⟩⟩

theorem c05_readSymbol_rx (R : c05_Refs) (as : Attrs) : c05_spec c05_anyErr (c05_Px R) (readSymbol as) := by
  unfold readSymbol
  dsimp only
  split
  · exact c05_spec_ok _ ⟨rfl, rfl⟩
  split
  · exact c05_spec_err _ trivial
  · split <;> exact c05_spec_ok _ ⟨rfl, rfl⟩

theorem c05_readBreak_px (R : c05_Refs) (as : Attrs) : c05_Px R (readBreak as) := by
  unfold readBreak
  repeat' split
  all_goals exact ⟨rfl, rfl⟩

theorem c05_readImage_px (env : REnv) (R : c05_Refs) (path : Str) (src : ImageSrc) (alt : Option Str)
    (h : c05_refsOk R (.image { altText := alt, contentType := findContentType env.contentTypes path, src := src }) = true) :
    c05_Px R (readImage env path src alt) := by
  have hi : ∀ e, c05_refsOk R e = true → c05_refsOkL R [e] = true :=
    fun e he => by simp only [c05_refsOkL, he, Bool.and_self]
  unfold readImage
  dsimp only
  repeat' split
  all_goals exact ⟨hi _ h, rfl⟩

theorem c05_readEmbeddedImage_rx (env : REnv) (R : c05_Refs) (rid : Str) (alt : Option Str)
    (h : c05_embedOk env R rid = true) : c05_spec c05_anyErr (c05_Px R) (readEmbeddedImage env rid alt) := by
  unfold readEmbeddedImage Rels.targetById
  unfold c05_embedOk at h
  cases hl : lookupLast rid (env.rels.map fun r => (r.id, r.target)) with
  | none => exact c05_spec_err _ trivial
  | some t =>
    rw [hl] at h; dsimp only at h
    exact c05_spec_ok _ (c05_readImage_px env R _ _ alt (by simp only [c05_refsOk]; exact h))

theorem c05_readBlip_rx (env : REnv) (R : c05_Refs) (as : Attrs) (alt : Option Str)
    (h : (match attr? S!"r:embed" as with | some rid => c05_embedOk env R rid | none => true) = true) :
    c05_spec c05_anyErr (c05_Px R) (readBlip env as alt) := by
  unfold readBlip
  split
  · rename_i rid hr; rw [hr] at h; exact c05_readEmbeddedImage_rx env R rid alt h
  · split
    · unfold Rels.targetById
      split
      · exact c05_spec_ok _ (c05_readImage_px env R _ _ alt rfl)
      · exact c05_spec_err _ trivial
    · exact c05_spec_ok _ ⟨rfl, rfl⟩

theorem c05_Px_foldl (R : c05_Refs) (rs : List ReadResult) (acc : ReadResult) (hacc : c05_Px R acc)
    (h : ∀ r ∈ rs, c05_Px R r) : c05_Px R (rs.foldl ReadResult.concat acc) := by
  induction rs generalizing acc with
  | nil => exact hacc
  | cons r rs ih =>
    simp only [List.foldl]
    exact ih _ (c05_Px_concat R _ _ hacc (h r List.mem_cons_self)) (fun r' hr' => h r' (List.mem_cons_of_mem _ hr'))

theorem c05_readInline_rx (env : REnv) (R : c05_Refs) (cs : List XmlNode)
    (h : ((c05_blips cs).all fun b =>
      match attr? S!"r:embed" b.1 with | some rid => c05_embedOk env R rid | none => true) = true) :
    c05_spec c05_anyErr (c05_Px R) (readInline env cs) := by
  refine ⟨fun _ _ => trivial, fun r hr => ?_⟩
  unfold readInline at hr
  dsimp only at hr
  rw [List.all_eq_true] at h
  generalize halt : (if !(strip ((attr? S!"descr" (findChildOrNull S!"wp:docPr" cs).1).getD [])).isEmpty
       then attr? S!"descr" (findChildOrNull S!"wp:docPr" cs).1
       else attr? S!"title" (findChildOrNull S!"wp:docPr" cs).1) = alt at hr
  cases hm : (c05_blips cs).mapM (fun (x : Attrs × List XmlNode) => readBlip env x.1 alt) with
  | error e =>
    unfold c05_blips at hm
    rw [hm] at hr; simp [bind, Except.bind] at hr
  | ok rs =>
    have hall : ∀ r ∈ rs, c05_Px R r := fun r hr => by
      obtain ⟨b, hb, hr'⟩ := mapM_mem _ hm r hr
      exact (c05_readBlip_rx env R b.1 alt (h b hb)).ok r hr'
    unfold c05_blips at hm
    rw [hm] at hr
    simp only [bind, Except.bind, pure, Except.pure] at hr
    cases hr
    exact c05_Px_foldl R rs {} (c05_Px_empty R) hall

/-! ### the element reader -/

def c05_xrefOkH (env : REnv) (R : c05_Refs) (as : Attrs) (cs : List XmlNode) : Handler → Bool
  | .inline =>
    (c05_blips cs).all fun b => match attr? S!"r:embed" b.1 with | some rid => c05_embedOk env R rid | none => true
  | .imagedata => (match attr? S!"r:id" as with | none => true | some rid => c05_embedOk env R rid)
  | .footnoteRef => (match attr? S!"w:id" as with | none => true | some id => R.notes.contains (S!"footnote", id))
  | .endnoteRef => (match attr? S!"w:id" as with | none => true | some id => R.notes.contains (S!"endnote", id))
  | .commentRef => (match attr? S!"w:id" as with | none => true | some id => R.comments.contains id)
  | _ => true

theorem c05_xrefOk_handler {env : REnv} {R : c05_Refs} {name : Str} {as : Attrs} {cs : List XmlNode} {k : Handler}
    (hg : handlerOf name = some k.name) : c05_xrefOk env R name as cs = c05_xrefOkH env R as cs k := by
  unfold c05_xrefOk; rw [hg]
  -- per handler, the match compares two closed strings: the kernel evaluates that much faster than `rfl`
  cases k <;> c05_kernel_rfl

/-- `elements := [e]` where `e` wraps exactly the elements read -/
theorem c05_Qx_wrap {env : REnv} {R : c05_Refs} {r : ReadResult} {st1 : RState} {e : Elem} {msgs : List Str}
    (h : c05_Qx env R (r, st1)) (he : c05_refsOk R e = c05_refsOkL R r.elements) :
    c05_Qx env R ({ elements := [e], extra := r.extra, messages := msgs }, st1) :=
  ⟨⟨by simp only [c05_refsOkL, he, h.1.1, Bool.and_self], h.1.2⟩, h.2⟩

theorem c05_Qx_run {env : REnv} {R : c05_Refs} {r : ReadResult} {st1 : RState} {props : RunProps}
    {children : List Elem} {msgs : List Str} (h : c05_Qx env R (r, st1))
    (hch : children = r.elements ∨ ∃ kw, children = [.hyperlink kw r.elements]) :
    c05_Qx env R ({ elements := [.run props children], extra := r.extra, messages := msgs }, st1) := by
  refine ⟨⟨?_, h.1.2⟩, h.2⟩
  rcases hch with rfl | ⟨kw, rfl⟩
  · simp only [c05_refsOkL, c05_refsOk, h.1.1, Bool.and_self]
  · simp only [c05_refsOkL, c05_refsOk, h.1.1, Bool.and_self]

theorem c05_Qx_para {env : REnv} {R : c05_Refs} {r : ReadResult} {st1 : RState} {pp : ParaProps}
    {msgs : List Str} (h : c05_Qx env R (r, st1)) :
    c05_Qx env R ({ elements := .paragraph pp r.elements :: r.extra, extra := [], messages := msgs }, st1) :=
  ⟨⟨by simp only [c05_refsOkL, c05_refsOk, h.1.1, h.1.2, Bool.and_self], rfl⟩, h.2⟩

theorem c05_Qx_table {env : REnv} {R : c05_Refs} {r : ReadResult} {st1 : RState} {s1 s2 : Option Str}
    {msgs : List Str} (h : c05_Qx env R (r, st1)) :
    c05_Qx env R ({ elements := [.table s1 s2 (calculateRowSpans r.elements).1], extra := r.extra,
                    messages := msgs }, st1) :=
  ⟨⟨by simp only [c05_refsOkL, c05_refsOk, c05_refsOkL_rowSpans R r.elements h.1.1, Bool.and_self], h.1.2⟩, h.2⟩

theorem c05_Qx_pict {env : REnv} {R : c05_Refs} {r : ReadResult} {st1 : RState} {msgs : List Str}
    (h : c05_Qx env R (r, st1)) :
    c05_Qx env R ({ elements := [], extra := r.extra ++ r.elements, messages := msgs }, st1) :=
  ⟨⟨rfl, by rw [c05_refsOkL_append, h.1.1, h.1.2]; rfl⟩, h.2⟩

theorem c05_Px_ref (R : c05_Refs) (e : Elem) (h : c05_refsOk R e = true) : c05_Px R (rrElems [e]) :=
  ⟨by simp only [rrElems, c05_refsOkL, h, Bool.and_self], rfl⟩

theorem c05_readHandler_rx (env : REnv) (R : c05_Refs) (ra : c05_RdAll)
    (ih : ∀ st ns, c05_xrefsL env R ns = true → c05_xrefsL env R st.deleted = true →
      c05_spec c05_anyErr (c05_Qx env R) (ra st ns))
    (st : RState) (as : Attrs) (cs : List XmlNode) (k : Handler)
    (hel : c05_xrefOkH env R as cs k = true) (hcs : c05_xrefsL env R cs = true)
    (hdel : c05_xrefsL env R st.deleted = true) :
    c05_spec c05_anyErr (c05_Qx env R) (readHandler env ra st as cs k) := by
  have hdefer : c05_xrefsL env R (st.deleted ++ cs) = true := by rw [c05_xrefsL_append, hdel, hcs]; rfl
  have leaf : ∀ e, c05_refsOk R e = true → c05_spec c05_anyErr (c05_Qx env R) (.ok (rrElems [e], st)) :=
    fun e he => c05_spec_ok _ ⟨c05_Px_ref R e he, hdel⟩
  have sub := ih _ _ hcs hdel
  cases k with
  | text | tab | noBreakHyphen | softHyphen => exact leaf _ rfl
  | instrText => exact c05_spec_ok _ ⟨⟨rfl, rfl⟩, hdel⟩
  | break_ => exact c05_spec_ok _ ⟨c05_readBreak_px R as, hdel⟩
  | run =>
    refine c05_spec_bind _ _ sub fun _ h => c05_spec_pure _ (c05_Qx_run h ?_)
    split
    · exact Or.inl rfl
    · exact Or.inr ⟨_, rfl⟩
  | table => exact c05_spec_bind _ _ sub fun _ h => c05_spec_pure _ (c05_Qx_table h)
  | tableRow => exact c05_spec_bind _ _ sub fun _ h => c05_spec_pure _ (c05_Qx_wrap h rfl)
  | pict => exact c05_spec_bind _ _ sub fun _ h => c05_spec_pure _ (c05_Qx_pict h)
  | tableCell =>
    rw [readHandler_tableCell]
    exact c05_spec_bind (Q := fun _ => True) _ _ (c05_spec_triv _) fun _ _ =>
      c05_spec_bind _ _ sub fun _ h => c05_spec_pure _ (c05_Qx_wrap h rfl)
  | childElements => exact sub
  | alternateContent => exact ih _ _ (c05_xrefsL_findChild env R _ cs hcs) hdel
  | paragraph =>
    dsimp only [readHandler]
    split
    · exact c05_spec_ok _ ⟨⟨rfl, rfl⟩, hdefer⟩
    · refine c05_spec_bind _ _ (ih { st with deleted := [] } _ hdefer rfl) fun _ h => ?_
      exact c05_spec_bind (Q := fun _ => True) _ _ (c05_spec_triv _) fun _ _ => c05_spec_pure _ (c05_Qx_para h)
  | fldChar =>
    exact c05_spec_weaken (c05_readFldChar_rx R st as cs) fun a ha => ⟨ha.1, by rw [ha.2]; exact hdel⟩
  | symbol => exact c05_spec_map _ _ (c05_readSymbol_rx R as) fun _ h => ⟨h, hdel⟩
  | inline => exact c05_spec_map _ _ (c05_readInline_rx env R cs hel) fun _ h => ⟨h, hdel⟩
  | hyperlink =>
    refine c05_spec_bind _ _ sub fun _ h => ?_
    dsimp only
    split
    · exact c05_spec_bind (Q := fun _ => True) _ _ (c05_spec_triv _) fun _ _ => c05_spec_pure _ (c05_Qx_wrap h rfl)
    · split
      · exact c05_spec_pure _ (c05_Qx_wrap h rfl)
      · exact c05_spec_pure _ h
  | bookmarkStart =>
    dsimp only [readHandler]
    split
    · exact c05_spec_ok _ ⟨⟨rfl, rfl⟩, hdel⟩
    · exact leaf _ rfl
  | imagedata =>
    dsimp only [readHandler]
    split
    · exact c05_spec_ok _ ⟨⟨rfl, rfl⟩, hdel⟩
    · rename_i rid hrid
      rw [c05_xrefOkH, hrid] at hel
      exact c05_spec_map _ _ (c05_readEmbeddedImage_rx env R _ _ hel) fun _ h => ⟨h, hdel⟩
  | footnoteRef | endnoteRef | commentRef =>
    dsimp only [readHandler, readNoteRef]
    split
    · exact c05_spec_err _ trivial
    · rename_i id hid
      rw [c05_xrefOkH, hid] at hel
      exact leaf _ hel
  | sdt =>
    dsimp only [readHandler]
    split
    · exact leaf _ rfl
    · exact ih _ _ (c05_xrefsL_findChild env R _ cs hcs) hdel

abbrev c05_QxE (env : REnv) (R : c05_Refs) (st : RState) (n : XmlNode) (p : ReadResult × RState) : Prop :=
  c05_xrefs env R n = true → c05_xrefsL env R st.deleted = true → c05_Qx env R p

abbrev c05_QxL (env : REnv) (R : c05_Refs) (st : RState) (ns : List XmlNode) (p : ReadResult × RState) : Prop :=
  c05_xrefsL env R ns = true → c05_xrefsL env R st.deleted = true → c05_Qx env R p

theorem c05_closed_rx (env : REnv) (R : c05_Refs) : c05_Closed env c05_anyErr (c05_QxE env R) (c05_QxL env R) where
  nil _ _ hd := ⟨⟨rfl, rfl⟩, hd⟩
  skip _ _ _ _ h hs hd := h (Bool.and_eq_true_iff.mp hs).2 hd
  cons _ _ _ _ _ _ _ h1 h2 hs hd :=
    have a := h1 (Bool.and_eq_true_iff.mp hs).1 hd
    have b := h2 (Bool.and_eq_true_iff.mp hs).2 a.2
    ⟨c05_Px_concat R _ _ a.1 b.1, b.2⟩
  fuel := trivial
  text _ _ _ hd := ⟨⟨rfl, rfl⟩, hd⟩
  unhandled st name as cs _ := by
    rw [readUnhandled]
    split <;> exact c05_spec_ok _ fun _ hd => ⟨⟨rfl, rfl⟩, hd⟩
  handler ra ih st name as cs h hg := by
    obtain ⟨k, rfl⟩ := handlerOf_known hg
    rw [readNamed_name]
    refine c05_spec_imp fun hs => c05_spec_imp fun hd => ?_
    simp only [c05_xrefs, Bool.and_eq_true] at hs
    exact c05_readHandler_rx env R ra (fun st ns h1 h2 => c05_spec_weaken (ih st ns) fun _ h => h h1 h2)
      st as cs k (c05_xrefOk_handler hg ▸ hs.1) hs.2 hd

/-- reading a list of nodes whose references resolve yields elements whose references resolve -/
theorem c05_readAll_rx (env : REnv) (R : c05_Refs) (fuel : Nat) (st : RState) (ns : List XmlNode)
    (r : ReadResult) (st' : RState) (hs : c05_xrefsL env R ns = true) (hd : c05_xrefsL env R st.deleted = true)
    (h : readAll env fuel st ns = .ok (r, st')) :
    c05_refsOkL R r.elements = true ∧ c05_xrefsL env R st'.deleted = true :=
  have := (c05_readAll_closed (c05_closed_rx env R) fuel st ns).ok _ h hs hd
  ⟨this.1.1, this.2⟩

end Mammoth
