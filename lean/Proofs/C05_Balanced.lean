/-
  C05 — the depth of the complex-field stack in document order (`c05_depth`: `w:fldChar` begin pushes,
  separate and end need a non-empty stack) and the predicate "no paragraph carries a deletion mark".
  `Proofs/C05_RDepth.lean` has the version that follows the reader's order when there are such marks.
-/
import Proofs.C05_Static
namespace Mammoth

/-- effect of one `w:fldChar` on the depth of the complex-field stack; `none` = pop from the empty stack -/
def c05_fldDepth (d : Nat) (as : Attrs) : Option Nat :=
  let ty := attr? S!"w:fldCharType" as
  if ty == some S!"begin" then some (d + 1)
  else if ty == some S!"end" then (match d with | 0 => none | k+1 => some k)
  else if ty == some S!"separate" then (match d with | 0 => none | k+1 => some (k+1))
  else some d

def c05_depthAllWith (dp : Nat → XmlNode → Option Nat) : Nat → List XmlNode → Option Nat
  | d, [] => some d
  | d, .text _ :: rest => c05_depthAllWith dp d rest
  | d, .elem n as cs :: rest => (dp d (.elem n as cs)).bind fun d1 => c05_depthAllWith dp d1 rest

/-- depth after an element, given the depth function `all` for the lists of children that are read
    (same dispatch, in the same order, as `readElem`) -/
def c05_depthBody (all : Nat → List XmlNode → Option Nat) (d : Nat) (name : Str) (as : Attrs)
    (cs : List XmlNode) : Option Nat :=
  match handlerOf name with
  | none => some d
  | some h =>
    if h == S!"text" then some d
    else if h == S!"run" then all d cs
    else if h == S!"paragraph" then all d cs
    else if h == S!"read_fld_char" then c05_fldDepth d as
    else if h == S!"read_instr_text" then some d
    else if h == S!"tab" then some d
    else if h == S!"no_break_hyphen" then some d
    else if h == S!"soft_hyphen" then some d
    else if h == S!"symbol" then some d
    else if h == S!"table" then all d cs
    else if h == S!"table_row" then all d cs
    else if h == S!"table_cell" then all d cs
    else if h == S!"read_child_elements" then all d cs
    else if h == S!"pict" then all d cs
    else if h == S!"hyperlink" then all d cs
    else if h == S!"bookmark_start" then some d
    else if h == S!"break_" then some d
    else if h == S!"inline" then some d
    else if h == S!"read_imagedata" then some d
    else if h == S!"note_reference:footnote" || h == S!"note_reference:endnote" then some d
    else if h == S!"read_comment_reference" then some d
    else if h == S!"alternate_content" then all d (findChildOrNull S!"mc:Fallback" cs).2
    else if h == S!"read_sdt" then
      match findChild S!"wordml:checkbox" (findChildOrNull S!"w:sdtPr" cs).2 with
      | some _ => some d
      | none => all d (findChildOrNull S!"w:sdtContent" cs).2
    else some d

/-- depth of the complex-field stack after reading a node in document order starting at depth `d`
    (`none` on underflow); fuelled like `readElem` because `mc:AlternateContent`/`w:sdt` read a
    grandchild list -/
def c05_depth : Nat → Nat → XmlNode → Option Nat
  | _, d, .text _ => some d
  | 0, d, .elem _ _ _ => some d
  | f+1, d, .elem name as cs => c05_depthBody (c05_depthAllWith (c05_depth f)) d name as cs

/-- the paragraph has no deletion mark `w:pPr/w:rPr/w:del` -/
def c05_elemNoDel (name : Str) (cs : List XmlNode) : Bool :=
  !(handlerOf name == some S!"paragraph") ||
  !(findChild S!"w:del" (findChildOrNull S!"w:rPr" (findChildOrNull S!"w:pPr" cs).2).2).isSome

mutual
def c05_noDel : XmlNode → Bool
  | .text _ => true
  | .elem name _ cs => c05_elemNoDel name cs && c05_noDelL cs
def c05_noDelL : List XmlNode → Bool
  | [] => true
  | c :: cs => c05_noDel c && c05_noDelL cs
end

theorem c05_noDelL_findChild (name : Str) (cs : List XmlNode) (h : c05_noDelL cs = true) :
    c05_noDelL (findChildOrNull name cs).2 = true :=
  findChildOrNull_induct name cs h
    (fun _ _ h => (Bool.and_eq_true_iff.mp h).2)
    (fun _ _ _ _ h => (Bool.and_eq_true_iff.mp (Bool.and_eq_true_iff.mp h).1).2)

theorem c05_elemNoDel_para (name g : Str) (cs : List XmlNode) (hg : handlerOf name = some g)
    (hc : (g == S!"paragraph") = true) (h : c05_elemNoDel name cs = true) :
    ¬ (findChild S!"w:del" (findChildOrNull S!"w:rPr" (findChildOrNull S!"w:pPr" cs).2).2).isSome = true := by
  have := eq_of_beq hc; subst this
  unfold c05_elemNoDel at h
  rw [hg] at h
  simpa using h

def c05_depthH (all : Nat → List XmlNode → Option Nat) (d : Nat) (as : Attrs) (cs : List XmlNode) :
    Handler → Option Nat
  | .run | .paragraph | .table | .tableRow | .tableCell | .childElements | .pict | .hyperlink => all d cs
  | .fldChar => c05_fldDepth d as
  | .alternateContent => all d (findChildOrNull S!"mc:Fallback" cs).2
  | .sdt =>
    match findChild S!"wordml:checkbox" (findChildOrNull S!"w:sdtPr" cs).2 with
    | some _ => some d
    | none => all d (findChildOrNull S!"w:sdtContent" cs).2
  | _ => some d

theorem c05_depthBody_handler {all : Nat → List XmlNode → Option Nat} {d : Nat} {name : Str} {as : Attrs}
    {cs : List XmlNode} {k : Handler} (hg : handlerOf name = some k.name) :
    c05_depthBody all d name as cs = c05_depthH all d as cs k := by
  unfold c05_depthBody; rw [hg]
  -- per handler, the match compares two closed strings: the kernel evaluates that much faster than `rfl`
  cases k <;> c05_kernel_rfl

theorem c05_depthBody_unhandled {all : Nat → List XmlNode → Option Nat} {d : Nat} {name : Str} {as : Attrs}
    {cs : List XmlNode} (hg : handlerOf name = none) : c05_depthBody all d name as cs = some d := by
  unfold c05_depthBody; rw [hg]

end Mammoth
