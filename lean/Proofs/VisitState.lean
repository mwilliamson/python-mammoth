/-
  What the converter's visitor does to its state.  A reflexive, transitive relation between the state
  before and the state after that holds of every primitive step of the visitor (a warning, a note
  reference, a comment reference, the conversion of one image) holds of every successful run of
  `visit` / `visitAll` / `visitRows`, of the notes and comments, and of `visitDocument`.
-/
import Proofs.C01_Refine
import Proofs.C17_ElemImages
import Proofs.C16_Clean
namespace Mammoth

structure VisitRel (cfg : Cfg) (I : ImageProps → Prop) (R : ConvState → ConvState → Prop) : Prop where
  refl : ∀ st, R st st
  trans : ∀ {a b c}, R a b → R b c → R a c
  warn : ∀ m st, R st { st with messages := st.messages ++ [m] }
  noteRef : ∀ r st, R st { st with noteRefs := st.noteRefs ++ [r] }
  commentRef : ∀ id c l st, lookupLast id (cfg.comments.map fun c => (c.id, c)) = some c →
    R st { st with refComments := st.refComments ++ [(l, c)] }
  image : ∀ i, I i → ∀ st ns st', convertImage cfg i st = .ok (ns, st') → R st st'

namespace VisitRel
variable {cfg : Cfg} {I : ImageProps → Prop} {R : ConvState → ConvState → Prop}

theorem of_ok {α} {a b : α} {st s st' : ConvState} (hR : R st s)
    (h : (.ok (a, s) : Except Err (α × ConvState)) = .ok (b, st')) : R st st' := by
  cases h
  exact hR

theorem warnState (S : VisitRel cfg I R) (t : Target) (kind : Str) (sid sname : Option Str) (st : ConvState) :
    R st (c01_warnState cfg t kind sid sname st) := by
  unfold c01_warnState
  split
  · exact S.warn _ _
  · exact S.refl _

mutual
theorem of_visit (S : VisitRel cfg I R) (hdr : Bool) (e : Elem) : (∀ i ∈ c17_elemImages e, I i) →
    ∀ st ns st', visit cfg hdr e st = .ok (ns, st') → R st st' := by
  match e with
  | .paragraph p cs =>
    intro hi st ns st' h
    rw [c17_elemImages] at hi
    rw [c01_visit_paragraph] at h
    split at h
    · exact of_ok (S.warnState ..) h
    · obtain ⟨a, h⟩ := map_keepState_ok h
      exact S.trans (S.warnState ..) (of_visitAll S hdr cs hi _ a st' h)
  | .run r cs =>
    intro hi st ns st' h
    rw [c17_elemImages] at hi
    rw [c01_visit_run] at h
    split at h
    · exact of_ok (S.warnState ..) h
    · obtain ⟨a, h⟩ := map_keepState_ok h
      exact S.trans (S.warnState ..) (of_visitAll S hdr cs hi _ a st' h)
  | .hyperlink _ cs | .row _ cs | .cell _ _ _ cs =>
    intro hi st ns st' h
    rw [c17_elemImages] at hi
    simp only [c01_visit_hyperlink, c01_visit_row, c01_visit_cell] at h
    obtain ⟨a, h⟩ := map_keepState_ok h
    exact of_visitAll S hdr cs hi st a st' h
  | .table sid sname rows =>
    intro hi st ns st' h
    rw [c17_elemImages] at hi
    rw [c01_visit_table] at h
    split at h
    · exact of_ok (S.refl _) h
    · obtain ⟨a, h⟩ := map_keepState_ok h
      exact of_visitRows S true rows hi st a st' h
  | .text _ | .checkbox _ | .brk _ | .tab | .bookmark _ =>
    intro _ st ns st' h
    simp only [c01_visit_text, c01_visit_checkbox, c01_visit_brk, c01_visit_tab, c01_visit_bookmark] at h
    exact of_ok (S.refl _) h
  | .image i =>
    intro hi st ns st' h
    rw [c01_visit_image] at h
    exact S.image i (hi i (by simp [c17_elemImages])) st ns st' h
  | .noteRef ty id =>
    intro _ st ns st' h
    rw [c01_visit_noteRef] at h
    exact of_ok (S.noteRef _ _) h
  | .commentRef id =>
    intro _ st ns st' h
    rw [c01_visit_commentRef] at h
    split at h
    · exact of_ok (S.refl _) h
    · exact of_ok (S.refl _) h
    · split at h
      · cases h
      · exact of_ok (S.commentRef id _ _ _ ‹_›) h
theorem of_visitAll (S : VisitRel cfg I R) (hdr : Bool) (es : List Elem) : (∀ i ∈ c17_elemImagesL es, I i) →
    ∀ st ns st', visitAll cfg hdr es st = .ok (ns, st') → R st st' := by
  match es with
  | [] =>
    intro _ st ns st' h
    rw [visitAll] at h
    exact of_ok (S.refl _) h
  | e :: es =>
    intro hi st ns st' h
    rw [visitAll] at h
    rw [c17_elemImagesL_cons, List.forall_mem_append] at hi
    obtain ⟨a, s, h1, h⟩ := app_bind_ok h
    obtain ⟨b, s', h2, h⟩ := app_bind_ok h
    exact of_ok (S.trans (of_visit S hdr e hi.1 st a s h1) (of_visitAll S hdr es hi.2 s b s' h2)) h
theorem of_visitRows (S : VisitRel cfg I R) (inHead : Bool) (rs : List Elem) :
    (∀ i ∈ c17_elemImagesL rs, I i) → ∀ st hb st', visitRows cfg inHead rs st = .ok (hb, st') → R st st' := by
  match rs with
  | [] =>
    intro _ st ns st' h
    rw [visitRows] at h
    exact of_ok (S.refl _) h
  | r :: rs =>
    intro hi st ns st' h
    rw [visitRows] at h
    rw [c17_elemImagesL_cons, List.forall_mem_append] at hi
    split at h
    · obtain ⟨a, s, h1, h⟩ := app_bind_ok h
      obtain ⟨b, s', h2, h⟩ := app_bind_ok h
      exact of_ok (S.trans (of_visit S true r hi.1 st a s h1)
        (of_visitRows S true rs hi.2 s b s' h2)) h
    · obtain ⟨a, s, h1, h⟩ := app_bind_ok h
      obtain ⟨b, s', h2, h⟩ := app_bind_ok h
      exact of_ok (S.trans (of_visit S false r hi.1 st a s h1)
        (of_visitRows S false rs hi.2 s b s' h2)) h
end

theorem of_visitNote (S : VisitRel cfg I R) (n : Note) (hi : ∀ i ∈ c17_elemImagesL n.body, I i)
    (st : ConvState) (ns : List Node) (st' : ConvState) (h : visitNote cfg n st = .ok (ns, st')) : R st st' := by
  unfold visitNote at h
  obtain ⟨a, h⟩ := map_keepState_ok (app_map _ _ _ ▸ h)
  exact of_visitAll S false n.body hi st a st' h

theorem of_visitComment (S : VisitRel cfg I R) (lc : Str × Comment) (hi : ∀ i ∈ c17_elemImagesL lc.2.body, I i)
    (st : ConvState) (ns : List Node) (st' : ConvState) (h : visitComment cfg lc st = .ok (ns, st')) :
    R st st' := by
  unfold visitComment at h
  obtain ⟨a, h⟩ := map_keepState_ok (app_map _ _ _ ▸ h)
  exact of_visitAll S false lc.2.body hi st a st' h

theorem of_mapMConcat (refl : ∀ st, R st st) (trans : ∀ {a b c}, R a b → R b c → R a c) {α}
    (f : α → ConvM (List Node)) :
    ∀ (xs : List α), (∀ x ∈ xs, ∀ st a st', f x st = .ok (a, st') → R st st') →
      ∀ st ns st', mapMConcat f xs st = .ok (ns, st') → R st st'
  | [], _, st, ns, st', h => by
    rw [mapMConcat] at h
    exact of_ok (refl _) h
  | x :: xs, hf, st, ns, st', h => by
    rw [mapMConcat] at h
    obtain ⟨a, s, h1, h⟩ := app_bind_ok h
    obtain ⟨b, s', h2, h⟩ := app_bind_ok h
    exact of_ok (trans (hf x List.mem_cons_self st a s h1)
      (of_mapMConcat refl trans f xs (fun y hy => hf y (List.mem_cons_of_mem _ hy)) s b s' h2)) h

theorem of_visitDocument (S : VisitRel cfg (fun _ => True) R) (d : Document) (st : ConvState) (ns : List Node)
    (st' : ConvState) (h : visitDocument cfg d st = .ok (ns, st')) : R st st' := by
  obtain ⟨_, st1, notes, _, st2, _, h1, _, h2, h3⟩ := c16_visitDocument_inv cfg d st st' ns h
  exact S.trans (of_visitAll S false d.children (fun _ _ => trivial) st _ st1 h1)
    (S.trans (of_mapMConcat S.refl S.trans _ notes (fun n _ => of_visitNote S n fun _ _ => trivial) st1 _ st2 h2)
      (of_mapMConcat S.refl S.trans _ st2.refComments (fun lc _ => of_visitComment S lc fun _ _ => trivial) st2 _ st' h3))

end VisitRel
end Mammoth
