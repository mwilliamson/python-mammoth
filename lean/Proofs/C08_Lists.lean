/-
  C08 — nesting of list items: `collapse` on default list paths refines a stack machine.
-/
import Proofs.C08_Blocks
import Proofs.C08_DefaultMap
namespace Mammoth

/-- an open list level on the right-most spine of the output: the siblings `pre` that precede the
    open list element, its tag, its already closed items, and the tag of its open (last) item -/
structure c08_Level where
  pre : List Node
  ltag : Tag
  items : List Node
  litag : Tag
deriving Inhabited

/-- the forest denoted by a stack of open levels (outermost first) and the children `c` of the
    innermost open item (of the top level, if no list is open) -/
def c08_rend : List c08_Level → List Node → List Node
  | [], c => c
  | L :: S, c => L.pre ++ [.elem L.ltag (L.items ++ [.elem L.litag (c08_rend S c)])]

/-- a tag that `ul|ol` merges into -/
def c08_isListTag (t : Tag) : Bool := decide ((t.name = S!"ul" ∨ t.name = S!"ol") ∧ t.attrs = [])
/-- a tag that `li` merges into -/
def c08_isLiTag (t : Tag) : Bool := decide (t.name = S!"li" ∧ t.attrs = [])

/-- the last node is not an element that a list tag would merge into -/
def c08_inert (c : List Node) : Bool :=
  match c.getLast? with
  | some (.elem t _) => !c08_isListTag t
  | _ => true

def c08_wf (S : List c08_Level) : Bool := S.all fun L => c08_isListTag L.ltag && c08_isLiTag L.litag

/-- the single node of `wrapElems (c08_listPath k ordered) content` -/
def c08_listNode : Nat → Bool → List Node → Node
  | 0, o, content => .elem (c08_listTag o) [.elem c08_liFresh content]
  | k+1, o, content => .elem c08_ulol [.elem c08_li [c08_listNode k o content]]

theorem c08_wrap_listPath (k : Nat) (o : Bool) (content : List Node) :
    wrapElems (c08_listPath k o) content = [c08_listNode k o content] := by
  induction k with
  | zero => simp [c08_listPath, c08_outer, wrapElems, c08_listNode]
  | succ k ih =>
    simp only [c08_listPath, c08_outer, List.cons_append, wrapElems, c08_listNode] at ih ⊢
    rw [ih]

/-- THE SPECIFICATION: what a list item at depth `k+1` of kind `o` does to the open stack.
    Levels above the item's depth are reused as they are (created as `ul|ol > li` where none is
    open); the item's own level is reused iff a list of the same kind is open there, otherwise the
    open one is closed and a new list is opened next to it; deeper levels are closed. -/
def c08_step : List c08_Level → List Node → Nat → Bool → List c08_Level
  | [], c, 0, o => [⟨c, c08_listTag o, [], c08_liFresh⟩]
  | [], c, k+1, o => ⟨c, c08_ulol, [], c08_li⟩ :: c08_step [] [] k o
  | L :: S, c, 0, o =>
    if L.ltag.name = (c08_listTag o).name then
      [⟨L.pre, L.ltag, L.items ++ [.elem L.litag (c08_rend S c)], c08_liFresh⟩]
    else
      [⟨L.pre ++ [.elem L.ltag (L.items ++ [.elem L.litag (c08_rend S c)])], c08_listTag o, [], c08_liFresh⟩]
  | L :: S, c, k+1, o => L :: c08_step S c k o

/-! ### `addC` against a last element -/

theorem c08_isMatch_ulol (lt : Tag) : isMatch lt c08_ulol = c08_isListTag lt := by
  rw [Bool.eq_iff_iff]
  simp [isMatch, c08_ulol, c08_isListTag, Tag.names]

theorem c08_isMatch_li (lt : Tag) : isMatch lt c08_li = c08_isLiTag lt := by
  rw [Bool.eq_iff_iff]
  simp [isMatch, c08_li, c08_isLiTag, Tag.names]

theorem c08_isMatch_listTag (lt : Tag) (o : Bool) :
    isMatch lt (c08_listTag o) = decide (lt.name = (c08_listTag o).name ∧ lt.attrs = []) := by
  rw [Bool.eq_iff_iff]
  cases o <;> simp [isMatch, c08_listTag, c08_ul, c08_ol, Tag.names]

theorem c08_listTag_collapsible (o : Bool) : (c08_listTag o).collapsible = true := by
  cases o <;> rfl

theorem c08_sepText_listTag (o : Bool) : sepText (c08_listTag o) = [] := by cases o <;> rfl

theorem c08_isListTag_listTag (o : Bool) : c08_isListTag (c08_listTag o) = true := by
  cases o <;> decide

/-- a list tag added after an inert forest starts a new element -/
theorem c08_addC_inert (c : List Node) (t : Tag) (cs : List Node) (hi : c08_inert c = true)
    (ht : ∀ lt, isMatch lt t = true → c08_isListTag lt = true) :
    addC c (.elem t cs) = c ++ [.elem t cs] := by
  unfold addC
  split
  · rename_i lt lcs hl
    split
    · rename_i hc
      simp only [Bool.and_eq_true] at hc
      have := ht lt hc.2
      simp [c08_inert, hl, this] at hi
    · rfl
  · rfl

theorem c08_listTag_match_isList (o : Bool) (lt : Tag) (h : isMatch lt (c08_listTag o) = true) :
    c08_isListTag lt = true := by
  rw [c08_isMatch_listTag] at h
  cases o <;> simp_all [c08_isListTag, c08_listTag, c08_ul, c08_ol]

/-- THE REFINEMENT STEP: adding the node of a list item to the forest denoted by a stack is the
    forest denoted by the stepped stack -/
theorem c08_addC_listNode (k : Nat) (o : Bool) (content : List Node) (S : List c08_Level) (c : List Node)
    (hw : c08_wf S = true) (hi : c08_inert c = true) :
    addC (c08_rend S c) (c08_listNode k o content) = c08_rend (c08_step S c k o) content := by
  induction k generalizing S c with
  | zero =>
    cases S with
    | nil =>
      simp only [c08_rend, c08_listNode, c08_step, List.nil_append]
      exact c08_addC_inert c _ _ hi (c08_listTag_match_isList o)
    | cons L S =>
      have hL : c08_isListTag L.ltag = true := by
        simp only [c08_wf, List.all_cons, Bool.and_eq_true] at hw; exact hw.1.1
      have hattrs : L.ltag.attrs = [] := by
        simp only [c08_isListTag, decide_eq_true_eq] at hL; exact hL.2
      simp only [c08_rend, c08_listNode, c08_step]
      by_cases hn : L.ltag.name = (c08_listTag o).name
      · rw [addC_snoc_merge _ _ _ _ _ (c08_listTag_collapsible o)
          (by rw [c08_isMatch_listTag]; simp [hn, hattrs])]
        simp [hn, c08_rend, c08_sepText_listTag, c08_liFresh, c08_fresh, addC]
      · rw [addC_elem_nomerge_cond _ _ L.ltag _ _ List.getLast?_concat (by rw [c08_isMatch_listTag]; simp [hn])]
        simp [hn, c08_rend]
  | succ k ih =>
    cases S with
    | nil =>
      simp only [c08_rend, c08_listNode, c08_step, List.nil_append]
      rw [c08_addC_inert c _ _ hi (fun lt h => by rw [c08_isMatch_ulol] at h; exact h)]
      have := ih [] [] (by simp [c08_wf]) (by simp [c08_inert])
      simp only [c08_rend, c08_addC_nil] at this
      rw [← this]
    | cons L S =>
      have hw' : (c08_isListTag L.ltag = true ∧ c08_isLiTag L.litag = true) ∧ c08_wf S = true := by
        simpa [c08_wf] using hw
      simp only [c08_rend, c08_listNode, c08_step]
      rw [addC_snoc_merge _ _ _ _ _ rfl (by rw [c08_isMatch_ulol]; exact hw'.1.1)]
      have hs1 : sepText c08_ulol = [] := rfl
      have hs2 : sepText c08_li = [] := rfl
      simp only [hs1, List.append_nil, addAllC_cons, addAllC_nil]
      rw [addC_snoc_merge _ _ _ _ _ rfl (by rw [c08_isMatch_li]; exact hw'.1.2)]
      simp only [hs2, List.append_nil, addAllC_cons, addAllC_nil]
      rw [ih S c hw'.2 hi]

/-! ### structure of a step -/

theorem c08_step_length (S : List c08_Level) (c : List Node) (k : Nat) (o : Bool) :
    (c08_step S c k o).length = k + 1 := by
  fun_induction c08_step S c k o <;> simp [*]

theorem c08_step_add (S : List c08_Level) (c : List Node) (j k : Nat) (o : Bool) (hj : j ≤ S.length) :
    c08_step S c (j + k) o = S.take j ++ c08_step (S.drop j) c k o := by
  induction j generalizing S with
  | zero => simp
  | succ j ih =>
    cases S with
    | nil => simp at hj
    | cons L S =>
      rw [Nat.add_right_comm, c08_step, ih S (by simpa using hj)]
      rfl

/-- the innermost open level after a step: a list of the item's kind whose open item is `li:fresh` -/
theorem c08_step_last (S : List c08_Level) (c : List Node) (k : Nat) (o : Bool) :
    ∃ L, (c08_step S c k o)[k]? = some L ∧ L.litag = c08_liFresh ∧
      L.ltag.name = (c08_listTag o).name := by
  fun_induction c08_step S c k o <;> simp [*]

theorem c08_step_at (S : List c08_Level) (c : List Node) (k : Nat) (o : Bool) (L : c08_Level)
    (hL : S[k]? = some L) : (c08_step S c k o)[k]? = (c08_step (L :: S.drop (k+1)) c 0 o)[0]? := by
  obtain ⟨hk, rfl⟩ := List.getElem?_eq_some_iff.mp hL
  have hstep := c08_step_add S c k 0 o (Nat.le_of_lt hk)
  rw [Nat.add_zero] at hstep
  have hlen : (S.take k).length = k := by simp [Nat.le_of_lt hk]
  rw [hstep, List.getElem?_append_right (Nat.le_of_eq hlen), hlen, Nat.sub_self, List.drop_eq_getElem_cons hk]

theorem c08_wf_step (S : List c08_Level) (c : List Node) (k : Nat) (o : Bool) (hw : c08_wf S = true) :
    c08_wf (c08_step S c k o) = true := by
  have hfresh : c08_isLiTag c08_liFresh = true := by decide
  have hli : c08_isLiTag c08_li = true := by decide
  have hulol : c08_isListTag c08_ulol = true := by decide
  unfold c08_wf at hw ⊢
  fun_induction c08_step S c k o <;>
    simp_all only [List.all_cons, List.all_nil, Bool.and_true, Bool.and_eq_true, c08_isListTag_listTag]

/-! ### reading the nesting off a denoted forest -/

/-- the tags met when following the last child `n` times -/
def c08_spineTags : Nat → List Node → List Tag
  | 0, _ => []
  | n+1, ns => match ns.getLast? with
    | some (.elem t cs) => t :: c08_spineTags n cs
    | _ => []

theorem c08_spineTags_rend (S : List c08_Level) (c : List Node) :
    c08_spineTags (2 * S.length) (c08_rend S c) = S.flatMap fun L => [L.ltag, L.litag] := by
  induction S with
  | nil => simp [c08_spineTags]
  | cons L S ih =>
    have : 2 * (L :: S).length = (2 * S.length + 1) + 1 := by simp; omega
    rw [this]
    simp [c08_spineTags, c08_rend, ih]

theorem c08_descend_rend (S : List c08_Level) (c : List Node) (k : Nat) (L : c08_Level)
    (hlen : S.length = k + 1) (hL : S[k]? = some L) :
    c08_descend (2 * k + 1) (c08_rend S c) = some (L.litag, c) := by
  induction S generalizing k with
  | nil => cases hlen
  | cons L0 S ih =>
    cases k with
    | zero =>
      cases List.eq_nil_of_length_eq_zero (Nat.succ.inj hlen)
      cases hL
      rw [c08_rend, c08_descend_snoc_succ, c08_rend, c08_descend_snoc_zero]
    | succ k =>
      rw [Nat.mul_succ, c08_rend, c08_descend_snoc_succ, c08_descend_snoc_succ]
      exact ih k (Nat.succ.inj hlen) hL

/-! ### the machine on a sequence of blocks -/

/-- a converted paragraph: a list item at depth `k+1` of a numbered (`ordered`) or bulleted list,
    or any other block with a one-element fresh path (`h1`..`h6`, `p`) -/
inductive c08_Item where
  | li (k : Nat) (ordered : Bool) (content : List Node)
  | block (t : Tag) (content : List Node)

def c08_nodeOfItem : c08_Item → Node
  | .li k o content => c08_listNode k o content
  | .block t content => .elem t content

/-- side conditions: the (collapsed) content of a list item does not itself end in a bare
    `ul`/`ol` element, a non-list block has a fresh tag that is not a bare `ul`/`ol` -/
def c08_itemOk : c08_Item → Bool
  | .li _ _ content => c08_inert (collapse content)
  | .block t _ => !t.collapsible && !c08_isListTag t

/-- the specification machine: state = open stack + children of the innermost open item -/
def c08_run : List c08_Level × List Node → List c08_Item → List c08_Level × List Node
  | st, [] => st
  | (S, c), .li k o content :: rest => c08_run (c08_step S c k o, collapse content) rest
  | (S, c), .block t content :: rest => c08_run ([], c08_rend S c ++ [.elem t (collapse content)]) rest

theorem c08_collapseNode_listNode (k : Nat) (o : Bool) (content : List Node) :
    collapseNode (c08_listNode k o content) = c08_listNode k o (collapse content) := by
  induction k with
  | zero => simp [c08_listNode, collapseNode, collapseFrom, c08_addC_nil, collapse]
  | succ k ih => simp [c08_listNode, collapseNode, collapseFrom, c08_addC_nil, ih]

theorem c08_addC_fresh (acc : List Node) (t : Tag) (cs : List Node) (h : t.collapsible = false) :
    addC acc (.elem t cs) = acc ++ [.elem t cs] := by
  unfold addC
  split
  · simp [h]
  · rfl

/-- the side conditions along a sequence: an item's content matters only if something follows it -/
def c08_seqOk : List c08_Item → Bool
  | [] => true
  | [.li _ _ _] => true
  | it :: rest => c08_itemOk it && c08_seqOk rest

theorem c08_seqOk_cons (it : c08_Item) (rest : List c08_Item) (h : c08_seqOk (it :: rest) = true) :
    c08_seqOk rest = true ∧ (c08_itemOk it = true ∨ (rest = [] ∧ ∃ k o c, it = .li k o c)) := by
  cases rest with
  | nil =>
    cases it with
    | li k o c => exact ⟨rfl, Or.inr ⟨rfl, k, o, c, rfl⟩⟩
    | block t c =>
      simp only [c08_seqOk, Bool.and_eq_true] at h
      exact ⟨rfl, Or.inl h.1⟩
  | cons r rs =>
    cases it <;> (simp only [c08_seqOk, Bool.and_eq_true] at h; exact ⟨h.2, Or.inl h.1⟩)

theorem c08_collapseFrom_items (items : List c08_Item) (S : List c08_Level) (c : List Node)
    (hw : c08_wf S = true) (hi : items ≠ [] → c08_inert c = true) (hok : c08_seqOk items = true) :
    collapseFrom (c08_rend S c) (items.map c08_nodeOfItem) =
      c08_rend (c08_run (S, c) items).1 (c08_run (S, c) items).2 := by
  induction items generalizing S c with
  | nil => simp [collapseFrom, c08_run]
  | cons it rest ih =>
    have hi' := hi (by simp)
    obtain ⟨hrest, hit⟩ := c08_seqOk_cons it rest hok
    cases it with
    | li k o content =>
      simp only [List.map_cons, collapseFrom, c08_nodeOfItem, c08_run, c08_collapseNode_listNode]
      rw [c08_addC_listNode k o _ S c hw hi']
      refine ih _ _ (c08_wf_step S c k o hw) ?_ hrest
      intro hne
      rcases hit with h | ⟨h, _⟩
      · simpa [c08_itemOk] using h
      · exact absurd h hne
    | block t content =>
      have ht : t.collapsible = false ∧ c08_isListTag t = false := by
        rcases hit with h | ⟨_, k, o, c', h⟩
        · simpa [c08_itemOk] using h
        · cases h
      simp only [List.map_cons, collapseFrom, c08_nodeOfItem, c08_run, collapseNode]
      rw [c08_addC_fresh _ _ _ ht.1]
      have := ih [] (c08_rend S c ++ [.elem t (collapse content)]) (by simp [c08_wf])
        (fun _ => by simp [c08_inert, ht.2]) hrest
      simpa [c08_rend, collapse] using this

/-! ### a sufficient condition for `c08_inert (collapse content)` -/

/-- no top-level node is a bare `ul`/`ol` element -/
def c08_noTopList (ns : List Node) : Bool :=
  ns.all fun n => match n with
    | .elem t _ => !c08_isListTag t
    | _ => true

theorem c08_noTopList_append (a b : List Node) :
    c08_noTopList (a ++ b) = (c08_noTopList a && c08_noTopList b) := by
  simp [c08_noTopList]

theorem c08_noTopList_addC (acc : List Node) (n : Node) (ha : c08_noTopList acc = true)
    (hn : c08_noTopList [n] = true) : c08_noTopList (addC acc n) = true := by
  match n with
  | .text s => rw [addC_text, c08_noTopList_append, ha, hn]; rfl
  | .forceWrite => rw [addC_fw, c08_noTopList_append, ha, hn]; rfl
  | .elem t cs =>
    unfold addC
    split
    · rename_i lt lcs hl
      split
      · have hacc := getLast?_eq_some_append acc _ hl
        rw [hacc, c08_noTopList_append] at ha
        simp only [Bool.and_eq_true] at ha
        rw [c08_noTopList_append, ha.1]
        simpa [c08_noTopList] using ha.2
      · rw [c08_noTopList_append, ha, hn]; rfl
    · rw [c08_noTopList_append, ha, hn]; rfl

theorem c08_noTopList_collapseFrom (acc ns : List Node) (ha : c08_noTopList acc = true)
    (hn : c08_noTopList ns = true) : c08_noTopList (collapseFrom acc ns) = true := by
  induction ns generalizing acc with
  | nil => simpa [collapseFrom] using ha
  | cons n ns ih =>
    have hn' : c08_noTopList [n] = true ∧ c08_noTopList ns = true := by
      rwa [← List.singleton_append, c08_noTopList_append, Bool.and_eq_true] at hn
    unfold collapseFrom
    refine ih _ (c08_noTopList_addC acc _ ha ?_) hn'.2
    cases n <;> simp only [collapseNode] <;> exact hn'.1

theorem c08_inert_of_noTopList (ns : List Node) (h : c08_noTopList ns = true) : c08_inert ns = true := by
  unfold c08_inert
  split
  · rename_i t cs hl
    have hacc := getLast?_eq_some_append ns _ hl
    rw [hacc, c08_noTopList_append] at h
    simp only [Bool.and_eq_true] at h
    simpa [c08_noTopList] using h.2
  · rfl

end Mammoth
