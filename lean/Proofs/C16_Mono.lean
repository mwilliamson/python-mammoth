/-
  C16 — the converter only ever appends to its list of messages.
-/
import Proofs.C16_ConvSpec
namespace Mammoth

/-- running `m` can only extend the message list of the state -/
def c16_mono {α} (m : ConvM α) : Prop :=
  ∀ st a st', m.run st = .ok (a, st') → st.messages <+: st'.messages

theorem c16_CH_mono {cfg : Cfg} {α} {m : ConvM α} {evs : List c16_CEv} (h : c16_CH cfg m evs) : c16_mono m :=
  fun st a st' hr => ⟨_, (h st a st' hr).msgs.symm⟩

theorem c16_mono_convertImage (cfg : Cfg) (i : ImageProps) : c16_mono (convertImage cfg i) :=
  c16_CH_mono (c16_CH_convertImage cfg i)

end Mammoth
