/-
  C12 (conversion) — a concrete package (a `Heading1` paragraph, a footnote, an embedded PNG picture, a
  hyperlink) that satisfies every hypothesis of `c12_embed_convert`, and for each hypothesis a concrete
  package that violates only it and on which the two conversions differ.
-/
import Proofs.C12_ConvMain
import Proofs.C12_ConvRefine
import Proofs.C08_DefaultMap
namespace Mammoth

def c12_exRel (id ty target : Str) : XmlNode :=
  .elem S!"relationships:Relationship" [(S!"Id", id), (S!"Type", relTypePrefix ++ ty), (S!"Target", target)] []

def c12_exRun (cs : List XmlNode) : XmlNode := .elem S!"w:r" [] cs
def c12_exTxt (s : Str) : XmlNode := c12_exRun [.elem S!"w:t" [] [.text s]]

def c12_exDrawing (rid : Str) : XmlNode :=
  .elem S!"w:drawing" [] [.elem S!"wp:inline" [] [
    .elem S!"wp:docPr" [(S!"descr", S!"pic")] [],
    .elem S!"a:graphic" [] [.elem S!"a:graphicData" [] [.elem S!"pic:pic" [] [.elem S!"pic:blipFill" [] [
      .elem S!"a:blip" [(S!"r:embed", rid)] []]]]]]]

/-- the body: a `Heading1` paragraph, a paragraph with a footnote reference and a hyperlink (relationship
    `linkRel`), a paragraph with a picture (relationship `imgRel`) -/
def c12_exBody (linkRel imgRel : Str) : List XmlNode :=
  [ .elem S!"w:p" [] [.elem S!"w:pPr" [] [.elem S!"w:pStyle" [(S!"w:val", S!"Heading1")] []], c12_exTxt S!"Title"],
    .elem S!"w:p" [] [c12_exTxt S!"Hello",
      c12_exRun [.elem S!"w:footnoteReference" [(S!"w:id", S!"1")] []],
      .elem S!"w:hyperlink" [(S!"r:id", linkRel)] [c12_exTxt S!"link"]],
    .elem S!"w:p" [] [c12_exRun [c12_exDrawing imgRel]] ]

def c12_exContentTypes (extra : List XmlNode) : XmlNode :=
  .elem S!"content-types:Types" [] ([
    .elem S!"content-types:Default" [(S!"Extension", S!"png"), (S!"ContentType", S!"image/png")] [],
    .elem S!"content-types:Override" [(S!"PartName", S!"/word/document.xml"),
      (S!"ContentType", S!"application/vnd.openxmlformats-officedocument.wordprocessingml.document.main+xml")] []]
    ++ extra)

/-- the example package, parameterised by what the variants change -/
def c12_exParts (docRels : List XmlNode) (body : List XmlNode) (ctExtra : List XmlNode)
    (more : List (Str × Part)) : List (Str × Part) :=
  [ (S!"[Content_Types].xml", .xml (c12_exContentTypes ctExtra)),
    (S!"_rels/.rels", .xml (.elem S!"relationships:Relationships" [] [
      c12_exRel S!"rId1" S!"officeDocument" S!"word/document.xml"])),
    (S!"word/_rels/document.xml.rels", .xml (.elem S!"relationships:Relationships" [] docRels)),
    (S!"word/document.xml", .xml (.elem S!"w:document" [] [.elem S!"w:body" [] body])),
    (S!"word/styles.xml", .xml (.elem S!"w:styles" [] [
      .elem S!"w:style" [(S!"w:type", S!"paragraph"), (S!"w:styleId", S!"Heading1")] [
        .elem S!"w:name" [(S!"w:val", S!"Heading 1")] []]])),
    (S!"word/footnotes.xml", .xml (.elem S!"w:footnotes" [] [
      .elem S!"w:footnote" [(S!"w:id", S!"1")] [.elem S!"w:p" [] [c12_exTxt S!"Note"]]])),
    (S!"word/media/image1.png", .bytes [0x89, 0x50, 0x4E, 0x47]) ] ++ more

def c12_exDocRels : List XmlNode :=
  [ c12_exRel S!"rId1" S!"footnotes" S!"footnotes.xml",
    c12_exRel S!"rId2" S!"image" S!"media/image1.png",
    c12_exRel S!"rId3" S!"styles" S!"styles.xml",
    c12_exRel S!"rId4" S!"hyperlink" S!"http://example.com/" ]

def c12_exPkg : Package := ⟨c12_exParts c12_exDocRels (c12_exBody S!"rId4" S!"rId2") [] []⟩

/-- the style map embedded -/
def c12_exMap : Str := S!"p.Heading1 => h2\nr => em"

/-- observe a conversion: the HTML and the messages, or the error -/
def c12_obs (x : Except Err ApiOut) : Err ⊕ (Str × List Str) :=
  match x with
  | .error e => .inl e
  | .ok r => .inr (r.value, r.messages)

/-- converting the file after the embed (no `style_map=`, embedded map included) -/
def c12_convAfter (p : Package) (s : Str) (o : Options) : Option (Err ⊕ (Str × List Str)) :=
  (c12_embedPkg p s).map fun p' =>
    c12_obs (apiConvert p' 20 none (fun _ => none) id { o with styleMap := none, includeEmbedded := true })

/-- converting the original with `style_map=s`, embedded map not included -/
def c12_convBefore (p : Package) (s : Str) (o : Options) : Err ⊕ (Str × List Str) :=
  c12_obs (apiConvert p 20 none (fun _ => none) id { o with styleMap := some s, includeEmbedded := false })

/-! ### variants: each violates one hypothesis -/

def c12_exFootnotesPart (text : Str) : Part :=
  .xml (.elem S!"w:footnotes" [] [.elem S!"w:footnote" [(S!"w:id", S!"1")] [.elem S!"w:p" [] [c12_exTxt text]]])

/-- `c12_relEntryOk` fails: the id `rMammothStyleMap` is already used, for the footnotes part `word/notes.xml` -/
def c12_exIdTaken : Package :=
  ⟨c12_exParts ([c12_exRel S!"rMammothStyleMap" S!"footnotes" S!"notes.xml"] ++ c12_exDocRels.drop 1)
    (c12_exBody S!"rId4" S!"rId2") [] [(S!"word/notes.xml", c12_exFootnotesPart S!"Other")]⟩

/-- `c12_relEntryOk` fails: a `Relationship Id="rMammothStyleMap"` without `Target`/`Type` -/
def c12_exIdBroken : Package :=
  ⟨c12_exParts (c12_exDocRels ++ [.elem S!"relationships:Relationship" [(S!"Id", S!"rMammothStyleMap")] []])
    (c12_exBody S!"rId4" S!"rId2") [] []⟩

/-- `c12_overrideEntryOk` fails: an `Override PartName="/mammoth/style-map"` without `ContentType` -/
def c12_exOverrideBroken : Package :=
  ⟨c12_exParts c12_exDocRels (c12_exBody S!"rId4" S!"rId2")
    [.elem S!"content-types:Override" [(S!"PartName", S!"/mammoth/style-map")] []] []⟩

/-- `c12_lookupOk` fails: the first footnotes relationship targets the (not yet existing) `/mammoth/style-map` -/
def c12_exLookup : Package :=
  ⟨c12_exParts ([c12_exRel S!"rId9" S!"footnotes" S!"/mammoth/style-map"] ++ c12_exDocRels)
    (c12_exBody S!"rId4" S!"rId2") [] []⟩

/-- `c12_refsOk` fails: the hyperlink uses the (undefined) relationship id `rMammothStyleMap` -/
def c12_exRefId : Package := ⟨c12_exParts c12_exDocRels (c12_exBody S!"rMammothStyleMap" S!"rId2") [] []⟩

/-- `c12_refsOk` (and `c12_imagesOk`) fail: the picture is the zip entry `mammoth/style-map` -/
def c12_exRefImage : Package :=
  ⟨c12_exParts (c12_exDocRels ++ [c12_exRel S!"rId5" S!"image" S!"/mammoth/style-map"])
    (c12_exBody S!"rId4" S!"rId5") [] [(S!"mammoth/style-map", .bytes (utf8Encode S!"p => h1"))]⟩

/-- `c12_imagesOk` alone fails: `transform_document` puts in an image read from `mammoth/style-map`
    (only the model's `transform` can do this: a Python transform has no way to name a zip entry) -/
def c12_exTransform (d : Document) : Document :=
  { d with children := d.children ++ [.image { src := .embedded styleMapPath }] }

/-- `c12_archiveOk` fails: two entries `word/media/image1.png`, the picture first, an XML entry last: the
    model's image reader sees the first before the embed and none after it (`update_zip` keeps the last) -/
def c12_exDuplicate : Package :=
  ⟨c12_exParts c12_exDocRels (c12_exBody S!"rId4" S!"rId2") []
    [(S!"word/media/image1.png", .xml (.elem S!"x" [] []))]⟩

/-- the example with the map `p.Heading1 => h3` already embedded -/
def c12_exPkg0 : Package := (c12_embedPkg c12_exPkg S!"p.Heading1 => h3").getD c12_exPkg

/-- converting the original with `style_map=s` and the embedded map INCLUDED -/
def c12_convBeforeIncl (p : Package) (s : Str) (o : Options) : Err ⊕ (Str × List Str) :=
  c12_obs (apiConvert p 20 none (fun _ => none) id { o with styleMap := some s, includeEmbedded := true })

/-- all six conditions at once (fuel 20, identity `transform_document`) -/
def c12_exHyps (p : Package) : List Bool :=
  [c12_relEntryOk p, c12_overrideEntryOk p, c12_lookupOk p, c12_refsOk p, c12_archiveOk p,
   c12_imagesOk p 20 id]

theorem c12_convAfter_of_hyps (p : Package) (s : Str) (o : Options)
    (he : (c12_embedPkg p s).isSome = true) (hh : c12_exHyps p = [true, true, true, true, true, true]) :
    c12_convAfter p s o = some (c12_convBefore p s o) := by
  obtain ⟨p', hp'⟩ := Option.isSome_iff_exists.mp he
  simp only [c12_exHyps, List.cons.injEq, and_true] at hh
  obtain ⟨h1, h2, h3, h4, h5, h6⟩ := hh
  simp only [c12_convAfter, c12_convBefore, hp', Option.map_some,
    c12_embed_convert p s p' 20 none _ id o hp' h1 h2 h3 h4 h5 h6]

def c12_exHtml : Str :=
  S!"<h2><em>Title</em></h2><p><em>Hello<sup><a href=\"#footnote-1\" id=\"footnote-ref-1\">[1]</a></sup></em><a href=\"http://example.com/\"><em>link</em></a></p><p><em><img alt=\"pic\" src=\"data:image/png;base64,iVBORw==\" /></em></p><ol><li id=\"footnote-1\"><p><em>Note</em> <a href=\"#footnote-ref-1\">↑</a></p></li></ol>"

set_option maxRecDepth 100000 in
theorem c12_ex_hyps : c12_exHyps c12_exPkg = [true, true, true, true, true, true] := by decide +kernel

set_option maxRecDepth 100000 in
theorem c12_ex_before : c12_convBefore c12_exPkg c12_exMap {} = .inr (c12_exHtml, []) := by
  -- the value of the default style map is known: the kernel need not parse its text again
  unfold c12_convBefore apiConvert readOptions
  rw [c08_default_map_value]
  decide +kernel

set_option maxRecDepth 100000 in
theorem c12_ex_after : c12_convAfter c12_exPkg c12_exMap {} = some (.inr (c12_exHtml, [])) := by
  unfold c12_convAfter apiConvert readOptions
  rw [c08_default_map_value]
  decide +kernel

set_option maxRecDepth 100000 in
/-- the original already carries `p.Heading1 => h3`: it satisfies the hypotheses; after embedding `r => em`
    the conversion equals converting the original with `style_map="r => em"` and the embedded map EXCLUDED
    (`<h1>`), and differs from converting it with the embedded map included (`<h3>`) -/
theorem c12_ex_replace :
    c12_exHyps c12_exPkg0 = [true, true, true, true, true, true] ∧
    (readEmbeddedStyleMap c12_exPkg0).toOption = some (some S!"p.Heading1 => h3") ∧
    c12_convAfter c12_exPkg0 S!"r => em" {} = some (c12_convBefore c12_exPkg0 S!"r => em" {}) ∧
    c12_convAfter c12_exPkg0 S!"r => em" {} ≠ some (c12_convBeforeIncl c12_exPkg0 S!"r => em" {}) := by
  -- one evaluation for everything that reads `c12_exPkg0`
  have ev : c12_exHyps c12_exPkg0 = [true, true, true, true, true, true] ∧
      (c12_embedPkg c12_exPkg0 S!"r => em").isSome = true ∧
      (readEmbeddedStyleMap c12_exPkg0).toOption = some (some S!"p.Heading1 => h3") ∧
      some (c12_convBefore c12_exPkg0 S!"r => em" {}) ≠ some (c12_convBeforeIncl c12_exPkg0 S!"r => em" {}) := by
    unfold c12_convBefore c12_convBeforeIncl apiConvert readOptions
    rw [c08_default_map_value]
    decide +kernel
  obtain ⟨hh, he, hr, hd⟩ := ev
  have ha := c12_convAfter_of_hyps c12_exPkg0 S!"r => em" {} he hh
  refine ⟨hh, hr, ha, ?_⟩
  rw [ha]
  exact hd

/-! ### `c12_embedPkg_refines`: its hypotheses hold for a concrete name translation and concrete trees -/

def c12_exRelsTag : Str := S!"{http://schemas.openxmlformats.org/package/2006/relationships}Relationships"
def c12_exTypesTag : Str := S!"{http://schemas.openxmlformats.org/package/2006/content-types}Types"

/-- `convert_name` on the handful of Clark names that occur in the two parts -/
def c12_exNm (t : Str) : Str :=
  if t = relationshipElemName then c12_relName
  else if t = overrideElemName then c12_overrideName
  else if t = c12_exRelsTag then S!"relationships:Relationships"
  else if t = c12_exTypesTag then S!"content-types:Types"
  else t

/-- the relationships part of `c12_exPkg0` (a style map is embedded already) as an ElementTree tree -/
def c12_exRe : EElem :=
  ⟨c12_exRelsTag, [], [
    ⟨relationshipElemName, [(S!"Id", S!"rId1"), (S!"Type", relTypePrefix ++ S!"footnotes"),
                            (S!"Target", S!"footnotes.xml")], []⟩,
    ⟨relationshipElemName, styleMapRelAttrs, []⟩]⟩

def c12_exTe : EElem :=
  ⟨c12_exTypesTag, [], [⟨overrideElemName, [(S!"PartName", S!"/word/document.xml"), (S!"ContentType", S!"x")], []⟩]⟩

theorem c12_ex_refines_hyps :
    c12_exNm relationshipElemName = c12_relName ∧ c12_exNm overrideElemName = c12_overrideName ∧
    c12_exNm S!"Id" = S!"Id" ∧ c12_exNm S!"PartName" = S!"PartName" ∧
    c12_ofAttrs c12_exNm styleMapRelAttrs = styleMapRelAttrs ∧
    c12_ofAttrs c12_exNm styleMapOverrideAttrs = styleMapOverrideAttrs ∧
    c12_agreeAll c12_exNm relationshipElemName S!"Id" styleMapRelAttrs c12_exRe = true ∧
    c12_agreeAll c12_exNm overrideElemName S!"PartName" styleMapOverrideAttrs c12_exTe = true := by
  decide +kernel

end Mammoth
