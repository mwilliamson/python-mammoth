/-
  C02 — `strip_empty` and `collapse` only rearrange tags that are already in the forest: any predicate
  that holds of every tag of the input holds of every tag of the output.  In particular plain names
  stay plain, so the lexer theorems apply to `render ns = writeHtml (collapse (stripEmpty ns))`.
-/
import Proofs.C02_Sound
import Proofs.C02_Subst
import Proofs.C04_Chains
namespace Mammoth

mutual
def c02_allTagsN (P : Tag → Bool) : Node → Bool
  | .text _ => true
  | .forceWrite => true
  | .elem t cs => P t && c02_allTags P cs
/-- `P` holds of every tag of the forest, at any depth -/
def c02_allTags (P : Tag → Bool) : List Node → Bool
  | [] => true
  | c :: cs => c02_allTagsN P c && c02_allTags P cs
end

@[simp] theorem c02_allTags_nil (P : Tag → Bool) : c02_allTags P [] = true := by simp [c02_allTags]
@[simp] theorem c02_allTags_cons (P : Tag → Bool) (c : Node) (cs : List Node) :
    c02_allTags P (c :: cs) = (c02_allTagsN P c && c02_allTags P cs) := by simp [c02_allTags]
@[simp] theorem c02_allTagsN_text (P : Tag → Bool) (s : Str) : c02_allTagsN P (.text s) = true := by
  simp [c02_allTagsN]
@[simp] theorem c02_allTagsN_fw (P : Tag → Bool) : c02_allTagsN P .forceWrite = true := by
  simp [c02_allTagsN]
@[simp] theorem c02_allTagsN_elem (P : Tag → Bool) (t : Tag) (cs : List Node) :
    c02_allTagsN P (.elem t cs) = (P t && c02_allTags P cs) := by simp [c02_allTagsN]

theorem c02_allTags_append (P : Tag → Bool) (a b : List Node) :
    c02_allTags P (a ++ b) = (c02_allTags P a && c02_allTags P b) :=
  andL_append rfl (fun _ _ => rfl) a b

/-! `c02_allTags` is `AllTagsL` (Proofs/C04_Chains.lean) for a Boolean predicate; what `strip_empty` and
`collapse` do to it is proved there. -/
mutual
theorem c02_allTagsN_iff (P : Tag → Bool) (n : Node) : c02_allTagsN P n = true ↔ AllTags (P · = true) n := by
  match n with
  | .text _ => simp
  | .forceWrite => simp
  | .elem t cs => simp [allTags_elem, c02_allTags_iff P cs]
theorem c02_allTags_iff (P : Tag → Bool) (ns : List Node) : c02_allTags P ns = true ↔ AllTagsL (P · = true) ns := by
  match ns with
  | [] => simp
  | c :: cs => simp [allTagsL_cons, c02_allTagsN_iff P c, c02_allTags_iff P cs]
end

theorem c02_allTags_stripNode (P : Tag → Bool) (n : Node) (h : c02_allTagsN P n = true) :
    c02_allTags P (stripNode n) = true := by
  rw [stripNode_eq]
  split
  · simpa using (c02_allTagsN_iff P _).mpr (allTags_pruneNode n ((c02_allTagsN_iff P n).mp h))
  · rfl

theorem c02_allTags_addAllC (P : Tag → Bool) (acc ns : List Node)
    (ha : c02_allTags P acc = true) (h : c02_allTags P ns = true) : c02_allTags P (addAllC acc ns) = true := by
  rw [c02_allTags_iff] at ha h ⊢
  exact allTagsL_addAllC acc ns ha h

theorem c02_allTags_collapseNode (P : Tag → Bool) (n : Node) (h : c02_allTagsN P n = true) :
    c02_allTagsN P (collapseNode n) = true := by
  rw [c02_allTagsN_iff] at h ⊢
  exact allTags_collapseNode n h

/-- every tag of `collapse (strip_empty ns)` satisfies what every tag of `ns` satisfies -/
theorem c02_allTags_render (P : Tag → Bool) (ns : List Node) (h : c02_allTags P ns = true) :
    c02_allTags P (collapse (stripEmpty ns)) = true := by
  rw [c02_allTags_iff] at h ⊢
  rw [stripEmpty, stripList_eq]
  exact allTagsL_collapseFrom [] _ allTagsL_nil (allTagsL_prune ns h)

/-! ### plain names -/

/-- the tag's name and its attribute names are plain names -/
def c02_plainTag (t : Tag) : Bool := c02_plainName t.name && c02_plainAttrs t.attrs

mutual
theorem c02_plainNamesN_eq (n : Node) : c02_plainNamesN n = c02_allTagsN c02_plainTag n := by
  match n with
  | .text s => simp [c02_plainNamesN]
  | .forceWrite => simp [c02_plainNamesN]
  | .elem t cs => simp [c02_plainNamesN, c02_plainTag, c02_plainNames_eq cs]
theorem c02_plainNames_eq (ns : List Node) : c02_plainNames ns = c02_allTags c02_plainTag ns := by
  match ns with
  | [] => simp [c02_plainNames]
  | c :: cs => simp [c02_plainNames, c02_plainNamesN_eq c, c02_plainNames_eq cs]
end

/-- plain names stay plain through `strip_empty` and `collapse` -/
theorem c02_plainNames_render (ns : List Node) (h : c02_plainNames ns = true) :
    c02_plainNames (collapse (stripEmpty ns)) = true := by
  rw [c02_plainNames_eq] at h ⊢
  exact c02_allTags_render _ ns h

theorem c02_plainAttrs_map (f : Str → Str → Str) (d : Dict Str) :
    c02_plainAttrs (c02_mapAttrs f d) = c02_plainAttrs d := by
  induction d with
  | nil => rfl
  | cons kv r ih =>
    obtain ⟨k, v⟩ := kv
    simp only [c02_plainAttrs, c02_mapAttrs, List.all_cons] at ih ⊢
    rw [ih]

mutual
theorem c02_plainNamesN_map (σ : c02_Sub) (n : Node) : c02_plainNamesN (c02_mapNode σ n) = c02_plainNamesN n := by
  match n with
  | .text s => simp [c02_plainNamesN]
  | .forceWrite => simp [c02_plainNamesN]
  | .elem t cs => simp [c02_plainNamesN, c02_plainAttrs_map, c02_plainNames_map σ cs]
/-- substitution does not touch names -/
theorem c02_plainNames_map (σ : c02_Sub) (ns : List Node) :
    c02_plainNames (c02_mapForest σ ns) = c02_plainNames ns := by
  match ns with
  | [] => simp [c02_plainNames]
  | c :: cs => simp [c02_plainNames, c02_plainNamesN_map σ c, c02_plainNames_map σ cs]
end

end Mammoth
