/-
  C12 (conversion) — converting the file after `embed_style_map(file, s)` equals converting the original
  with `style_map = s` and the embedded map left out.
-/
import Proofs.C12_ConvPackage
import Proofs.C12_Utf8
import Proofs.C05_Api
namespace Mammoth

/-! ### UTF-8: the model's `bytes.decode` inverts `utf8Encode` -/

/-- core's encoder writes `≤ 0x7f` for `< 0x80` …, and masks the leading payload, which is in range already -/
theorem c12_utf8EncodeChar_core (c : Char) : utf8EncodeChar c = String.utf8EncodeChar c := by
  have hc := c12_char_valid c
  unfold utf8EncodeChar String.utf8EncodeChar
  simp only [show c.val.toNat = c.toNat from rfl, Nat.toUInt8, Nat.add_comm]
  generalize c.toNat = n at hc
  have e2 : n < 0x800 → n / 64 % 0x20 = n / 64 := fun h => Nat.mod_eq_of_lt (by omega)
  have e3 : n < 0x10000 → n / 4096 % 0x10 = n / 4096 := fun h => Nat.mod_eq_of_lt (by omega)
  have e4 : n / 262144 % 0x08 = n / 262144 := Nat.mod_eq_of_lt (by omega)
  simp only [← Nat.lt_succ_iff]
  split
  · rfl
  split
  next h => rw [e2 h]
  split
  next h => rw [e3 h]
  · rw [e4]

theorem c12_utf8Encode_core (s : Str) : utf8Encode s = s.flatMap String.utf8EncodeChar := by
  induction s with
  | nil => rfl
  | cons c cs ih => simp only [utf8Encode, List.flatMap_cons, ih, c12_utf8EncodeChar_core]

/-- `Package.lean`'s `bytes.decode("utf8")` (Lean's `String.fromUTF8?`) inverts `str.encode("utf8")` -/
theorem c12_utf8Decode_encode (s : Str) : utf8Decode (utf8Encode s) = some s := by
  unfold utf8Decode
  have hb : ByteArray.mk (utf8Encode s).toArray = s.utf8Encode := by
    rw [c12_utf8Encode_core]
    apply ByteArray.ext
    show _ = (List.toByteArray _).data
    rw [List.data_toByteArray]
  rw [hb]
  have hv : s.utf8Encode.IsValidUTF8 := ByteArray.isValidUTF8_utf8Encode
  unfold String.fromUTF8?
  rw [dif_pos hv]
  simp only [Option.map_some, Option.some.injEq]
  have : String.fromUTF8 s.utf8Encode hv = String.ofList s := by
    apply String.toByteArray_inj.mp
    rw [String.toByteArray_ofList]
    rfl
  rw [this, String.toList_ofList]

/-! ### the embedded style map is read back -/

theorem c12_readEmbeddedStyleMap_embedded (p : Package) (s : Str) (r' t' : XmlNode) :
    readEmbeddedStyleMap (c12_embedded p s r' t') = .ok (some s) := by
  unfold readEmbeddedStyleMap
  rw [show S!"mammoth/style-map" = styleMapPath from rfl, c12_embedded_sm]
  simp only [c12_utf8Decode_encode]

/-- `read_options`: the map as `style_map=` with no embedded map, or as the embedded map with no
    `style_map=`, gives the same style map and the same messages -/
theorem c12_readOptions_swap (s : Str) (d : Bool) : readOptions none (some s) d = readOptions (some s) none d := by
  have h0 : readStyleMap [] = ([], []) := by decide +kernel
  unfold readOptions
  simp only [Option.getD_none, Option.getD_some, h0, List.nil_append, List.append_nil]

/-! ### the bytes of the zip entries -/

/-- the content of an entry as `archiveBytes` should give it -/
def c12_bytesOf : Option Part → Option Bytes
  | some (.bytes b) => some b
  | _ => none

/-- `archiveBytes` agrees with the last-entry-wins content of the package.  True whenever the entry names are
    unique (`c12_archiveOk_of_nodup`). -/
def c12_archiveOk (p : Package) : Bool :=
  p.parts.all fun x => lookupLast x.1 (archiveBytes p) == c12_bytesOf (lookupLast x.1 p.parts)

theorem c12_archiveBytes_cons (k : Str) (v : Part) (rest : List (Str × Part)) :
    archiveBytes ⟨(k, v) :: rest⟩ =
      (match v with | .bytes b => [(k, b)] | .xml _ => []) ++ archiveBytes ⟨rest⟩ := by
  unfold archiveBytes
  cases v <;> simp

theorem c12_archiveBytes_none (name : Str) (parts : List (Str × Part))
    (h : lookupLast name parts = none) : lookupLast name (archiveBytes ⟨parts⟩) = none := by
  induction parts with
  | nil => rfl
  | cons x rest ih =>
    obtain ⟨k, v⟩ := x
    simp only [lookupLast] at h
    cases hl : lookupLast name rest with
    | some w => rw [hl] at h; cases h
    | none =>
      rw [hl] at h
      have hne : name ≠ k := by
        intro e; subst e; simp at h
      rw [c12_archiveBytes_cons]
      cases v with
      | bytes b => simp only [List.cons_append, List.nil_append, lookupLast, ih hl, hne, if_false]
      | xml x => simp only [List.nil_append, ih hl]

theorem c12_archiveOk_of_nodup (parts : List (Str × Part)) (h : strsNodup (parts.map (·.1)) = true)
    (name : Str) : lookupLast name (archiveBytes ⟨parts⟩) = c12_bytesOf (lookupLast name parts) := by
  induction parts with
  | nil => rfl
  | cons x rest ih =>
    obtain ⟨k, v⟩ := x
    simp only [List.map_cons, strsNodup, Bool.and_eq_true, Bool.not_eq_true'] at h
    have ih' := ih h.2
    have hk : lookupLast k rest = none := by
      rw [c12_lookupLast_none]
      intro hm
      have : (rest.map (·.1)).contains k = true := by simpa using hm
      rw [this] at h; cases h.1
    rw [c12_archiveBytes_cons]
    by_cases hn : name = k
    · subst hn
      simp only [lookupLast, hk]
      cases v with
      | bytes b =>
        simp only [List.cons_append, List.nil_append, lookupLast, c12_archiveBytes_none _ _ hk, if_true]
        rfl
      | xml x => simp only [List.nil_append, c12_archiveBytes_none _ _ hk, if_true]; rfl
    · simp only [lookupLast, hn, if_false]
      have hgoal : ∀ (o : Option Part), lookupLast name (archiveBytes ⟨rest⟩) = c12_bytesOf o →
          lookupLast name ((match v with | .bytes b => [(k, b)] | .xml _ => []) ++ archiveBytes ⟨rest⟩)
            = c12_bytesOf o := by
        intro o ho
        rw [← ho]
        cases v with
        | bytes b =>
          simp only [List.cons_append, List.nil_append, lookupLast, hn, if_false]
          cases lookupLast name (archiveBytes ⟨rest⟩) <;> rfl
        | xml x => simp only [List.nil_append]
      cases hl : lookupLast name rest with
      | none => rw [hl] at ih'; exact hgoal none ih'
      | some w => rw [hl] at ih'; exact hgoal (some w) ih'

theorem c12_archiveOk_use (p : Package) (h : c12_archiveOk p = true) (name : Str) :
    lookupLast name (archiveBytes p) = c12_bytesOf (lookupLast name p.parts) := by
  by_cases hm : name ∈ p.parts.map (·.1)
  · obtain ⟨x, hx, rfl⟩ := List.mem_map.mp hm
    unfold c12_archiveOk at h
    rw [List.all_eq_true] at h
    exact eq_of_beq (h x hx)
  · have hn := (c12_lookupLast_none name p.parts).mpr hm
    rw [hn]
    exact c12_archiveBytes_none name p.parts hn

/-- the zip entries of the new package: only `mammoth/style-map` has other bytes -/
theorem c12_archive_embedded (p : Package) (s : Str) (r r' t t' : XmlNode)
    (hr : lookupLast relsPartPath p.parts = some (.xml r))
    (ht : lookupLast contentTypesPartPath p.parts = some (.xml t))
    (h5 : c12_archiveOk p = true) (name : Str) (hn : name ≠ styleMapPath) :
    lookupLast name (archiveBytes (c12_embedded p s r' t')) = lookupLast name (archiveBytes p) := by
  rw [c12_archiveOk_use p h5]
  have hnd : strsNodup ((c12_embedded p s r' t').parts.map (·.1)) = true := by
    unfold c12_embedded c12_updateParts
    simp only [List.map_map]
    have : ((fun x : Str × Part => x.1) ∘ fun n => (n, c12_partContent p.parts (c12_newParts s r' t') n)) = id := by
      funext x; rfl
    rw [this, List.map_id]
    exact c12_nodup_unique _
  have := c12_archiveOk_of_nodup (c12_embedded p s r' t').parts hnd name
  rw [show (⟨(c12_embedded p s r' t').parts⟩ : Package) = c12_embedded p s r' t' from rfl] at this
  rw [this]
  by_cases h2 : name = relsPartPath
  · subst h2; rw [c12_embedded_rels, hr]; rfl
  · by_cases h3 : name = contentTypesPartPath
    · subst h3; rw [c12_embedded_ct, ht]; rfl
    · rw [c12_embedded_other p s r' t' name hn h2 h3]

/-- no embedded image of the (transformed) document is read from the zip entry `mammoth/style-map` -/
def c12_imagesOk (p : Package) (fuel : Nat) (tr : Document → Document) : Bool :=
  match readPackage p fuel with
  | .ok (doc, _) => c12_docAvoid styleMapPath (tr doc)
  | .error _ => true

theorem c12_embed_convert (p : Package) (s : Str) (p' : Package) (fuel : Nat) (base : Option Str)
    (world : Str → Option Bytes) (tr : Document → Document) (o : Options)
    (h : c12_embedPkg p s = some p')
    (h1 : c12_relEntryOk p = true) (h2 : c12_overrideEntryOk p = true)
    (h3 : c12_lookupOk p = true) (h4 : c12_refsOk p = true)
    (h5 : c12_archiveOk p = true) (h6 : c12_imagesOk p fuel tr = true) :
    apiConvert p' fuel base world tr { o with styleMap := none, includeEmbedded := true }
      = apiConvert p fuel base world tr { o with styleMap := some s, includeEmbedded := false } := by
  have hread := c12_readPackage_embedded p s p' fuel h h1 h2 h3 h4
  obtain ⟨r, r', t, t', hr, hr', ht, ht', rfl⟩ := c12_embedPkg_inv p s p' h
  rw [c05_apiConvert_eq, c05_apiConvert_eq]
  simp only [if_true, Bool.false_eq_true, if_false, c12_readEmbeddedStyleMap_embedded, bind, Except.bind, pure,
    Except.pure]
  unfold c05_apiRest
  rw [hread]
  unfold c12_imagesOk at h6
  cases hrp : readPackage p fuel with
  | error e => simp only [bind, Except.bind]
  | ok dm =>
    obtain ⟨doc, msgs⟩ := dm
    rw [hrp] at h6
    simp only at h6
    show (convertDoc _ (tr doc) >>= _) = (convertDoc _ (tr doc) >>= _)
    have hcfg : c05_apiCfg (c12_embedded p s r' t') base world
          { o with styleMap := none, includeEmbedded := true } (some s)
        = c12_rearch (c05_apiCfg p base world { o with styleMap := some s, includeEmbedded := false } none)
            (archiveBytes (c12_embedded p s r' t')) := by
      unfold c05_apiCfg
      simp only [c12_readOptions_swap]
    rw [hcfg, c12_convertDoc_rearch (n := styleMapPath)
      (fun name hn => c12_archive_embedded p s r r' t t' hr ht h5 name hn) (tr doc) h6]
    simp only [c05_apiOut, c12_readOptions_swap]

end Mammoth
