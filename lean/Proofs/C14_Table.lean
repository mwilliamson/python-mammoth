/-
  C14 — table structure survives `strip_empty`: every table not mapped to `!`, every row and every cell
  is written, empty or not (they all carry a force-write marker); only an empty `tbody` disappears.
-/
import Proofs.C14_Sites
namespace Mammoth

theorem c14_pruneNode_cellNode (hdr : Bool) (c r : Nat) (ns : List Node) :
    pruneNode (c09_cellNode hdr c r ns) = c09_cellNode hdr c r (prune ns) := by
  simp [c09_cellNode, el, pruneNode, prune, hasContent]

theorem c14_hasContent_cellNode (hdr : Bool) (c r : Nat) (ns : List Node) :
    hasContent (c09_cellNode hdr c r ns) = true := by
  simp [c09_cellNode, el, hasContent, anyContent]

theorem c14_pruneNode_rowNode (ns : List Node) : pruneNode (c09_rowNode ns) = c09_rowNode (prune ns) := by
  simp [c09_rowNode, el, pruneNode, prune, hasContent]

theorem c14_hasContent_rowNode (ns : List Node) : hasContent (c09_rowNode ns) = true := by
  simp [c09_rowNode, el, hasContent, anyContent]

/-- one cell element per cell, also after `strip_empty` -/
theorem c14_cells_kept (hdr : Bool) (cells : List Elem) (ns : List Node)
    (h : c09_Forall2 (c09_cellRel hdr) cells ns) : c09_Forall2 (c09_cellRel hdr) cells (prune ns) := by
  induction h with
  | nil => simp only [prune]; exact .nil
  | cons hab _ ih =>
    obtain ⟨c, r, vm, cs, x, he, hn⟩ := hab
    subst hn
    simp only [prune, c14_hasContent_cellNode, if_true, c14_pruneNode_cellNode]
    exact .cons ⟨c, r, vm, cs, _, he, rfl⟩ ih

/-- one `tr` per row with one cell element per cell, also after `strip_empty` -/
theorem c14_rows_kept (hdr : Bool) (rows : List Elem) (ns : List Node)
    (h : c09_Forall2 (c09_rowRel hdr) rows ns) : c09_Forall2 (c09_rowRel hdr) rows (prune ns) := by
  induction h with
  | nil => simp only [prune]; exact .nil
  | cons hab _ ih =>
    obtain ⟨hh, cells, x, he, hn, hc⟩ := hab
    subst hn
    simp only [prune, c14_hasContent_rowNode, if_true, c14_pruneNode_rowNode]
    exact .cons ⟨hh, cells, _, he, rfl, c14_cells_kept hdr cells x hc⟩ ih

theorem c14_forall2_nil_iff {α β} {R : α → β → Prop} {as : List α} {bs : List β}
    (h : c09_Forall2 R as bs) : bs = [] ↔ as = [] := by
  cases h <;> simp

theorem c14_rows_anyContent (hdr : Bool) (rows : List Elem) (ns : List Node)
    (h : c09_Forall2 (c09_rowRel hdr) rows ns) : anyContent ns = !rows.isEmpty := by
  cases h with
  | nil => simp [anyContent]
  | cons hab _ =>
    obtain ⟨_, _, x, _, hn, _⟩ := hab
    subst hn
    simp [anyContent, c14_hasContent_rowNode]

/-- `strip_empty` of the children of a table element -/
theorem c14_prune_tableChildren (rows : List Elem) (headNs bodyNs : List Node)
    (hh : c09_Forall2 (c09_rowRel true) (rows.take (bodyIndex rows)) headNs)
    (hb : c09_Forall2 (c09_rowRel false) (rows.drop (bodyIndex rows)) bodyNs) :
    prune (if bodyIndex rows = 0 then bodyNs else [el S!"thead" [] headNs, el S!"tbody" [] bodyNs]) =
      if bodyIndex rows = 0 then prune bodyNs
      else el S!"thead" [] (prune headNs) ::
        (if (rows.drop (bodyIndex rows)).isEmpty then [] else [el S!"tbody" [] (prune bodyNs)]) := by
  by_cases h0 : bodyIndex rows = 0
  · simp [h0]
  · simp only [h0, if_false]
    -- the head part is not empty, and rows are never empty
    have hne : rows.take (bodyIndex rows) ≠ [] := by
      intro he
      have := congrArg List.length he
      rw [c09_take_bodyIndex, ← c09_bodyIndex_eq] at this
      exact h0 (by simpa using this)
    have hhead : anyContent headNs = true := by
      rw [c14_rows_anyContent _ _ _ hh]
      cases hl : rows.take (bodyIndex rows) with
      | nil => exact absurd hl hne
      | cons a as => rfl
    have hbody : anyContent bodyNs = !(rows.drop (bodyIndex rows)).isEmpty :=
      c14_rows_anyContent _ _ _ hb
    have h1 : hasContent (el S!"thead" [] headNs) = true := by
      simp [el, hasContent, hhead]
    have h2 : hasContent (el S!"tbody" [] bodyNs) = !(rows.drop (bodyIndex rows)).isEmpty := by
      rw [← hbody]
      cases bodyNs with
      | nil => simp only [el, hasContent, isVoid, anyContent]; rfl
      | cons b bs => simp [el, hasContent, isVoid]
    simp only [prune, h1, if_true, h2]
    cases (rows.drop (bodyIndex rows)).isEmpty <;> simp [el, pruneNode]

/-- Structure of a converted table after `strip_empty`: the whole table path, the force-write marker and
    then either the `tr`s (no leading header row) or `thead` (with the `tr`s of the leading header rows)
    followed by `tbody` (with the other `tr`s) — `tbody` only if there is a non-header row —; one `tr` per
    row and one `th`/`td` per cell, in order, whether or not the cells have content. -/
theorem c14_table_structure_kept (cfg : Cfg) (hdr : Bool) (sid sname : Option Str) (rows : List Elem)
    (es : List Tag) (s s' : ConvState) (nodes : List Node)
    (hrows : rows.all (fun r => isRow r && (rowCells r).all isCell) = true)
    (hpath : c01_path cfg (.table sid sname) (.elements [pathElem S!"table" true]) = .elements es)
    (hrun : visit cfg hdr (.table sid sname rows) s = .ok (nodes, s')) :
    ∃ headNs bodyNs,
      stripEmpty nodes = wrapElems es (.forceWrite ::
        (if bodyIndex rows = 0 then bodyNs
         else el S!"thead" [] headNs ::
           (if (rows.drop (bodyIndex rows)).isEmpty then [] else [el S!"tbody" [] bodyNs]))) ∧
      c09_Forall2 (c09_rowRel true) (rows.take (bodyIndex rows)) headNs ∧
      c09_Forall2 (c09_rowRel false) (rows.drop (bodyIndex rows)) bodyNs := by
  have hrun' : (visit cfg hdr (.table sid sname rows)).run s = .ok (nodes, s') := hrun
  rw [c09_visit_table] at hrun'
  have hp : (findPath cfg (.table sid sname)).getD (.elements [pathElem S!"table" true]) = .elements es := hpath
  rw [hp] at hrun'
  simp only [] at hrun'
  rw [c09_visitRows_true] at hrun'
  simp only [bind_assoc, pure_bind] at hrun'
  rw [run_bind_ok] at hrun'
  obtain ⟨headNs, s1, h1, hrun'⟩ := hrun'
  rw [run_bind_ok] at hrun'
  obtain ⟨bodyNs, s2, h2, hrun'⟩ := hrun'
  rw [run_pure_ok] at hrun'
  have hall := List.all_eq_true.mp hrows
  have hh := c09_visitAll_rows cfg true _
      (List.all_eq_true.mpr fun x hx => hall x (List.mem_of_mem_take hx)) s s1 headNs h1
  have hb := c09_visitAll_rows cfg false _
      (List.all_eq_true.mpr fun x hx => hall x (List.mem_of_mem_drop hx)) s1 s2 bodyNs h2
  refine ⟨prune headNs, prune bodyNs, ?_, c14_rows_kept _ _ _ hh, c14_rows_kept _ _ _ hb⟩
  rw [← hrun'.1, stripEmpty_wrapElems_fw]
  have := c14_prune_tableChildren rows headNs bodyNs hh hb
  by_cases hb0 : bodyIndex rows = 0
  · simp only [hb0, beq_self_eq_true, if_true, stripEmpty, stripList_eq] at this ⊢
  · have hbeq : (bodyIndex rows == 0) = false := by simpa using hb0
    simp only [hb0, if_false, hbeq, Bool.false_eq_true, stripEmpty, stripList_eq] at this ⊢
    rw [this]

end Mammoth
