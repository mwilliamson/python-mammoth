/-
  The element reader as the proofs see it.  `readElem` dispatches on the handler *name* found in
  `Generated.handlers` through a chain of 24 string comparisons; here the names become the
  constructors of `Handler`, the body of each handler one arm of `readHandler`, and the recursive
  call a parameter `readAll`.  `c05_readElem_succ` is the only place where the chain is unfolded:
  every analysis of the reader is a `cases` on the handler.
-/
import MammothModel.Reader
import Lean.Elab.Tactic
import Proofs.Basics
namespace Mammoth

open Lean Elab Tactic Meta in
/-- closes `a = b` with `Eq.refl a`, leaving the definitional-equality check to the kernel -/
elab "c05_kernel_rfl" : tactic => do
  let g ← getMainGoal
  let t ← g.getType
  let some (_, lhs, _) := t.eq? | throwError "not an equation"
  g.assign (← mkEqRefl lhs)

abbrev c05_Rd := RState → XmlNode → Except Err (ReadResult × RState)
abbrev c05_RdAll := RState → List XmlNode → Except Err (ReadResult × RState)

/-- the handlers of `body_xml.py`'s reader, one per value of the dispatch table -/
inductive Handler where
  | text | run | paragraph | fldChar | instrText | tab | noBreakHyphen | softHyphen | symbol
  | table | tableRow | tableCell | childElements | pict | hyperlink | bookmarkStart | break_
  | inline | imagedata | footnoteRef | endnoteRef | commentRef | alternateContent | sdt

def Handler.name : Handler → Str
  | .text => S!"text" | .run => S!"run" | .paragraph => S!"paragraph" | .fldChar => S!"read_fld_char"
  | .instrText => S!"read_instr_text" | .tab => S!"tab" | .noBreakHyphen => S!"no_break_hyphen"
  | .softHyphen => S!"soft_hyphen" | .symbol => S!"symbol" | .table => S!"table"
  | .tableRow => S!"table_row" | .tableCell => S!"table_cell" | .childElements => S!"read_child_elements"
  | .pict => S!"pict" | .hyperlink => S!"hyperlink" | .bookmarkStart => S!"bookmark_start"
  | .break_ => S!"break_" | .inline => S!"inline" | .imagedata => S!"read_imagedata"
  | .footnoteRef => S!"note_reference:footnote" | .endnoteRef => S!"note_reference:endnote"
  | .commentRef => S!"read_comment_reference" | .alternateContent => S!"alternate_content"
  | .sdt => S!"read_sdt"

def Handler.all : List Handler :=
  [.text, .run, .paragraph, .fldChar, .instrText, .tab, .noBreakHyphen, .softHyphen, .symbol, .table,
   .tableRow, .tableCell, .childElements, .pict, .hyperlink, .bookmarkStart, .break_, .inline, .imagedata,
   .footnoteRef, .endnoteRef, .commentRef, .alternateContent, .sdt]

def readUnhandled (name : Str) (st : RState) : Except Err (ReadResult × RState) :=
  if Generated.ignored.contains name then .ok ({}, st)
  else .ok (rrMsg (S!"An unrecognised element was ignored: " ++ name), st)

def readNoteRef (ty : Str) (st : RState) (as : Attrs) : Except Err (ReadResult × RState) :=
  match attr? S!"w:id" as with
  | none => .error (.key S!"w:id")
  | some id => .ok (rrElems [.noteRef ty id], st)

def readHandler (env : REnv) (readAll : c05_RdAll) (st : RState) (as : Attrs) (cs : List XmlNode) :
    Handler → Except Err (ReadResult × RState)
  | .text => .ok (rrElems [.text (innerTextL cs)], st)
  | .run => do
    let props := (findChildOrNull S!"w:rPr" cs).2
    let (style, smsgs) := readStyle props S!"w:rStyle" S!"Run" env.styles.character
    let (r, st1) ← readAll st cs
    let children := match currentHyperlink st1.stack with
      | none => r.elements
      | some kw => [.hyperlink kw r.elements]
    pure ({ elements := [.run (readRunProps props style) children], extra := r.extra,
            messages := smsgs ++ r.messages }, st1)
  | .paragraph =>
    let props := (findChildOrNull S!"w:pPr" cs).2
    if (findChild S!"w:del" (findChildOrNull S!"w:rPr" props).2).isSome then
      .ok ({}, { st with deleted := st.deleted ++ cs })
    else do
      let (style, smsgs) := readStyle props S!"w:pStyle" S!"Paragraph" env.styles.paragraph
      let (r, st1) ← readAll { st with deleted := [] } (st.deleted ++ cs)
      let num ← readNumberingProps env style.1 (findChildOrNull S!"w:numPr" props).2
      let p : Elem := .paragraph { styleId := style.1, styleName := style.2, numbering := num } r.elements
      pure ({ elements := p :: r.extra, extra := [], messages := smsgs ++ r.messages }, st1)
  | .fldChar => readFldChar st as cs
  | .instrText => .ok ({}, { st with instr := st.instr ++ innerTextL cs })
  | .tab => .ok (rrElems [.tab], st)
  | .noBreakHyphen => .ok (rrElems [.text [Char.ofNat 0x2011]], st)
  | .softHyphen => .ok (rrElems [.text [Char.ofNat 0xAD]], st)
  | .symbol => (readSymbol as).map (·, st)
  | .table => do
    let props := (findChildOrNull S!"w:tblPr" cs).2
    let (style, smsgs) := readStyle props S!"w:tblStyle" S!"Table" env.styles.table
    let (r, st1) ← readAll st cs
    let (rows, rmsgs) := calculateRowSpans r.elements
    pure ({ elements := [.table style.1 style.2 rows], extra := r.extra,
            messages := smsgs ++ (r.messages ++ rmsgs) }, st1)
  | .tableRow => do
    let props := (findChildOrNull S!"w:trPr" cs).2
    let isHeader := (findChild S!"w:tblHeader" props).isSome
    let (r, st1) ← readAll st cs
    pure ({ r with elements := [.row isHeader r.elements] }, st1)
  | .tableCell => do
    let props := (findChildOrNull S!"w:tcPr" cs).2
    let colspan ← match childAttr S!"w:gridSpan" S!"w:val" props with
      | none => pure 1
      | some g => match parseDec g with
        | some n => pure n
        | none => throw (.value g)
    let (r, st1) ← readAll st cs
    pure ({ r with elements := [.cell colspan 1 (readVmerge props) r.elements] }, st1)
  | .childElements => readAll st cs
  | .pict => do
    let (r, st1) ← readAll st cs
    pure ({ elements := [], extra := r.extra ++ r.elements, messages := r.messages }, st1)
  | .hyperlink => do
    let anchor := attr? S!"w:anchor" as
    let tf := match attr? S!"w:tgtFrame" as with
      | some t => if t.isEmpty then none else some t
      | none => none
    let (r, st1) ← readAll st cs
    match attr? S!"r:id" as with
    | some rid => do
      let href ← env.rels.targetById rid
      let href := match anchor with | some a => replaceFragment href a | none => href
      pure ({ r with elements := [.hyperlink { href := some href, targetFrame := tf } r.elements] }, st1)
    | none =>
      match anchor with
      | some a => pure ({ r with elements := [.hyperlink { anchor := some a, targetFrame := tf } r.elements] }, st1)
      | none => pure (r, st1)
  | .bookmarkStart =>
    let name := attr? S!"w:name" as
    if name == some S!"_GoBack" then .ok ({}, st) else .ok (rrElems [.bookmark name], st)
  | .break_ => .ok (readBreak as, st)
  | .inline => (readInline env cs).map (·, st)
  | .imagedata =>
    match attr? S!"r:id" as with
    | none => .ok (rrMsg S!"A v:imagedata element without a relationship ID was ignored", st)
    | some rid => (readEmbeddedImage env rid (attr? S!"o:title" as)).map (·, st)
  | .footnoteRef => readNoteRef S!"footnote" st as
  | .endnoteRef => readNoteRef S!"endnote" st as
  | .commentRef =>
    match attr? S!"w:id" as with
    | none => .error (.key S!"w:id")
    | some id => .ok (rrElems [.commentRef id], st)
  | .alternateContent => readAll st (findChildOrNull S!"mc:Fallback" cs).2
  | .sdt =>
    match findChild S!"wordml:checkbox" (findChildOrNull S!"w:sdtPr" cs).2 with
    | some (_, cbcs) =>
      let checked := match findChild S!"wordml:checked" cbcs with
        | some (cas, _) => readBoolAttr (attr? S!"wordml:val" cas)
        | none => false
      .ok (rrElems [.checkbox checked], st)
    | none => readAll st (findChildOrNull S!"w:sdtContent" cs).2

theorem handlers_known :
    (Generated.handlers.all fun p => Handler.all.any fun k => p.2 == k.name) = true := by decide

theorem handlerOf_known {name h : Str} (hg : handlerOf name = some h) : ∃ k : Handler, h = k.name := by
  have := List.all_eq_true.mp handlers_known _ (lookupLast_mem hg)
  obtain ⟨k, _, hk⟩ := List.any_eq_true.mp this
  exact ⟨k, eq_of_beq hk⟩

theorem handlerOf_ignored : ∀ n ∈ Generated.ignored, handlerOf n = none := by decide +kernel

def readNamed (env : REnv) (readAll : c05_RdAll) (st : RState) (as : Attrs) (cs : List XmlNode) (h : Str) :
    Except Err (ReadResult × RState) :=
  if h == S!"text" then readHandler env readAll st as cs .text
  else if h == S!"run" then readHandler env readAll st as cs .run
  else if h == S!"paragraph" then readHandler env readAll st as cs .paragraph
  else if h == S!"read_fld_char" then readHandler env readAll st as cs .fldChar
  else if h == S!"read_instr_text" then readHandler env readAll st as cs .instrText
  else if h == S!"tab" then readHandler env readAll st as cs .tab
  else if h == S!"no_break_hyphen" then readHandler env readAll st as cs .noBreakHyphen
  else if h == S!"soft_hyphen" then readHandler env readAll st as cs .softHyphen
  else if h == S!"symbol" then readHandler env readAll st as cs .symbol
  else if h == S!"table" then readHandler env readAll st as cs .table
  else if h == S!"table_row" then readHandler env readAll st as cs .tableRow
  else if h == S!"table_cell" then readHandler env readAll st as cs .tableCell
  else if h == S!"read_child_elements" then readHandler env readAll st as cs .childElements
  else if h == S!"pict" then readHandler env readAll st as cs .pict
  else if h == S!"hyperlink" then readHandler env readAll st as cs .hyperlink
  else if h == S!"bookmark_start" then readHandler env readAll st as cs .bookmarkStart
  else if h == S!"break_" then readHandler env readAll st as cs .break_
  else if h == S!"inline" then readHandler env readAll st as cs .inline
  else if h == S!"read_imagedata" then readHandler env readAll st as cs .imagedata
  else if h == S!"note_reference:footnote" || h == S!"note_reference:endnote" then readNoteRef (h.drop 15) st as
  else if h == S!"read_comment_reference" then readHandler env readAll st as cs .commentRef
  else if h == S!"alternate_content" then readHandler env readAll st as cs .alternateContent
  else if h == S!"read_sdt" then readHandler env readAll st as cs .sdt
  else .error (.attr (S!"unmodelled handler " ++ h))

def readGridSpan (cs : List XmlNode) : Except Err Nat :=
  match childAttr S!"w:gridSpan" S!"w:val" (findChildOrNull S!"w:tcPr" cs).2 with
  | none => pure 1
  | some g => match parseDec g with
    | some n => pure n
    | none => throw (.value g)

/-- the `do` block of `table_cell` elaborates to a `match` with the rest of the block in every arm -/
theorem readHandler_tableCell (env : REnv) (readAll : c05_RdAll) (st : RState) (as : Attrs) (cs : List XmlNode) :
    readHandler env readAll st as cs .tableCell =
      readGridSpan cs >>= fun colspan => readAll st cs >>= fun p =>
        pure ({ p.1 with elements := [.cell colspan 1 (readVmerge (findChildOrNull S!"w:tcPr" cs).2) p.1.elements] },
              p.2) := by
  dsimp only [readHandler, readGridSpan]
  split
  · rfl
  · split <;> rfl

theorem readNamed_name (env : REnv) (readAll : c05_RdAll) (st : RState) (as : Attrs) (cs : List XmlNode)
    (k : Handler) : readNamed env readAll st as cs k.name = readHandler env readAll st as cs k := by
  cases k <;> rfl

theorem c05_readElem_succ (env : REnv) (f : Nat) (st : RState) (name : Str) (as : Attrs) (cs : List XmlNode) :
    readElem env (f+1) st (.elem name as cs) =
      match handlerOf name with
      | none => readUnhandled name st
      | some h => readNamed env (readAllWith (readElem env f)) st as cs h := by
  c05_kernel_rfl

theorem c05_readElem_text (env : REnv) (f : Nat) (st : RState) (s : Str) :
    readElem env f st (.text s) = .ok ({}, st) := by
  cases f <;> rfl

theorem c05_readElem_zero (env : REnv) (st : RState) (n : Str) (a : Attrs) (c : List XmlNode) :
    readElem env 0 st (.elem n a c) = .error .fuel := rfl

theorem c05_readElem_unhandled (env : REnv) (f : Nat) (st : RState) {name : Str} (as : Attrs)
    (cs : List XmlNode) (hg : handlerOf name = none) :
    readElem env (f+1) st (.elem name as cs) = readUnhandled name st := by
  rw [c05_readElem_succ, hg]

theorem c05_readElem_handler (env : REnv) (f : Nat) (st : RState) {name : Str} (as : Attrs)
    (cs : List XmlNode) (k : Handler) (hg : handlerOf name = some k.name) :
    readElem env (f+1) st (.elem name as cs) = readHandler env (readAllWith (readElem env f)) st as cs k := by
  rw [c05_readElem_succ, hg]; exact readNamed_name ..

theorem findChildOrNull_induct {P : List XmlNode → Prop} (name : Str) (cs : List XmlNode) (h : P cs)
    (tail : ∀ c cs, P (c :: cs) → P cs) (child : ∀ n as ccs cs, P (.elem n as ccs :: cs) → P ccs) :
    P (findChildOrNull name cs).2 := by
  unfold findChildOrNull
  induction cs with
  | nil => exact h
  | cons c cs ih =>
    cases c with
    | text s => exact ih (tail _ _ h)
    | elem n as ccs =>
      simp only [findChild]
      split
      · exact child _ _ _ _ h
      · exact ih (tail _ _ h)

theorem andL_findChild {p : XmlNode → Bool} {pL : List XmlNode → Bool} {q : Str → Attrs → List XmlNode → Bool}
    (hcons : ∀ x xs, pL (x :: xs) = (p x && pL xs)) (helem : ∀ n as cs, p (.elem n as cs) = (q n as cs && pL cs))
    (name : Str) (cs : List XmlNode) (h : pL cs = true) : pL (findChildOrNull name cs).2 = true :=
  findChildOrNull_induct name cs h
    (fun _ _ h => (Bool.and_eq_true_iff.mp (hcons .. ▸ h)).2)
    (fun _ _ _ _ h => (Bool.and_eq_true_iff.mp (helem .. ▸ (Bool.and_eq_true_iff.mp (hcons .. ▸ h)).1)).2)

end Mammoth
