/-
  C05 — where an error of `apiConvert` can come from (the writer stage is total).
-/
import Proofs.Basics
import MammothModel.Package
namespace Mammoth

/-- the converter configuration `apiConvert` builds -/
def c05_apiCfg (p : Package) (base : Option Str) (world : Str → Option Bytes) (o : Options) (embedded : Option Str) : Cfg :=
  { styleMap := (readOptions o.styleMap embedded o.includeDefault).1, idPrefix := o.idPrefix.getD [],
    ignoreEmpty := o.ignoreEmpty, imageConv := o.imageConv, archive := archiveBytes p, base := base, world := world }

def c05_apiOut (tr : Document → Document) (o : Options) (embedded : Option Str) (dm : Document × List Str)
    (r : ConvResult) : ApiOut :=
  { value := writeWith o.format (collapse (stripEmpty r.nodes)),
    messages := unique ((readOptions o.styleMap embedded o.includeDefault).2 ++ dm.2 ++ r.messages),
    nodes := r.nodes, document := tr dm.1, ioTrace := r.ioTrace, imageCalls := r.imageCalls }

/-- what `apiConvert` does once the embedded style map has been read -/
def c05_apiRest (p : Package) (fuel : Nat) (base : Option Str) (world : Str → Option Bytes)
    (tr : Document → Document) (o : Options) (embedded : Option Str) : Except Err ApiOut :=
  readPackage p fuel >>= fun dm =>
  convertDoc (c05_apiCfg p base world o embedded) (tr dm.1) >>= fun r => pure (c05_apiOut tr o embedded dm r)

theorem c05_apiConvert_eq (p : Package) (fuel : Nat) (base : Option Str) (world : Str → Option Bytes)
    (tr : Document → Document) (o : Options) :
    apiConvert p fuel base world tr o =
      (if o.includeEmbedded then readEmbeddedStyleMap p else pure none) >>= c05_apiRest p fuel base world tr o := by
  unfold apiConvert
  split <;> rfl

theorem c05_apiConvert_ok {p : Package} {fuel : Nat} {base : Option Str} {world : Str → Option Bytes}
    {tr : Document → Document} {o : Options} {out : ApiOut} (h : apiConvert p fuel base world tr o = .ok out) :
    ∃ emb doc msgs r, (if o.includeEmbedded then readEmbeddedStyleMap p else pure none) = .ok emb ∧
      readPackage p fuel = .ok (doc, msgs) ∧ convertDoc (c05_apiCfg p base world o emb) (tr doc) = .ok r ∧
      out = c05_apiOut tr o emb (doc, msgs) r := by
  rw [c05_apiConvert_eq] at h
  obtain ⟨emb, he, h⟩ := bind_ok h
  obtain ⟨⟨doc, msgs⟩, hr, h⟩ := bind_ok h
  obtain ⟨r, hc, h⟩ := bind_ok h
  cases h
  exact ⟨emb, doc, msgs, r, he, hr, hc, rfl⟩

end Mammoth
