/-
  C06_Chain — the token list of a printed mapping is a chain: each token is what the tokeniser
  produces at its position.
-/
import Proofs.C06_Tokenise
namespace Mammoth

/-! ### adding one token in front of a chain -/

theorem c06_printIdent_ne_nil (s : Str) (hs : s ≠ []) : c06_printIdent s ≠ [] := by
  obtain ⟨c, t, h, _⟩ := c06_printIdent_head s hs
  rw [h]; simp

theorem c06_identOK_ne (s : Str) (h : c06_identOK s = true) : s ≠ [] := by
  cases s <;> simp_all [c06_identOK]

theorem c06_chain_id (s : Str) (ts : List Token) (rest : Str) (hs : c06_identOK s = true)
    (hstop : c06_stop (c06_text ts ++ rest) = true) (h : c06_chain ts rest) :
    c06_chain (c06_id s :: ts) rest :=
  ⟨c06_printIdent_ne_nil s (c06_identOK_ne s hs), c06_lexOne_id s _ (c06_identOK_ne s hs) hstop, h⟩

theorem c06_chain_kw (w : Str) (ts : List Token) (rest : Str) (hw : c06_printIdent w = w)
    (hne : c06_identOK w = true) (hstop : c06_stop (c06_text ts ++ rest) = true) (h : c06_chain ts rest) :
    c06_chain (c06_kw w :: ts) rest := by
  have : c06_kw w = c06_id w := by simp [c06_kw, c06_id, hw]
  rw [this]; exact c06_chain_id w ts rest hne hstop h

theorem c06_chain_sym (v : Str) (ts : List Token) (rest : Str) (hv : v ∈ c06_symbols) (hne : v ≠ ['='])
    (h : c06_chain ts rest) : c06_chain (c06_sym v :: ts) rest := by
  refine ⟨?_, c06_lexOne_sym v _ hv (fun e => absurd e hne), h⟩
  intro e; simp [c06_sym] at e; subst e; simp [c06_symbols] at hv

theorem c06_chain_str (s : Str) (ts : List Token) (rest : Str) (h : c06_chain ts rest) :
    c06_chain (c06_str s :: ts) rest :=
  ⟨by simp [c06_str, c06_printString], c06_lexOne_str s _, h⟩

theorem c06_chain_eq_str (s : Str) (ts : List Token) (rest : Str) (h : c06_chain ts rest) :
    c06_chain (c06_sym ['='] :: c06_str s :: ts) rest := by
  refine ⟨by simp [c06_sym], c06_lexOne_sym ['='] _ (by decide +kernel) (fun _ => ?_), c06_chain_str s ts rest h⟩
  simp [c06_text, c06_str, c06_printString, c06_headNe]

theorem c06_chain_sp (ts : List Token) (rest : Str) (hn : c06_headNe isSpace (c06_text ts ++ rest) = true)
    (h : c06_chain ts rest) : c06_chain (c06_sp :: ts) rest :=
  ⟨by simp [c06_sp], c06_lexOne_sp _ hn, h⟩

theorem c06_chain_int (n : Nat) (ts : List Token) (rest : Str)
    (hn : c06_headNe isDigit (c06_text ts ++ rest) = true) (h : c06_chain ts rest) :
    c06_chain (⟨.integer, c06_printNat n⟩ :: ts) rest :=
  ⟨c06_printNat_ne_nil n, c06_lexOne_int _ _ (c06_printNat_ne_nil n) (c06_printNat_digits n) hn, h⟩

/-! ### what may follow an identifier -/

theorem c06_stop_sym (v : Str) (hv : v ∈ c06_symbols) (ts : List Token) (rest : Str) :
    c06_stop (c06_text (c06_sym v :: ts) ++ rest) = true := by
  have hall : ∀ v ∈ c06_symbols, v ≠ [] ∧ c06_stop v = true := by decide +kernel
  obtain ⟨h1, h2⟩ := hall v hv
  cases v with
  | nil => exact absurd rfl h1
  | cons c t => exact h2

theorem c06_stop_sp (ts : List Token) (rest : Str) :
    c06_stop (c06_text (c06_sp :: ts) ++ rest) = true := by
  simp only [c06_text, c06_sp, List.cons_append, List.nil_append, c06_stop]; decide

theorem c06_stop_sid (sid : Option Str) (rest : Str) (h : c06_stop rest = true) :
    c06_stop (c06_text (c06_sidToks sid) ++ rest) = true := by
  cases sid with
  | none => exact h
  | some s => exact c06_stop_sym _ (by decide +kernel) _ _

theorem c06_stop_sn (sn : Option StrMatch) (rest : Str) (h : c06_stop rest = true) :
    c06_stop (c06_text (c06_snToks sn) ++ rest) = true := by
  cases sn with
  | none => exact h
  | some s => exact c06_stop_sym _ (by decide +kernel) _ _

theorem c06_stop_num (num : Option c06_Level) (rest : Str) (h : c06_stop rest = true) :
    c06_stop (c06_text (c06_numToks num) ++ rest) = true := by
  cases num with
  | none => exact h
  | some s => exact c06_stop_sym _ (by decide +kernel) _ _

theorem c06_stop_alts (as : List Str) (rest : Str) (h : c06_stop rest = true) :
    c06_stop (c06_text (c06_altToks as) ++ rest) = true := by
  cases as with
  | nil => exact h
  | cons a as => exact c06_stop_sym _ (by decide +kernel) _ _

theorem c06_stop_events (evs : List AttrOrClass) (rest : Str) (h : c06_stop rest = true) :
    c06_stop (c06_text (c06_eventToks evs) ++ rest) = true := by
  cases evs with
  | nil => exact h
  | cons e evs => cases e <;> exact c06_stop_sym _ (by decide +kernel) _ _

theorem c06_stop_fresh (b : Bool) (rest : Str) (h : c06_stop rest = true) :
    c06_stop (c06_text (c06_freshToks b) ++ rest) = true := by
  cases b with
  | false => exact h
  | true => exact c06_stop_sym _ (by decide +kernel) _ _

theorem c06_stop_sep (s : Option Str) (rest : Str) (h : c06_stop rest = true) :
    c06_stop (c06_text (c06_sepToks s) ++ rest) = true := by
  cases s with
  | none => exact h
  | some s => exact c06_stop_sym _ (by decide +kernel) _ _

theorem c06_chain_sid (sid : Option Str) (rest : Str) (hok : c06_optIdentOK sid = true)
    (h : c06_stop rest = true) : c06_chain (c06_sidToks sid) rest := by
  cases sid with
  | none => trivial
  | some s =>
    exact c06_chain_sym _ _ _ (by decide +kernel) (by decide)
      (c06_chain_id s [] rest hok (by simpa [c06_text] using h) trivial)

theorem c06_chain_sn (sn : Option StrMatch) (rest : Str) : c06_chain (c06_snToks sn) rest := by
  cases sn with
  | none => trivial
  | some m =>
    refine c06_chain_sym _ _ _ (by decide +kernel) (by decide) ?_
    cases m with
    | equalTo v =>
      exact c06_chain_kw _ _ _ (by decide +kernel) (by decide +kernel) (c06_stop_sym _ (by decide +kernel) _ _)
        (c06_chain_eq_str v _ _ (c06_chain_sym _ _ _ (by decide +kernel) (by decide) trivial))
    | startsWith v =>
      exact c06_chain_kw _ _ _ (by decide +kernel) (by decide +kernel) (c06_stop_sym _ (by decide +kernel) _ _)
        (c06_chain_sym _ _ _ (by decide +kernel) (by decide)
          (c06_chain_str v _ _ (c06_chain_sym _ _ _ (by decide +kernel) (by decide) trivial)))

theorem c06_chain_num (num : Option c06_Level) (rest : Str) : c06_chain (c06_numToks num) rest := by
  cases num with
  | none => trivial
  | some l =>
    refine c06_chain_sym _ _ _ (by decide +kernel) (by decide) ?_
    have hw : c06_printIdent (c06_listWord l.ordered) = c06_listWord l.ordered ∧
        c06_identOK (c06_listWord l.ordered) = true := by
      cases l.ordered <;> decide
    exact c06_chain_kw _ _ _ hw.1 hw.2 (c06_stop_sym _ (by decide +kernel) _ _)
      (c06_chain_sym _ _ _ (by decide +kernel) (by decide)
        (c06_chain_int l.n _ _ (by simp [c06_text, c06_sym, c06_headNe]; decide)
          (c06_chain_sym _ _ _ (by decide +kernel) (by decide) trivial)))

theorem c06_chain_bracket (key v : Str) (rest : Str) (hw : c06_printIdent key = key)
    (hne : c06_identOK key = true) : c06_chain (c06_bracketToks key v) rest :=
  c06_chain_sym _ _ _ (by decide +kernel) (by decide)
    (c06_chain_kw _ _ _ hw hne (c06_stop_sym _ (by decide +kernel) _ _)
      (c06_chain_eq_str v _ _ (c06_chain_sym _ _ _ (by decide +kernel) (by decide) trivial)))

theorem c06_chain_matcher (m : c06_Matcher) (rest : Str) (hok : c06_matcherOK m = true)
    (h : c06_stop rest = true) : c06_chain (c06_matcherToks m) rest := by
  cases m with
  | paragraph sid sn num =>
    simp only [c06_matcherOK, Bool.and_eq_true] at hok
    refine c06_chain_kw _ _ _ (by decide +kernel) (by decide +kernel) ?_ ?_
    · simp only [c06_text_append, List.append_assoc]
      exact c06_stop_sid _ _ (c06_stop_sn _ _ (c06_stop_num _ _ h))
    · refine c06_chain_append _ _ _ (c06_chain_sid _ _ hok.1 ?_) (c06_chain_append _ _ _ (c06_chain_sn _ _) (c06_chain_num _ _))
      simp only [c06_text_append, List.append_assoc]
      exact c06_stop_sn _ _ (c06_stop_num _ _ h)
  | run sid sn =>
    simp only [c06_matcherOK] at hok
    refine c06_chain_kw _ _ _ (by decide +kernel) (by decide +kernel) ?_ ?_
    · simp only [c06_text_append, List.append_assoc]
      exact c06_stop_sid _ _ (c06_stop_sn _ _ h)
    · exact c06_chain_append _ _ _ (c06_chain_sid _ _ hok (c06_stop_sn _ _ h)) (c06_chain_sn _ _)
  | table sid sn =>
    simp only [c06_matcherOK] at hok
    refine c06_chain_kw _ _ _ (by decide +kernel) (by decide +kernel) ?_ ?_
    · simp only [c06_text_append, List.append_assoc]
      exact c06_stop_sid _ _ (c06_stop_sn _ _ h)
    · exact c06_chain_append _ _ _ (c06_chain_sid _ _ hok (c06_stop_sn _ _ h)) (c06_chain_sn _ _)
  | highlight c =>
    cases c with
    | none => exact c06_chain_kw _ _ _ (by decide +kernel) (by decide +kernel) (by simpa [c06_text] using h) trivial
    | some c =>
      exact c06_chain_kw _ _ _ (by decide +kernel) (by decide +kernel) (c06_stop_sym _ (by decide +kernel) _ _)
        (c06_chain_bracket _ _ _ (by decide +kernel) (by decide +kernel))
  | brk ty =>
    exact c06_chain_kw _ _ _ (by decide +kernel) (by decide +kernel) (c06_stop_sym _ (by decide +kernel) _ _)
      (c06_chain_bracket _ _ _ (by decide +kernel) (by decide +kernel))
  | _ => exact c06_chain_kw _ _ _ (by decide +kernel) (by decide +kernel) (by simpa [c06_text] using h) trivial

theorem c06_chain_alts (as : List Str) (rest : Str) (hok : as.all c06_identOK = true)
    (h : c06_stop rest = true) : c06_chain (c06_altToks as) rest := by
  induction as with
  | nil => trivial
  | cons a as ih =>
    simp only [List.all_cons, Bool.and_eq_true] at hok
    exact c06_chain_sym _ _ _ (by decide +kernel) (by decide)
      (c06_chain_id a _ _ hok.1 (c06_stop_alts as rest h) (ih hok.2))

theorem c06_chain_events (evs : List AttrOrClass) (rest : Str) (hok : evs.all c06_eventOK = true)
    (h : c06_stop rest = true) : c06_chain (c06_eventToks evs) rest := by
  induction evs with
  | nil => trivial
  | cons e evs ih =>
    simp only [List.all_cons, Bool.and_eq_true] at hok
    cases e with
    | attr n v =>
      exact c06_chain_sym _ _ _ (by decide +kernel) (by decide)
        (c06_chain_id n _ _ hok.1 (c06_stop_sym _ (by decide +kernel) _ _)
          (c06_chain_eq_str v _ _ (c06_chain_sym _ _ _ (by decide +kernel) (by decide) (ih hok.2))))
    | cls c =>
      exact c06_chain_sym _ _ _ (by decide +kernel) (by decide)
        (c06_chain_id c _ _ hok.1 (c06_stop_events evs rest h) (ih hok.2))

theorem c06_chain_fresh (b : Bool) (rest : Str) (h : c06_stop rest = true) :
    c06_chain (c06_freshToks b) rest := by
  cases b with
  | false => trivial
  | true =>
    exact c06_chain_sym _ _ _ (by decide +kernel) (by decide)
      (c06_chain_kw _ _ _ (by decide +kernel) (by decide +kernel) (by simpa [c06_text] using h) trivial)

theorem c06_chain_sep (s : Option Str) (rest : Str) : c06_chain (c06_sepToks s) rest := by
  cases s with
  | none => trivial
  | some v =>
    exact c06_chain_sym _ _ _ (by decide +kernel) (by decide)
      (c06_chain_kw _ _ _ (by decide +kernel) (by decide +kernel) (c06_stop_sym _ (by decide +kernel) _ _)
        (c06_chain_sym _ _ _ (by decide +kernel) (by decide)
          (c06_chain_str v _ _ (c06_chain_sym _ _ _ (by decide +kernel) (by decide) trivial))))

theorem c06_chain_elem (e : c06_Elem) (rest : Str) (hok : c06_elemOK e = true)
    (h : c06_stop rest = true) : c06_chain (c06_elemToks e) rest := by
  simp only [c06_elemOK, Bool.and_eq_true] at hok
  have h3 := c06_stop_sep e.sep rest h
  have h2 := c06_stop_fresh e.fresh _ h3
  have h1 := c06_stop_events e.events _ h2
  have h0 := c06_stop_alts e.alts _ h1
  refine c06_chain_id _ _ _ hok.1.1 ?_ ?_
  · simpa only [c06_text_append, List.append_assoc] using h0
  · refine c06_chain_append _ _ _ (c06_chain_alts _ _ hok.1.2 ?_) (c06_chain_append _ _ _
      (c06_chain_events _ _ hok.2 ?_) (c06_chain_append _ _ _ (c06_chain_fresh _ _ h3) (c06_chain_sep _ _)))
    · simpa only [c06_text_append, List.append_assoc] using h1
    · simpa only [c06_text_append, List.append_assoc] using h2

theorem c06_headNe_space_ident (s : Str) (hs : c06_identOK s = true) (X : Str) :
    c06_headNe isSpace (c06_printIdent s ++ X) = true := by
  obtain ⟨c, t, h, hc⟩ := c06_printIdent_head s (c06_identOK_ne s hs)
  rw [h]
  rcases hc with rfl | hc
  · simp [c06_headNe]; decide
  · simp [c06_headNe, c06_identStart_not_space c hc]

theorem c06_stop_more (es : List c06_Elem) (rest : Str) (h : c06_stop rest = true) :
    c06_stop (c06_text (c06_moreToks es) ++ rest) = true := by
  cases es with
  | nil => exact h
  | cons e es => exact c06_stop_sp _ _

theorem c06_chain_more (es : List c06_Elem) (rest : Str) (hok : es.all c06_elemOK = true)
    (h : c06_stop rest = true) : c06_chain (c06_moreToks es) rest := by
  induction es with
  | nil => trivial
  | cons e es ih =>
    simp only [List.all_cons, Bool.and_eq_true] at hok
    have hname : c06_identOK e.name = true := by
      have := hok.1; simp only [c06_elemOK, Bool.and_eq_true] at this; exact this.1.1
    refine c06_chain_sp _ _ (by simp [c06_text, c06_sym, c06_headNe]; decide)
      (c06_chain_sym _ _ _ (by decide +kernel) (by decide)
        (c06_chain_sp _ _ ?_ (c06_chain_append _ _ _ (c06_chain_elem e _ hok.1 (c06_stop_more es rest h)) (ih hok.2))))
    simp only [c06_elemToks, List.cons_append, c06_text, c06_id, List.append_assoc]
    exact c06_headNe_space_ident _ hname _

theorem c06_chain_path (p : c06_Path) (hok : c06_pathOK p = true) : c06_chain (c06_pathToks p) [] := by
  cases p with
  | ignore => exact c06_chain_sym _ _ _ (by decide +kernel) (by decide) trivial
  | elems es =>
    cases es with
    | nil => trivial
    | cons e es =>
      simp only [c06_pathOK, List.all_cons, Bool.and_eq_true] at hok
      exact c06_chain_append _ _ _ (c06_chain_elem e _ hok.1 (c06_stop_more es [] rfl))
        (c06_chain_more es [] hok.2 rfl)

theorem c06_headNe_space_path (p : c06_Path) (hok : c06_pathOK p = true) :
    c06_headNe isSpace (c06_text (c06_pathToks p) ++ []) = true := by
  cases p with
  | ignore => simp [c06_pathToks, c06_text, c06_sym, c06_headNe]; decide
  | elems es =>
    cases es with
    | nil => rfl
    | cons e es =>
      simp only [c06_pathOK, List.all_cons, Bool.and_eq_true, c06_elemOK] at hok
      simp only [c06_pathToks, c06_elemToks, List.cons_append, c06_text, c06_id, List.append_assoc]
      exact c06_headNe_space_ident _ hok.1.1.1 _

theorem c06_chain_tokens (sp : Bool) (m : c06_Mapping) (hok : c06_expressible m = true) :
    c06_chain (c06_tokens sp m) [] := by
  simp only [c06_expressible, Bool.and_eq_true] at hok
  refine c06_chain_append _ _ _ (c06_chain_matcher _ _ hok.1 (c06_stop_sp _ _)) ?_
  refine c06_chain_sp _ _ (by simp [c06_text, c06_sym, c06_headNe]; decide)
    (c06_chain_sym _ _ _ (by decide +kernel) (by decide) ?_)
  cases sp with
  | false => simpa using c06_chain_path _ hok.2
  | true =>
    simp only [if_true, List.cons_append, List.nil_append]
    exact c06_chain_sp _ _ (c06_headNe_space_path _ hok.2) (c06_chain_path _ hok.2)

end Mammoth
