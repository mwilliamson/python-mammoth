/-
  C05 — the element reader against the reading-order depth function `c05_rdepth`, on statically well-formed
  input and provided `_read_numbering_properties` returns normally (`c05_numOk`).  ONE relation, `c05_track`,
  is carried through the reader; from it follow
  * the only failures are the model's fuel and `pop()` on the empty complex-field stack (`c05_track_spec`);
  * where the depth function does not underflow there is no `IndexError` and the final stack depth and deferred
    nodes are the computed ones (`c05_track_some`);
  * where it underflows the reader does not return normally (`c05_track_nrel`).
-/
import Proofs.C05_RDepth
namespace Mammoth

abbrev c05_Q (env : REnv) : ReadResult × RState → Prop := fun p => c05_staticL env p.2.deleted = true

/-- that the deferred nodes are statically well-formed is the invariant that lets the next sibling be read -/
abbrev c05_track (env : REnv) (o : Option c05_DS) (x : Except Err (ReadResult × RState)) : Prop :=
  c05_spec (fun e => e = .fuel ∨ (∃ w, e = Err.index w) ∧ o = none)
    (fun p => c05_staticL env p.2.deleted = true ∧ o = some (p.2.stack.length, p.2.deleted)) x

theorem c05_track_bind {env : REnv} {o : Option c05_DS} {g : c05_DS → Option c05_DS}
    {x : Except Err (ReadResult × RState)} {f : ReadResult × RState → Except Err (ReadResult × RState)}
    (hx : c05_track env o x)
    (hf : ∀ a, c05_staticL env a.2.deleted = true → c05_track env (g (a.2.stack.length, a.2.deleted)) (f a)) :
    c05_track env (o.bind g) (x >>= f) := by
  cases hxx : x with
  | error e =>
    refine ⟨fun e' he => ?_, fun a ha => ?_⟩
    · simp only [bind, Except.bind] at he
      cases he
      exact (hx.err e hxx).imp_right fun h => ⟨h.1, by rw [h.2]; rfl⟩
    · simp only [bind, Except.bind] at ha; cases ha
  | ok a =>
    obtain ⟨h1, h2⟩ := hx.ok a hxx
    rw [h2]
    exact hf a h1

theorem c05_track_spec {env : REnv} {o : Option c05_DS} {x : Except Err (ReadResult × RState)}
    (h : c05_track env o x) : c05_spec c05_allowed (c05_Q env) x :=
  ⟨fun e he => (h.err e he).imp_right And.left, fun a ha => (h.ok a ha).1⟩

theorem c05_track_some {env : REnv} {o : Option c05_DS} {x : Except Err (ReadResult × RState)} {s' : c05_DS}
    (h : c05_track env o x) (ho : o = some s') :
    (∀ e, x = .error e → e = .fuel) ∧
    (∀ r st', x = .ok (r, st') → st'.stack.length = s'.1 ∧ st'.deleted = s'.2) := by
  subst ho
  refine ⟨fun e he => (h.err e he).elim id fun h2 => (by cases h2.2), fun r st' ha => ?_⟩
  cases (h.ok _ ha).2
  exact ⟨rfl, rfl⟩

/-- if the depth function underflows, the reader does not return normally -/
def c05_nrel (o : Option c05_DS) (x : Except Err (ReadResult × RState)) : Prop :=
  o = none → ∀ a, x ≠ .ok a

theorem c05_nrel_iteR (c : Prop) [Decidable c] (o : Option c05_DS) (x1 x2 : Except Err (ReadResult × RState))
    (h1 : c → c05_nrel o x1) (h2 : ¬ c → c05_nrel o x2) : c05_nrel o (if c then x1 else x2) := by
  by_cases hc : c
  · rw [if_pos hc]; exact h1 hc
  · rw [if_neg hc]; exact h2 hc

theorem c05_track_nrel {env : REnv} {o : Option c05_DS} {x : Except Err (ReadResult × RState)}
    (h : c05_track env o x) : c05_nrel o x :=
  fun ho a ha => by cases ho.symm.trans (h.ok a ha).2

theorem c05_readFldChar_track (env : REnv) (st : RState) (as : Attrs) (cs : List XmlNode)
    (hdel : c05_staticL env st.deleted = true) :
    c05_track env ((c05_fldDepth st.stack.length as).map fun d => (d, st.deleted)) (readFldChar st as cs) := by
  have under : c05_track env none (.error (.index S!"pop from empty list")) :=
    ⟨fun e he => by cases he; exact Or.inr ⟨⟨_, rfl⟩, rfl⟩, fun a ha => by cases ha⟩
  unfold readFldChar c05_fldDepth
  dsimp only
  by_cases h1 : (attr? S!"w:fldCharType" as == some S!"begin") = true
  · rw [if_pos h1, if_pos h1]; exact c05_spec_ok _ ⟨hdel, rfl⟩
  rw [if_neg h1, if_neg h1]
  by_cases h2 : (attr? S!"w:fldCharType" as == some S!"end") = true
  · rw [if_pos h2, if_pos h2]
    cases hst : st.stack with
    | nil => exact under
    | cons top rest =>
      dsimp only [List.length, Option.map]
      split <;> exact c05_spec_ok _ ⟨hdel, rfl⟩
  rw [if_neg h2, if_neg h2]
  by_cases h3 : (attr? S!"w:fldCharType" as == some S!"separate") = true
  · rw [if_pos h3, if_pos h3]
    cases hst : st.stack with
    | nil => exact under
    | cons top rest => exact c05_spec_ok _ ⟨hdel, rfl⟩
  · rw [if_neg h3, if_neg h3]; exact c05_spec_ok _ ⟨hdel, rfl⟩

theorem c05_readHandler_track (env : REnv) (hn : c05_numOk env) (ra : c05_RdAll)
    (all : c05_DS → List XmlNode → Option c05_DS)
    (ih : ∀ st ns, c05_staticL env ns = true → c05_staticL env st.deleted = true →
      c05_track env (all (st.stack.length, st.deleted) ns) (ra st ns))
    (st : RState) (as : Attrs) (cs : List XmlNode) (k : Handler)
    (hel : c05_elemOkH env as cs k = true) (hcs : c05_staticL env cs = true)
    (hdel : c05_staticL env st.deleted = true) :
    c05_track env (c05_rdepthH all (st.stack.length, st.deleted) as cs k) (readHandler env ra st as cs k) := by
  cases k with
  | text | tab | noBreakHyphen | softHyphen | break_ | instrText => exact c05_spec_ok _ ⟨hdel, rfl⟩
  | run | table | tableRow | pict =>
    exact c05_spec_bind _ _ (ih _ _ hcs hdel) fun _ h => c05_spec_pure _ h
  | childElements => exact ih _ _ hcs hdel
  | alternateContent => exact ih _ _ (c05_staticL_findChild env _ cs hcs) hdel
  | paragraph =>
    have hall : c05_staticL env (st.deleted ++ cs) = true := by rw [c05_staticL_append, hdel, hcs]; rfl
    dsimp only [readHandler, c05_rdepthH]
    split
    · exact c05_spec_ok _ ⟨hall, rfl⟩
    · refine c05_spec_bind _ _ (ih { st with deleted := [] } _ hall rfl) fun _ h => ?_
      exact c05_spec_bind (Q := fun _ => True) _ _ (c05_spec_of_isOk _ (hn _ _)) fun _ _ => c05_spec_pure _ h
  | fldChar => exact c05_readFldChar_track env st as cs hdel
  | symbol => exact c05_spec_map _ _ (c05_spec_of_isOk _ (c05_readSymbol_ok as hel)) fun _ _ => ⟨hdel, rfl⟩
  | inline => exact c05_spec_map _ _ (c05_spec_of_isOk _ (c05_readInline_ok env cs hel)) fun _ _ => ⟨hdel, rfl⟩
  | tableCell =>
    rw [readHandler_tableCell]
    exact c05_spec_bind (Q := fun _ => True) _ _ (c05_spec_of_isOk _ (c05_readGridSpan_ok env as cs hel))
      fun _ _ => c05_spec_bind _ _ (ih _ _ hcs hdel) fun _ h => c05_spec_pure _ h
  | hyperlink =>
    refine c05_spec_bind _ _ (ih _ _ hcs hdel) fun _ h => ?_
    dsimp only
    split
    · rename_i rid hrid
      rw [c05_elemOkH, hrid] at hel
      exact c05_spec_bind (Q := fun _ => True) _ _ (c05_spec_of_isOk _ (c05_targetById_ok env _ hel))
        fun _ _ => c05_spec_pure _ h
    · split <;> exact c05_spec_pure _ h
  | bookmarkStart => dsimp only [readHandler]; split <;> exact c05_spec_ok _ ⟨hdel, rfl⟩
  | imagedata =>
    dsimp only [readHandler]
    split
    · exact c05_spec_ok _ ⟨hdel, rfl⟩
    · rename_i rid hrid
      rw [c05_elemOkH, hrid] at hel
      exact c05_spec_map _ _ (c05_spec_of_isOk _ (c05_readEmbeddedImage_ok env _ _ hel)) fun _ _ => ⟨hdel, rfl⟩
  | footnoteRef | endnoteRef | commentRef =>
    obtain ⟨id, hid⟩ := Option.isSome_iff_exists.mp hel
    simp only [readHandler, readNoteRef, hid]
    exact c05_spec_ok _ ⟨hdel, rfl⟩
  | sdt =>
    dsimp only [readHandler, c05_rdepthH]
    cases findChild S!"wordml:checkbox" (findChildOrNull S!"w:sdtPr" cs).2 with
    | some _ => exact c05_spec_ok _ ⟨hdel, rfl⟩
    | none => exact ih _ _ (c05_staticL_findChild env _ cs hcs) hdel

theorem c05_readAllWith_track (env : REnv) (rd : c05_Rd) (dp : c05_DS → XmlNode → Option c05_DS)
    (hrd : ∀ st n, c05_static env n = true → c05_staticL env st.deleted = true →
      c05_track env (dp (st.stack.length, st.deleted) n) (rd st n)) :
    ∀ (ns : List XmlNode) (st : RState), c05_staticL env ns = true → c05_staticL env st.deleted = true →
      c05_track env (c05_rdepthAllWith dp (st.stack.length, st.deleted) ns) (readAllWith rd st ns)
  | [], st, _, hd => by simp only [readAllWith, c05_rdepthAllWith]; exact c05_spec_ok _ ⟨hd, rfl⟩
  | .text _ :: rest, st, hs, hd => by
    simp only [readAllWith, c05_rdepthAllWith]
    simp only [c05_staticL, Bool.and_eq_true] at hs
    exact c05_readAllWith_track env rd dp hrd rest st hs.2 hd
  | .elem n as cs :: rest, st, hs, hd => by
    simp only [readAllWith, c05_rdepthAllWith]
    simp only [c05_staticL, Bool.and_eq_true] at hs
    refine c05_track_bind (hrd _ _ hs.1 hd) fun a ha => ?_
    exact c05_spec_bind _ _ (c05_readAllWith_track env rd dp hrd rest a.2 hs.2 ha) fun _ hb => c05_spec_pure _ hb

theorem c05_readElem_track (env : REnv) (hn : c05_numOk env) :
    ∀ (f : Nat) (st : RState) (n : XmlNode), c05_static env n = true → c05_staticL env st.deleted = true →
      c05_track env (c05_rdepth f (st.stack.length, st.deleted) n) (readElem env f st n)
  | f, st, .text s, _, hd => by
    rw [c05_readElem_text]
    have : c05_rdepth f (st.stack.length, st.deleted) (.text s) = some (st.stack.length, st.deleted) := by
      cases f <;> rfl
    rw [this]
    exact c05_spec_ok _ ⟨hd, rfl⟩
  | 0, st, .elem name as cs, _, _ => by
    rw [c05_readElem_zero]
    exact ⟨fun e he => (by cases he; exact Or.inl rfl), fun a ha => (by cases ha)⟩
  | f+1, st, .elem name as cs, hs, hd => by
    simp only [c05_static, Bool.and_eq_true] at hs
    show c05_track env (c05_rdepthBody (c05_rdepthAllWith (c05_rdepth f)) (st.stack.length, st.deleted) name as cs) _
    cases hg : handlerOf name with
    | none =>
      rw [c05_readElem_unhandled _ _ _ _ _ hg, c05_rdepthBody_unhandled hg, readUnhandled]
      split <;> exact c05_spec_ok _ ⟨hd, rfl⟩
    | some h =>
      obtain ⟨k, rfl⟩ := handlerOf_known hg
      rw [c05_readElem_handler _ _ _ _ _ k hg, c05_rdepthBody_handler hg]
      exact c05_readHandler_track env hn _ _
        (fun st ns h1 h2 => c05_readAllWith_track env _ _ (c05_readElem_track env hn f) ns st h1 h2)
        st as cs k (c05_elemOk_handler hg ▸ hs.1) hs.2 hd

theorem c05_readAll_track (env : REnv) (hn : c05_numOk env) (f : Nat) (ns : List XmlNode) (st : RState)
    (hs : c05_staticL env ns = true) (hd : c05_staticL env st.deleted = true) :
    c05_track env (c05_rdepthL f (st.stack.length, st.deleted) ns) (readAll env f st ns) :=
  c05_readAllWith_track env _ _ (c05_readElem_track env hn f) ns st hs hd

end Mammoth
