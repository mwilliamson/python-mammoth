/-
  C18 — the invariant (`c18_grows`) for `openImage`, `convertImage` and `visit`/`visitAll`/`visitRows`.
-/
import Proofs.C18_Image
import Proofs.VisitState
namespace Mammoth

theorem c18_grows_io (cfg : Cfg) (U : List Str) (op : IoOp) (ho : c18_opens cfg = true)
    (hop : c18_opOk cfg.base U op) :
    c18_grows cfg U (modify fun s => { s with ioTrace := s.ioTrace ++ [op] } : ConvM PUnit) := by
  intro st a st' h
  rw [StateT.run_modify] at h
  cases h
  refine ⟨⟨[op], rfl, ?_⟩, ⟨[], by simp, by simp⟩⟩
  intro op' h'
  rw [List.mem_singleton] at h'
  subst h'
  exact ⟨ho, hop⟩

theorem c18_grows_openImage (cfg : Cfg) (src : ImageSrc) (ho : c18_opens cfg = true) :
    c18_grows cfg (c18_srcLinked src) (openImage cfg src) := by
  unfold openImage
  split
  · split
    · exact c18_grows_pure _ _ _
    · exact c18_grows_throw _ _ _
  · rename_i uri
    split
    · rename_i habs
      refine c18_grows_bind (c18_grows_io _ _ _ ho ?_) ?_
      · exact ⟨uri, by simp [c18_srcLinked], Or.inl ⟨rfl, habs⟩⟩
      · intro _
        split <;> exact c18_grows_pure _ _ _
    · rename_i habs
      split
      · rename_i b hb
        refine c18_grows_bind (c18_grows_io _ _ _ ho ?_) ?_
        · exact ⟨uri, by simp [c18_srcLinked], Or.inr ⟨b, hb, rfl, by simpa using habs⟩⟩
        · intro _
          split <;> exact c18_grows_pure _ _ _
      · exact c18_grows_pure _ _ _

theorem c18_grows_imageCalls (cfg : Cfg) (U : List Str) (i : ImageProps) :
    c18_grows cfg U (modify fun s => { s with imageCalls := s.imageCalls ++ [i] } : ConvM PUnit) :=
  c18_grows_modify cfg U _ (fun _ => rfl) (fun _ => rfl)

theorem c18_grows_convertImage (cfg : Cfg) (i : ImageProps) :
    c18_grows cfg (c18_srcLinked i.src) (convertImage cfg i) := by
  obtain ⟨ok, no, e⟩ := c18_convertImage_shape cfg i
  rw [e]
  refine c18_grows_bind (c18_grows_imageCalls _ _ _) ?_
  intro _
  split
  · rename_i ho
    refine c18_grows_bind (c18_grows_openImage cfg i.src ho) ?_
    intro r
    split
    · exact c18_grows_pure _ _ _
    · exact c18_grows_bind (c18_grows_warn _ _ _) (fun _ => c18_grows_pure _ _ _)
  · exact c18_grows_pure _ _ _

theorem c18_lookup_comment {cs : List Comment} {id : Str} {c : Comment}
    (h : lookupLast id (cs.map fun c => (c.id, c)) = some c) : c ∈ cs := by
  obtain ⟨x, hx, e⟩ := List.mem_map.mp (lookupLast_mem h)
  cases e
  exact hx

mutual
theorem c18_linked_eq (e : Elem) : c18_linked e = (c17_elemImages e).flatMap fun i => c18_srcLinked i.src := by
  match e with
  | .paragraph _ cs | .run _ cs | .hyperlink _ cs | .table _ _ cs | .row _ cs | .cell _ _ _ cs =>
    rw [c18_linked, c17_elemImages]
    exact c18_linkedL_eq cs
  | .image i => simp [c18_linked, c17_elemImages]
  | .text _ | .checkbox _ | .brk _ | .tab | .bookmark _ | .noteRef _ _ | .commentRef _ =>
    simp [c18_linked, c17_elemImages]
theorem c18_linkedL_eq (es : List Elem) :
    c18_linkedL es = (c17_elemImagesL es).flatMap fun i => c18_srcLinked i.src := by
  match es with
  | [] => simp [c18_linkedL]
  | e :: es => rw [c18_linkedL, c17_elemImagesL_cons, List.flatMap_append, c18_linked_eq e, c18_linkedL_eq es]
end

theorem c18_visitRel (cfg : Cfg) (is : List ImageProps) :
    VisitRel cfg (· ∈ is) (c18_step cfg (is.flatMap fun i => c18_srcLinked i.src)) where
  refl := c18_step_refl cfg _
  trans := c18_step_trans
  warn _ _ := c18_step_of_eq rfl rfl
  noteRef _ _ := c18_step_of_eq rfl rfl
  commentRef _ c _ _ hc := ⟨⟨[], by simp, by simp⟩, ⟨[_], rfl, by simpa using c18_lookup_comment hc⟩⟩
  image i hi := c18_grows_mono (fun _ hu => List.mem_flatMap.mpr ⟨i, hi, hu⟩) (c18_grows_convertImage cfg i)

theorem c18_grows_visit (cfg : Cfg) (hdr : Bool) (e : Elem) :
    c18_grows cfg (c18_linked e) (visit cfg hdr e) :=
  c18_linked_eq e ▸ (c18_visitRel cfg _).of_visit hdr e fun _ h => h

theorem c18_grows_visitAll (cfg : Cfg) (hdr : Bool) (es : List Elem) :
    c18_grows cfg (c18_linkedL es) (visitAll cfg hdr es) :=
  c18_linkedL_eq es ▸ (c18_visitRel cfg _).of_visitAll hdr es fun _ h => h

theorem c18_grows_visitRows (cfg : Cfg) (inHead : Bool) (es : List Elem) :
    c18_grows cfg (c18_linkedL es) (visitRows cfg inHead es) :=
  c18_linkedL_eq es ▸ (c18_visitRel cfg _).of_visitRows inHead es fun _ h => h

end Mammoth
