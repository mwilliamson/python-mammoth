/-
  C05 — `w:numStyleLink` chains.  `Numbering.find_level` follows the chain
      numId ↦ w:num ↦ w:abstractNum ↦ w:numStyleLink ↦ numbering style ↦ its numId ↦ …
  and the model gives it the fuel `|nums| + |abstractNums| + 2`.  A link that DANGLES (undefined num,
  undefined abstractNum, undefined numbering style) ends the chain with the answer `None`; only a chain
  that never ends (a cycle) makes `find_level` fail (`RecursionError`, `.recursion` in the model).

  `c05_linksAcyclic env` is the decidable predicate "the chain from every defined numId `some s` ends";
  it is NECESSARY AND SUFFICIENT for `findLevel`, with the fuel the reader gives it, to return normally for
  every numId and level a paragraph may carry (`C05_findLevel_total_iff`).
-/
import Proofs.C05_Static
namespace Mammoth

/-- one step of the chain: the numId of the numbering style that the abstract numbering of `numId` links
    to — `none` when the chain ends here (num / abstractNum undefined, no `w:numStyleLink`, or the link
    dangles) -/
def c05_linkStep (n : Numbering) (numId : Option Str) : Option (Option Str) :=
  match lookupLast numId n.nums with
  | none => none
  | some absId =>
    match lookupLast (some absId) n.abstractNums with
    | none => none
    | some an =>
      match an.numStyleLink with
      | none => none
      | some link => lookupLast (some link) n.styles.numbering

/-- the chain from `x` ends after at most `k` steps -/
def c05_chainEnds (n : Numbering) : Nat → Option Str → Bool
  | 0, x => (c05_linkStep n x).isNone
  | k+1, x =>
    match c05_linkStep n x with
    | none => true
    | some y => c05_chainEnds n k y

/-- ACYCLIC LINKS: from every defined numId `some s` (a key of `nums`) the `w:numStyleLink` chain ends
    within `|nums|` steps (an acyclic chain cannot be longer: it visits distinct keys of `nums`).
    Dangling links are allowed: they end the chain. -/
def c05_linksAcyclic (env : REnv) : Bool :=
  env.numbering.nums.all fun p => p.1.isNone || c05_chainEnds env.numbering env.numbering.nums.length p.1

/-- the fuel `readNumberingProps` gives to `findLevel` -/
def c05_linkFuel (env : REnv) : Nat := env.numbering.nums.length + env.numbering.abstractNums.length + 2

theorem c05_findLevel_step (n : Numbering) (f : Nat) (x : Option Str) (lvl : Str) :
    match c05_linkStep n x with
    | some y => findLevel n (f+1) x lvl = findLevel n f y lvl
    | none => ∃ r, findLevel n (f+1) x lvl = .ok r := by
  rw [findLevel, c05_linkStep]
  cases lookupLast x n.nums with
  | none => exact ⟨_, rfl⟩
  | some absId =>
    dsimp only
    cases lookupLast (some absId) n.abstractNums with
    | none => exact ⟨_, rfl⟩
    | some an =>
      dsimp only
      cases an.numStyleLink with
      | none => exact ⟨_, rfl⟩
      | some link =>
        dsimp only
        cases lookupLast (some link) n.styles.numbering with
        | none => exact ⟨_, rfl⟩
        | some y => rfl

theorem c05_findLevel_step_none (n : Numbering) (f : Nat) (x : Option Str) (lvl : Str)
    (h : c05_linkStep n x = none) : ∃ r, findLevel n (f+1) x lvl = .ok r := by
  have := c05_findLevel_step n f x lvl
  rw [h] at this
  exact this

theorem c05_findLevel_step_some (n : Numbering) (f : Nat) (x y : Option Str) (lvl : Str)
    (h : c05_linkStep n x = some y) : findLevel n (f+1) x lvl = findLevel n f y lvl := by
  have := c05_findLevel_step n f x lvl
  rw [h] at this
  exact this

/-- a chain that ends within `k` steps is followed successfully with any fuel `> k` -/
theorem c05_findLevel_of_chainEnds (n : Numbering) (lvl : Str) :
    ∀ (k : Nat) (x : Option Str) (f : Nat), c05_chainEnds n k x = true → k < f →
      ∃ r, findLevel n f x lvl = .ok r
  | 0, x, f, h, hf => by
    obtain ⟨f', rfl⟩ : ∃ f', f = f' + 1 := ⟨f - 1, by omega⟩
    simp only [c05_chainEnds, Option.isNone_iff_eq_none] at h
    exact c05_findLevel_step_none n f' x lvl h
  | k+1, x, f, h, hf => by
    obtain ⟨f', rfl⟩ : ∃ f', f = f' + 1 := ⟨f - 1, by omega⟩
    cases hs : c05_linkStep n x with
    | none => exact c05_findLevel_step_none n f' x lvl hs
    | some y =>
      rw [c05_findLevel_step_some n f' x y lvl hs]
      simp only [c05_chainEnds, hs] at h
      exact c05_findLevel_of_chainEnds n lvl k y f' h (by omega)

theorem c05_linkStep_key (n : Numbering) (x y : Option Str) (h : c05_linkStep n x = some y) :
    ∃ a, (x, a) ∈ n.nums := by
  unfold c05_linkStep at h
  split at h
  · cases h
  · rename_i absId habs; exact ⟨absId, lookupLast_mem habs⟩

/-- SUFFICIENT: with acyclic links `findLevel` returns normally for every numId `some s`, every level
    and every fuel `> |nums|` — in particular with the reader's fuel -/
theorem c05_findLevel_ok_acyclic (env : REnv) (hl : c05_linksAcyclic env = true) (f : Nat)
    (hf : env.numbering.nums.length < f) (numId lvl : Str) :
    ∃ r, findLevel env.numbering f (some numId) lvl = .ok r := by
  obtain ⟨f', rfl⟩ : ∃ f', f = f' + 1 := ⟨f - 1, by omega⟩
  cases hs : c05_linkStep env.numbering (some numId) with
  | none => exact c05_findLevel_step_none _ f' _ lvl hs
  | some y =>
    obtain ⟨a, ha⟩ := c05_linkStep_key _ _ _ hs
    simp only [c05_linksAcyclic, List.all_eq_true, Bool.or_eq_true] at hl
    rcases hl _ ha with h | h
    · cases h
    · exact c05_findLevel_of_chainEnds _ lvl _ _ _ h hf

/-- `_read_numbering_properties` returns normally when the links are acyclic -/
theorem c05_numOk_of_acyclic (env : REnv) (hl : c05_linksAcyclic env = true) : c05_numOk env := by
  intro sid numPr
  unfold readNumberingProps
  split
  · exact c05_findLevel_ok_acyclic env hl _ (by omega) _ _
  · split <;> exact ⟨_, rfl⟩

theorem c05_linksAcyclic_of_noStyleLinks (env : REnv) (hn : c05_noStyleLinks env = true) :
    c05_linksAcyclic env = true := by
  simp only [c05_linksAcyclic, List.all_eq_true, Bool.or_eq_true]
  intro p _
  right
  have hstep : c05_linkStep env.numbering p.1 = none := by
    unfold c05_linkStep
    split
    · rfl
    · split
      · rfl
      · rename_i an han
        split
        · rfl
        · rename_i link hlink
          simp only [c05_noStyleLinks, Bool.or_eq_true, List.all_eq_true, List.isEmpty_iff] at hn
          rcases hn with hn | hn
          · have := hn _ (lookupLast_mem han)
            rw [hlink] at this; cases this
          · rw [hn]; rfl
  cases hk : env.numbering.nums.length with
  | zero => simp [c05_chainEnds, hstep]
  | succ k => simp [c05_chainEnds, hstep]

theorem c05_numOk_of_noStyleLinks (env : REnv) (hn : c05_noStyleLinks env = true) : c05_numOk env :=
  c05_numOk_of_acyclic env (c05_linksAcyclic_of_noStyleLinks env hn)

/-! ### necessity: a chain that does not end within `|nums|` steps never ends -/

/-- the chain from `x` ends after exactly `k` steps -/
inductive c05_Ends (n : Numbering) : Option Str → Nat → Prop where
  | stop (x : Option Str) (h : c05_linkStep n x = none) : c05_Ends n x 0
  | step (x y : Option Str) (k : Nat) (h : c05_linkStep n x = some y) (hy : c05_Ends n y k) : c05_Ends n x (k+1)

theorem c05_Ends_det (n : Numbering) (x : Option Str) (k k' : Nat) (h : c05_Ends n x k) (h' : c05_Ends n x k') :
    k = k' := by
  induction h generalizing k' with
  | stop x hx =>
    cases h' with
    | stop _ _ => rfl
    | step _ y _ hy _ => rw [hx] at hy; cases hy
  | step x y k hx _ ih =>
    cases h' with
    | stop _ hx' => rw [hx] at hx'; cases hx'
    | step _ y' k'' hx' hy' =>
      rw [hx] at hx'; cases hx'
      rw [ih k'' hy']

/-- an ending chain visits distinct keys of `nums` -/
theorem c05_Ends_path (n : Numbering) (x : Option Str) (k : Nat) (h : c05_Ends n x k) :
    ∃ path : List (Option Str), path.length = k ∧ path.Nodup ∧
      ∀ y ∈ path, y ∈ n.nums.map (·.1) ∧ ∃ j, 1 ≤ j ∧ j ≤ k ∧ c05_Ends n y j := by
  induction h with
  | stop x _ => exact ⟨[], rfl, List.nodup_nil, fun y hy => absurd hy List.not_mem_nil⟩
  | step x y k hx hy ih =>
    obtain ⟨path, hlen, hnd, hmem⟩ := ih
    refine ⟨x :: path, by simp [hlen], ?_, ?_⟩
    · rw [List.nodup_cons]
      refine ⟨fun hin => ?_, hnd⟩
      obtain ⟨_, j, _, hj, hej⟩ := hmem x hin
      have := c05_Ends_det n x j (k+1) hej (.step x y k hx hy)
      omega
    · intro z hz
      rcases List.mem_cons.mp hz with rfl | hz
      · obtain ⟨a, ha⟩ := c05_linkStep_key n _ _ hx
        exact ⟨List.mem_map.mpr ⟨_, ha, rfl⟩, k+1, by omega, Nat.le_refl _, .step _ y k hx hy⟩
      · obtain ⟨h1, j, hj1, hj2, hej⟩ := hmem z hz
        exact ⟨h1, j, hj1, by omega, hej⟩

/-- hence an ending chain has at most `|nums|` steps -/
theorem c05_Ends_le (n : Numbering) (x : Option Str) (k : Nat) (h : c05_Ends n x k) : k ≤ n.nums.length := by
  obtain ⟨path, hlen, hnd, hmem⟩ := c05_Ends_path n x k h
  have := List.Nodup.length_le_of_subset hnd (fun y hy => (hmem y hy).1)
  simpa [hlen] using this

theorem c05_chainEnds_of_Ends (n : Numbering) (x : Option Str) (k : Nat) (h : c05_Ends n x k) :
    ∀ m, k ≤ m → c05_chainEnds n m x = true := by
  induction h with
  | stop x hx =>
    intro m _
    cases m <;> simp [c05_chainEnds, hx]
  | step x y k hx _ ih =>
    intro m hm
    obtain ⟨m', rfl⟩ : ∃ m', m = m' + 1 := ⟨m - 1, by omega⟩
    simp only [c05_chainEnds, hx]
    exact ih m' (by omega)

theorem c05_Ends_of_findLevel (n : Numbering) (lvl : Str) :
    ∀ (f : Nat) (x : Option Str) (r : Option NumLevel), findLevel n f x lvl = .ok r → ∃ k, c05_Ends n x k
  | 0, x, r, h => by simp [findLevel] at h
  | f+1, x, r, h => by
    cases hs : c05_linkStep n x with
    | none => exact ⟨0, .stop x hs⟩
    | some y =>
      rw [c05_findLevel_step_some n f x y lvl hs] at h
      obtain ⟨k, hk⟩ := c05_Ends_of_findLevel n lvl f y r h
      exact ⟨k+1, .step x y k hs hk⟩

/-- NECESSARY: whenever `findLevel` returns normally — with whatever fuel — the chain ends within
    `|nums|` steps -/
theorem c05_chainEnds_of_findLevel (n : Numbering) (f : Nat) (x : Option Str) (lvl : Str) (r : Option NumLevel)
    (h : findLevel n f x lvl = .ok r) : c05_chainEnds n n.nums.length x = true := by
  obtain ⟨k, hk⟩ := c05_Ends_of_findLevel n lvl f x r h
  exact c05_chainEnds_of_Ends n x k hk _ (c05_Ends_le n x k hk)

/-- `findLevel` fails only with `RecursionError` -/
theorem c05_findLevel_err (n : Numbering) (lvl : Str) :
    ∀ (f : Nat) (x : Option Str) (e : Err), findLevel n f x lvl = .error e → e = .recursion
  | 0, x, e, h => by simp only [findLevel] at h; cases h; rfl
  | f+1, x, e, h => by
    cases hs : c05_linkStep n x with
    | none =>
      obtain ⟨r, hr⟩ := c05_findLevel_step_none n f x lvl hs
      rw [hr] at h; cases h
    | some y =>
      rw [c05_findLevel_step_some n f x y lvl hs] at h
      exact c05_findLevel_err n lvl f y e h

end Mammoth
