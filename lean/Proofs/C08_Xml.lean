/-
  C08, from the XML — the reader half for paragraphs: what `readElem` makes of a `w:p`, with the paragraph's style and
  numbering (`w:numPr`, looked up in the environment's numbering definitions) specified on the XML of its `w:pPr`.
-/
import Proofs.C09_Xml
namespace Mammoth

/-! ### the paragraph properties, read off the XML -/

/-- the paragraph properties: children of the first `w:pPr` child -/
abbrev c08x_pPr (cs : List XmlNode) : List XmlNode := c11x_childrenOf S!"w:pPr" cs

/-- the paragraph mark is a tracked deletion: `w:pPr/w:rPr/w:del` exists (such a paragraph is merged with the next) -/
def c08x_markDeleted (cs : List XmlNode) : Bool :=
  (c11x_named S!"w:del" (c11x_childrenOf S!"w:rPr" (c08x_pPr cs))).head?.isSome

/-- style id (`w:pStyle/@w:val`), style name (through the paragraph styles of styles.xml) and the warning about an
    undefined style -/
abbrev c08x_style (env : REnv) (pPr : List XmlNode) : (Option Str × Option Str) × List Str :=
  c09x_style pPr S!"w:pStyle" S!"Paragraph" env.styles.paragraph

/-- the paragraph's own numbering reference: (`w:numPr/w:numId/@w:val`, `w:numPr/w:ilvl/@w:val`) -/
def c08x_numPr (pPr : List XmlNode) : Option Str × Option Str :=
  ((c11x_propVal S!"w:numId" (c11x_childrenOf S!"w:numPr" pPr)).join,
   (c11x_propVal S!"w:ilvl" (c11x_childrenOf S!"w:numPr" pPr)).join)

/-- the length of a numbering-style link chain that `find_level` follows before giving up -/
abbrev c08x_fuel (env : REnv) : Nat := env.numbering.nums.length + env.numbering.abstractNums.length + 2

/-- THE NUMBERING OF A PARAGRAPH, from its `w:pPr`: its own `w:numPr` if that has both a `w:numId` and a `w:ilvl` —
    resolved through the numbering definitions, whatever the style says; otherwise the level that names the
    paragraph's style as its `w:pStyle`; otherwise none -/
def c08x_numbering (env : REnv) (pPr : List XmlNode) : Except Err (Option NumLevel) :=
  match c08x_numPr pPr with
  | (some numId, some lvl) => findLevel env.numbering (c08x_fuel env) (some numId) lvl
  | _ =>
    match (c08x_style env pPr).1.1 with
    | some sid => .ok (findLevelByStyle env.numbering sid)
    | none => .ok none

theorem c08x_readNumberingProps (env : REnv) (pPr : List XmlNode) :
    readNumberingProps env (c08x_style env pPr).1.1 (findChildOrNull S!"w:numPr" pPr).2 = c08x_numbering env pPr := by
  unfold readNumberingProps c08x_numbering c08x_numPr
  rw [c11x_childrenOf_eq, c11x_childAttr, c11x_childAttr]
  cases (c11x_propVal S!"w:numId" (c11x_childrenOf S!"w:numPr" pPr)).join <;>
    cases (c11x_propVal S!"w:ilvl" (c11x_childrenOf S!"w:numPr" pPr)).join <;> rfl

/-! ### the reader on `w:p` -/

theorem c08x_handler_p : handlerOf S!"w:p" = some S!"paragraph" := by decide

/-- what `paragraph` builds from the result `r` of its children and the numbering `num` -/
def c08x_paraResult (env : REnv) (cs : List XmlNode) (r : ReadResult) (num : Option NumLevel) : ReadResult :=
  { elements := .paragraph { styleId := (c08x_style env (c08x_pPr cs)).1.1,
                             styleName := (c08x_style env (c08x_pPr cs)).1.2, numbering := num } r.elements
                :: r.extra,
    extra := [],
    messages := (c08x_style env (c08x_pPr cs)).2 ++ r.messages }

/-- the paragraph branch of the reader -/
theorem c08x_reader_paragraph (env : REnv) (f : Nat) (st : RState) (as : Attrs) (cs : List XmlNode) :
    readElem env (f+1) st (.elem S!"w:p" as cs) =
      if c08x_markDeleted cs = true then .ok ({}, { st with deleted := st.deleted ++ cs })
      else
        (readAllWith (readElem env f) { st with deleted := [] } (st.deleted ++ cs) >>= fun p =>
          c08x_numbering env (c08x_pPr cs) >>= fun num =>
          pure (c08x_paraResult env cs p.1 num, p.2)) := by
  rw [c05_readElem_handler _ _ _ _ _ .paragraph c08x_handler_p]
  unfold readHandler c08x_markDeleted c08x_pPr
  rw [← c08x_readNumberingProps]
  unfold c08x_paraResult c08x_style c08x_pPr
  simp only [← c09x_readStyle, ← c11x_childrenOf_eq, ← c11x_findChild]

/-- READING A PARAGRAPH whose mark is not deleted: if the children (preceded by whatever was deferred from deleted
    paragraphs) are read as `r` and the numbering specified by the `w:pPr` resolves to `num`, the result is ONE
    paragraph element with that style and numbering around the children's elements, followed by the extra elements
    (text boxes) of its content -/
theorem c08x_read_paragraph (env : REnv) (f : Nat) (st st1 : RState) (as : Attrs) (cs : List XmlNode)
    (r : ReadResult) (num : Option NumLevel)
    (hdel : c08x_markDeleted cs = false)
    (hcs : readAllWith (readElem env f) { st with deleted := [] } (st.deleted ++ cs) = .ok (r, st1))
    (hnum : c08x_numbering env (c08x_pPr cs) = .ok num) :
    readElem env (f+1) st (.elem S!"w:p" as cs) = .ok (c08x_paraResult env cs r num, st1) := by
  rw [c08x_reader_paragraph, hdel, hcs, hnum]
  rfl

end Mammoth
