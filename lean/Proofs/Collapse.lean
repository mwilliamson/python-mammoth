/-
  `addC` / `addAllC`: defining equations, `mergeable`, the induction principle `addAllC_induct`;
  separator-free forests (`noSep`) keep their text under `collapse`.
-/
import Proofs.HtmlText
import Proofs.Basics
namespace Mammoth

theorem getLast?_eq_some_append {α} (l : List α) (x : α) (h : l.getLast? = some x) : l = l.dropLast ++ [x] := by
  obtain ⟨ys, rfl⟩ := List.getLast?_eq_some_iff.mp h
  simp

/-! ### separators -/
mutual
def noSep : Node → Bool
  | .elem t cs => (sepText t).isEmpty && noSepL cs
  | _ => true
def noSepL : List Node → Bool
  | [] => true
  | c :: cs => noSep c && noSepL cs
end

theorem sepText_cases (t : Tag) : sepText t = [] ∨ ∃ s, s.isEmpty = false ∧ sepText t = [.text s] := by
  unfold sepText
  cases t.separator with
  | none => simp
  | some s =>
    cases h : s.isEmpty
    · exact .inr ⟨s, h, by simp [h]⟩
    · exact .inl (by simp [h])

theorem addC_text (acc : List Node) (s : Str) : addC acc (.text s) = acc ++ [.text s] := by simp [addC]
theorem addC_fw (acc : List Node) : addC acc .forceWrite = acc ++ [.forceWrite] := by simp [addC]

theorem addC_elem_merge (acc : List Node) (t lt : Tag) (cs lcs : List Node)
    (hl : acc.getLast? = some (.elem lt lcs)) (hc : t.collapsible = true) (hm : isMatch lt t = true) :
    addC acc (.elem t cs) = acc.dropLast ++ [.elem lt (addAllC (lcs ++ sepText t) cs)] := by
  simp [addC, hl, hc, hm]

theorem addC_snoc_merge (xs : List Node) (lt t : Tag) (lcs cs : List Node)
    (hc : t.collapsible = true) (hm : isMatch lt t = true) :
    addC (xs ++ [.elem lt lcs]) (.elem t cs) = xs ++ [.elem lt (addAllC (lcs ++ sepText t) cs)] := by
  rw [addC_elem_merge _ t lt cs lcs (by simp) hc hm, List.dropLast_concat]

theorem addC_elem_nomerge_cond (acc : List Node) (t lt : Tag) (cs lcs : List Node)
    (hl : acc.getLast? = some (.elem lt lcs)) (h : (t.collapsible && isMatch lt t) = false) :
    addC acc (.elem t cs) = acc ++ [.elem t cs] := by
  simp [addC, hl, h]

@[simp] theorem addAllC_nil (acc : List Node) : addAllC acc [] = acc := by simp [addAllC]
@[simp] theorem addAllC_cons (acc : List Node) (c : Node) (cs : List Node) :
    addAllC acc (c :: cs) = addAllC (addC acc c) cs := by simp [addAllC]

theorem addAllC_append (acc xs ys : List Node) : addAllC acc (xs ++ ys) = addAllC (addAllC acc xs) ys := by
  induction xs generalizing acc with
  | nil => simp
  | cons x xs ih => simp [ih]

/-- would `b` be merged into `a` if `a` were the last sibling? -/
def mergeable (a b : Node) : Bool :=
  match a, b with
  | .elem lt _, .elem t _ => t.collapsible && isMatch lt t
  | _, _ => false

theorem addC_of_not_mergeable (acc : List Node) (n : Node)
    (h : ∀ l, acc.getLast? = some l → mergeable l n = false) : addC acc n = acc ++ [n] := by
  match n with
  | .text s => exact addC_text acc s
  | .forceWrite => exact addC_fw acc
  | .elem t cs =>
    unfold addC
    split
    · rename_i lt lcs hl
      have := h _ hl
      simp only [mergeable] at this
      simp [this]
    · rfl

mutual
theorem addC_induct {M : List Node → List Node → List Node → Prop} (nil : ∀ acc, M acc [] acc)
    (push : ∀ acc n ns out, (∀ l, acc.getLast? = some l → mergeable l n = false) →
      M (acc ++ [n]) ns out → M acc (n :: ns) out)
    (merge : ∀ init lt lcs t cs ns out, t.collapsible = true → isMatch lt t = true →
      M (lcs ++ sepText t) cs (addAllC (lcs ++ sepText t) cs) →
      M (init ++ [.elem lt (addAllC (lcs ++ sepText t) cs)]) ns out →
      M (init ++ [.elem lt lcs]) (.elem t cs :: ns) out)
    (n : Node) (acc ns out : List Node) (h : M (addC acc n) ns out) : M acc (n :: ns) out := by
  by_cases hm : ∀ l, acc.getLast? = some l → mergeable l n = false
  · exact push acc n ns out hm (addC_of_not_mergeable acc n hm ▸ h)
  · simp only [Classical.not_forall, Bool.not_eq_false] at hm
    obtain ⟨l, hl, hml⟩ := hm
    match l, n with
    | .elem lt lcs, .elem t cs =>
      simp only [mergeable, Bool.and_eq_true] at hml
      rw [addC_elem_merge acc t lt cs lcs hl hml.1 hml.2] at h
      rw [getLast?_eq_some_append acc _ hl]
      exact merge _ lt lcs t cs ns out hml.1 hml.2 (addAllC_induct nil push merge (lcs ++ sepText t) cs) h
    | .text _, _ | .forceWrite, _ | .elem _ _, .text _ | .elem _ _, .forceWrite => simp [mergeable] at hml
theorem addAllC_induct {M : List Node → List Node → List Node → Prop} (nil : ∀ acc, M acc [] acc)
    (push : ∀ acc n ns out, (∀ l, acc.getLast? = some l → mergeable l n = false) →
      M (acc ++ [n]) ns out → M acc (n :: ns) out)
    (merge : ∀ init lt lcs t cs ns out, t.collapsible = true → isMatch lt t = true →
      M (lcs ++ sepText t) cs (addAllC (lcs ++ sepText t) cs) →
      M (init ++ [.elem lt (addAllC (lcs ++ sepText t) cs)]) ns out →
      M (init ++ [.elem lt lcs]) (.elem t cs :: ns) out)
    (acc ns : List Node) : M acc ns (addAllC acc ns) := by
  match ns with
  | [] => exact nil acc
  | c :: cs => exact addC_induct nil push merge c acc cs _ (addAllC_induct nil push merge (addC acc c) cs)
end

/-! ### text is preserved when no separator is involved -/
theorem text_addAllC (acc : List Node) (ns : List Node) (h : noSepL ns = true) :
    textOfL (addAllC acc ns) = textOfL acc ++ textOfL ns := by
  refine addAllC_induct (M := fun acc ns out => noSepL ns = true → textOfL out = textOfL acc ++ textOfL ns)
    (fun _ _ => by simp) ?_ ?_ acc ns h
  · intro acc n ns out _ ih h
    simp only [noSepL, Bool.and_eq_true] at h
    simpa using ih h.2
  · intro init lt lcs t cs ns out _ _ ihc ih h
    simp only [noSepL, noSep, Bool.and_eq_true, List.isEmpty_iff] at h
    rw [h.1.1, List.append_nil] at ihc ih
    simpa [ihc h.1.2] using ih h.2

theorem text_addC (acc : List Node) (n : Node) (h : noSep n = true) :
    textOfL (addC acc n) = textOfL acc ++ textOf n := by
  simpa using text_addAllC acc [n] (by simpa [noSepL] using h)

theorem noSepL_append (a b : List Node) : noSepL (a ++ b) = (noSepL a && noSepL b) :=
  andL_append rfl (fun _ _ => rfl) a b

theorem noSepL_addAllC (acc ns : List Node) (ha : noSepL acc = true) (h : noSepL ns = true) :
    noSepL (addAllC acc ns) = true := by
  refine addAllC_induct (M := fun acc ns out => noSepL acc = true → noSepL ns = true → noSepL out = true)
    (fun _ ha _ => ha) ?_ ?_ acc ns ha h
  · intro acc n ns out _ ih ha h
    simp only [noSepL, Bool.and_eq_true] at h
    exact ih (by simp [noSepL_append, noSepL, ha, h.1]) h.2
  · intro init lt lcs t cs ns out _ _ ihc ih ha h
    simp only [noSepL_append, noSepL, noSep, Bool.and_eq_true] at ha h
    have hmid := ihc (by simp [ha.2.1.2, List.isEmpty_iff.mp h.1.1]) h.1.2
    exact ih (by simp [noSepL_append, noSepL, noSep, ha.1, ha.2.1.1, hmid]) h.2

theorem noSepL_addC (acc : List Node) (n : Node) (ha : noSepL acc = true) (h : noSep n = true) :
    noSepL (addC acc n) = true :=
  noSepL_addAllC acc [n] ha (by simpa [noSepL] using h)

mutual
theorem noSep_collapseNode (n : Node) (h : noSep n = true) : noSep (collapseNode n) = true := by
  match n with
  | .text s => simp [collapseNode, noSep]
  | .forceWrite => simp [collapseNode, noSep]
  | .elem t cs =>
    have h' := h
    simp only [noSep, Bool.and_eq_true] at h'
    simp only [collapseNode, noSep, Bool.and_eq_true]
    exact ⟨h'.1, noSepL_collapseFrom [] cs (by simp [noSepL]) h'.2⟩
theorem noSepL_collapseFrom (acc ns : List Node) (ha : noSepL acc = true) (h : noSepL ns = true) :
    noSepL (collapseFrom acc ns) = true := by
  match ns with
  | [] => simpa [collapseFrom] using ha
  | c :: cs =>
    have h' := h
    simp only [noSepL, Bool.and_eq_true] at h'
    unfold collapseFrom
    exact noSepL_collapseFrom _ cs (noSepL_addC acc _ ha (noSep_collapseNode c h'.1)) h'.2
end

mutual
theorem text_collapseNode (n : Node) (h : noSep n = true) : textOf (collapseNode n) = textOf n := by
  match n with
  | .text s => simp [collapseNode]
  | .forceWrite => simp [collapseNode]
  | .elem t cs =>
    have h' := h
    simp only [noSep, Bool.and_eq_true] at h'
    simp only [collapseNode, textOf_elem]
    simpa using text_collapseFrom [] cs h'.2
theorem text_collapseFrom (acc ns : List Node) (h : noSepL ns = true) :
    textOfL (collapseFrom acc ns) = textOfL acc ++ textOfL ns := by
  match ns with
  | [] => simp [collapseFrom]
  | c :: cs =>
    have h' := h
    simp only [noSepL, Bool.and_eq_true] at h'
    unfold collapseFrom
    rw [text_collapseFrom _ cs h'.2, text_addC acc _ (noSep_collapseNode c h'.1), text_collapseNode c h'.1]
    simp [List.append_assoc]
end

theorem text_collapse (ns : List Node) (h : noSepL ns = true) : textOfL (collapse ns) = textOfL ns := by
  simpa [collapse] using text_collapseFrom [] ns h

end Mammoth
