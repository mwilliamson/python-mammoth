/-
  C10 — links, bookmarks, notes and comments stay connected.
-/
import Proofs.C10_Instr
import Proofs.C10_InstrRegex
import Proofs.C10_InstrRegexAgree
import Proofs.C10_InstrRegexShape
import Proofs.C10_Fields
import Proofs.C10_Convert
import Proofs.C10_GlobalMain
import Proofs.Eval
namespace Mammoth

/-! ### `replace_fragment` -/

/-- `replace_fragment(uri, f)` is the part of `uri` before its first `#`, then `#`, then `f`:
    an existing fragment (everything from the first `#`) is replaced, a URI without one gets `#f` appended. -/
theorem C10_replaceFragment (f : Str) :
    (∀ uri : Str, replaceFragment uri f = uri.takeWhile (· != '#') ++ S!"#" ++ f) ∧
    (∀ pre old : Str, '#' ∉ pre → replaceFragment (pre ++ '#' :: old) f = pre ++ '#' :: f) ∧
    (∀ uri : Str, '#' ∉ uri → replaceFragment uri f = uri ++ '#' :: f) :=
  ⟨fun _ => rfl, fun pre old h => by simp [replaceFragment, c10_takeWhile_stop '#' pre old h],
   fun uri h => by simp [replaceFragment, c10_takeWhile_all '#' uri h]⟩

/-! ### instruction text -/

/-- `\s*HYPERLINK\s+"url"…`: for any leading white space `w1`, any non-empty white space `w2`, any `url`
    without a `"` and ANY trailing text `rest` (further switches such as ` \o "tip"`), the external-link
    matcher returns exactly `url` — nothing after the closing quote leaks into it. -/
theorem C10_external_link_parse (w1 w2 url rest : Str) (h1 : c10_allWs w1 = true) (h2 : c10_allWs w2 = true)
    (hne : w2 ≠ []) (hq : '"' ∉ url) :
    matchExternalLink (w1 ++ S!"HYPERLINK" ++ w2 ++ ['"'] ++ url ++ ['"'] ++ rest) = some url :=
  c10_external w1 w2 url rest h1 h2 hne hq

/-- `\s*HYPERLINK\s+\l\s+"name"…` likewise yields exactly the bookmark `name`. -/
theorem C10_internal_link_parse (w1 w2 w3 name rest : Str) (h1 : c10_allWs w1 = true)
    (h2 : c10_allWs w2 = true) (hne2 : w2 ≠ []) (h3 : c10_allWs w3 = true) (hne3 : w3 ≠ [])
    (hq : '"' ∉ name) :
    matchInternalLink (w1 ++ S!"HYPERLINK" ++ w2 ++ S!"\\l" ++ w3 ++ ['"'] ++ name ++ ['"'] ++ rest)
      = some name :=
  c10_internal w1 w2 w3 name rest h1 h2 hne2 h3 hne3 hq

/-- An instruction whose first switch is `\l` is never read as an external link, whatever follows. -/
theorem C10_external_not_internal (w1 w2 rest : Str) (h1 : c10_allWs w1 = true) (h2 : c10_allWs w2 = true)
    (hne : w2 ≠ []) : matchExternalLink (w1 ++ S!"HYPERLINK" ++ w2 ++ S!"\\l" ++ rest) = none :=
  c10_external_none w1 w2 rest h1 h2 hne

/-- The parsed field: an external instruction gives a hyperlink field with `href = url` (no anchor),
    an internal one a hyperlink field with `anchor = name` (no href); the `fldChar` children play no role. -/
theorem C10_parseInstr_hyperlink (w1 w2 w3 s rest : Str) (cs : List XmlNode) (h1 : c10_allWs w1 = true)
    (h2 : c10_allWs w2 = true) (hne2 : w2 ≠ []) (h3 : c10_allWs w3 = true) (hne3 : w3 ≠ [])
    (hq : '"' ∉ s) :
    parseInstrText (w1 ++ S!"HYPERLINK" ++ w2 ++ ['"'] ++ s ++ ['"'] ++ rest) cs
      = .hyperlink { href := some s } ∧
    parseInstrText (w1 ++ S!"HYPERLINK" ++ w2 ++ S!"\\l" ++ w3 ++ ['"'] ++ s ++ ['"'] ++ rest) cs
      = .hyperlink { anchor := some s } := by
  constructor
  · simp only [parseInstrText, c10_external w1 w2 s rest h1 h2 hne2 hq]
  · have e : w1 ++ S!"HYPERLINK" ++ w2 ++ S!"\\l" ++ w3 ++ ['"'] ++ s ++ ['"'] ++ rest =
        w1 ++ S!"HYPERLINK" ++ w2 ++ S!"\\l" ++ (w3 ++ ['"'] ++ s ++ ['"'] ++ rest) := by
      simp only [List.append_assoc]
    have hx := c10_external_none w1 w2 (w3 ++ ['"'] ++ s ++ ['"'] ++ rest) h1 h2 hne2
    rw [← e] at hx
    simp only [parseInstrText, hx, c10_internal w1 w2 w3 s rest h1 h2 hne2 h3 hne3 hq]

/-! ### the complex-field state machine -/

/-- `begin` pushes a fresh `begin` field (remembering the `fldChar`'s children, for check boxes) and
    clears the instruction text; it emits nothing. -/
theorem C10_begin_pushes (st : RState) (as : Attrs) (cs : List XmlNode)
    (h : attr? S!"w:fldCharType" as = some S!"begin") :
    readFldChar st as cs = .ok ({}, { st with stack := .begin cs :: st.stack, instr := [] }) := by
  rw [c10_readFldChar_kind, c10_kind_begin as h]

/-- `separate` replaces the top of the stack by the field parsed from the instruction text collected so
    far (for a `begin` on top: `parseInstrText st.instr` with that `begin`'s children); the depth and the
    rest of the stack are unchanged, nothing is emitted. -/
theorem C10_separate_replaces_top (st : RState) (as : Attrs) (cs : List XmlNode) (top : Field)
    (rest : List Field) (h : attr? S!"w:fldCharType" as = some S!"separate") (hs : st.stack = top :: rest) :
    readFldChar st as cs = .ok ({}, { st with stack := parseCurrentInstr st top :: rest }) ∧
    (∀ cs0, top = .begin cs0 → parseCurrentInstr st top = parseInstrText st.instr cs0) := by
  constructor
  · rw [c10_readFldChar_kind, c10_kind_separate as h, hs]
  · intro cs0 e; subst e; rfl

/-- `end` pops the top of the stack (a field that never saw its `separate` is parsed now) and emits a
    check box iff that field is a check-box field; nothing else changes. -/
theorem C10_end_pops (st : RState) (as : Attrs) (cs : List XmlNode) (top : Field) (rest : List Field)
    (h : attr? S!"w:fldCharType" as = some S!"end") (hs : st.stack = top :: rest) :
    readFldChar st as cs = .ok (c10_endResult (c10_endField st top), { st with stack := rest }) := by
  rw [c10_readFldChar_kind, c10_kind_end as h, hs]

/-- `end` or `separate` on an empty stack is the IndexError of `list.pop()`. -/
theorem C10_pop_empty (st : RState) (as : Attrs) (cs : List XmlNode) (hs : st.stack = [])
    (h : attr? S!"w:fldCharType" as = some S!"end" ∨ attr? S!"w:fldCharType" as = some S!"separate") :
    readFldChar st as cs = .error (.index S!"pop from empty list") := by
  rcases h with h | h
  · rw [c10_readFldChar_kind, c10_kind_end as h, hs]
  · rw [c10_readFldChar_kind, c10_kind_separate as h, hs]

/-- The depth invariant.  `c10_run` feeds a sequence of `w:fldChar` / `w:instrText` events to the reader
    state; `c10_wellNested d evs` says that, starting at depth `d`, every `end` and every `separate`
    happens inside an open field.  Then no error arises, and the final depth is the initial depth plus
    the number of `begin`s minus the number of `end`s. -/
theorem C10_field_depth (evs : List c10_ev) (st : RState)
    (h : c10_wellNested st.stack.length evs = true) :
    ∃ st', c10_run st evs = .ok st' ∧
      st'.stack.length = st.stack.length + c10_begins evs - c10_ends evs ∧
      c10_ends evs ≤ st.stack.length + c10_begins evs := by
  obtain ⟨st', h1, h2⟩ := c10_run_ok evs st h
  exact ⟨st', h1, by omega, by omega⟩

/-- `c10_wellNested` is exactly the domain: otherwise the run ends in the IndexError (and in no other
    error). -/
theorem C10_field_underflow (evs : List c10_ev) (st : RState)
    (h : c10_wellNested st.stack.length evs = false) :
    c10_run st evs = .error (.index S!"pop from empty list") := c10_run_err evs st h

/-- in a well-nested sequence every prefix has at least as many `begin`s (plus the initial depth) as
    `end`s -/
theorem C10_wellNested_prefix : ∀ (evs : List c10_ev) (d n : Nat), c10_wellNested d evs = true →
    c10_ends (evs.take n) ≤ d + c10_begins (evs.take n) := by
  intro evs d n h
  have := c10_wellNested_take evs { stack := List.replicate d (.begin []) } n
  rw [List.length_replicate] at this
  exact this h

/-- the two event kinds of `c10_run` are what the reader does on `w:fldChar` and `w:instrText` -/
theorem C10_events_are_reader_steps (env : REnv) (f : Nat) (st : RState) (as : Attrs) (cs : List XmlNode) :
    readElem env (f+1) st (.elem S!"w:fldChar" as cs) = readFldChar st as cs ∧
    readElem env (f+1) st (.elem S!"w:instrText" as cs) =
      .ok ({}, { st with instr := st.instr ++ innerTextL cs }) :=
  ⟨c10_reader_fldChar env f st as cs, c10_reader_instr env f st as cs⟩

/-- `current_hyperlink_kwargs` is the top-most (innermost) hyperlink field of the stack.  So a hyperlink
    field stays in force under any fields opened after it that are not hyperlinks themselves (still
    `begin`, check box, unknown), a later hyperlink field shadows it, and without any hyperlink field
    there is no link. -/
theorem C10_currentHyperlink_spec (stack : List Field) :
    currentHyperlink stack = stack.findSome? c10_linkOf ∧
    (∀ pre rest kw, stack = pre ++ .hyperlink kw :: rest → pre.all (fun f => !c10_isHyperlink f) = true →
        currentHyperlink stack = some kw) ∧
    (stack.all (fun f => !c10_isHyperlink f) = true → currentHyperlink stack = none) := by
  refine ⟨?_, ?_, ?_⟩
  · induction stack with
    | nil => rfl
    | cons f rest ih => cases f <;> simp [currentHyperlink, c10_linkOf, List.findSome?, ih]
  · intro pre rest kw e h; subst e
    rw [c10_currentHyperlink_skip pre _ h]; rfl
  · intro h
    have := c10_currentHyperlink_skip stack [] h
    simpa [currentHyperlink] using this

/-- …and the link stops at its own `end`: once the hyperlink field on top is popped, the link in force
    is whatever the rest of the stack says. -/
theorem C10_hyperlink_stops_at_end (st : RState) (as : Attrs) (cs : List XmlNode) (kw : LinkProps)
    (rest : List Field) (h : attr? S!"w:fldCharType" as = some S!"end")
    (hs : st.stack = .hyperlink kw :: rest) :
    ∃ st', readFldChar st as cs = .ok ({}, st') ∧ currentHyperlink st'.stack = currentHyperlink rest := by
  refine ⟨{ st with stack := rest }, ?_, rfl⟩
  rw [C10_end_pops st as cs _ rest h hs]; rfl

/-! ### the reader: runs inside a field, `w:hyperlink`, `w:bookmarkStart` -/

/-- A run read while a hyperlink field is in force (after reading its own children) has its children
    wrapped in one hyperlink with that field's properties; otherwise they are left as they are. -/
theorem C10_reader_run_wrapped (env : REnv) (f : Nat) (st st1 : RState) (as : Attrs) (cs : List XmlNode)
    (r : ReadResult) (hr : readAllWith (readElem env f) st cs = .ok (r, st1)) :
    ∃ rr props, readElem env (f+1) st (.elem S!"w:r" as cs) = .ok (rr, st1) ∧
      rr.elements = [.run props (match currentHyperlink st1.stack with
                                  | none => r.elements
                                  | some kw => [.hyperlink kw r.elements])] := by
  refine ⟨c10_runResult env cs r st1, _, ?_, rfl⟩
  rw [c10_reader_run, hr]; rfl

/-- `w:hyperlink`: with `r:id`, the href is the relationship target, its fragment replaced by `w:anchor`
    when that is given; without `r:id` but with `w:anchor` it is an internal link to that anchor; with
    neither, the children are passed through unwrapped.  (`c10_hyperlinkResult` is that decision list.) -/
theorem C10_reader_hyperlink (env : REnv) (f : Nat) (st st1 : RState) (as : Attrs) (cs : List XmlNode)
    (r : ReadResult) (hr : readAllWith (readElem env f) st cs = .ok (r, st1)) :
    readElem env (f+1) st (.elem S!"w:hyperlink" as cs) = (c10_hyperlinkResult env as r).map (·, st1) := by
  have : readElem env (f+1) st (.elem S!"w:hyperlink" as cs) =
      (readAllWith (readElem env f) st cs >>= _) :=
    c05_readElem_handler env f st as cs .hyperlink (by decide)
  rw [this, hr]
  unfold c10_hyperlinkResult
  cases attr? S!"r:id" as with
  | none => cases attr? S!"w:anchor" as <;> rfl
  | some rid => simp only []; cases env.rels.targetById rid <;> rfl

/-- the relationship case of `C10_reader_hyperlink`, spelled out -/
theorem C10_reader_hyperlink_rel (env : REnv) (as : Attrs) (r : ReadResult) (rid target : Str)
    (h1 : attr? S!"r:id" as = some rid) (h2 : env.rels.targetById rid = .ok target) :
    (∀ a, attr? S!"w:anchor" as = some a →
      c10_hyperlinkResult env as r = .ok { r with elements :=
        [.hyperlink { href := some (replaceFragment target a), targetFrame := c10_tgtFrame as } r.elements] }) ∧
    (attr? S!"w:anchor" as = none →
      c10_hyperlinkResult env as r = .ok { r with elements :=
        [.hyperlink { href := some target, targetFrame := c10_tgtFrame as } r.elements] }) := by
  constructor
  · intro a ha; simp only [c10_hyperlinkResult, h1, h2, ha]
  · intro ha; simp only [c10_hyperlinkResult, h1, h2, ha]

/-- `w:bookmarkStart` yields one bookmark carrying its `w:name` (except Word's own `_GoBack`). -/
theorem C10_reader_bookmark (env : REnv) (f : Nat) (st : RState) (as : Attrs) (cs : List XmlNode)
    (h : attr? S!"w:name" as ≠ some S!"_GoBack") :
    readElem env (f+1) st (.elem S!"w:bookmarkStart" as cs) =
      .ok (rrElems [.bookmark (attr? S!"w:name" as)], st) := by
  rw [c05_readElem_handler env f st as cs .bookmarkStart (by decide)]
  exact if_neg (by simpa using h)

/-! ### the converter -/

/-- A hyperlink becomes one collapsible `a` around its converted children whose `href` attribute is
    `"#" ++ id_prefix ++ anchor` when an anchor is given and the href otherwise, and which has a `target`
    attribute iff a target frame is given (with that value). -/
theorem C10_hyperlink_href (cfg : Cfg) (hdr : Bool) (h : LinkProps) (cs : List Elem) (st st' : ConvState)
    (ns : List Node) (hv : (visitAll cfg hdr cs).run st = .ok (ns, st')) :
    (visit cfg hdr (.hyperlink h cs)).run st = .ok ([cel S!"a" (c10_linkAttrs cfg h) ns], st') ∧
    Dict.get? S!"href" (Dict.ofList (c10_linkAttrs cfg h)) =
      some (match h.anchor with
            | some a => S!"#" ++ cfg.idPrefix ++ a
            | none => pyOpt h.href) ∧
    Dict.get? S!"target" (Dict.ofList (c10_linkAttrs cfg h)) = h.targetFrame := by
  refine ⟨?_, ?_, (c10_linkAttrs_get cfg h).2⟩
  · rw [visit]
    simp only [run_bind, hv]
    rfl
  · rw [(c10_linkAttrs_get cfg h).1, c10_linkHref]
    cases h.anchor <;> simp [htmlId]

/-- A bookmark becomes one `a` whose id is `id_prefix ++ name` (a missing name is formatted as `None`, as
    `"{0}{1}".format` does); its only child is the force-write marker, so `strip_empty` keeps it
    (`hasContent`).  Nothing else happens. -/
theorem C10_bookmark_id (cfg : Cfg) (hdr : Bool) (name : Option Str) (st : ConvState) :
    (visit cfg hdr (.bookmark name)).run st =
      .ok ([cel S!"a" [(S!"id", cfg.idPrefix ++ pyOpt name)] [.forceWrite]], st) ∧
    Dict.get? S!"id" (Dict.ofList [(S!"id", cfg.idPrefix ++ pyOpt name)]) = some (cfg.idPrefix ++ pyOpt name) ∧
    hasContent (cel S!"a" [(S!"id", cfg.idPrefix ++ pyOpt name)] [.forceWrite]) = true := by
  refine ⟨?_, ?_, ?_⟩
  · rw [visit]
    rfl
  · simp [Dict.get?_ofList, lookupLast]
  · simp [cel, hasContent, anyContent]

/-- Visiting a note reference in state `st` emits `<sup><a href="#referent" id="reference">[k]</a></sup>`
    with `k = (number of references visited before) + 1`, and appends `(type, id)` to the list of
    references — nothing else.  So the k-th reference visited is labelled `[k]` and is the k-th entry. -/
theorem C10_note_numbering (cfg : Cfg) (hdr : Bool) (ty id : Str) (st : ConvState) :
    (visit cfg hdr (.noteRef ty id)).run st =
      .ok ([el S!"sup" [] [el S!"a" [(S!"href", S!"#" ++ referentId cfg ty id), (S!"id", referenceId cfg ty id)]
              [.text (S!"[" ++ natToStr (st.noteRefs.length + 1) ++ S!"]")]]],
           { st with noteRefs := st.noteRefs ++ [(ty, id)] }) :=
  c01_visit_noteRef cfg hdr st ty id

/-- A note becomes one `li` whose id is the referent id and whose last child is the back-link paragraph
    ` ↑` pointing at `"#" ++` the reference id. -/
theorem C10_note_item (cfg : Cfg) (n : Note) (st st' : ConvState) (body : List Node)
    (hv : (visitAll cfg false n.body).run st = .ok (body, st')) :
    (visitNote cfg n).run st =
      .ok ([el S!"li" [(S!"id", referentId cfg n.ty n.id)]
              (body ++ [cel S!"p" [] [.text S!" ", el S!"a" [(S!"href", S!"#" ++ referenceId cfg n.ty n.id)]
                                        [.text upArrow]]])], st') := by
  unfold visitNote
  simp only [run_bind, hv]
  rfl

/-- Reference and note point at each other: read back from the attribute dictionaries of
    `C10_note_numbering` and `C10_note_item`, the reference's href is `#` + the id of the note's `li`, and
    the back-link's href is `#` + the id of the reference's `a`. -/
theorem C10_note_roundtrip (cfg : Cfg) (ty id : Str) :
    let refAttrs := Dict.ofList [(S!"href", S!"#" ++ referentId cfg ty id), (S!"id", referenceId cfg ty id)]
    let liAttrs := Dict.ofList [(S!"id", referentId cfg ty id)]
    let backAttrs := Dict.ofList [(S!"href", S!"#" ++ referenceId cfg ty id)]
    Dict.get? S!"href" refAttrs = (Dict.get? S!"id" liAttrs).map (S!"#" ++ ·) ∧
    Dict.get? S!"href" backAttrs = (Dict.get? S!"id" refAttrs).map (S!"#" ++ ·) := by
  simp [Dict.get?_ofList, lookupLast]

/-- Comment references (when a `comment-reference` style is mapped to elements `es`): the k-th one
    visited is labelled `[` initials k `]`, links to the comment's referent id, carries the reference id,
    and records `(label, comment)` — the list later rendered by `visit_comment`. -/
theorem C10_comment_numbering (cfg : Cfg) (hdr : Bool) (id : Str) (es : List Tag) (c : Comment)
    (st : ConvState) (hp : findPath cfg .commentReference = some (.elements es))
    (hc : lookupLast id (cfg.comments.map fun c => (c.id, c)) = some c) :
    (visit cfg hdr (.commentRef id)).run st =
      .ok (wrapElems es [el S!"a" [(S!"href", S!"#" ++ referentId cfg S!"comment" id),
                                    (S!"id", referenceId cfg S!"comment" id)]
              [.text (S!"[" ++ commentAuthorLabel c ++ natToStr (st.refComments.length + 1) ++ S!"]")]],
           { st with refComments := st.refComments ++
              [(S!"[" ++ commentAuthorLabel c ++ natToStr (st.refComments.length + 1) ++ S!"]", c)] }) := by
  rw [visit]
  simp only [hp, hc, run_bind, run_get, run_modify, run_pure]

/-- A referenced comment becomes a `dt` whose id is the comment's referent id (what the reference links
    to, since the looked-up comment has the referenced id: `c10_lookup_key`) and a `dd` ending in the
    back-link to the reference id. -/
theorem C10_comment_item (cfg : Cfg) (lc : Str × Comment) (st st' : ConvState) (body : List Node)
    (hv : (visitAll cfg false lc.2.body).run st = .ok (body, st')) :
    (visitComment cfg lc).run st =
      .ok ([el S!"dt" [(S!"id", referentId cfg S!"comment" lc.2.id)] [.text (S!"Comment " ++ lc.1)],
            el S!"dd" [] (body ++ [backLink (S!"#" ++ referenceId cfg S!"comment" lc.2.id)])], st') := by
  unfold visitComment
  simp only [run_bind, hv]
  rfl

/-- the comment found for a reference has the referenced id, so the `dt` id equals the reference's href
    target -/
theorem C10_comment_connected (cfg : Cfg) (id : Str) (c : Comment)
    (hc : lookupLast id (cfg.comments.map fun c => (c.id, c)) = some c) :
    S!"#" ++ referentId cfg S!"comment" c.id = S!"#" ++ referentId cfg S!"comment" id := by
  rw [c10_lookup_key (fun c : Comment => c.id) id cfg.comments c hc]

/-- every id the converter generates starts with `id_prefix` -/
theorem C10_ids_prefixed (cfg : Cfg) (s ty id : Str) :
    cfg.idPrefix <+: htmlId cfg s ∧ cfg.idPrefix <+: referentId cfg ty id ∧
    cfg.idPrefix <+: referenceId cfg ty id :=
  ⟨⟨s, rfl⟩, ⟨_, rfl⟩, ⟨_, rfl⟩⟩

/-- the referent and reference ids, spelled out: functions of `id_prefix`, the type and the id only -/
theorem C10_ids_functional (cfg : Cfg) (ty id : Str) :
    referentId cfg ty id = cfg.idPrefix ++ ty ++ S!"-" ++ id ∧
    referenceId cfg ty id = cfg.idPrefix ++ ty ++ S!"-ref-" ++ id := by
  simp [referentId, referenceId, htmlId]

/-- `visit_document`: body, then one `ol` with the notes, then one `dl` with the comments; the notes are
    the references collected while visiting the body, resolved IN THAT ORDER, and the `li` items come out
    in the same order with the ids the references link to: the k-th `li` has id
    `referentId` of the k-th entry of `noteRefs`, i.e. of the reference labelled `[k]`. -/
theorem C10_noteRefs_order (cfg : Cfg) (d : Document) (st st1 st2 st3 : ConvState)
    (nodes noteNodes commentNodes : List Node) (notes : List Note)
    (h1 : (visitAll cfg false d.children).run st = .ok (nodes, st1))
    (h2 : st1.noteRefs.mapM (resolveNote d.notes) = .ok notes)
    (h3 : (mapMConcat (visitNote cfg) notes).run st1 = .ok (noteNodes, st2))
    (h4 : (mapMConcat (visitComment cfg) st2.refComments).run st2 = .ok (commentNodes, st3)) :
    (visitDocument cfg d).run st =
      .ok (nodes ++ [el S!"ol" [] noteNodes, el S!"dl" [] commentNodes], st3) ∧
    notes.map (fun n => (n.ty, n.id)) = st1.noteRefs ∧
    noteNodes.map c10_nodeId = st1.noteRefs.map (fun r => some (referentId cfg r.1 r.2)) := by
  have e2 := c10_resolve_all d.notes _ _ h2
  refine ⟨?_, e2, ?_⟩
  · unfold visitDocument
    simp only [run_bind, h1, c10_run_get, h2, run_pure, h3, h4]
  · rw [c10_noteItems_ids cfg notes st1 st2 noteNodes h3, ← e2, List.map_map]
    rfl

/-- hence the href of every note reference met in the body resolves: it is `#` + the id of one of the
    `li` items of the notes list -/
theorem C10_note_href_resolves (cfg : Cfg) (d : Document) (st st1 st2 st3 : ConvState)
    (nodes noteNodes commentNodes : List Node) (notes : List Note)
    (h1 : (visitAll cfg false d.children).run st = .ok (nodes, st1))
    (h2 : st1.noteRefs.mapM (resolveNote d.notes) = .ok notes)
    (h3 : (mapMConcat (visitNote cfg) notes).run st1 = .ok (noteNodes, st2))
    (h4 : (mapMConcat (visitComment cfg) st2.refComments).run st2 = .ok (commentNodes, st3))
    (ty id : Str) (hr : (ty, id) ∈ st1.noteRefs) :
    ∃ li ∈ noteNodes, c10_nodeId li = some (referentId cfg ty id) := by
  have h := (C10_noteRefs_order cfg d st st1 st2 st3 nodes noteNodes commentNodes notes h1 h2 h3 h4).2.2
  have hm : some (referentId cfg ty id) ∈ noteNodes.map c10_nodeId := by
    rw [h]; exact List.mem_map.mpr ⟨(ty, id), hr, rfl⟩
  exact List.mem_map.mp hm

/-- a reference whose note is missing is the KeyError of `Notes.resolve` (nothing is output) -/
theorem C10_missing_note (cfg : Cfg) (d : Document) (st st1 : ConvState) (nodes : List Node) (e : Err)
    (h1 : (visitAll cfg false d.children).run st = .ok (nodes, st1))
    (h2 : st1.noteRefs.mapM (resolveNote d.notes) = .error e) :
    (visitDocument cfg d).run st = .error e := by
  unfold visitDocument
  simp only [run_bind, h1, run_get, h2, run_throw]

/-! ### non-vacuity -/

example : matchExternalLink S!" HYPERLINK \"http://example.com/a\" \\o \"tip\" " = some S!"http://example.com/a" := by
  decide +kernel
example : matchInternalLink S!" HYPERLINK \\l \"_Toc1\" \\h" = some S!"_Toc1" := by decide +kernel
example : matchExternalLink S!" HYPERLINK \\l \"_Toc1\" \\h" = none := by decide +kernel
example : c10_allWs S!" \t" = true ∧ S!" " ≠ [] ∧ '"' ∉ S!"http://x" := by decide +kernel
example : replaceFragment S!"http://x/y#old" S!"new" = S!"http://x/y#new" := by decide +kernel
example : replaceFragment S!"http://x/y" S!"new" = S!"http://x/y#new" := by decide +kernel

private def c10_exBegin : c10_ev := .fld [(S!"w:fldCharType", S!"begin")] []
private def c10_exSep : c10_ev := .fld [(S!"w:fldCharType", S!"separate")] []
private def c10_exEnd : c10_ev := .fld [(S!"w:fldCharType", S!"end")] []
/-- a hyperlink field, and nested in its result a PAGE field: well nested -/
private def c10_exEvents : List c10_ev :=
  [c10_exBegin, .instr S!" HYPERLINK \"http://x\" ", c10_exSep, c10_exBegin, .instr S!" PAGE ", c10_exSep]
example : c10_wellNested 0 (c10_exEvents ++ [c10_exEnd, c10_exEnd]) = true := by decide +kernel
example : c10_wellNested 0 [c10_exBegin, c10_exEnd, c10_exEnd] = false := by decide +kernel
/-- inside the nested PAGE field the link is still in force … -/
example : (c10_run {} c10_exEvents).map (fun s => currentHyperlink s.stack)
    = .ok (some { href := some S!"http://x" }) := by decide +kernel
/-- … after the inner `end` too, and after the outer `end` it is gone -/
example : (c10_run {} (c10_exEvents ++ [c10_exEnd])).map (fun s => currentHyperlink s.stack)
    = .ok (some { href := some S!"http://x" }) := by decide +kernel
example : (c10_run {} (c10_exEvents ++ [c10_exEnd, c10_exEnd])).map (fun s => currentHyperlink s.stack)
    = .ok none := by decide +kernel

private def c10_exCfg : Cfg := { idPrefix := S!"doc-" }
example : (visit c10_exCfg false (.noteRef S!"footnote" S!"4")).run { noteRefs := [(S!"endnote", S!"2")] } =
    .ok ([el S!"sup" [] [el S!"a" [(S!"href", S!"#doc-footnote-4"), (S!"id", S!"doc-footnote-ref-4")]
            [.text S!"[2]"]]],
         { noteRefs := [(S!"endnote", S!"2"), (S!"footnote", S!"4")] }) := by
  rw [C10_note_numbering]; rfl
example : Dict.get? S!"href" (Dict.ofList (c10_linkAttrs c10_exCfg { anchor := some S!"bm", targetFrame := some S!"_blank" }))
    = some S!"#doc-bm" := by decide +kernel

/-! ### GLOBAL statements: the whole output forest of a whole document

  Vocabulary (all defined in `Proofs/C10_Global*.lean`):
  * `idsOf ns`, `hrefsOf ns`: all values of the attribute `id` / `href` in the forest `ns`, in document
    order; `anchorsOf ns`: the elements carrying both, as (id, href, text).
  * `c10_cleanCfg cfg`: no HTML path of the style map and no attribute returned by the image converter is
    called `id` or `href` (decidable; true of the default style map).  Without it the user's own style map
    (`p => p[id='x']`) writes ids the converter knows nothing about (example below).
  * `c10_outEvents cfg d`: the EVENTS of the output, a function of the input document only — bookmarks,
    hyperlinks, note references and (enabled) comment references in reading order (nothing below an
    ignored paragraph/run/table), first of the body, then for every note the body references its item
    (`li`), the events of its body and its back-link, then likewise for every comment referenced from the
    body or from a rendered note.  `c10_evId` / `c10_evHref` say which id / href each event writes. -/

/-- (1) CHARACTERISATION.  Under a clean configuration, if the conversion succeeds, the ids and the hrefs of the
    output forest are exactly — same values, same order, same multiplicity — the ones the events of the
    document prescribe, and the note references recorded are the note-reference events. -/
theorem C10_output_ids_hrefs (cfg : Cfg) (d : Document) (r : ConvResult) (hc : c10_cleanCfg cfg = true)
    (h : convertDoc cfg d = .ok r) :
    idsOf r.nodes = (c10_outEvents cfg d).flatMap (c10_evId cfg) ∧
    hrefsOf r.nodes = (c10_outEvents cfg d).flatMap (c10_evHref cfg) ∧
    r.noteRefs = c10_evRefs (c10_outEvents cfg d) := by
  obtain ⟨e1, e2, _, _, e5, _⟩ := c10_convertDoc_events cfg hc d r h
  exact ⟨e1, e2, e5⟩

/-- (2) Under a clean configuration EVERY id of the output forest starts with `id_prefix`, for every
    document whose conversion succeeds. -/
theorem C10_all_ids_prefixed (cfg : Cfg) (d : Document) (r : ConvResult) (hc : c10_cleanCfg cfg = true)
    (h : convertDoc cfg d = .ok r) : ∀ x ∈ idsOf r.nodes, cfg.idPrefix <+: x := by
  rw [(c10_convertDoc_events cfg hc d r h).1]
  exact c10_evIds_prefixed cfg _

/-- (3) Under a clean configuration, when the conversion succeeds (so every note reference of the body
    resolved) and the rendered note and comment bodies reference only notes that the body references too
    and the rendered comment bodies only comments referenced from the body or a rendered note
    (`c10_refsClosed`; in particular when those bodies contain no references at all, `c10_bodiesPlain`):
    the href of every note reference, note back-link, comment reference and comment back-link is `#x` with
    `x` an id of the output; consequently every href of the output is either the href of one of the
    document's hyperlinks or such a resolving `#x`. -/
theorem C10_all_generated_hrefs_resolve (cfg : Cfg) (d : Document) (r : ConvResult)
    (hc : c10_cleanCfg cfg = true) (h : convertDoc cfg d = .ok r)
    (hcl : c10_refsClosed (c10_docCfg cfg d) d = true) :
    (∀ ev ∈ c10_outEvents cfg d, c10_isLink ev = false → ∀ hr ∈ c10_evHref cfg ev,
        ∃ x, hr = '#' :: x ∧ x ∈ idsOf r.nodes) ∧
    (∀ hr ∈ hrefsOf r.nodes,
        (∃ l, c10_Ev.link l ∈ c10_outEvents cfg d ∧ hr = c10_linkHref cfg l) ∨
        ∃ x, hr = '#' :: x ∧ x ∈ idsOf r.nodes) := by
  have ok := c10_DocOK_of_convert cfg hc d r h
  obtain ⟨e1, e2, _⟩ := c10_convertDoc_events cfg hc d r h
  have key : ∀ ev ∈ c10_outEvents cfg d, c10_isLink ev = false → ∀ hr ∈ c10_evHref cfg ev,
      ∃ x, hr = '#' :: x ∧ x ∈ idsOf r.nodes := by
    intro ev hev hl hr hhr
    rw [e1]
    exact c10_hrefs_resolve (c10_docCfg cfg d) d ok hcl ev hev hl hr hhr
  refine ⟨key, ?_⟩
  intro hr hhr
  rw [e2] at hhr
  obtain ⟨ev, hev, hm⟩ := List.mem_flatMap.mp hhr
  cases ev with
  | link l => exact Or.inl ⟨l, hev, by simpa [c10_evHref] using hm⟩
  | _ => exact Or.inr (key _ hev rfl hr hm)

/-- (3), exact form.  When the visited reference keys are distinct and well formed and no bookmark is named
    `type-id` for a visited reference key (`c10_noClash`: then an href can only resolve to the item it means),
    the hypothesis of (3) is NECESSARY as well: all generated hrefs resolve iff `c10_refsClosed`. -/
theorem C10_generated_hrefs_resolve_iff (cfg : Cfg) (d : Document) (r : ConvResult)
    (hc : c10_cleanCfg cfg = true) (h : convertDoc cfg d = .ok r)
    (hcl : c10_noClash (c10_outEvents cfg d) = true) :
    (∀ ev ∈ c10_outEvents cfg d, c10_isLink ev = false → ∀ hr ∈ c10_evHref cfg ev,
        ∃ x, hr = '#' :: x ∧ x ∈ idsOf r.nodes) ↔ c10_refsClosed (c10_docCfg cfg d) d = true := by
  constructor
  · intro hres
    apply c10_closed_necessary (c10_docCfg cfg d) d (c10_DocOK_of_convert cfg hc d r h) hcl
    rw [(c10_convertDoc_events cfg hc d r h).1] at hres
    exact hres
  · intro hc'
    exact (C10_all_generated_hrefs_resolve cfg d r hc h hc').1

/-- the simple form of the hypothesis of (3) implies it -/
theorem C10_bodiesPlain_closed (cfg : Cfg) (d : Document) (h : c10_bodiesPlain cfg d = true) :
    c10_refsClosed cfg d = true := by
  simp only [c10_bodiesPlain, Bool.and_eq_true, List.isEmpty_iff] at h
  simp [c10_refsClosed, h.1, h.2]

/-- Back-links need no hypothesis on the bodies: the back-link of every rendered note or comment points at
    the id of a reference anchor of the output. -/
theorem C10_backlinks_resolve (cfg : Cfg) (d : Document) (r : ConvResult) (hc : c10_cleanCfg cfg = true)
    (h : convertDoc cfg d = .ok r) (ty id : Str) (hev : c10_Ev.back ty id ∈ c10_outEvents cfg d) :
    referenceId cfg ty id ∈ idsOf r.nodes := by
  rw [(c10_convertDoc_events cfg hc d r h).1]
  exact c10_backlinks_resolve (c10_docCfg cfg d) d (c10_DocOK_of_convert cfg hc d r h) ty id hev

/-- (3b) Internal hyperlinks.  A hyperlink with anchor `a` has href `#` + `id_prefix` + `a`
    (`C10_hyperlink_href`).  That target is an id of the output iff `a` is the name of a visited bookmark
    or one of the suffixes the converter generates itself (`type-ref-id` of a visited reference, `type-id`
    of a rendered note/comment); so, for an anchor that is not of a generated form, the link resolves iff a
    bookmark of that name is visited (in the body, a rendered note or a rendered comment). -/
theorem C10_internal_link_resolves_iff_bookmark (cfg : Cfg) (d : Document) (r : ConvResult)
    (hc : c10_cleanCfg cfg = true) (h : convertDoc cfg d = .ok r) (a : Str) :
    (cfg.idPrefix ++ a ∈ idsOf r.nodes ↔
      a ∈ c10_evBookmarks (c10_outEvents cfg d) ∨ a ∈ c10_generated (c10_outEvents cfg d)) ∧
    ((c10_generated (c10_outEvents cfg d)).contains a = false →
      (cfg.idPrefix ++ a ∈ idsOf r.nodes ↔ c10_Ev.bookmark a ∈ c10_outEvents cfg d)) := by
  have e : cfg.idPrefix ++ a ∈ idsOf r.nodes ↔
      a ∈ c10_evBookmarks (c10_outEvents cfg d) ∨ a ∈ c10_generated (c10_outEvents cfg d) := by
    rw [(c10_convertDoc_events cfg hc d r h).1, c10_internal_target, c10_generated, List.mem_append]
    rfl
  refine ⟨e, ?_⟩
  intro hg
  rw [e, c10_mem_evBookmarks]
  have : a ∉ c10_generated (c10_outEvents cfg d) := by
    intro hm
    rw [← List.contains_iff_mem, hg] at hm
    cases hm
  constructor
  · intro h'; exact h'.elim (fun x => x) (fun x => absurd x this)
  · intro h'; exact Or.inl h'

/-- (4) Uniqueness.  Under a clean configuration the ids of the output are pairwise distinct as soon as
    (`c10_uniqueHyp`, a decidable condition on the events of the document):
    no two visited references have the same key — note references keyed (type, id), comment references
    ("comment", id), counting the references inside rendered note and comment bodies —; every key is well
    formed: the type contains no `-` and the id does not start with `ref-` (`c10_keyOK`; this is exactly
    what makes `type-ref-id` and `type-id` injective and disjoint); bookmark names are pairwise distinct;
    and no bookmark is named like a generated id (`c10_generated`). -/
theorem C10_ids_unique (cfg : Cfg) (d : Document) (r : ConvResult) (hc : c10_cleanCfg cfg = true)
    (h : convertDoc cfg d = .ok r) (hu : c10_uniqueHyp (c10_outEvents cfg d) = true) :
    (idsOf r.nodes).Nodup := by
  rw [(c10_convertDoc_events cfg hc d r h).1]
  exact c10_ids_nodup (c10_docCfg cfg d) d (c10_DocOK_of_convert cfg hc d r h) hu

/-- (4) in the vocabulary of the docx reader (note types are `footnote` / `endnote`): the ids are pairwise
    distinct when the list of (type, id) note references visited has no duplicates, the list of comment
    references visited has no duplicates, no note or comment id starts with `ref-`, bookmark names are pairwise
    distinct and no bookmark is named like a generated id (`c10_uniqueHypSimple`). -/
theorem C10_ids_unique_reader (cfg : Cfg) (d : Document) (r : ConvResult) (hc : c10_cleanCfg cfg = true)
    (h : convertDoc cfg d = .ok r) (hu : c10_uniqueHypSimple (c10_outEvents cfg d) = true) :
    (idsOf r.nodes).Nodup :=
  C10_ids_unique cfg d r hc h (c10_uniqueHypSimple_imp _ hu)

/-- (4), exact form: the ids are pairwise distinct iff the id suffixes (bookmark names, `type-ref-id`,
    `type-id`) prescribed by the events are. -/
theorem C10_ids_unique_iff (cfg : Cfg) (d : Document) (r : ConvResult) (hc : c10_cleanCfg cfg = true)
    (h : convertDoc cfg d = .ok r) :
    (idsOf r.nodes).Nodup ↔ (c10_evSuffixes (c10_outEvents cfg d)).Nodup := by
  rw [(c10_convertDoc_events cfg hc d r h).1, c10_evIds_eq, c10_nodup_map_prefix]
  rfl

/-- (5a) `strip_empty` and `collapse` on ANY forest: no value of any attribute is invented (the values after
    are a sub-list of the values before); `collapse` keeps every value of every attribute and only drops
    repeated occurrences (when it merges two adjacent elements with equal attributes); `strip_empty` keeps
    all ids when every element with an id has content; so pairwise distinct ids survive exactly. -/
theorem C10_strip_collapse_attrs (k : Str) (ns : List Node) :
    (valsOfL k (collapse (stripEmpty ns))).Sublist (valsOfL k ns) ∧
    ((valsOfL k (collapse ns)).Sublist (valsOfL k ns) ∧ ∀ x ∈ valsOfL k ns, x ∈ valsOfL k (collapse ns)) ∧
    (c10_idContentL ns = true → idsOf (stripEmpty ns) = idsOf ns) ∧
    (c10_idContentL ns = true → (idsOf ns).Nodup → idsOf (collapse (stripEmpty ns)) = idsOf ns) :=
  ⟨c10_render_vals k ns, c10_collapse_sq k ns, c10_ids_stripEmpty ns, c10_render_ids_nodup ns⟩

/-- (5b) The rendered forest `collapse (strip_empty nodes)` of a successful conversion under a clean
    configuration has exactly the same set of ids (in the same order, repeated ones possibly fewer; the very
    same list when they are distinct) — notes, comments, reference anchors and bookmarks all have content —
    and its hrefs are a sub-list of the hrefs before. -/
theorem C10_ids_survive_render (cfg : Cfg) (d : Document) (r : ConvResult) (hc : c10_cleanCfg cfg = true)
    (h : convertDoc cfg d = .ok r) :
    (∀ x, x ∈ idsOf (collapse (stripEmpty r.nodes)) ↔ x ∈ idsOf r.nodes) ∧
    (idsOf (collapse (stripEmpty r.nodes))).Sublist (idsOf r.nodes) ∧
    (hrefsOf (collapse (stripEmpty r.nodes))).Sublist (hrefsOf r.nodes) ∧
    ((idsOf r.nodes).Nodup → idsOf (collapse (stripEmpty r.nodes)) = idsOf r.nodes) := by
  have hi := (c10_convertDoc_events cfg hc d r h).2.2.2.1
  have hs := c10_render_ids r.nodes hi
  exact ⟨fun x => ⟨fun hx => hs.1.subset hx, hs.2 x⟩, hs.1, c10_render_vals S!"href" r.nodes,
    c10_render_ids_nodup r.nodes hi⟩

/-- (5c) Hence (3) and (4) hold for the rendered forest: under the hypothesis of (3) every href of
    `collapse (strip_empty nodes)` is a hyperlink's href or `#x` with `x` an id of the rendered forest; under
    the hypothesis of (4) the ids of the rendered forest are the ids before, pairwise distinct. -/
theorem C10_rendered_hrefs_resolve_ids_unique (cfg : Cfg) (d : Document) (r : ConvResult)
    (hc : c10_cleanCfg cfg = true) (h : convertDoc cfg d = .ok r) :
    (c10_refsClosed (c10_docCfg cfg d) d = true →
      ∀ hr ∈ hrefsOf (collapse (stripEmpty r.nodes)),
        (∃ l, c10_Ev.link l ∈ c10_outEvents cfg d ∧ hr = c10_linkHref cfg l) ∨
        ∃ x, hr = '#' :: x ∧ x ∈ idsOf (collapse (stripEmpty r.nodes))) ∧
    (c10_uniqueHyp (c10_outEvents cfg d) = true →
      idsOf (collapse (stripEmpty r.nodes)) = idsOf r.nodes ∧ (idsOf (collapse (stripEmpty r.nodes))).Nodup) := by
  obtain ⟨s1, _, s3, s4⟩ := C10_ids_survive_render cfg d r hc h
  constructor
  · intro hcl hr hhr
    rcases (C10_all_generated_hrefs_resolve cfg d r hc h hcl).2 hr (s3.subset hhr) with hl | ⟨x, e, hx⟩
    · exact Or.inl hl
    · exact Or.inr ⟨x, e, (s1 x).mpr hx⟩
  · intro hu
    have hn := C10_ids_unique cfg d r hc h hu
    exact ⟨s4 hn, s4 hn ▸ hn⟩

/-- (6) Labels, when no comment reference is rendered (no `comment-reference` mapping — the default — or no
    comment reference visited).  The anchors of the output (elements with id and href) are the note
    references in reading order: their texts are `[1]`, `[2]`, …, `[n]` (n the number of references
    visited), their hrefs `#` + the referent id and their ids the reference id of the 1st, 2nd, … reference;
    the output ends with the `ol` of the notes and the `dl` of the comments, and the i-th `li` of the `ol`
    has the referent id of the i-th reference, i.e. the id the i-th anchor's href names (the `li`s are those
    of the references of the body: as many as all references when note bodies contain none). -/
theorem C10_labels_in_order (cfg : Cfg) (d : Document) (r : ConvResult) (hc : c10_cleanCfg cfg = true)
    (h : convertDoc cfg d = .ok r) (hnc : (c10_evCRefs (c10_outEvents cfg d)).isEmpty = true) :
    (anchorsOf r.nodes).map (·.2.2) = (List.range' 1 r.noteRefs.length).map c10_label ∧
    (anchorsOf r.nodes).map (·.2.1) = r.noteRefs.map (fun ref => S!"#" ++ referentId cfg ref.1 ref.2) ∧
    (anchorsOf r.nodes).map (·.1) = r.noteRefs.map (fun ref => referenceId cfg ref.1 ref.2) ∧
    ∃ body items cnodes, r.nodes = body ++ [el S!"ol" [] items, el S!"dl" [] cnodes] ∧
      items.length ≤ r.noteRefs.length ∧
      items.map c10_nodeId = (r.noteRefs.take items.length).map (fun ref => some (referentId cfg ref.1 ref.2)) :=
  c10_labels cfg hc d r h hnc

/-- (6), general form (comment references enabled): the anchors are, in reading order, those of the note
    and comment reference events; the k-th note reference visited is labelled `[k]` and the k-th comment
    reference `[` initials k `]`, each kind with its own counter (`c10_evAnchors`). -/
theorem C10_labels_interleaved (cfg : Cfg) (d : Document) (r : ConvResult) (hc : c10_cleanCfg cfg = true)
    (h : convertDoc cfg d = .ok r) :
    anchorsOf r.nodes = c10_evAnchors (c10_docCfg cfg d) 0 0 (c10_outEvents cfg d) :=
  (c10_convertDoc_events cfg hc d r h).2.2.1

/-! #### non-vacuity and necessity of the hypotheses -/

private def c10_gCfg : Cfg := { idPrefix := S!"doc-" }
private def c10_gT (s : Str) : Elem := .run {} [.text s]
/-- two paragraphs: a bookmark, a footnote reference; an internal link to the bookmark, an endnote reference -/
private def c10_gDoc : Document :=
  { children := [
      .paragraph {} [.bookmark (some S!"top"), c10_gT S!"Hello", .noteRef S!"footnote" S!"1"],
      .paragraph {} [.hyperlink { anchor := some S!"top" } [c10_gT S!"up"], .noteRef S!"endnote" S!"1"]],
    notes := [{ ty := S!"footnote", id := S!"1", body := [.paragraph {} [c10_gT S!"fn"]] },
              { ty := S!"endnote", id := S!"1", body := [.paragraph {} [c10_gT S!"en"]] }] }

/-- the example satisfies every hypothesis used above -/
example : c10_cleanCfg c10_gCfg = true ∧ (∃ r, convertDoc c10_gCfg c10_gDoc = .ok r) ∧
    c10_refsClosed (c10_docCfg c10_gCfg c10_gDoc) c10_gDoc = true ∧
    c10_bodiesPlain (c10_docCfg c10_gCfg c10_gDoc) c10_gDoc = true ∧
    c10_uniqueHyp (c10_outEvents c10_gCfg c10_gDoc) = true ∧
    c10_uniqueHypSimple (c10_outEvents c10_gCfg c10_gDoc) = true ∧
    c10_noClash (c10_outEvents c10_gCfg c10_gDoc) = true ∧
    (c10_evCRefs (c10_outEvents c10_gCfg c10_gDoc)).isEmpty = true ∧
    (c10_generated (c10_outEvents c10_gCfg c10_gDoc)).contains S!"top" = false :=
  ⟨by decide +kernel, ⟨_, rfl⟩, by decide +kernel⟩

/-- its events -/
example : c10_outEvents c10_gCfg c10_gDoc =
    [.bookmark S!"top", .noteRef S!"footnote" S!"1", .link { anchor := some S!"top" }, .noteRef S!"endnote" S!"1",
     .item S!"footnote" S!"1", .back S!"footnote" S!"1", .item S!"endnote" S!"1", .back S!"endnote" S!"1"] := by
  decide +kernel

/-- its output: ids, hrefs, labels, before and after `strip_empty`/`collapse` -/
example : ∃ r, convertDoc c10_gCfg c10_gDoc = .ok r ∧
    idsOf r.nodes = [S!"doc-top", S!"doc-footnote-ref-1", S!"doc-endnote-ref-1", S!"doc-footnote-1", S!"doc-endnote-1"] ∧
    hrefsOf r.nodes = [S!"#doc-footnote-1", S!"#doc-top", S!"#doc-endnote-1", S!"#doc-footnote-ref-1",
                       S!"#doc-endnote-ref-1"] ∧
    (anchorsOf r.nodes).map (·.2.2) = [S!"[1]", S!"[2]"] ∧
    idsOf (collapse (stripEmpty r.nodes)) = idsOf r.nodes ∧
    hrefsOf (collapse (stripEmpty r.nodes)) = hrefsOf r.nodes :=
  c10_ok_and (by decide +kernel)

private def c10_gCfgC : Cfg :=
  { idPrefix := S!"doc-", styleMap := [{ matcher := .commentReference, path := .elements [pathElem S!"sup" true] }] }
/-- comment references enabled: the body references comment 1 and footnote 1, whose body references comment 2 -/
private def c10_gDocC : Document :=
  { children := [.paragraph {} [c10_gT S!"x", .commentRef S!"1", .noteRef S!"footnote" S!"1"]],
    notes := [{ ty := S!"footnote", id := S!"1", body := [.paragraph {} [c10_gT S!"fn", .commentRef S!"2"]] }],
    comments := [{ id := S!"1", body := [.paragraph {} [c10_gT S!"c1"]], authorInitials := some S!"AB" },
                 { id := S!"2", body := [.paragraph {} [c10_gT S!"c2"]], authorInitials := some S!"CD" }] }

example : c10_cleanCfg c10_gCfgC = true ∧ (∃ r, convertDoc c10_gCfgC c10_gDocC = .ok r) ∧
    c10_refsClosed (c10_docCfg c10_gCfgC c10_gDocC) c10_gDocC = true ∧
    c10_uniqueHyp (c10_outEvents c10_gCfgC c10_gDocC) = true ∧
    c10_uniqueHypSimple (c10_outEvents c10_gCfgC c10_gDocC) = true ∧
    c10_noClash (c10_outEvents c10_gCfgC c10_gDocC) = true :=
  ⟨by decide +kernel, ⟨_, rfl⟩, by decide +kernel⟩

example : ∃ r, convertDoc c10_gCfgC c10_gDocC = .ok r ∧
    idsOf r.nodes = [S!"doc-comment-ref-1", S!"doc-footnote-ref-1", S!"doc-footnote-1", S!"doc-comment-ref-2",
                     S!"doc-comment-1", S!"doc-comment-2"] ∧
    hrefsOf r.nodes = [S!"#doc-comment-1", S!"#doc-footnote-1", S!"#doc-comment-2", S!"#doc-footnote-ref-1",
                       S!"#doc-comment-ref-1", S!"#doc-comment-ref-2"] ∧
    (anchorsOf r.nodes).map (·.2.2) = [S!"[AB1]", S!"[1]", S!"[CD2]"] :=
  c10_ok_and (by decide +kernel)

private def c10_gTagX : Tag := { name := S!"p", attrs := [(S!"id", S!"x")] }
private def c10_gStyleX : Style := { matcher := Matcher.paragraph none none none, path := .elements [c10_gTagX] }
private def c10_gCfgDirty : Cfg := { idPrefix := S!"doc-", styleMap := [c10_gStyleX] }
/-- NECESSITY of `c10_cleanCfg` for (2): a style map `p => p[id='x']` writes an id without the prefix. -/
example : c10_cleanCfg c10_gCfgDirty = false ∧ ∃ r, convertDoc c10_gCfgDirty c10_gDoc = .ok r ∧
    S!"x" ∈ idsOf r.nodes ∧ ¬ S!"doc-" <+: S!"x" :=
  ⟨by decide +kernel, c10_ok_and (by decide +kernel)⟩

/-- NECESSITY of `c10_refsClosed` for (3), notes: footnote 2 is referenced only from the body of footnote 1.
    The conversion succeeds, the marker `[2]` links to `#doc-footnote-2`, but footnote 2 is not rendered:
    the href dangles.  (Same output from the Python code; documented, outside the grammar.) -/
private def c10_gDocA : Document :=
  { children := [.paragraph {} [c10_gT S!"x", .noteRef S!"footnote" S!"1"]],
    notes := [{ ty := S!"footnote", id := S!"1", body := [.paragraph {} [c10_gT S!"fn1", .noteRef S!"footnote" S!"2"]] },
              { ty := S!"footnote", id := S!"2", body := [.paragraph {} [c10_gT S!"fn2"]] }] }
example : c10_refsClosed (c10_docCfg c10_gCfg c10_gDocA) c10_gDocA = false ∧
    ∃ r, convertDoc c10_gCfg c10_gDocA = .ok r ∧
      S!"#doc-footnote-2" ∈ hrefsOf r.nodes ∧ S!"doc-footnote-2" ∉ idsOf r.nodes :=
  ⟨by decide +kernel, c10_ok_and (by decide +kernel)⟩

/-- NECESSITY of `c10_refsClosed` for (3), comments: comment 2 is referenced only from the body of comment 1
    (the list of comments to render is fixed before the comment bodies are visited). -/
private def c10_gDocB : Document :=
  { children := [.paragraph {} [c10_gT S!"x", .commentRef S!"1"]],
    comments := [{ id := S!"1", body := [.paragraph {} [c10_gT S!"c1", .commentRef S!"2"]], authorInitials := some S!"AB" },
                 { id := S!"2", body := [.paragraph {} [c10_gT S!"c2"]], authorInitials := some S!"CD" }] }
example : c10_refsClosed (c10_docCfg c10_gCfgC c10_gDocB) c10_gDocB = false ∧
    ∃ r, convertDoc c10_gCfgC c10_gDocB = .ok r ∧
      S!"#doc-comment-2" ∈ hrefsOf r.nodes ∧ S!"doc-comment-2" ∉ idsOf r.nodes :=
  ⟨by decide +kernel, c10_ok_and (by decide +kernel)⟩

/-- NECESSITY of the parts of `c10_uniqueHyp` for (4).  (i) a note referenced twice: its reference id and its
    `li` both appear twice. -/
private def c10_gDocE : Document :=
  { children := [.paragraph {} [c10_gT S!"x", .noteRef S!"footnote" S!"1", .noteRef S!"footnote" S!"1"]],
    notes := [{ ty := S!"footnote", id := S!"1", body := [.paragraph {} [c10_gT S!"fn1"]] }] }
example : c10_uniqueHyp (c10_outEvents c10_gCfg c10_gDocE) = false ∧
    ∃ r, convertDoc c10_gCfg c10_gDocE = .ok r ∧ ¬ (idsOf r.nodes).Nodup :=
  ⟨by decide +kernel, c10_ok_and (by decide +kernel)⟩

/-- (ii) an id starting with `ref-`: the referent id of footnote `ref-1` IS the reference id of footnote `1`
    (`doc-footnote-ref-1`): the precise collision between the two id builders. -/
private def c10_gDocCol : Document :=
  { children := [.paragraph {} [c10_gT S!"x", .noteRef S!"footnote" S!"1", .noteRef S!"footnote" S!"ref-1"]],
    notes := [{ ty := S!"footnote", id := S!"1", body := [.paragraph {} [c10_gT S!"fn1"]] },
              { ty := S!"footnote", id := S!"ref-1", body := [.paragraph {} [c10_gT S!"fn2"]] }] }
example : c10_uniqueHyp (c10_outEvents c10_gCfg c10_gDocCol) = false ∧
    decide ((c10_evKeys (c10_outEvents c10_gCfg c10_gDocCol)).Nodup) = true ∧
    ∃ r, convertDoc c10_gCfg c10_gDocCol = .ok r ∧ ¬ (idsOf r.nodes).Nodup ∧
      (idsOf r.nodes).count S!"doc-footnote-ref-1" = 2 :=
  ⟨by decide +kernel, by decide +kernel, c10_ok_and (by decide +kernel)⟩

/-- (iii) a bookmark named like a generated id -/
private def c10_gDocD : Document :=
  { children := [.paragraph {} [.bookmark (some S!"footnote-1"), c10_gT S!"x", .noteRef S!"footnote" S!"1"]],
    notes := [{ ty := S!"footnote", id := S!"1", body := [.paragraph {} [c10_gT S!"fn1"]] }] }
example : c10_uniqueHyp (c10_outEvents c10_gCfg c10_gDocD) = false ∧
    ∃ r, convertDoc c10_gCfg c10_gDocD = .ok r ∧ ¬ (idsOf r.nodes).Nodup :=
  ⟨by decide +kernel, c10_ok_and (by decide +kernel)⟩

/-- (5): `collapse` really can merge two elements with the same id (two bookmarks of the same name next to
    each other): the id then appears once instead of twice — same set, fewer repetitions. -/
example : idsOf [cel S!"a" [(S!"id", S!"b")] [.forceWrite], cel S!"a" [(S!"id", S!"b")] [.forceWrite]] = [S!"b", S!"b"] ∧
    idsOf (collapse (stripEmpty [cel S!"a" [(S!"id", S!"b")] [.forceWrite], cel S!"a" [(S!"id", S!"b")] [.forceWrite]]))
      = [S!"b"] := by decide +kernel

/-! ### the regexes of `parse_instr_text`, as body_xml.py has them

  `Generated.instrRegexes` holds the SOURCE TEXT of the regexes that `parse_instr_text`
  (mammoth/docx/body_xml.py) passes to `re.match`, in the order of the calls; the extractor writes
  the table from the source.  The theorems `C10_generated_*` are closed computations on
  that table with the regex parser of MammothModel/RegexParse.lean: editing a regex in body_xml.py
  changes the table and they stop checking.  The remaining theorems say what these three regexes do
  on EVERY instruction string under the prioritised-backtracking semantics of MammothModel/Regex.lean
  (`re.match`: anchored at the start, not at the end) — decision, group 1, cost — and that this is
  what the hand-written recognisers of the model (`matchExternalLink`, `matchInternalLink`,
  `matchCheckbox`, `parseInstrText`), which all the other theorems of C10 are about, compute. -/

/-- `parse_instr_text` tries exactly three regexes, in this order: external link
    `\s*HYPERLINK\s+"([^"]*)"`, internal link `\s*HYPERLINK\s+\\l\s+"([^"]*)"`, check box
    `\s*FORMCHECKBOX\s*`; each parses to the hand-written value the theorems below are about. -/
theorem C10_generated_instr_regexes :
    Generated.instrRegexes.map c07_parseRegex =
      [some c10_rxExternal, some c10_rxInternal, some c10_rxCheckbox] := by decide +kernel

/-- `parse_instr_text` calls a regex matcher exactly three times -/
theorem C10_generated_instr_regex_count : Generated.instrRegexes.length = 3 := by decide +kernel

/-- ... and all of them are applied with `re.match` (anchored at the start of the instruction text only, which is the
    semantics `exec`/`group1` formalise): the set of names of the matching calls inside `parse_instr_text`, extracted from the
    source.  A change to `search` or `fullmatch` recognises other instructions without touching a pattern. -/
theorem C10_generated_instr_regex_modes :
    Generated.instrRegexModes = [S!"match"] := by decide +kernel

/-- the first regex of the source is the external-link regex `c10_rxExternal` (with the regex before
    the repair of F6, `\s*HYPERLINK "(.*)"`, this is false: see `C10_old_external_regex`) -/
theorem C10_generated_external_regex :
    Generated.instrRegexes[0]?.bind c07_parseRegex = some c10_rxExternal :=
  c10_getElem?_bind_of_map C10_generated_instr_regexes 0

/-- the second regex of the source is the internal-link regex `c10_rxInternal` -/
theorem C10_generated_internal_regex :
    Generated.instrRegexes[1]?.bind c07_parseRegex = some c10_rxInternal :=
  c10_getElem?_bind_of_map C10_generated_instr_regexes 1

/-- the third regex of the source is the check-box regex `c10_rxCheckbox` -/
theorem C10_generated_checkbox_regex :
    Generated.instrRegexes[2]?.bind c07_parseRegex = some c10_rxCheckbox :=
  c10_getElem?_bind_of_map C10_generated_instr_regexes 2

/-- the list the regex-driven `parse_instr_text` (`c10_instrKindRx`) runs -/
theorem C10_generated_instr_rules :
    c10_instrRules = some [c10_rxExternal, c10_rxInternal, c10_rxCheckbox] :=
  c10_parseAll_of_map _ _ C10_generated_instr_regexes

/-- WHERE the parentheses are: the source of the external-link regex is `pre ( body ) post` with
    `pre`, `body`, `post` parsing to exactly the three parts of `c10_groupExternal` (group 1 is
    `[^"]*`, between the quotes), and the parts put together are `c10_rxExternal`. -/
theorem C10_generated_external_group :
    Generated.instrRegexes[0]?.map (fun src => c10_sourceIsGrouped src c10_groupExternal) = some true ∧
    c10_groupExternal.regex = c10_rxExternal := ⟨by decide +kernel, c10_groupExternal_regex⟩

/-- likewise for the internal-link regex and `c10_groupInternal` -/
theorem C10_generated_internal_group :
    Generated.instrRegexes[1]?.map (fun src => c10_sourceIsGrouped src c10_groupInternal) = some true ∧
    c10_groupInternal.regex = c10_rxInternal := ⟨by decide +kernel, c10_groupInternal_regex⟩

/-- the text of the external-link regex BEFORE the repair of F6 parses to a different value (a
    greedy `.*` between the quotes, a single space after the keyword) -/
theorem C10_old_external_regex :
    (c07_parseRegex S!"\\s*HYPERLINK \"(.*)\"").isSome = true ∧
    c07_parseRegex S!"\\s*HYPERLINK \"(.*)\"" ≠ some c10_rxExternal := by decide +kernel

/-! #### group 1 in the cost model -/

/-- GROUP 1 IS WELL DEFINED, for every regex `pre ( body ) post` (deterministic or not) and every
    input: the matcher never looks at what a continuation returns, so the runs that report what was
    left at `(`, at `)` and at the end of the match all follow the same path to the same first match:
    their cost is the same, and either all of them fail or there are `s1`, `s2`, `s3`, each a suffix
    of the one before and of the input, that every report is a function of. -/
theorem C10_group1_one_first_match (g : C10Grouped) (s : Str) :
    (∀ out out', (g.runWith s out).1 = (g.runWith s out').1) ∧
    ((∀ out, (g.runWith s out).2 = none) ∨
      ∃ s1 s2 s3 : Str, s1 <:+ s ∧ s2 <:+ s1 ∧ s3 <:+ s2 ∧
        ∀ out, (g.runWith s out).2 = some (out s1 s2 s3)) :=
  c10_runWith_uniform g s

/-- `exec` of the regex without the parentheses is the run that reports the end of the match, and
    group 1 lies inside the match: either there is no match and no group, or the input is
    `p ++ u ++ q ++ rest`, the match is `p ++ u ++ q` and group 1 is `u`. -/
theorem C10_group1_within_match (g : C10Grouped) (s : Str) :
    g.regex.exec s = (g.runWith s fun _ _ s3 => s3) ∧
    ((g.regex.matchLen s = none ∧ g.group1 s = none) ∨
     ∃ p u q rest : Str, s = p ++ (u ++ (q ++ rest)) ∧ (g.regex.exec s).2 = some rest ∧
       g.regex.matchLen s = some (p.length + u.length + q.length) ∧ g.group1 s = some u) :=
  ⟨c10_grouped_exec g s, c10_group1_spec g s⟩

/-! #### agreement with the hand-written recognisers, for every instruction string -/

/-- EXTERNAL LINK, every string `s`: the model's `matchExternalLink s` returns `some u` exactly when
    the regex `\s*HYPERLINK\s+"([^"]*)"` of the source matches at the start of `s` and `u` is its
    group 1; it returns `none` exactly when the regex does not match. -/
theorem C10_regex_external_agrees (s : Str) :
    (∀ u, matchExternalLink s = some u ↔
      ((c10_rxExternal.matchLen s).isSome = true ∧ c10_groupExternal.group1 s = some u)) ∧
    (matchExternalLink s = none ↔ c10_rxExternal.matchLen s = none) ∧
    matchExternalLink s = c10_groupExternal.group1 s :=
  c10_agrees_of (by rw [c10_matchLen_isSome, c10_external_matches]) (c10_external_group1 s)

/-- INTERNAL LINK, every string `s`: `matchInternalLink s = some u` exactly when the regex
    `\s*HYPERLINK\s+\\l\s+"([^"]*)"` of the source matches at the start of `s` and `u` is its group 1;
    `none` exactly when it does not match. -/
theorem C10_regex_internal_agrees (s : Str) :
    (∀ u, matchInternalLink s = some u ↔
      ((c10_rxInternal.matchLen s).isSome = true ∧ c10_groupInternal.group1 s = some u)) ∧
    (matchInternalLink s = none ↔ c10_rxInternal.matchLen s = none) ∧
    matchInternalLink s = c10_groupInternal.group1 s :=
  c10_agrees_of (by rw [c10_matchLen_isSome, c10_internal_matches]) (c10_internal_group1 s)

/-- CHECK BOX, every string `s`: `matchCheckbox s` is true exactly when the regex
    `\s*FORMCHECKBOX\s*` of the source matches at the start of `s`. -/
theorem C10_regex_checkbox_agrees (s : Str) :
    matchCheckbox s = (c10_rxCheckbox.matchLen s).isSome := by
  rw [c10_matchLen_isSome, c10_checkbox_matches]

/-- THE WHOLE DECISION, every instruction string and every `fldChar` content: the hand-written
    `parseInstrText` of the model is "the first of the three regexes of the source that matches":
    the regexes extracted from body_xml.py parse (`c10_instrRules`), and running them in order
    (`c10_instrKindRx`: index of the first that matches at the start; the link branches take group 1
    of their regex) gives a link to group 1 (`href` for the first regex, `anchor` for the second), the
    check-box reading for the third, and no field when none matches. -/
theorem C10_parseInstr_is_first_matching_regex (instr : Str) (cs : List XmlNode) :
    ∃ rules, c10_instrRules = some rules ∧
      parseInstrText instr cs =
        match c10_instrKindRx rules instr with
        | .external href => .hyperlink { href := href }
        | .internal anchor => .hyperlink { anchor := anchor }
        | .checkbox => parseInstrText S!"FORMCHECKBOX" cs
        | .other => .unknown := by
  refine ⟨_, C10_generated_instr_rules, ?_⟩
  rw [c10_instrKind_eq]
  unfold parseInstrText c10_instrKind
  cases matchExternalLink instr with
  | some u => rfl
  | none =>
    cases matchInternalLink instr with
    | some a => rfl
    | none => cases matchCheckbox instr <;> rfl

/-- the third branch spelled out: what `parseInstrText S!"FORMCHECKBOX" cs` (the reading of the
    check-box state from the `fldChar` content) is. -/
theorem C10_checkbox_reading (cs : List XmlNode) :
    parseInstrText S!"FORMCHECKBOX" cs =
      (let cb := (findChildOrNull S!"w:checkBox" (findChildOrNull S!"w:ffData" cs).2).2
       match findChild S!"w:checked" cb with
       | none => .checkbox (readBoolElem S!"w:default" cb)
       | some (as, _) => .checkbox (readBoolAttr (attr? S!"w:val" as))) := by
  have h1 : matchExternalLink S!"FORMCHECKBOX" = none := by decide +kernel
  have h2 : matchInternalLink S!"FORMCHECKBOX" = none := by decide +kernel
  have h3 : matchCheckbox S!"FORMCHECKBOX" = true := by decide +kernel
  simp only [parseInstrText, h1, h2, h3, if_true]
  rfl

/-- the decision, at the level of the three recognisers: first matching regex of
    `[c10_rxExternal, c10_rxInternal, c10_rxCheckbox]` = external, else internal, else check box -/
theorem C10_instrKind_is_first_matching_regex (s : Str) :
    c10_instrKindRx [c10_rxExternal, c10_rxInternal, c10_rxCheckbox] s = c10_instrKind s :=
  c10_instrKind_eq s

/-! #### which strings, said without a matcher -/

/-- EXTERNAL LINK, both directions, every `s`, `u`, `n`: the regex of the source matches `s` with
    group 1 = `u` and a match of length `n` exactly when `s` is
    `ws* HYPERLINK ws+ " u " rest` with `u` free of `"` (`rest` arbitrary: further switches), and then
    `n` = everything up to and including the closing quote.  The converse of
    `C10_external_link_parse`, and the statement that nothing after the closing quote is matched. -/
theorem C10_regex_external_shape (s u : Str) (n : Nat) :
    (c10_groupExternal.group1 s = some u ∧ c10_rxExternal.matchLen s = some n) ↔
    ∃ w1 w2 rest, c10_allWs w1 = true ∧ c10_allWs w2 = true ∧ w2 ≠ [] ∧ '"' ∉ u ∧
      s = w1 ++ S!"HYPERLINK" ++ w2 ++ ['"'] ++ u ++ ['"'] ++ rest ∧
      n = w1.length + 9 + w2.length + u.length + 2 :=
  c10_external_shape s u n

/-- INTERNAL LINK likewise: `ws* HYPERLINK ws+ \l ws+ " u " rest`. -/
theorem C10_regex_internal_shape (s u : Str) (n : Nat) :
    (c10_groupInternal.group1 s = some u ∧ c10_rxInternal.matchLen s = some n) ↔
    ∃ w1 w2 w3 rest, c10_allWs w1 = true ∧ c10_allWs w2 = true ∧ w2 ≠ [] ∧ c10_allWs w3 = true ∧
      w3 ≠ [] ∧ '"' ∉ u ∧
      s = w1 ++ S!"HYPERLINK" ++ w2 ++ S!"\\l" ++ w3 ++ ['"'] ++ u ++ ['"'] ++ rest ∧
      n = w1.length + 9 + w2.length + 2 + w3.length + u.length + 2 :=
  c10_internal_shape s u n

/-! #### cost -/

/-- LINEAR COST, every input: in the step-counting model of the backtracking matcher (one step per
    character test, per alternation and per loop iteration, abandoned branches included) each of the
    three regexes takes at most 3 steps a character plus a constant (28, 34, 28); in particular at
    most `34 * (length + 1)`.  Every loop (`\s*`, `\s+`, `[^"]*`) is followed by a literal character
    outside its class, so giving characters back never helps: no catastrophic backtracking on field
    instructions, which come from untrusted documents. -/
theorem C10_instr_regex_linear (s : Str) :
    (c10_rxExternal.steps s ≤ 3 * s.length + 28 ∧ c10_rxInternal.steps s ≤ 3 * s.length + 34 ∧
      c10_rxCheckbox.steps s ≤ 3 * s.length + 28) ∧
    (c10_rxExternal.steps s ≤ 34 * (s.length + 1) ∧ c10_rxInternal.steps s ≤ 34 * (s.length + 1) ∧
      c10_rxCheckbox.steps s ≤ 34 * (s.length + 1)) := by
  have hb : ∀ n c, c ≤ 34 → n ≤ 3 * s.length + c → n ≤ 34 * (s.length + 1) := by
    intro n c hc hn
    omega
  have h1 := c10_external_steps s
  have h2 := c10_internal_steps s
  have h3 := c10_checkbox_steps s
  exact ⟨⟨h1, h2, h3⟩, hb _ 28 (by decide) h1, hb _ 34 (by decide) h2, hb _ 28 (by decide) h3⟩

/-- hence all the attempts of one call of `parse_instr_text` together: at most `9 * length + 90` -/
theorem C10_parse_instr_text_cost (s : Str) :
    c10_rxExternal.steps s + c10_rxInternal.steps s + c10_rxCheckbox.steps s ≤ 9 * s.length + 90 := by
  have h1 := c10_external_steps s
  have h2 := c10_internal_steps s
  have h3 := c10_checkbox_steps s
  omega

/-! #### examples (non-vacuity) -/

/-- an external link with switches after the URL: matched up to the closing quote of the URL (33
    characters of 43), group 1 is the URL, 60 steps -/
example : c10_rxExternal.exec S!" HYPERLINK \"http://example.com/a\" \\o \"tip\" " =
    (60, some S!" \\o \"tip\" ") := by decide +kernel
example : c10_rxExternal.matchLen S!" HYPERLINK \"http://example.com/a\" \\o \"tip\" " = some 33 := by decide +kernel
example : c10_groupExternal.group1 S!" HYPERLINK \"http://example.com/a\" \\o \"tip\" " =
    some S!"http://example.com/a" := by decide +kernel
example : c10_instrKindRx [c10_rxExternal, c10_rxInternal, c10_rxCheckbox]
    S!" HYPERLINK \"http://example.com/a\" \\o \"tip\" " = .external (some S!"http://example.com/a") := by
  decide +kernel
/-- an internal link: the first regex fails (after `HYPERLINK\s+` comes `\`), the second matches -/
example : (c10_rxExternal.exec S!" HYPERLINK \\l \"_Toc1\" \\h").2 = none ∧
    c10_groupInternal.group1 S!" HYPERLINK \\l \"_Toc1\" \\h" = some S!"_Toc1" ∧
    c10_rxInternal.matchLen S!" HYPERLINK \\l \"_Toc1\" \\h" = some 21 := by decide +kernel
example : c10_instrKindRx [c10_rxExternal, c10_rxInternal, c10_rxCheckbox]
    S!" HYPERLINK \\l \"_Toc1\" \\h" = .internal (some S!"_Toc1") := by decide +kernel
/-- a check box (anything may follow: `re.match` is not anchored at the end) -/
example : c10_instrKindRx [c10_rxExternal, c10_rxInternal, c10_rxCheckbox] S!" FORMCHECKBOX " = .checkbox ∧
    c10_instrKindRx [c10_rxExternal, c10_rxInternal, c10_rxCheckbox] S!"FORMCHECKBOXES" = .checkbox := by
  decide +kernel
/-- instructions that match none of the three: another field, a URL without a closing quote, a
    keyword in lower case, no space before the quote -/
example : c10_instrKindRx [c10_rxExternal, c10_rxInternal, c10_rxCheckbox] S!" PAGEREF _Toc1 \\h " = .other ∧
    c10_instrKindRx [c10_rxExternal, c10_rxInternal, c10_rxCheckbox] S!"HYPERLINK \"http://x" = .other ∧
    c10_instrKindRx [c10_rxExternal, c10_rxInternal, c10_rxCheckbox] S!"hyperlink \"http://x\"" = .other ∧
    c10_instrKindRx [c10_rxExternal, c10_rxInternal, c10_rxCheckbox] S!"HYPERLINK\"http://x\"" = .other := by
  decide +kernel
/-- white space is Python's `\s` (`str.isspace`), e.g. a line feed, a tab, a no-break space; and
    `[^"]` matches a line feed -/
example : c10_groupExternal.group1 S!" HYPERLINK\n\t\"a b\"" = some S!"a b" := by decide +kernel
example : c10_groupExternal.group1 S!" HYPERLINK\u00a0\"a\nb\"" = some S!"a\nb" ∧
    c10_rxExternal.matchLen S!" HYPERLINK\u00a0\"a\nb\"" = some 16 := by decide +kernel
/-- a failing attempt that scans to the end (no closing quote): still 3 steps a character -/
example : c10_rxExternal.exec S!"HYPERLINK \"aaaaaaaaaaaaaaaaaaaa" = (78, none) := by decide +kernel
/-- group 1 of a regex that is not deterministic: with the regex BEFORE the repair of F6, `\s*HYPERLINK "(.*)"`, the greedy
    `.*` runs to the end and backtracks to the LAST quote, so group 1 swallows the switches -/
example : (⟨[.star (.chr c07_ccSpace), c10_word S!"HYPERLINK " (.chr (.lit '"'))], .star (.chr .any),
      [.chr (.lit '"')]⟩ : C10Grouped).group1 S!" HYPERLINK \"http://example.com/a\" \\o \"tip\" " =
    some S!"http://example.com/a\" \\o \"tip" := by decide +kernel

end Mammoth
