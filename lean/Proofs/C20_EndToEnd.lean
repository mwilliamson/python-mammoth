/-
  C20, end to end — `main()` of mammoth/cli.py composed with the library: from the PACKAGE (the parsed
  input file), the arguments and the outside world to the files and streams written.

  `Cli.lean` has no such composition (`cliRun` / `cliRunO` take the library's `value`, `messages` and the
  images as given); `c20_cli` below composes the existing model functions:

    * `c20_format`            argparse's `--output-format` (`choices=writers.formats()`),
    * `apiConvert`            `mammoth.convert(fileobj, style_map=…, convert_image=…, output_format=…)`,
                              base directory `os.path.dirname(args.path)` (`c20_dirname`),
    * `cliRun`                no `--output-dir`: the default (data-URI) image converter,
    * `imageWriterRunO` / `cliRunO`   `--output-dir`: the `ImageWriter`.

  THE ONE PIECE THE MODEL DOES NOT HAVE.  `ImageConv` (Convert.lean) is a closed family: `data_uri` and
  `img_element(f)` for an `f` that returns the SAME attributes for every image.  `ImageWriter` is an
  `img_element(f)` whose `f` returns `{"src": "<n>.<subtype>"}` — a different dictionary per call.  So the
  library run of `--output-dir` mode is composed as
      `apiConvert … { imageConv := .fixed [] true }`
  (`img_element(f)`, `f` opens the image and returns no attribute of its own: the same converter calls in
  the same order, the same `image.open()`s, the same warnings, one childless fresh `img` per opened image,
  which the model marks with the length attribute `data-len`), and then `c20_putSrcs` replaces, in document
  order, the `data-len` mark of the k-th such `img` by `src` = the k-th value returned by the
  `ImageWriter` (`imageWriterRunO`).  `c20_putSrc_tag` shows that the result is exactly the element the
  model's own `img_element` makes for a function returning `{"src": name}`.  This substitution is
  Proofs-level (not tied by the differential harness); it was compared with the real command on the
  example packages of `Properties/C20.lean`.
-/
import Proofs.C20_Cli
import Proofs.C17_Package
import Proofs.C17_RenderVisit
import Proofs.C02_ConvertNames
import Proofs.C17_Example
import Proofs.C20_Warnings
import Proofs.C08_DefaultMap
namespace Mammoth

/-! ### arguments -/

/-- `--output-format`: absent = HTML; argparse accepts exactly `writers.formats()` = html, markdown
    (anything else: usage error, exit status 2) -/
def c20_format : Option Str → Option Format
  | none => some .html
  | some f => if f = S!"html" then some .html else if f = S!"markdown" then some .markdown else none

/-- `posixpath.dirname` (the library resolves linked images against `os.path.dirname(fileobj.name)`,
    and `open(args.path, "rb").name` is `args.path`) -/
def c20_dirname (p : Str) : Str :=
  let head := p.take (rfindNext '/' p)
  if head.all (· == '/') then head else (head.reverse.dropWhile (· == '/')).reverse

/-- the options `main()` passes to `mammoth.convert` -/
def c20_options (args : CliArgs) (fmt : Format) (conv : ImageConv) : Options :=
  { styleMap := args.styleMap, format := fmt, imageConv := conv }

/-- the library call of `main()` -/
def c20_convert (args : CliArgs) (p : Package) (world : Str → Option Bytes) (fuel : Nat) (fmt : Format)
    (conv : ImageConv) : Except Err ApiOut :=
  apiConvert p fuel (some (c20_dirname args.path)) world id (c20_options args fmt conv)

/-- `read_options` with the built-in map as the value C08 evaluates it to, so that the kernel does not run the
    style-map parser on the built-in text in each example of `Properties/C20.lean`. -/
theorem c20_readOptions (c e : Option Str) (d : Bool) :
    readOptions c e d =
      ((readStyleMap (c.getD [])).1 ++ (readStyleMap (e.getD [])).1 ++ (if d then c08_defaultMapValue else []),
       unique ((readStyleMap (c.getD [])).2 ++ (readStyleMap (e.getD [])).2)) := by
  rw [← c08_default_map_value]
  rfl

/-! ### the `ImageWriter` inside the converter -/

/-- the member of the modelled converter family that does what `img_element(ImageWriter(dir))` does, except
    for the returned `src`: it opens every image and returns no attribute of its own -/
def c20_writerConv : ImageConv := .fixed [] true

/-- the bytes `element.open()` yields to the `ImageWriter` (`none`: it raises InvalidFileReferenceError),
    by the model's `openImage` -/
def c20_openBytes (cfg : Cfg) (src : ImageSrc) : Option Bytes :=
  match (openImage cfg src).run {} with
  | .ok (.ok b, _) => some b
  | _ => none

/-- is this the `img` made by `c20_writerConv` (the only elements with a `data-len` attribute)? -/
def c20_isMark (t : Tag) : Bool := t.name = S!"img" && (Dict.get? S!"data-len" t.attrs).isSome

/-- `attributes.update({"src": name})` instead of the model's `data-len` mark -/
def c20_putSrc (name : Str) (t : Tag) : Tag :=
  { t with attrs := Dict.insert S!"src" name (t.attrs.filter fun kv => kv.1 != S!"data-len") }

/-- one element: a marked `img` takes the next `src` value (none left: it stays as it is) -/
def c20_take (srcs : List Str) (t : Tag) : Tag × List Str :=
  if c20_isMark t then
    match srcs with
    | s :: rest => (c20_putSrc s t, rest)
    | [] => (t, [])
  else (t, srcs)

mutual
/-- give the marked `img`s of the forest, in document order, the `src` values of the list (returns the new
    forest and the values left over) -/
def c20_putSrcsN (srcs : List Str) : Node → Node × List Str
  | .text s => (.text s, srcs)
  | .forceWrite => (.forceWrite, srcs)
  | .elem t cs => (.elem (c20_take srcs t).1 (c20_putSrcs (c20_take srcs t).2 cs).1, (c20_putSrcs (c20_take srcs t).2 cs).2)
def c20_putSrcs (srcs : List Str) : List Node → List Node × List Str
  | [] => ([], srcs)
  | c :: cs => ((c20_putSrcsN srcs c).1 :: (c20_putSrcs (c20_putSrcsN srcs c).2 cs).1, (c20_putSrcs (c20_putSrcsN srcs c).2 cs).2)
end

/-- the configuration under which the converter opens the images of package `p` -/
def c20_openCfg (args : CliArgs) (p : Package) (world : Str → Option Bytes) : Cfg :=
  { archive := archiveBytes p, base := some (c20_dirname args.path), world := world }

/-- what the `ImageWriter` is handed, call by call: content type and what `open()` yields -/
def c20_writerInput (args : CliArgs) (p : Package) (world : Str → Option Bytes) (out : ApiOut) :
    List (Option Str × Option Bytes) :=
  out.imageCalls.map fun i => (i.contentType, c20_openBytes (c20_openCfg args p world) i.src)

/-- the value `mammoth.convert` returns when the image converter is the `ImageWriter` -/
def c20_dirValue (dir : Str) (fmt : Format) (imgs : List (Option Str × Option Bytes)) (out : ApiOut) : Str :=
  writeWith fmt (collapse (stripEmpty (c20_putSrcs (imageWriterRunO dir 1 imgs).2.1 out.nodes).1))

/-! ### `main()` -/

/-- THE COMMAND: arguments (`styleMap` = the text of the `--style-map` file), the package, the outside
    world (for linked images) ↦ what is written.  `.error e`: the library raised `e`; the command dies with
    a traceback, exit status 1, and writes neither output nor messages (which image files `--output-dir`
    mode had written before the exception is not modelled).  `fuel` is the model's recursion fuel. -/
def c20_cli (args : CliArgs) (p : Package) (world : Str → Option Bytes) (fuel : Nat) : Except Err CliOut :=
  if !args.valid then .ok { exitCode := 2 }
  else match c20_format args.format with
    | none => .ok { exitCode := 2 }
    | some fmt =>
      match args.outputDir with
      | none => do
        let out ← c20_convert args p world fuel fmt .dataUri
        pure (cliRun args out.value out.messages [])
      | some dir => do
        let out ← c20_convert args p world fuel fmt c20_writerConv
        let imgs := c20_writerInput args p world out
        pure (cliRunO args (c20_dirValue dir fmt imgs out) out.messages imgs)


/-! ### unfolding `c20_cli` -/

theorem c20_cli_nodir (args : CliArgs) (p : Package) (world : Str → Option Bytes) (fuel : Nat) (fmt : Format)
    (hv : args.valid = true) (hf : c20_format args.format = some fmt) (hd : args.outputDir = none) :
    (∀ out, c20_convert args p world fuel fmt .dataUri = .ok out →
      c20_cli args p world fuel = .ok (cliRun args out.value out.messages [])) ∧
    (∀ e, c20_convert args p world fuel fmt .dataUri = .error e → c20_cli args p world fuel = .error e) := by
  unfold c20_cli
  simp only [hv, hf, hd, Bool.not_true, Bool.false_eq_true, if_false]
  constructor
  · intro out h
    rw [h]
    rfl
  · intro e h
    rw [h]
    rfl

theorem c20_cli_dir (args : CliArgs) (p : Package) (world : Str → Option Bytes) (fuel : Nat) (fmt : Format)
    (dir : Str) (hv : args.valid = true) (hf : c20_format args.format = some fmt)
    (hd : args.outputDir = some dir) :
    c20_cli args p world fuel =
      (c20_convert args p world fuel fmt c20_writerConv).map fun out =>
        cliRunO args (c20_dirValue dir fmt (c20_writerInput args p world out) out) out.messages
          (c20_writerInput args p world out) := by
  unfold c20_cli
  simp only [hv, hf, hd, Bool.not_true, Bool.false_eq_true, if_false]
  cases c20_convert args p world fuel fmt c20_writerConv <;> rfl

/-! ### `c20_putSrcs` on the list of `img` tags -/

/-- `c20_putSrcs` seen on the flat list of the forest's `img` tags -/
def c20_putTags : List Str → List Tag → List Tag × List Str
  | srcs, [] => ([], srcs)
  | srcs, t :: ts => ((c20_take srcs t).1 :: (c20_putTags (c20_take srcs t).2 ts).1, (c20_putTags (c20_take srcs t).2 ts).2)

theorem c20_putTags_append (srcs : List Str) (a b : List Tag) :
    c20_putTags srcs (a ++ b) =
      ((c20_putTags srcs a).1 ++ (c20_putTags (c20_putTags srcs a).2 b).1,
       (c20_putTags (c20_putTags srcs a).2 b).2) := by
  induction a generalizing srcs with
  | nil => simp [c20_putTags]
  | cons t ts ih => simp only [List.cons_append, c20_putTags, ih]

theorem c20_take_name (srcs : List Str) (t : Tag) : (c20_take srcs t).1.name = t.name := by
  unfold c20_take
  split
  · cases srcs <;> rfl
  · rfl

theorem c20_take_other (srcs : List Str) (t : Tag) (h : t.name ≠ S!"img") : c20_take srcs t = (t, srcs) := by
  simp [c20_take, c20_isMark, h]

mutual
theorem c20_putSrcsN_imgs (srcs : List Str) (n : Node) :
    c17_imgsN (c20_putSrcsN srcs n).1 = (c20_putTags srcs (c17_imgsN n)).1 ∧
    (c20_putSrcsN srcs n).2 = (c20_putTags srcs (c17_imgsN n)).2 := by
  match n with
  | .text s => simp [c20_putSrcsN, c20_putTags]
  | .forceWrite => simp [c20_putSrcsN, c20_putTags]
  | .elem t cs =>
    simp only [c20_putSrcsN, c17_imgsN_elem, c20_take_name]
    by_cases hn : t.name = S!"img"
    · obtain ⟨i1, i2⟩ := c20_putSrcs_imgs (c20_take srcs t).2 cs
      simp only [hn, if_true, List.singleton_append, c20_putTags, i1, i2]
      exact ⟨trivial, trivial⟩
    · obtain ⟨i1, i2⟩ := c20_putSrcs_imgs srcs cs
      simp only [hn, if_false, List.nil_append, c20_take_other srcs t hn, i1, i2]
      exact ⟨trivial, trivial⟩
theorem c20_putSrcs_imgs (srcs : List Str) (ns : List Node) :
    c17_imgs (c20_putSrcs srcs ns).1 = (c20_putTags srcs (c17_imgs ns)).1 ∧
    (c20_putSrcs srcs ns).2 = (c20_putTags srcs (c17_imgs ns)).2 := by
  match ns with
  | [] => simp [c20_putSrcs, c20_putTags]
  | c :: cs =>
    obtain ⟨a1, a2⟩ := c20_putSrcsN_imgs srcs c
    obtain ⟨b1, b2⟩ := c20_putSrcs_imgs (c20_putSrcsN srcs c).2 cs
    rw [a2] at b1 b2
    simp only [c20_putSrcs, c17_imgs_cons, c20_putTags_append, a1, a2, b1, b2]
    exact ⟨trivial, trivial⟩
end

/-! ### the substitution keeps what rendering needs -/

theorem c20_take_shape (srcs : List Str) (t : Tag) :
    (c20_take srcs t).1.alts = t.alts ∧ (c20_take srcs t).1.collapsible = t.collapsible := by
  unfold c20_take
  split
  · cases srcs <;> exact ⟨rfl, rfl⟩
  · exact ⟨rfl, rfl⟩

theorem c20_take_goodTag (srcs : List Str) (t : Tag) (cs cs' : List Node) (h : cs'.isEmpty = cs.isEmpty) :
    c17_imgGoodTag (c20_take srcs t).1 cs' = c17_imgGoodTag t cs := by
  simp only [c17_imgGoodTag, Tag.names, c20_take_name, (c20_take_shape srcs t).1, (c20_take_shape srcs t).2, h]

mutual
theorem c20_putSrcsN_good (srcs : List Str) (n : Node) :
    c17_imgGoodN (c20_putSrcsN srcs n).1 = c17_imgGoodN n := by
  match n with
  | .text s => simp [c20_putSrcsN]
  | .forceWrite => simp [c20_putSrcsN]
  | .elem t cs =>
    obtain ⟨i1, i2⟩ := c20_putSrcs_good (c20_take srcs t).2 cs
    simp only [c20_putSrcsN, c17_imgGoodN_elem, i1, c20_take_goodTag srcs t cs _ i2]
theorem c20_putSrcs_good (srcs : List Str) (ns : List Node) :
    c17_imgGood (c20_putSrcs srcs ns).1 = c17_imgGood ns ∧ (c20_putSrcs srcs ns).1.isEmpty = ns.isEmpty := by
  match ns with
  | [] => simp [c20_putSrcs]
  | c :: cs =>
    simp only [c20_putSrcs, c17_imgGood_cons, c20_putSrcsN_good srcs c,
      (c20_putSrcs_good (c20_putSrcsN srcs c).2 cs).1, List.isEmpty_cons, and_self]
end

theorem c20_plainAttrs_filter (d : Dict Str) (q : Str × Str → Bool) (h : c02_plainAttrs d = true) :
    c02_plainAttrs (d.filter q) = true := by
  simp only [c02_plainAttrs, List.all_eq_true] at h ⊢
  intro kv hkv
  exact h kv (List.mem_filter.mp hkv).1

theorem c20_take_plainAttrs (srcs : List Str) (t : Tag) (h : c02_plainAttrs t.attrs = true) :
    c02_plainAttrs (c20_take srcs t).1.attrs = true := by
  unfold c20_take
  split
  · cases srcs with
    | nil => exact h
    | cons s rest =>
      exact c02_plainAttrs_insert _ _ _ c02_pn_src (c20_plainAttrs_filter _ _ h)
  · exact h

mutual
theorem c20_putSrcsN_plain (srcs : List Str) (n : Node) (h : c02_plainNamesN n = true) :
    c02_plainNamesN (c20_putSrcsN srcs n).1 = true := by
  match n with
  | .text s => simp [c20_putSrcsN, c02_plainNamesN]
  | .forceWrite => simp [c20_putSrcsN, c02_plainNamesN]
  | .elem t cs =>
    simp only [c02_plainNamesN, Bool.and_eq_true] at h
    simp only [c20_putSrcsN, c02_plainNamesN, Bool.and_eq_true, c20_take_name]
    exact ⟨⟨h.1.1, c20_take_plainAttrs srcs t h.1.2⟩, c20_putSrcs_plain _ cs h.2⟩
theorem c20_putSrcs_plain (srcs : List Str) (ns : List Node) (h : c02_plainNames ns = true) :
    c02_plainNames (c20_putSrcs srcs ns).1 = true := by
  match ns with
  | [] => simp [c20_putSrcs, c02_plainNames]
  | c :: cs =>
    simp only [c02_plainNames, Bool.and_eq_true] at h
    simp only [c20_putSrcs, c02_plainNames, Bool.and_eq_true]
    exact ⟨c20_putSrcsN_plain srcs c h.1, c20_putSrcs_plain _ cs h.2⟩
end

/-! ### the marked `img` of `c20_writerConv`, and what the substitution makes of it -/

/-- the `img` the model's `img_element(f)` makes when `f` returns `{"src": name}` -/
def c20_srcTag (i : ImageProps) (name : Str) : Tag := c17_imgTag (c17_altAttr i ++ [(S!"src", name)])

/-- the `img` of `c20_writerConv` for an image with `n` bytes -/
def c20_markTag (i : ImageProps) (n : Str) : Tag := c17_imgTag (c17_altAttr i ++ [] ++ [(S!"data-len", n)])

theorem c20_markTag_isMark (i : ImageProps) (n : Str) : c20_isMark (c20_markTag i n) = true := by
  simp only [c20_isMark, c20_markTag, c17_imgTag, decide_true, Bool.true_and, Dict.get?_ofList,
    lookupLast_append]
  simp [lookupLast]

/-- THE SUBSTITUTION IS THE MODEL'S OWN `img_element`: replacing the mark of the `img` made for image `i`
    by `src = name` gives exactly the element `img_element(f)` makes when `f` returns `{"src": name}`
    (`convertImage` with `.fixed [("src", name)] false`, see `C17_converter_alt_overrides`) -/
theorem c20_putSrc_tag (i : ImageProps) (n name : Str) :
    c20_putSrc name (c20_markTag i n) = c20_srcTag i name := by
  unfold c20_putSrc c20_markTag c20_srcTag c17_imgTag c17_altAttr
  cases i.altText with
  | none => simp [Dict.ofList, Dict.insert]
  | some a =>
    by_cases ha : a.isEmpty = true
    · simp [ha, Dict.ofList, Dict.insert]
    · simp only [ha, Bool.false_eq_true, if_false]
      have e2 : strLt S!"data-len" S!"alt" = false := by decide
      have e4 : strLt S!"src" S!"alt" = false := by decide
      simp [Dict.ofList, Dict.insert, e2, e4]

/-- … namely: `c20_srcTag i name` is the tag of the one node the model's `convertImage` returns for image `i`
    when the image converter is `img_element(f)` with `f` returning `{"src": name}` -/
theorem c20_srcTag_is_img_element (cfg : Cfg) (i : ImageProps) (name : Str) (st : ConvState)
    (hc : cfg.imageConv = .fixed [(S!"src", name)] false) :
    (convertImage cfg i).run st =
      .ok ([.elem (c20_srcTag i name) []], { st with imageCalls := st.imageCalls ++ [i] }) := by
  rw [c17_convertImage_run]; unfold c17_finish; simp only [hc]; rfl

theorem c20_take_mark (s : Str) (rest : List Str) (i : ImageProps) (n : Str) :
    c20_take (s :: rest) (c20_markTag i n) = (c20_srcTag i s, rest) := by
  simp only [c20_take, c20_markTag_isMark, if_true, c20_putSrc_tag]

/-! ### what the `ImageWriter` is handed -/

/-- `c20_openBytes` (the model's `openImage`) is C17's specification of `image.open()` -/
theorem c20_openBytes_eq (cfg : Cfg) (src : ImageSrc) : c20_openBytes cfg src = c17_opened cfg src := by
  unfold c20_openBytes c17_opened openImage
  cases src with
  | embedded name =>
    simp only
    cases lookupLast name cfg.archive <;> rfl
  | linked uri =>
    simp only
    by_cases ha : isAbsoluteUri uri = true
    · simp only [ha, if_true, run_bind, run_modify]
      cases cfg.world uri <;> rfl
    · simp only [ha, Bool.false_eq_true, if_false]
      cases cfg.base with
      | none => rfl
      | some b =>
        simp only [run_bind, run_modify]
        cases cfg.world (osPathJoin b uri) <;> rfl

/-- the converter configuration of the library run in `--output-dir` mode -/
def c20_dirCfg (args : CliArgs) (p : Package) (world : Str → Option Bytes) (fmt : Format) : Cfg :=
  c05_apiCfg p (some (c20_dirname args.path)) world (c20_options args fmt c20_writerConv)
    (c17_embOf p (c20_options args fmt c20_writerConv))

theorem c20_dirCfg_opened (args : CliArgs) (p : Package) (world : Str → Option Bytes) (fmt : Format)
    (src : ImageSrc) :
    c17_opened (c20_dirCfg args p world fmt) src = c17_opened (c20_openCfg args p world) src := by
  cases src <;> rfl

/-- the image can be opened -/
def c20_okf (cfg : Cfg) (i : ImageProps) : Bool := (c17_opened cfg i.src).isSome

/-- all images declare a content type -/
def c20_allTyped (is : List ImageProps) : Bool := is.all fun i => i.contentType.isSome

theorem c20_allTyped_mem (is : List ImageProps) (i : ImageProps) (h : c20_allTyped is = true) (hi : i ∈ is) :
    ∃ ct, i.contentType = some ct :=
  Option.isSome_iff_exists.mp (List.all_eq_true.mp h i hi)

/-- content type and bytes of an image that has both -/
def c20_pairOf (cfg : Cfg) (i : ImageProps) : Option (Str × Bytes) :=
  match i.contentType, c17_opened cfg i.src with
  | some ct, some b => some (ct, b)
  | _, _ => none

theorem c20_input_opened (cfg : Cfg) (calls : List ImageProps) :
    c20_opened (calls.map fun i => (i.contentType, c17_opened cfg i.src)) = calls.filterMap (c20_pairOf cfg) := by
  induction calls with
  | nil => rfl
  | cons i rest ih =>
    simp only [List.map_cons, List.filterMap_cons, c20_pairOf]
    cases hct : i.contentType with
    | none => simp only [c20_opened, ih]
    | some ct =>
      cases hop : c17_opened cfg i.src with
      | none => simp only [c20_opened, ih]
      | some b => simp only [c20_opened, ih]

/-! ### the `img`s of the `--output-dir` run -/

theorem c20_imgOf_writer (cfg : Cfg) (hc : cfg.imageConv = c20_writerConv) (i : ImageProps) :
    c17_imgOf cfg i =
      match c17_opened cfg i.src with
      | some b => [c20_markTag i (natToStr b.length)]
      | none => [] := by
  unfold c17_imgOf
  rw [hc]
  simp only [c20_writerConv, if_true]
  cases c17_opened cfg i.src <;> rfl

/-- the `img` tags after the substitution, for images that all open: the `j`-th (from 0) image gets the name
    with number `n + j` -/
def c20_numbered (n : Nat) (ok : List ImageProps) : List Tag :=
  (ok.zipIdx n).map fun p => c20_srcTag p.1 (c20_imageName p.2 (p.1.contentType.getD []))

theorem c20_numbered_get (n : Nat) (ok : List ImageProps) (j : Nat) (i : ImageProps) (h : ok[j]? = some i) :
    (c20_numbered n ok)[j]? = some (c20_srcTag i (c20_imageName (n + j) (i.contentType.getD []))) := by
  simp only [c20_numbered, List.getElem?_map, List.getElem?_zipIdx, h, Option.map_some]

/-- an image that does not open has no `img`, no name and no number -/
theorem c20_putTags_numbered (cfg : Cfg) (hc : cfg.imageConv = c20_writerConv) (dir : Str) (n : Nat)
    (calls : List ImageProps) (ht : c20_allTyped calls = true) :
    c20_putTags (imageWriterRun dir n (calls.filterMap (c20_pairOf cfg))).2.1 (calls.flatMap (c17_imgOf cfg)) =
      (c20_numbered n (calls.filter (c20_okf cfg)), []) := by
  induction calls generalizing n with
  | nil => rfl
  | cons i rest ih =>
    simp only [c20_allTyped, List.all_cons, Bool.and_eq_true] at ht
    obtain ⟨ct, hct⟩ := Option.isSome_iff_exists.mp ht.1
    cases hop : c17_opened cfg i.src with
    | none =>
      have hpair : c20_pairOf cfg i = none := by simp [c20_pairOf, hct, hop]
      have himg : c17_imgOf cfg i = [] := by rw [c20_imgOf_writer cfg hc, hop]
      have hok : c20_okf cfg i = false := by simp [c20_okf, hop]
      simp only [List.filterMap_cons, hpair, List.flatMap_cons, himg, List.nil_append, List.filter_cons, hok,
        Bool.false_eq_true, if_false]
      exact ih n ht.2
    | some b =>
      have hpair : c20_pairOf cfg i = some (ct, b) := by simp [c20_pairOf, hct, hop]
      have himg : c17_imgOf cfg i = [c20_markTag i (natToStr b.length)] := by
        rw [c20_imgOf_writer cfg hc, hop]
      have hok : c20_okf cfg i = true := by simp [c20_okf, hop]
      simp only [List.filterMap_cons, hpair, List.flatMap_cons, himg, c20_run_cons, List.singleton_append,
        c20_putTags, c20_take_mark, ih (n + 1) ht.2, List.filter_cons, hok, if_true, c20_numbered,
        List.zipIdx_cons, List.map_cons, hct, Option.getD_some]

theorem c20_srcAlt_srcTag (i : ImageProps) (name : Str) :
    c17_srcAltOf (c20_srcTag i name).attrs = (some name, c17_altOut i) :=
  c17_srcAlt_dataUri i name

/-! ### the `--output-dir` run, assembled -/

theorem c20_writerInput_eq (args : CliArgs) (p : Package) (world : Str → Option Bytes) (fmt : Format)
    (out : ApiOut) :
    c20_writerInput args p world out =
      out.imageCalls.map fun i => (i.contentType, c17_opened (c20_dirCfg args p world fmt) i.src) := by
  simp only [c20_writerInput, c20_openBytes_eq, c20_dirCfg_opened]

theorem c20_writerInput_open (args : CliArgs) (p : Package) (world : Str → Option Bytes) (out : ApiOut) :
    c20_writerInput args p world out =
      out.imageCalls.map fun i => (i.contentType, c17_opened (c20_openCfg args p world) i.src) := by
  simp only [c20_writerInput, c20_openBytes_eq]

theorem c20_writerInput_typed (args : CliArgs) (p : Package) (world : Str → Option Bytes) (out : ApiOut) :
    c20_typed (c20_writerInput args p world out) = c20_allTyped out.imageCalls := by
  rw [c20_writerInput_open]
  simp [c20_typed, c20_allTyped, List.all_map, Function.comp_def]

theorem c20_okf_cfg (args : CliArgs) (p : Package) (world : Str → Option Bytes) (fmt : Format) :
    c20_okf (c20_dirCfg args p world fmt) = c20_okf (c20_openCfg args p world) := by
  funext i; simp only [c20_okf, c20_dirCfg_opened]

theorem c20_valid_output (args : CliArgs) (dir : Str) (hv : args.valid = true) (hd : args.outputDir = some dir) :
    args.output = none := by
  cases ho : args.output with
  | none => rfl
  | some o => simp [CliArgs.valid, ho, hd] at hv

/-- the HTML written in `--output-dir` mode: it lexes, every `img` start tag is void, and the attribute lists
    of these tags are those of `c20_numbered 1` of the images that could be opened -/
theorem c20_dir_html (args : CliArgs) (p : Package) (world : Str → Option Bytes) (fuel : Nat)
    (dir : Str) (out : ApiOut)
    (hout : c20_convert args p world fuel .html c20_writerConv = .ok out)
    (ht : c20_allTyped out.imageCalls = true)
    (hi : c17_noImgMap (c20_dirCfg args p world .html) = true)
    (hp : c02_plainCfg (c20_dirCfg args p world .html) = true) :
    ∃ toks, c02_lexHtml (c20_dirValue dir .html (c20_writerInput args p world out) out) = some toks ∧
      c17_tokImgs toks = c17_tokVoidImgs toks ∧
      c17_tokVoidImgs toks =
        (c20_numbered 1 (out.imageCalls.filter (c20_okf (c20_openCfg args p world)))).map (·.attrs) := by
  obtain ⟨doc, msgs, r, _, hconv, _, hcalls, hnodes, _⟩ :=
    c17_apiConvert_ok p fuel _ world id _ out hout
  simp only [id] at hconv
  change convertDoc (c20_dirCfg args p world .html) doc = .ok r at hconv
  have hc : (c20_dirCfg args p world .html).imageConv = c20_writerConv := rfl
  obtain ⟨hcl, himgs⟩ := c17_convertDoc_images _ doc r hconv
  have himgs := himgs hi
  rw [← hcl, ← hcalls, ← hnodes] at himgs
  -- the forest after the substitution
  have hplain := c20_putSrcs_plain (imageWriterRunO dir 1 (c20_writerInput args p world out)).2.1 out.nodes
    (by rw [hnodes]; exact c02_plain_convertDoc _ hp doc r hconv)
  have hgood : c17_imgGood (c20_putSrcs (imageWriterRunO dir 1 (c20_writerInput args p world out)).2.1
      out.nodes).1 = true := by
    rw [(c20_putSrcs_good _ _).1, hnodes]; exact c17_good_convertDoc _ hi doc r hconv
  obtain ⟨toks, hl, h1, h2⟩ := c17_written_imgs _ hplain hgood
  refine ⟨toks, hl, h1.trans h2.symm, ?_⟩
  rw [h2, (c20_putSrcs_imgs _ _).1, himgs]
  -- the names returned by the writer
  have hty : c20_typed (c20_writerInput args p world out) = true :=
    (c20_writerInput_typed args p world out).trans ht
  obtain ⟨r1, _⟩ := c20_runO_typed dir 1 _ hty
  rw [r1, c20_writerInput_eq args p world .html, c20_input_opened, c20_putTags_numbered _ hc dir 1 _ ht,
    c20_okf_cfg]

/-- the images of the package in DOCUMENT ORDER, as C17 specifies it: those of the body XML in reading order
    (`c17_storyImages`), then those of the notes and of the comments that are rendered -/
def c20_docOrder (cfg : Cfg) (v : c05_View) (doc : Document) : List ImageProps :=
  c17_storyImages { v.shared with rels := v.bodyRels } v.body ++
    (c10_docNotes (c10_docCfg cfg doc) doc).flatMap (fun n => c17_elemImagesL n.body) ++
    (c10_docComments (c10_docCfg cfg doc) doc).flatMap (fun c => c17_elemImagesL c.body)

/-- the images handed to the image converter are, in order, the images of the package in document order
    (any image converter `conv` of the family) -/
theorem c20_calls_docOrder (p : Package) (v : c05_View) (hview : c05_view p = some v) (fuel : Nat)
    (base : Option Str) (world : Str → Option Bytes) (o : Options) (out : ApiOut)
    (hout : apiConvert p fuel base world id o = .ok out)
    (hvm : c01_noVMergeL v.body = true)
    (hig : c01_noIgnoreMap (c05_apiCfg p base world o (c17_embOf p o)) = true) :
    out.imageCalls = c20_docOrder (c05_apiCfg p base world o (c17_embOf p o)) v out.document := by
  obtain ⟨doc, msgs, r, hread, hconv, _, hcalls, _, hdoc⟩ := c17_apiConvert_ok p fuel base world id o out hout
  rw [c05_readPackage_view p v fuel hview] at hread
  obtain ⟨rr, st', hra, hd⟩ := c17_readView_ok v fuel doc msgs hread
  simp only [id] at hconv hdoc
  -- reader
  have pr := c17_readAll_images _ fuel {} v.body rr st' hra
  have hs := pr.sim
  rw [show c17_pend _ ({} : RState).deleted = [] from c17_pend_nil _] at hs
  have hv' : (c01_noVMergeL ({} : RState).deleted && c01_noVMergeL v.body) = true := by rw [hvm]; rfl
  rw [hv'] at hs
  have hrd : c17_elemImagesL rr.elements = c17_storyImages { v.shared with rels := v.bodyRels } v.body :=
    c17_Pre_eq hs.1
  -- converter
  obtain ⟨hcl, _⟩ := c17_convertDoc_images _ doc r hconv
  rw [hcalls, hcl, hdoc, c17_docImages_noIgnore (c10_docCfg (c05_apiCfg p base world o (c17_embOf p o)) doc) hig]
  unfold c17_docAllImages c20_docOrder
  have hch : doc.children = rr.elements := by rw [hd]
  rw [hch, hrd]

theorem c20_openError_cfg (args : CliArgs) (p : Package) (world : Str → Option Bytes) (fmt : Format)
    (src : ImageSrc) :
    c16_openError (c20_dirCfg args p world fmt) src = c16_openError (c20_openCfg args p world) src := by
  cases src <;> rfl

/-! The examples of `Properties/C20.lean` on `c17_exPackage` rewrite with `c20_ex_read`, so that the package is
  read once. -/

/-- the text box's paragraph is emptied and its picture follows it -/
def c20_exDoc : Document :=
  match c17_exImages with
  | [first, third, second] =>
    { children := [
        .paragraph {} [.run {} [], .run {} [.text S!"see "], .run {} [.image first]],
        .paragraph {} [.run {} []], .image third,
        .table none none [.row false [.cell 1 1 false [.paragraph {} [.run {} [.image second]]]]]] }
  | _ => { children := [] }

theorem c20_ex_read : readPackage c17_exPackage 30 = .ok (c20_exDoc, []) := by c05_kernel_rfl

/-! ### a package with pictures that cannot be opened

  four inline pictures in one paragraph: a LINKED gif that does not exist, an embedded png, a linked jpeg that
  exists next to the input file, a linked png that does not exist -/

def c20_exLinkGraphic (rid : Str) : XmlNode :=
  c17_x S!"a:graphic" [c17_x S!"a:graphicData" [c17_x S!"pic:pic" [c17_x S!"pic:blipFill" [
    .elem S!"a:blip" [(S!"r:link", rid)] []]]]]

def c20_exInline (descr : Str) (g : XmlNode) : XmlNode :=
  c17_x S!"w:r" [c17_x S!"w:drawing" [c17_x S!"wp:inline" [.elem S!"wp:docPr" [(S!"descr", descr)] [], g]]]

def c20_exFailPackage : Package :=
  { parts := [
      (S!"[Content_Types].xml", .xml (c17_x S!"content-types:Types" [
        .elem S!"content-types:Default" [(S!"Extension", S!"png"), (S!"ContentType", S!"image/png")] []])),
      (S!"_rels/.rels", .xml (c17_x S!"relationships:Relationships" [
        c17_exRel S!"rId1" S!"officeDocument" S!"word/document.xml"])),
      (S!"word/_rels/document.xml.rels", .xml (c17_x S!"relationships:Relationships" [
        c17_exRel S!"rId1" S!"image" S!"missing.gif",
        c17_exRel S!"rId2" S!"image" S!"media/image1.png",
        c17_exRel S!"rId3" S!"image" S!"there.jpeg",
        c17_exRel S!"rId4" S!"image" S!"gone.png"])),
      (S!"word/document.xml", .xml (c17_x S!"w:document" [c17_x S!"w:body" [c17_x S!"w:p" [
        c20_exInline S!"a" (c20_exLinkGraphic S!"rId1"),
        c20_exInline S!"b" (c17_exGraphic S!"rId2"),
        c20_exInline S!"c" (c20_exLinkGraphic S!"rId3"),
        c20_exInline S!"d" (c20_exLinkGraphic S!"rId4")]]])),
      (S!"word/media/image1.png", .bytes [7]) ] }

/-- the outside world of the example: one file next to the input file `in2/b.docx` -/
def c20_exWorld : Str → Option Bytes := fun path => if path = S!"in2/there.jpeg" then some [9, 8] else none

end Mammoth
