/-
  C01 — an image changes neither the note counter nor the comment counter; it is handed to the
  image converter exactly once.
-/
import Proofs.C01_Refine
import Proofs.C18_Ext7
namespace Mammoth

/-- the computation leaves the note references and the referenced comments alone and calls the
    image converter with exactly the images `l` -/
def c01_eff {α} (l : List ImageProps) (m : ConvM α) : Prop :=
  ∀ st a st', m st = .ok (a, st') →
    st'.noteRefs = st.noteRefs ∧ st'.refComments = st.refComments ∧ st'.imageCalls = st.imageCalls ++ l

theorem c01_eff_bind {α β} (l1 l2 : List ImageProps) (x : ConvM α) (f : α → ConvM β)
    (hx : c01_eff l1 x) (hf : ∀ a, c01_eff l2 (f a)) : c01_eff (l1 ++ l2) (x >>= f) := by
  intro st b st' hr
  rw [app_bind] at hr
  cases hxs : x st with
  | error e => simp [hxs] at hr
  | ok p =>
    obtain ⟨a, s⟩ := p
    simp only [hxs] at hr
    have h1 := hx st a s hxs
    have h2 := hf a s b st' hr
    exact ⟨h2.1.trans h1.1, h2.2.1.trans h1.2.1, by rw [h2.2.2, h1.2.2, List.append_assoc]⟩

theorem c01_eff_bind0 {α β} (x : ConvM α) (f : α → ConvM β)
    (hx : c01_eff [] x) (hf : ∀ a, c01_eff [] (f a)) : c01_eff [] (x >>= f) :=
  c01_eff_bind [] [] x f hx hf

theorem c01_eff_pure {α} (a : α) : c01_eff [] (pure a : ConvM α) := by
  intro st a' st' hr
  cases hr
  exact ⟨rfl, rfl, by simp⟩

theorem c01_eff_modify (l : List ImageProps) (f : ConvState → ConvState)
    (h : ∀ s, (f s).noteRefs = s.noteRefs ∧ (f s).refComments = s.refComments ∧
      (f s).imageCalls = s.imageCalls ++ l) :
    c01_eff l (modify f : ConvM PUnit) := by
  intro st a st' hr
  rw [app_modify] at hr
  cases hr
  exact h st

theorem c01_eff_warn (m : Str) : c01_eff [] (warn m) :=
  c01_eff_modify [] _ (fun _ => ⟨rfl, rfl, by simp⟩)

theorem c01_eff_openImage (cfg : Cfg) (src : ImageSrc) : c01_eff [] (openImage cfg src) := by
  intro st a st' hr
  rw [c18_openImage_trace cfg src st st' a hr]
  exact ⟨rfl, rfl, by simp⟩

theorem c01_eff_convertImage (cfg : Cfg) (i : ImageProps) : c01_eff [i] (convertImage cfg i) := by
  obtain ⟨ok, no, e⟩ := c18_convertImage_shape cfg i
  rw [e]
  refine c01_eff_bind [i] [] _ _ (c01_eff_modify [i] _ (fun _ => ⟨rfl, rfl, rfl⟩)) ?_
  intro _
  split
  · refine c01_eff_bind0 _ _ (c01_eff_openImage cfg i.src) ?_
    intro r
    split
    · exact c01_eff_pure _
    · exact c01_eff_bind0 _ _ (c01_eff_warn _) (fun _ => c01_eff_pure _)
  · exact c01_eff_pure _

end Mammoth
