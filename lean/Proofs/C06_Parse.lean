/-
  C06_Parse — the parser on the intended token lists.
-/
import Proofs.C06_Escape
import Proofs.C06_Num
namespace Mammoth

@[simp] theorem c06_trySkip_hit (ty : TokTy) (v : Str) (ts : List Token) :
    trySkip ty v (⟨ty, v⟩ :: ts) = some ts := by simp [trySkip]

@[simp] theorem c06_trySkip_sym (v : Str) (ts : List Token) :
    trySkip .symbol v (c06_sym v :: ts) = some ts := by simp [trySkip, c06_sym]

@[simp] theorem c06_trySkip_kw (v : Str) (ts : List Token) :
    trySkip .identifier v (c06_kw v :: ts) = some ts := by simp [trySkip, c06_kw]

@[simp] theorem c06_parseIdentifier_id (s : Str) (ts : List Token) :
    parseIdentifier (c06_id s :: ts) = some (s, ts) := by
  simp [parseIdentifier, nextValue, c06_id, c06_decode_printIdent]

@[simp] theorem c06_parseString_str (s : Str) (ts : List Token) :
    parseString (c06_str s :: ts) = some (s, ts) := by
  simp only [parseString, nextValue, c06_str]
  simp [c06_printString, c06_decode_stringBody]

/-- the head of a token list is not the symbol `v` -/
def c06_headNotSym (v : Str) : List Token → Bool
  | [] => true
  | t :: _ => !(t.ty == .symbol && t.val == v)

/-- the head of a token list is not a symbol at all -/
def c06_headNoSym : List Token → Bool
  | [] => true
  | t :: _ => t.ty != .symbol

/-- the head of a token list is the END token (or the list is empty) -/
def c06_headEnd : List Token → Bool
  | [] => true
  | t :: _ => t.ty == .end

theorem c06_headNoSym_notSym (v : Str) (ts : List Token) (h : c06_headNoSym ts = true) :
    c06_headNotSym v ts = true := by
  cases ts with
  | nil => rfl
  | cons t ts => simp [c06_headNoSym] at h; simp [c06_headNotSym, h]

theorem c06_headEnd_noSym (ts : List Token) (h : c06_headEnd ts = true) : c06_headNoSym ts = true := by
  cases ts with
  | nil => rfl
  | cons t ts => simp [c06_headEnd] at h; simp [c06_headNoSym, h]

theorem c06_trySkip_miss (v : Str) (ts : List Token) (h : c06_headNotSym v ts = true) :
    trySkip .symbol v ts = none := by
  cases ts with
  | nil => rfl
  | cons t ts => simp [c06_headNotSym] at h; simp [trySkip]; intro h1 h2; cases h <;> contradiction

theorem c06_parse_sid (sid : Option Str) (rest : List Token) (h : c06_headNotSym ['.'] rest = true) :
    tryParseClassName (c06_sidToks sid ++ rest) = some (sid, rest) := by
  cases sid with
  | none => simp [c06_sidToks, tryParseClassName, c06_trySkip_miss _ _ h]
  | some s => simp [c06_sidToks, tryParseClassName]

theorem c06_parse_sn (sn : Option StrMatch) (rest : List Token) (h : c06_headNotSym ['['] rest = true) :
    parseStyleName (c06_snToks sn ++ rest) = some (sn, rest) := by
  cases sn with
  | none => simp [c06_snToks, parseStyleName, c06_trySkip_miss _ _ h]
  | some m =>
    cases m with
    | equalTo v => simp [c06_snToks, c06_smToks, parseStyleName, parseStringMatcher]
    | startsWith v =>
      have : trySkip .symbol ['='] (c06_sym ['^', '='] :: c06_str v :: c06_sym [']'] :: rest) = none := by
        simp [trySkip, c06_sym]
      simp [c06_snToks, c06_smToks, parseStyleName, parseStringMatcher, this]

theorem c06_parseNumbering_level (o : Bool) (ds : Str) (rest : List Token) :
    parseNumbering (c06_sym [':'] :: c06_kw (c06_listWord o) :: c06_sym ['('] :: ⟨.integer, ds⟩ :: c06_sym [')'] :: rest) =
      (if ds.length > maxStrDigits then none else some rest).bind fun r => some (some ⟨levelIndexOf ds, o⟩, r) := by
  cases o
  · rfl
  · rfl

theorem c06_parse_num (num : Option c06_Level) (rest : List Token) (hok : c06_levelOK num = true)
    (h : c06_headNotSym [':'] rest = true) :
    parseNumbering (c06_numToks num ++ rest) = some (num.map c06_denoteLevel, rest) := by
  cases num with
  | none => simp [c06_numToks, parseNumbering, c06_trySkip_miss _ _ h]
  | some l =>
    simp only [c06_levelOK, Bool.and_eq_true, decide_eq_true_eq] at hok
    refine (c06_parseNumbering_level l.ordered (c06_printNat l.n) rest).trans ?_
    rw [if_neg (by omega), c06_levelIndexOf_printNat _ hok.1]
    rfl
theorem c06_parse_bracket (key v : Str) (rest : List Token) :
    parseBracketString key (c06_bracketToks key v ++ rest) = some (v, rest) := by
  simp [parseBracketString, c06_bracketToks]

theorem c06_headNotSym_sym (v w : Str) (hv : v ≠ w) (ts : List Token) :
    c06_headNotSym v (c06_sym w :: ts) = true := by
  simp only [c06_headNotSym, c06_sym, beq_self_eq_true, Bool.true_and, Bool.not_eq_true', beq_eq_false_iff_ne]
  exact fun e => hv e.symm

theorem c06_headNotSym_sn (v : Str) (hv : v ≠ ['[']) (sn : Option StrMatch) (rest : List Token)
    (h : c06_headNotSym v rest = true) : c06_headNotSym v (c06_snToks sn ++ rest) = true := by
  cases sn with
  | none => exact h
  | some m => exact c06_headNotSym_sym _ _ hv _

theorem c06_headNotSym_num (v : Str) (hv : v ≠ [':']) (num : Option c06_Level) (rest : List Token)
    (h : c06_headNotSym v rest = true) : c06_headNotSym v (c06_numToks num ++ rest) = true := by
  cases num with
  | none => exact h
  | some m => exact c06_headNotSym_sym _ _ hv _

theorem c06_pdm_p (X : List Token) : parseDocumentMatcher (c06_kw S!"p" :: X) = (do
    let (sid, r) ← tryParseClassName X
    let (sn, r) ← parseStyleName r
    let (num, r) ← parseNumbering r
    pure (.paragraph sid sn num, r)) := rfl
theorem c06_pdm_r (X : List Token) : parseDocumentMatcher (c06_kw S!"r" :: X) = (do
    let (sid, r) ← tryParseClassName X
    let (sn, r) ← parseStyleName r
    pure (.run sid sn, r)) := rfl
theorem c06_pdm_table (X : List Token) : parseDocumentMatcher (c06_kw S!"table" :: X) = (do
    let (sid, r) ← tryParseClassName X
    let (sn, r) ← parseStyleName r
    pure (.table sid sn, r)) := rfl
theorem c06_pdm_highlight (X : List Token) : parseDocumentMatcher (c06_kw S!"highlight" :: X) =
    match trySkip .symbol ['['] X with
    | some _ => (parseBracketString S!"color" X).map fun (c, r') => (.highlight (some c), r')
    | none => some (.highlight none, X) := rfl
theorem c06_pdm_br (X : List Token) : parseDocumentMatcher (c06_kw S!"br" :: X) = (do
    let (ty, r) ← parseBracketString S!"type" X
    if ty == S!"line" || ty == S!"page" || ty == S!"column" then pure (.brk ty, r) else none) := rfl

/-- the matcher parser on the intended tokens, followed by anything that does not start with a symbol -/
theorem c06_parse_matcher (m : c06_Matcher) (rest : List Token) (hok : c06_matcherOK m = true)
    (h : c06_headNoSym rest = true) :
    parseDocumentMatcher (c06_matcherToks m ++ rest) = some (c06_denoteMatcher m, rest) := by
  have hn := fun v => c06_headNoSym_notSym v rest h
  cases m with
  | paragraph sid sn num =>
    simp only [c06_matcherOK, Bool.and_eq_true] at hok
    have h3 := c06_parse_num num rest hok.2 (hn _)
    have h2 := c06_parse_sn sn _ (c06_headNotSym_num _ (by decide) num _ (hn _))
    have h1 := c06_parse_sid sid _ (c06_headNotSym_sn _ (by decide) sn _ (c06_headNotSym_num _ (by decide) num _ (hn _)))
    simp only [c06_matcherToks, List.cons_append, List.append_assoc, c06_pdm_p, h1, h2, h3,
      Option.bind_eq_bind, Option.bind_some]
    rfl
  | run sid sn =>
    have h2 := c06_parse_sn sn _ (hn _)
    have h1 := c06_parse_sid sid _ (c06_headNotSym_sn _ (by decide) sn _ (hn _))
    simp only [c06_matcherToks, List.cons_append, List.append_assoc, c06_pdm_r, h1, h2,
      Option.bind_eq_bind, Option.bind_some]
    rfl
  | table sid sn =>
    have h2 := c06_parse_sn sn _ (hn _)
    have h1 := c06_parse_sid sid _ (c06_headNotSym_sn _ (by decide) sn _ (hn _))
    simp only [c06_matcherToks, List.cons_append, List.append_assoc, c06_pdm_table, h1, h2,
      Option.bind_eq_bind, Option.bind_some]
    rfl
  | highlight c =>
    cases c with
    | none =>
      simp only [c06_matcherToks, List.cons_append, List.nil_append, c06_pdm_highlight, c06_trySkip_miss _ _ (hn _)]
      rfl
    | some c =>
      simp only [c06_matcherToks, List.cons_append, c06_pdm_highlight, c06_parse_bracket]
      rfl
  | brk ty =>
    simp only [c06_matcherToks, List.cons_append, c06_pdm_br, c06_parse_bracket, Option.bind_eq_bind, Option.bind_some]
    cases ty <;> rfl
  | _ => rfl

theorem c06_altToks_length (as : List Str) : (c06_altToks as).length = 2 * as.length := by
  induction as with
  | nil => rfl
  | cons a as ih => simp [c06_altToks, ih]; omega

theorem c06_eventToks_length (evs : List AttrOrClass) : evs.length ≤ (c06_eventToks evs).length := by
  induction evs with
  | nil => simp
  | cons e evs ih => cases e <;> simp [c06_eventToks] <;> omega

theorem c06_parse_alts (as : List Str) : ∀ (f : Nat) (rest : List Token), as.length ≤ f →
    c06_headNotSym ['|'] rest = true → parseAlts f (c06_altToks as ++ rest) = some (as, rest) := by
  induction as with
  | nil =>
    intro f rest _ h
    cases f with
    | zero => simp [parseAlts, c06_altToks]
    | succ f => simp [parseAlts, c06_altToks, c06_trySkip_miss _ _ h]
  | cons a as ih =>
    intro f rest hf h
    cases f with
    | zero => simp at hf
    | succ f =>
      have := ih f rest (by simpa using hf) h
      simp [parseAlts, c06_altToks, this]

theorem c06_parseAttrs_stop (f : Nat) (rest : List Token) (h1 : c06_headNotSym ['['] rest = true)
    (h2 : c06_headNotSym ['.'] rest = true) : parseAttrs f rest = some ([], rest) := by
  cases f with
  | zero => simp [parseAttrs]
  | succ f =>
    unfold parseAttrs
    split
    · simp [c06_headNotSym] at h1
    · simp [c06_headNotSym] at h2
    · rfl

theorem c06_parse_events (evs : List AttrOrClass) : ∀ (f : Nat) (rest : List Token), evs.length ≤ f →
    c06_headNotSym ['['] rest = true → c06_headNotSym ['.'] rest = true →
    parseAttrs f (c06_eventToks evs ++ rest) = some (evs, rest) := by
  induction evs with
  | nil => intro f rest _ h1 h2; simpa [c06_eventToks] using c06_parseAttrs_stop f rest h1 h2
  | cons e evs ih =>
    intro f rest hf h1 h2
    cases f with
    | zero => simp at hf
    | succ f =>
      have := ih f rest (by simpa using hf) h1 h2
      cases e with
      | attr n v => simp [parseAttrs, c06_eventToks, c06_sym, this]
      | cls c => simp [parseAttrs, c06_eventToks, c06_sym, this]

theorem c06_colonWord_miss (w : Str) (rest : List Token) (h : c06_headNotSym [':'] rest = true) :
    trySkipColonWord w rest = none := by
  unfold trySkipColonWord
  split
  · simp [c06_headNotSym] at h
  · rfl

theorem c06_headNotSym_alts (v : Str) (hv : v ≠ ['|']) (as : List Str) (rest : List Token)
    (h : c06_headNotSym v rest = true) : c06_headNotSym v (c06_altToks as ++ rest) = true := by
  cases as with
  | nil => exact h
  | cons a as => exact c06_headNotSym_sym _ _ hv _

theorem c06_headNotSym_events (v : Str) (hv1 : v ≠ ['[']) (hv2 : v ≠ ['.']) (evs : List AttrOrClass)
    (rest : List Token) (h : c06_headNotSym v rest = true) :
    c06_headNotSym v (c06_eventToks evs ++ rest) = true := by
  cases evs with
  | nil => exact h
  | cons e evs =>
    cases e with
    | attr n w => exact c06_headNotSym_sym _ _ hv1 _
    | cls c => exact c06_headNotSym_sym _ _ hv2 _

theorem c06_headNotSym_fresh (v : Str) (hv : v ≠ [':']) (b : Bool) (rest : List Token)
    (h : c06_headNotSym v rest = true) : c06_headNotSym v (c06_freshToks b ++ rest) = true := by
  cases b with
  | false => exact h
  | true => exact c06_headNotSym_sym _ _ hv _

theorem c06_headNotSym_sep (v : Str) (hv : v ≠ [':']) (s : Option Str) (rest : List Token)
    (h : c06_headNotSym v rest = true) : c06_headNotSym v (c06_sepToks s ++ rest) = true := by
  cases s with
  | none => exact h
  | some s => exact c06_headNotSym_sym _ _ hv _

/-- `:fresh` then `:separator('…')` -/
theorem c06_parse_fresh (b : Bool) (s : Option Str) (rest : List Token) (h : c06_headNoSym rest = true) :
    trySkipColonWord S!"fresh" (c06_freshToks b ++ (c06_sepToks s ++ rest)) =
      if b then some (c06_sepToks s ++ rest) else none := by
  cases b with
  | true => simp [c06_freshToks, trySkipColonWord, c06_sym, c06_kw]
  | false =>
    cases s with
    | none => simpa [c06_freshToks, c06_sepToks] using c06_colonWord_miss _ rest (c06_headNoSym_notSym _ _ h)
    | some s => simp [c06_freshToks, c06_sepToks, trySkipColonWord, c06_sym, c06_kw]

theorem c06_parse_sep (s : Option Str) (rest : List Token) (h : c06_headNoSym rest = true) :
    trySkipColonWord S!"separator" (c06_sepToks s ++ rest) =
      s.map (fun v => c06_sym ['('] :: c06_str v :: c06_sym [')'] :: rest) := by
  cases s with
  | none => simpa [c06_sepToks] using c06_colonWord_miss _ rest (c06_headNoSym_notSym _ _ h)
  | some s => simp [c06_sepToks, trySkipColonWord, c06_sym, c06_kw]

/-- one element, followed by anything that does not start with a symbol -/
theorem c06_parse_elem (e : c06_Elem) (f : Nat) (rest : List Token) (hf1 : e.alts.length ≤ f)
    (hf2 : e.events.length ≤ f) (h : c06_headNoSym rest = true) :
    parseElement f (c06_elemToks e ++ rest) = some (c06_denoteElem e, rest) := by
  have hn := fun v => c06_headNoSym_notSym v rest h
  obtain ⟨name, alts, events, fresh, sep⟩ := e
  simp only at hf1 hf2
  have hA := c06_parse_alts alts f
    (c06_eventToks events ++ (c06_freshToks fresh ++ (c06_sepToks sep ++ rest))) hf1
    (c06_headNotSym_events _ (by decide) (by decide) _ _
      (c06_headNotSym_fresh _ (by decide) _ _ (c06_headNotSym_sep _ (by decide) _ _ (hn _))))
  have hE := c06_parse_events events f (c06_freshToks fresh ++ (c06_sepToks sep ++ rest)) hf2
    (c06_headNotSym_fresh _ (by decide) _ _ (c06_headNotSym_sep _ (by decide) _ _ (hn _)))
    (c06_headNotSym_fresh _ (by decide) _ _ (c06_headNotSym_sep _ (by decide) _ _ (hn _)))
  have hF := c06_parse_fresh fresh sep rest h
  have hS := c06_parse_sep sep rest h
  simp only [parseElement, c06_elemToks, List.cons_append, List.append_assoc, c06_parseIdentifier_id,
    Option.bind_eq_bind, Option.bind_some, hA, hE, hF]
  cases fresh with
  | false =>
    simp only [Bool.false_eq_true, if_false, c06_freshToks, List.nil_append, hS]
    cases sep with
    | none => rfl
    | some v => simp [c06_denoteElem]
  | true =>
    simp only [if_true, hS]
    cases sep with
    | none => rfl
    | some v => simp [c06_denoteElem]

theorem c06_elemToks_length (e : c06_Elem) :
    e.alts.length + e.events.length + 1 ≤ (c06_elemToks e).length := by
  have h1 := c06_altToks_length e.alts
  have h2 := c06_eventToks_length e.events
  simp [c06_elemToks]; omega

theorem c06_headNoSym_more (es : List c06_Elem) (rest : List Token) (h : c06_headEnd rest = true) :
    c06_headNoSym (c06_moreToks es ++ rest) = true := by
  cases es with
  | nil => simpa [c06_moreToks] using c06_headEnd_noSym rest h
  | cons e es => simp [c06_moreToks, c06_headNoSym, c06_sp]

theorem c06_parseMore_stop (f : Nat) (rest : List Token) (h : c06_headEnd rest = true) :
    parseMoreElements f rest = some ([], rest) := by
  cases f with
  | zero => simp [parseMoreElements]
  | succ f =>
    unfold parseMoreElements
    split
    · simp [c06_headEnd] at h
    · rfl

theorem c06_parseMore_arrow (f : Nat) (Y : List Token) :
    parseMoreElements (f + 1) (c06_sp :: c06_sym ['>'] :: c06_sp :: Y) = (do
      let (e, r) ← parseElement (f + 1) Y
      let (es, r) ← parseMoreElements f r
      pure (e :: es, r)) := rfl

/-- ` > element` repeated; fuel = number of tokens suffices -/
theorem c06_parse_more (es : List c06_Elem) : ∀ (f : Nat) (rest : List Token),
    (c06_moreToks es).length ≤ f → c06_headEnd rest = true →
    parseMoreElements f (c06_moreToks es ++ rest) = some (es.map c06_denoteElem, rest) := by
  induction es with
  | nil => intro f rest _ h; simpa [c06_moreToks] using c06_parseMore_stop f rest h
  | cons e es ih =>
    intro f rest hf h
    have hl := c06_elemToks_length e
    simp only [c06_moreToks, List.length_cons, List.length_append] at hf
    cases f with
    | zero => omega
    | succ f =>
      have hE := c06_parse_elem e (f + 1) (c06_moreToks es ++ rest) (by omega) (by omega)
        (c06_headNoSym_more es rest h)
      have hM := ih f rest (by omega) h
      simp only [c06_moreToks, List.cons_append, List.append_assoc, c06_parseMore_arrow, hE, hM,
        Option.bind_eq_bind, Option.bind_some, List.map_cons]
      rfl

theorem c06_headEnd_end (ts : List Token) : c06_headEnd (c06_end :: ts) = true := rfl

theorem c06_parseHtmlPath_elem (f : Nat) (e : c06_Elem) (Y : List Token) :
    parseHtmlPath f (c06_elemToks e ++ Y) = (do
      let (e', r) ← parseElement f (c06_elemToks e ++ Y)
      let (es, r) ← parseMoreElements f r
      pure (.elements (e' :: es), r)) := rfl

/-- the path parser on the intended tokens followed by END -/
theorem c06_parse_path (p : c06_Path) (f : Nat) (rest : List Token) (hf : (c06_pathToks p).length ≤ f)
    (h : c06_headEnd rest = true) :
    parseHtmlPath f (c06_pathToks p ++ rest) = some (c06_denotePath p, rest) := by
  cases p with
  | ignore => rfl
  | elems es =>
    cases es with
    | nil =>
      have h1 := c06_trySkip_miss ['!'] rest (c06_headNoSym_notSym _ _ (c06_headEnd_noSym _ h))
      simp only [c06_pathToks, List.nil_append, parseHtmlPath, h1, c06_denotePath, List.map_nil]
      split
      · simp [c06_headEnd] at h
      · rfl
    | cons e es =>
      have hl := c06_elemToks_length e
      simp only [c06_pathToks, List.length_append] at hf
      have hE := c06_parse_elem e f (c06_moreToks es ++ rest) (by omega) (by omega)
        (c06_headNoSym_more es rest h)
      have hM := c06_parse_more es f rest (by omega) h
      simp only [c06_pathToks, List.append_assoc, c06_parseHtmlPath_elem, hE, hM, Option.bind_eq_bind, Option.bind_some]
      rfl

theorem c06_skipWs_path (p : c06_Path) (rest : List Token) :
    trySkipTy .whitespace (c06_pathToks p ++ c06_end :: rest) = none := by
  cases p with
  | ignore => simp [c06_pathToks, trySkipTy, c06_sym]
  | elems es =>
    cases es with
    | nil => simp [c06_pathToks, trySkipTy, c06_end]
    | cons e es => simp [c06_pathToks, c06_elemToks, trySkipTy, c06_id]

theorem c06_parseStyleMapping_arrow (ts X : List Token) (m : Matcher)
    (h : parseDocumentMatcher ts = some (m, c06_sp :: c06_sym ['=', '>'] :: X)) :
    parseStyleMapping ts = (do
      let (p, r) ← parseHtmlPath ts.length ((trySkipTy .whitespace X).getD X)
      let _ ← trySkipTy .end r
      pure ⟨m, p⟩) := by
  unfold parseStyleMapping
  rw [h]
  rfl

end Mammoth
