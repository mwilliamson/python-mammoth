/-
  C04 — which siblings merge: the sequence of top-level nodes of `collapse ns`, computed from `ns` alone by a
  left-to-right scan (`mergeScan`), and the `iff` for one more sibling (`collapse (xs ++ [n])`).
-/
import Proofs.Stable
namespace Mammoth

/-- the tag of the last node if it is an element -/
def lastTag (acc : List Node) : Option Tag :=
  match acc.getLast? with
  | some (.elem t _) => some t
  | _ => none

/-- THE RULE: an element with tag `t` is merged into the element before it, whose tag is `cur` — it is not
    `:fresh`, the earlier name is among its names, the attributes are identical -/
def mergesInto (cur : Option Tag) (t : Tag) : Bool :=
  match cur with
  | some lt => t.collapsible && isMatch lt t
  | none => false

theorem mergesInto_iff (cur : Option Tag) (t : Tag) :
    mergesInto cur t = true ↔
      ∃ lt, cur = some lt ∧ t.collapsible = true ∧ lt.name ∈ t.names ∧ lt.attrs = t.attrs := by
  cases cur with
  | none => simp [mergesInto]
  | some lt => simp [mergesInto, isMatch]

/-- the top-level nodes of a forest: `some tag` for an element, `none` for a text node or marker -/
def topShape : List Node → List (Option Tag)
  | [] => []
  | .elem t _ :: rest => some t :: topShape rest
  | _ :: rest => none :: topShape rest

/-- SPEC, by a scan over the INPUT siblings: `cur` is the tag of the element a following element would be
    merged into (`none` after a text node / marker or at the start).  A merged element contributes no new
    top-level node and leaves `cur` unchanged (the earlier tag is kept). -/
def mergeScan (cur : Option Tag) : List Node → List (Option Tag)
  | [] => []
  | .elem t _ :: rest =>
    if mergesInto cur t then mergeScan cur rest else some t :: mergeScan (some t) rest
  | _ :: rest => none :: mergeScan none rest

theorem topShape_append (a b : List Node) : topShape (a ++ b) = topShape a ++ topShape b := by
  induction a with
  | nil => simp [topShape]
  | cons x xs ih => cases x <;> simp [topShape, ih]

theorem lastTag_append_elem (xs : List Node) (t : Tag) (cs : List Node) :
    lastTag (xs ++ [.elem t cs]) = some t := by simp [lastTag]
theorem lastTag_append_text (xs : List Node) (s : Str) : lastTag (xs ++ [.text s]) = none := by simp [lastTag]
theorem lastTag_append_fw (xs : List Node) : lastTag (xs ++ [.forceWrite]) = none := by simp [lastTag]

theorem mergeable_last (acc : List Node) (l : Node) (t : Tag) (cs : List Node) (hl : acc.getLast? = some l) :
    mergeable l (.elem t cs) = mergesInto (lastTag acc) t := by
  cases l <;> simp [mergeable, lastTag, hl, mergesInto]

/-- a merging element: same top-level nodes, same last tag; the last element receives the children -/
theorem addC_merges (acc : List Node) (t : Tag) (cs : List Node) (h : mergesInto (lastTag acc) t = true) :
    ∃ lt lcs, acc.getLast? = some (.elem lt lcs) ∧
      addC acc (.elem t cs) = acc.dropLast ++ [.elem lt (addAllC (lcs ++ sepText t) cs)] ∧
      topShape (addC acc (.elem t cs)) = topShape acc ∧ lastTag (addC acc (.elem t cs)) = lastTag acc ∧
      (addC acc (.elem t cs)).length = acc.length := by
  cases hl : acc.getLast? with
  | none => simp [lastTag, hl, mergesInto] at h
  | some l =>
    rw [← mergeable_last acc l t cs hl] at h
    cases l with
    | text s => simp [mergeable] at h
    | forceWrite => simp [mergeable] at h
    | elem lt lcs =>
      simp only [mergeable, Bool.and_eq_true] at h
      have hacc := getLast?_eq_some_append acc _ hl
      have e := addC_elem_merge acc t lt cs lcs hl h.1 h.2
      refine ⟨lt, lcs, rfl, e, ?_, ?_, ?_⟩
      · rw [e]; conv => rhs; rw [hacc]
        simp [topShape_append, topShape]
      · rw [e, lastTag_append_elem]; simp [lastTag, hl]
      · rw [e]; conv => rhs; rw [hacc]
        simp

/-- a non-merging element is appended unchanged -/
theorem addC_not_merges (acc : List Node) (t : Tag) (cs : List Node) (h : mergesInto (lastTag acc) t = false) :
    addC acc (.elem t cs) = acc ++ [.elem t cs] :=
  addC_of_not_mergeable acc _ fun l hl => (mergeable_last acc l t cs hl).trans h

/-- the last tag of the output, computed by the same scan on the input -/
def scanLast (cur : Option Tag) : List Node → Option Tag
  | [] => cur
  | .elem t _ :: rest => if mergesInto cur t then scanLast cur rest else scanLast (some t) rest
  | _ :: rest => scanLast none rest

theorem scan_collapseFrom (acc ns : List Node) :
    topShape (collapseFrom acc ns) = topShape acc ++ mergeScan (lastTag acc) ns ∧
      lastTag (collapseFrom acc ns) = scanLast (lastTag acc) ns := by
  induction ns generalizing acc with
  | nil => simp [collapseFrom, mergeScan, scanLast]
  | cons c cs ih =>
    unfold collapseFrom
    rw [(ih _).1, (ih _).2]
    cases c with
    | text s =>
      simp [collapseNode, addC_text, lastTag_append_text, topShape_append, topShape, mergeScan, scanLast]
    | forceWrite =>
      simp [collapseNode, addC_fw, lastTag_append_fw, topShape_append, topShape, mergeScan, scanLast]
    | elem t cs' =>
      simp only [collapseNode, mergeScan, scanLast]
      by_cases h : mergesInto (lastTag acc) t = true
      · obtain ⟨_, _, _, _, h1, h2, _⟩ := addC_merges acc t (collapseFrom [] cs') h
        rw [h1, h2]
        simp [h]
      · simp only [Bool.not_eq_true] at h
        rw [addC_not_merges acc t _ h, lastTag_append_elem, topShape_append]
        simp [h, topShape]

end Mammoth
