/-
  C05 — more fuel never changes an outcome of the element reader: a normal result and every error other
  than `.fuel` is the same with more fuel.
-/
import Proofs.C05_ReadBody
namespace Mammoth

/-- `x ≤ y`: whenever `x` has a definite outcome (a value, or an error that is not `.fuel`), `y` has the same -/
structure c05_le2 {α} (x y : Except Err α) : Prop where
  ok : ∀ r, x = .ok r → y = .ok r
  err : ∀ e, x = .error e → e ≠ .fuel → y = .error e

theorem c05_le2_refl {α} (x : Except Err α) : c05_le2 x x := ⟨fun _ h => h, fun _ h _ => h⟩

theorem c05_le2_trans {α} {x y z : Except Err α} (h1 : c05_le2 x y) (h2 : c05_le2 y z) : c05_le2 x z :=
  ⟨fun r hr => h2.ok r (h1.ok r hr), fun e he hne => h2.err e (h1.err e he hne) hne⟩

theorem c05_le2_bind {α β} (x x' : Except Err α) (f f' : α → Except Err β)
    (hx : c05_le2 x x') (hf : ∀ a, c05_le2 (f a) (f' a)) : c05_le2 (x >>= f) (x' >>= f') := by
  cases hxx : x with
  | error e =>
    constructor
    · intro r h; cases h
    · intro e' h hne
      cases h
      rw [hx.err e hxx hne]; rfl
  | ok a =>
    rw [hx.ok a hxx]
    exact hf a

theorem c05_le2_map {α β} (x x' : Except Err α) (f : α → β)
    (hx : c05_le2 x x') : c05_le2 (x.map f) (x'.map f) := by
  cases hxx : x with
  | error e =>
    refine ⟨fun r h => (nomatch h), fun e' h hne => ?_⟩
    cases h
    rw [hx.err e hxx hne]; rfl
  | ok a =>
    rw [hx.ok a hxx]
    exact c05_le2_refl _

theorem c05_readAllWith_le2 (rd rd' : c05_Rd) (hrd : ∀ st n, c05_le2 (rd st n) (rd' st n)) :
    ∀ (ns : List XmlNode) (st : RState), c05_le2 (readAllWith rd st ns) (readAllWith rd' st ns)
  | [], st => c05_le2_refl _
  | .text _ :: rest, st => c05_readAllWith_le2 rd rd' hrd rest st
  | .elem n as cs :: rest, st =>
    c05_le2_bind _ _ _ _ (hrd _ _) fun _ =>
      c05_le2_bind _ _ _ _ (c05_readAllWith_le2 rd rd' hrd rest _) fun _ => c05_le2_refl _

/-- a handler calls `readAll` at most once, and only the outcome of that call depends on it -/
theorem c05_readHandler_le2 (env : REnv) (ra ra' : c05_RdAll) (ih : ∀ st ns, c05_le2 (ra st ns) (ra' st ns))
    (st : RState) (as : Attrs) (cs : List XmlNode) (k : Handler) :
    c05_le2 (readHandler env ra st as cs k) (readHandler env ra' st as cs k) := by
  cases k with
  | run | table | tableRow | pict | hyperlink => exact c05_le2_bind _ _ _ _ (ih _ _) fun _ => c05_le2_refl _
  | childElements | alternateContent => exact ih _ _
  | tableCell =>
    rw [readHandler_tableCell, readHandler_tableCell]
    exact c05_le2_bind _ _ _ _ (c05_le2_refl _) fun _ => c05_le2_bind _ _ _ _ (ih _ _) fun _ => c05_le2_refl _
  | paragraph =>
    dsimp only [readHandler]
    split
    · exact c05_le2_refl _
    · exact c05_le2_bind _ _ _ _ (ih _ _) fun _ => c05_le2_refl _
  | sdt =>
    dsimp only [readHandler]
    split
    · exact c05_le2_refl _
    · exact ih _ _
  | _ => exact c05_le2_refl _

theorem c05_readElem_le2_succ (env : REnv) : ∀ (f : Nat) (st : RState) (n : XmlNode),
    c05_le2 (readElem env f st n) (readElem env (f+1) st n)
  | f, st, .text s => by rw [c05_readElem_text, c05_readElem_text]; exact c05_le2_refl _
  | 0, st, .elem name as cs => by
    rw [c05_readElem_zero]
    exact ⟨fun r h => (by cases h), fun e h hne => (by cases h; exact absurd rfl hne)⟩
  | f+1, st, .elem name as cs => by
    cases hg : handlerOf name with
    | none => rw [c05_readElem_unhandled _ _ _ _ _ hg, c05_readElem_unhandled _ _ _ _ _ hg]; exact c05_le2_refl _
    | some h =>
      obtain ⟨k, rfl⟩ := handlerOf_known hg
      rw [c05_readElem_handler _ _ _ _ _ k hg, c05_readElem_handler _ _ _ _ _ k hg]
      exact c05_readHandler_le2 env _ _
        (fun st ns => c05_readAllWith_le2 _ _ (c05_readElem_le2_succ env f) ns st) st as cs k

theorem c05_readElem_le2_add (env : REnv) (f k : Nat) (st : RState) (n : XmlNode) :
    c05_le2 (readElem env f st n) (readElem env (f+k) st n) := by
  induction k with
  | zero => exact c05_le2_refl _
  | succ k ih => exact c05_le2_trans ih (c05_readElem_le2_succ env (f+k) st n)

/-- for lists of nodes: every definite outcome at fuel `f` is the outcome at every fuel `f' ≥ f` -/
theorem c05_readAll_le2 (env : REnv) (f f' : Nat) (hf : f ≤ f') (st : RState) (ns : List XmlNode) :
    c05_le2 (readAll env f st ns) (readAll env f' st ns) := by
  obtain ⟨k, rfl⟩ := Nat.exists_eq_add_of_le hf
  exact c05_readAllWith_le2 _ _ (fun st n => c05_readElem_le2_add env f k st n) ns st

/-- `x ≤ y`: whenever `x` returns normally, `y` returns the same value -/
structure c05_le {α} (x y : Except Err α) : Prop where
  h : ∀ r, x = .ok r → y = .ok r

theorem c05_le_map {α β} (x x' : Except Err α) (f : α → β)
    (hx : c05_le x x') : c05_le (x.map f) (x'.map f) := by
  constructor; intro r h
  cases hxx : x with
  | error e => rw [hxx] at h; cases h
  | ok a => rw [hx.h a hxx]; rw [hxx] at h; exact h

end Mammoth
