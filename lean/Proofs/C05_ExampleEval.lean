/-
  C05 — the example package of Proofs/C05_Example.lean: the view (`c05_view`) of the whole family of variants;
  the clauses of the domain, evaluated once (membership in the domain and its three parts follow from them);
  the document the reader makes of it.
-/
import Proofs.C05_Example
namespace Mammoth

/-- numbering and styles as `readSharedEnv` reads them from `c05_exNumbering styleNumId` -/
def c05_exShared (styleNumId : Str) : REnv :=
  let styles : Styles := { numbering := [(some S!"ListStyle", some styleNumId)] }
  { styles := styles,
    numbering := {
      abstractNums := [(some S!"0", ⟨[(S!"0", ⟨S!"0", true, none⟩)], none⟩), (some S!"1", ⟨[], some S!"ListStyle"⟩),
                       (some S!"2", ⟨[], some S!"NoSuchStyle"⟩)],
      nums := [(some S!"1", S!"0"), (some S!"2", S!"1"), (some S!"3", S!"2")], styles := styles } }

def c05_exRels : Rels :=
  [⟨S!"rId1", S!"http://example.com", relTypePrefix ++ S!"hyperlink"⟩,
   ⟨S!"rId2", S!"media/a.png", relTypePrefix ++ S!"image"⟩,
   ⟨S!"rId3", S!"footnotes.xml", relTypePrefix ++ S!"footnotes"⟩,
   ⟨S!"rId4", S!"comments.xml", relTypePrefix ++ S!"comments"⟩,
   ⟨S!"rId5", S!"numbering.xml", relTypePrefix ++ S!"numbering"⟩,
   ⟨S!"rId6", S!"styles.xml", relTypePrefix ++ S!"styles"⟩,
   ⟨S!"rId7", S!"media/missing.png", relTypePrefix ++ S!"image"⟩]

def c05_exView (body : List XmlNode) (styleNumId : Str) (footnote : List XmlNode) : c05_View :=
  { shared := c05_exShared styleNumId, fnRels := [], fnElems := [([(S!"w:id", S!"1")], footnote)],
    enRels := [], enElems := [], cmRels := [],
    cmElems := [([(S!"w:id", S!"0"), (S!"w:author", S!"A")], [.elem S!"w:p" [] [c05_exTxt S!"a comment"]])],
    bodyRels := c05_exRels, body := body }

/-- The view of every package built by `c05_exParts`, whatever the three things are that the variants change:
    locating and parsing the parts inspects none of them (`collapseAltL` is what `readXml` does to a part). -/
theorem c05_exParts_view (body : List XmlNode) (styleNumId : Str) (footnote : List XmlNode) :
    c05_view { parts := c05_exParts body styleNumId footnote } =
      some (c05_exView (collapseAltL body) styleNumId (collapseAltL footnote)) := by
  c05_kernel_rfl

theorem c05_exPackage_clauses : c05_clauses c05_exPackage =
    [true, true, true, true, true, true, true, true, true, true, true, true, true, true, true, true, true, true] := by
  rw [c05_clauses, c05_exPackage, c05_exParts_view]
  decide +kernel

theorem c05_exPackage_inDomain : c05_inDomain c05_exPackage = true := by
  rw [c05_inDomain_eq_clauses, c05_exPackage_clauses]
  rfl

theorem c05_exPackage_parts :
    c05_readable c05_exPackage = true ∧ c05_refsResolve c05_exPackage = true ∧ c05_styleMapOk c05_exPackage = true := by
  simpa only [c05_inDomain, Bool.and_eq_true, and_assoc] using c05_exPackage_inDomain

/-- the field begun in the deleted paragraph reappears as hyperlink runs of the second one -/
def c05_exDoc : Document :=
  { children := [.paragraph { styleId := some S!"NoSuchStyle", numbering := some { levelIndex := S!"0", isOrdered := true } } [
      .run {} [], .run {} [], .run {} [.hyperlink { href := some S!"http://x" } []],
      .run {} [.hyperlink { href := some S!"http://x" } [.text S!"x"]], .run {} [],
      .run {} [.noteRef S!"footnote" S!"1"], .run {} [.commentRef S!"0"],
      .run {} [.image { altText := some S!"a picture", contentType := some S!"image/png",
                        src := .embedded S!"word/media/a.png" }],
      .hyperlink { href := some S!"http://example.com" } [.run {} [.text S!"y"]]]],
    notes := [⟨S!"footnote", S!"1", [.paragraph {} [.run {} [.text S!"a note"]]]⟩],
    comments := [{ id := S!"0", body := [.paragraph {} [.run {} [.text S!"a comment"]]], authorName := some S!"A" }] }

theorem c05_exPackage_read : readPackage c05_exPackage 40 =
    .ok (c05_exDoc, [S!"Paragraph style with ID NoSuchStyle was referenced but not defined in the document"]) := by
  rw [c05_exPackage, c05_readPackage_view _ _ _ (c05_exParts_view ..)]
  c05_kernel_rfl

end Mammoth
