/-
  C07 — the recursive-descent parser's loops (`parseAlts`, `parseAttrs`, `parseMoreElements`)
  consume at least one token per iteration, so their result does not depend on the fuel as
  soon as the fuel is at least the number of tokens left.
-/
import MammothModel.Dsl
namespace Mammoth

theorem c07_trySkip_len {ty v ts r} (h : trySkip ty v ts = some r) : r.length + 1 = ts.length := by
  cases ts with
  | nil => simp [trySkip] at h
  | cons t ts => simp [trySkip] at h; obtain ⟨_, rfl⟩ := h; simp

theorem c07_trySkipTy_len {ty ts r} (h : trySkipTy ty ts = some r) : r.length + 1 = ts.length := by
  cases ts with
  | nil => simp [trySkipTy] at h
  | cons t ts => simp [trySkipTy] at h; obtain ⟨_, rfl⟩ := h; simp

theorem c07_nextValue_len {ty ts v r} (h : nextValue ty ts = some (v, r)) : r.length + 1 = ts.length := by
  cases ts with
  | nil => simp [nextValue] at h
  | cons t ts => simp [nextValue] at h; obtain ⟨_, _, rfl⟩ := h; simp

theorem c07_parseIdentifier_len {ts v r} (h : parseIdentifier ts = some (v, r)) : r.length + 1 = ts.length := by
  simp only [parseIdentifier, Option.map_eq_some_iff, Prod.exists, Prod.mk.injEq] at h
  obtain ⟨_, _, h', _, rfl⟩ := h
  exact c07_nextValue_len h'

theorem c07_parseString_len {ts v r} (h : parseString ts = some (v, r)) : r.length + 1 = ts.length := by
  simp only [parseString, Option.map_eq_some_iff, Prod.exists, Prod.mk.injEq] at h
  obtain ⟨_, _, h', _, rfl⟩ := h
  exact c07_nextValue_len h'

theorem c07_parseAlts_consumes : ∀ f ts x r, parseAlts f ts = some (x, r) → r.length + 2 * x.length ≤ ts.length := by
  intro f
  induction f with
  | zero => intro ts x r h; obtain ⟨rfl, rfl⟩ := Prod.mk.inj (Option.some.inj h); exact Nat.le_refl _
  | succ f ih =>
    intro ts x r h
    rw [parseAlts] at h
    split at h
    · rename_i r1 h1
      simp only [Option.bind_eq_bind, Option.bind_eq_some_iff, Prod.exists, pure, Option.some.injEq, Prod.mk.injEq] at h
      obtain ⟨n, r2, h2, ns, r3, h3, rfl, rfl⟩ := h
      have := ih _ _ _ h3
      have := c07_trySkip_len h1
      have := c07_parseIdentifier_len h2
      simp only [List.length_cons]
      omega
    · obtain ⟨rfl, rfl⟩ := Prod.mk.inj (Option.some.inj h); exact Nat.le_refl _

theorem c07_parseAlts_stable : ∀ f g ts, ts.length ≤ f → ts.length ≤ g → parseAlts f ts = parseAlts g ts := by
  intro f
  induction f with
  | zero =>
    intro g ts h _
    have : ts = [] := List.eq_nil_of_length_eq_zero (by omega)
    subst this
    cases g <;> rfl
  | succ f ih =>
    intro g ts hf hg
    cases g with
    | zero =>
      have : ts = [] := List.eq_nil_of_length_eq_zero (by omega)
      subst this
      rfl
    | succ g =>
      rw [parseAlts, parseAlts]
      split
      · rename_i r1 h1
        refine Option.bind_congr ?_
        rintro ⟨n, r2⟩ h2
        have := c07_trySkip_len h1
        have := c07_parseIdentifier_len h2
        dsimp only
        rw [ih g r2 (by omega) (by omega)]
      · rfl
theorem c07_parseAlts_len (f ts x r) (h : parseAlts f ts = some (x, r)) : r.length ≤ ts.length :=
  Nat.le_trans (Nat.le_add_right _ _) (c07_parseAlts_consumes f ts x r h)

theorem c07_parseAttrs_succ (f : Nat) (ts : List Token) : parseAttrs (f+1) ts =
    match ts with
    | ⟨.symbol, ['[']⟩ :: r => do
      let (name, r) ← parseIdentifier r
      let r ← trySkip .symbol ['='] r
      let (v, r) ← parseString r
      let r ← trySkip .symbol [']'] r
      let (rest, r) ← parseAttrs f r
      pure (.attr name v :: rest, r)
    | ⟨.symbol, ['.']⟩ :: r => do
      let (c, r) ← parseIdentifier r
      let (rest, r) ← parseAttrs f r
      pure (.cls c :: rest, r)
    | _ => some ([], ts) := by
  split
  · rfl
  · rfl
  · rename_i h1 h2; exact parseAttrs.eq_4 ts f h1 h2

theorem c07_parseAttrs_consumes : ∀ f ts x r, parseAttrs f ts = some (x, r) → r.length + 2 * x.length ≤ ts.length := by
  intro f
  induction f with
  | zero => intro ts x r h; obtain ⟨rfl, rfl⟩ := Prod.mk.inj (Option.some.inj h); exact Nat.le_refl _
  | succ f ih =>
    intro ts x r h
    rw [c07_parseAttrs_succ] at h
    split at h
    · simp only [Option.bind_eq_bind, Option.bind_eq_some_iff, Prod.exists, pure, Option.some.injEq, Prod.mk.injEq] at h
      obtain ⟨name, r1, h1, r2, h2, v, r3, h3, r4, h4, rest, r5, h5, rfl, rfl⟩ := h
      have := ih _ _ _ h5
      have := c07_parseIdentifier_len h1
      have := c07_trySkip_len h2
      have := c07_parseString_len h3
      have := c07_trySkip_len h4
      simp only [List.length_cons]
      omega
    · simp only [Option.bind_eq_bind, Option.bind_eq_some_iff, Prod.exists, pure, Option.some.injEq, Prod.mk.injEq] at h
      obtain ⟨c, r1, h1, rest, r5, h5, rfl, rfl⟩ := h
      have := ih _ _ _ h5
      have := c07_parseIdentifier_len h1
      simp only [List.length_cons]
      omega
    · obtain ⟨rfl, rfl⟩ := Prod.mk.inj (Option.some.inj h); exact Nat.le_refl _

theorem c07_parseAttrs_len (f ts x r) (h : parseAttrs f ts = some (x, r)) : r.length ≤ ts.length :=
  Nat.le_trans (Nat.le_add_right _ _) (c07_parseAttrs_consumes f ts x r h)

theorem c07_parseAttrs_stable : ∀ f g ts, ts.length ≤ f → ts.length ≤ g → parseAttrs f ts = parseAttrs g ts := by
  intro f
  induction f with
  | zero =>
    intro g ts h _
    have : ts = [] := List.eq_nil_of_length_eq_zero (by omega)
    subst this
    cases g <;> rfl
  | succ f ih =>
    intro g ts hf hg
    cases g with
    | zero =>
      have : ts = [] := List.eq_nil_of_length_eq_zero (by omega)
      subst this
      rfl
    | succ g =>
      rw [c07_parseAttrs_succ, c07_parseAttrs_succ]
      split
      · simp only [List.length_cons] at hf hg
        refine Option.bind_congr ?_
        rintro ⟨name, r1⟩ h1
        refine Option.bind_congr fun r2 h2 => Option.bind_congr ?_
        rintro ⟨v, r3⟩ h3
        refine Option.bind_congr fun r4 h4 => ?_
        have := c07_parseIdentifier_len h1
        have := c07_trySkip_len h2
        have := c07_parseString_len h3
        have := c07_trySkip_len h4
        rw [ih g r4 (by omega) (by omega)]
      · simp only [List.length_cons] at hf hg
        refine Option.bind_congr ?_
        rintro ⟨c, r1⟩ h1
        have := c07_parseIdentifier_len h1
        dsimp only
        rw [ih g r1 (by omega) (by omega)]
      · rfl

theorem c07_trySkipColonWord_len {w ts r} (h : trySkipColonWord w ts = some r) : r.length + 2 = ts.length := by
  unfold trySkipColonWord at h
  split at h
  · split at h
    · simp at h; subst h; simp
    · simp at h
  · simp at h

theorem c07_parseElement_stable (f g : Nat) (ts : List Token) (hf : ts.length ≤ f) (hg : ts.length ≤ g) :
    parseElement f ts = parseElement g ts := by
  unfold parseElement
  refine Option.bind_congr ?_
  rintro ⟨n, r1⟩ h1
  have := c07_parseIdentifier_len h1
  dsimp only
  rw [c07_parseAlts_stable f g r1 (by omega) (by omega)]
  refine Option.bind_congr ?_
  rintro ⟨alts, r2⟩ h2
  have := c07_parseAlts_len _ _ _ _ h2
  dsimp only
  rw [c07_parseAttrs_stable f g r2 (by omega) (by omega)]

theorem c07_parseElement_len (f : Nat) (ts : List Token) (e : Tag) (r : List Token)
    (h : parseElement f ts = some (e, r)) : r.length < ts.length := by
  unfold parseElement at h
  simp only [Option.bind_eq_bind, Option.bind_eq_some_iff, Prod.exists] at h
  obtain ⟨n, r1, h1, alts, r2, h2, acs, r3, h3, sep, r5, h4, h5⟩ := h
  have := c07_parseIdentifier_len h1
  have := c07_parseAlts_len _ _ _ _ h2
  have := c07_parseAttrs_len _ _ _ _ h3
  obtain ⟨_, rfl⟩ := Prod.mk.inj (Option.some.inj h5)
  have hfresh : (match trySkipColonWord S!"fresh" r3 with
      | some r' => (true, r') | none => (false, r3)).2.length ≤ r3.length := by
    split
    · rename_i hf; have := c07_trySkipColonWord_len hf; simp only; omega
    · exact Nat.le_refl _
  generalize (match trySkipColonWord S!"fresh" r3 with
      | some r' => (true, r') | none => (false, r3)).2 = r4 at h4 hfresh
  suffices r5.length ≤ r4.length by omega
  split at h4
  · rename_i r' hsep
    have := c07_trySkipColonWord_len hsep
    simp only [Option.bind_eq_some_iff, Prod.exists, pure] at h4
    obtain ⟨r6, h6, v, r7, h7, r8, h8, h9⟩ := h4
    have := c07_trySkip_len h6
    have := c07_parseString_len h7
    have := c07_trySkip_len h8
    obtain ⟨_, rfl⟩ := Prod.mk.inj (Option.some.inj h9)
    omega
  · obtain ⟨_, rfl⟩ := Prod.mk.inj (Option.some.inj h4)
    exact Nat.le_refl _
theorem c07_parseMoreElements_succ (f : Nat) (ts : List Token) : parseMoreElements (f+1) ts =
    match ts with
    | ⟨.whitespace, _⟩ :: ⟨.symbol, ['>']⟩ :: r => do
      let r ← trySkipTy .whitespace r
      let (e, r) ← parseElement (f+1) r
      let (es, r) ← parseMoreElements f r
      pure (e :: es, r)
    | _ => some ([], ts) := by
  split
  · rfl
  · rename_i h1; exact parseMoreElements.eq_3 ts f h1

theorem c07_parseMoreElements_stable : ∀ f g ts, ts.length ≤ f → ts.length ≤ g →
    parseMoreElements f ts = parseMoreElements g ts := by
  intro f
  induction f with
  | zero =>
    intro g ts h _
    have : ts = [] := List.eq_nil_of_length_eq_zero (by omega)
    subst this
    cases g <;> simp [parseMoreElements]
  | succ f ih =>
    intro g ts hf hg
    cases g with
    | zero =>
      have : ts = [] := List.eq_nil_of_length_eq_zero (by omega)
      subst this
      simp [parseMoreElements]
    | succ g =>
      rw [c07_parseMoreElements_succ, c07_parseMoreElements_succ]
      split
      · simp only [List.length_cons] at hf hg
        refine Option.bind_congr fun r1 h1 => ?_
        have := c07_trySkipTy_len h1
        rw [c07_parseElement_stable (f+1) (g+1) r1 (by omega) (by omega)]
        refine Option.bind_congr ?_
        rintro ⟨e, r2⟩ h2
        have := c07_parseElement_len _ _ _ _ h2
        dsimp only
        rw [ih g r2 (by omega) (by omega)]
      · rfl

theorem c07_parseHtmlPath_stable (f g : Nat) (ts : List Token) (hf : ts.length ≤ f) (hg : ts.length ≤ g) :
    parseHtmlPath f ts = parseHtmlPath g ts := by
  unfold parseHtmlPath
  split
  · rfl
  · split
    · rw [c07_parseElement_stable f g _ hf hg]
      refine Option.bind_congr ?_
      rintro ⟨e, r2⟩ h2
      have := c07_parseElement_len _ _ _ _ h2
      dsimp only
      rw [c07_parseMoreElements_stable f g r2 (by omega) (by omega)]
    · rfl

theorem c07_tryParseClassName_len {ts v r} (h : tryParseClassName ts = some (v, r)) : r.length ≤ ts.length := by
  unfold tryParseClassName at h
  split at h
  · rename_i r0 h0
    have := c07_trySkip_len h0
    simp only [Option.map_eq_some_iff, Prod.exists] at h
    obtain ⟨a, b, h1, h2⟩ := h
    have := c07_parseIdentifier_len h1
    simp at h2; obtain ⟨_, h2⟩ := h2; rw [← h2]; omega
  · simp at h; obtain ⟨_, h⟩ := h; rw [← h]; exact Nat.le_refl _

theorem c07_parseStringMatcher_len {ts v r} (h : parseStringMatcher ts = some (v, r)) : r.length ≤ ts.length := by
  unfold parseStringMatcher at h
  split at h
  · rename_i r0 h0
    have := c07_trySkip_len h0
    simp only [Option.map_eq_some_iff, Prod.exists] at h
    obtain ⟨a, b, h1, h2⟩ := h
    have := c07_parseString_len h1
    simp at h2; obtain ⟨_, h2⟩ := h2; rw [← h2]; omega
  · split at h
    · rename_i r0 h0
      have := c07_trySkip_len h0
      simp only [Option.map_eq_some_iff, Prod.exists] at h
      obtain ⟨a, b, h1, h2⟩ := h
      have := c07_parseString_len h1
      simp at h2; obtain ⟨_, h2⟩ := h2; rw [← h2]; omega
    · simp at h

theorem c07_parseStyleName_len {ts v r} (h : parseStyleName ts = some (v, r)) : r.length ≤ ts.length := by
  unfold parseStyleName at h
  split at h
  · rename_i r0 h0
    have := c07_trySkip_len h0
    simp only [Option.bind_eq_bind, Option.bind_eq_some_iff, Prod.exists, pure] at h
    obtain ⟨r1, h1, m, r2, h2, r3, h3, h4⟩ := h
    have := c07_trySkip_len h1
    have := c07_parseStringMatcher_len h2
    have := c07_trySkip_len h3
    simp at h4; obtain ⟨_, h4⟩ := h4; rw [← h4]; omega
  · simp at h; obtain ⟨_, h⟩ := h; rw [← h]; exact Nat.le_refl _

theorem c07_parseNumbering_len {ts v r} (h : parseNumbering ts = some (v, r)) : r.length ≤ ts.length := by
  unfold parseNumbering at h
  split at h
  · rename_i r0 h0
    have := c07_trySkip_len h0
    simp only [Option.bind_eq_bind, Option.bind_eq_some_iff, Prod.exists, pure] at h
    obtain ⟨lt, r1, h1, ordered, _, r2, h2, digits, r3, h3, r4, h4, h5⟩ := h
    have := c07_nextValue_len h1
    have := c07_trySkip_len h2
    have := c07_nextValue_len h3
    split at h4
    · simp at h4
    · have := c07_trySkip_len h4
      simp at h5; obtain ⟨_, h5⟩ := h5; rw [← h5]; omega
  · simp at h; obtain ⟨_, h⟩ := h; rw [← h]; exact Nat.le_refl _

theorem c07_parseBracketString_len {key ts v r} (h : parseBracketString key ts = some (v, r)) : r.length ≤ ts.length := by
  unfold parseBracketString at h
  simp only [Option.bind_eq_bind, Option.bind_eq_some_iff, Prod.exists, pure] at h
  obtain ⟨r1, h1, r2, h2, r3, h3, v', r4, h4, r5, h5, h6⟩ := h
  have := c07_trySkip_len h1
  have := c07_trySkip_len h2
  have := c07_trySkip_len h3
  have := c07_parseString_len h4
  have := c07_trySkip_len h5
  simp at h6; obtain ⟨_, h6⟩ := h6; rw [← h6]; omega

def c07_leaves {α} (n : Nat) (o : Option (α × List Token)) : Prop :=
  ∀ v r, o = some (v, r) → r.length ≤ n

theorem c07_leaves_ite {α n} {c : Prop} [Decidable c] {a b : Option (α × List Token)}
    (ha : c07_leaves n a) (hb : c07_leaves n b) : c07_leaves n (if c then a else b) := by
  split
  · exact ha
  · exact hb

theorem c07_leaves_some {α} (x : α) (r : List Token) : c07_leaves r.length (some (x, r)) := by
  intro v r' h
  obtain ⟨_, rfl⟩ := Prod.mk.inj (Option.some.inj h)
  exact Nat.le_refl _

theorem c07_leaves_none {α n} : c07_leaves (α := α) n none := nofun

theorem c07_parseDocumentMatcher_len {ts m r} (h : parseDocumentMatcher ts = some (m, r)) : r.length ≤ ts.length := by
  unfold parseDocumentMatcher at h
  split at h
  · rename_i name r0
    -- one reason per keyword, in the order of the `if` chain
    refine Nat.le_succ_of_le ((?_ : c07_leaves r0.length _) m r h)
    have hsn : ∀ (mk : Option Str → Option StrMatch → Matcher), c07_leaves r0.length (do
        let (sid, r) ← tryParseClassName r0
        let (sn, r) ← parseStyleName r
        pure (mk sid sn, r)) := by
      intro mk v r h
      simp only [Option.bind_eq_bind, Option.bind_eq_some_iff, Prod.exists, pure] at h
      obtain ⟨sid, r1, e1, sn, r2, e2, e4⟩ := h
      have := c07_tryParseClassName_len e1
      have := c07_parseStyleName_len e2
      obtain ⟨_, rfl⟩ := Prod.mk.inj (Option.some.inj e4)
      omega
    refine c07_leaves_ite ?para (c07_leaves_ite (hsn .run) (c07_leaves_ite (hsn .table) (c07_leaves_ite (c07_leaves_some _ _)
      (c07_leaves_ite (c07_leaves_some _ _) (c07_leaves_ite (c07_leaves_some _ _) (c07_leaves_ite (c07_leaves_some _ _)
      (c07_leaves_ite (c07_leaves_some _ _) (c07_leaves_ite (c07_leaves_some _ _) (c07_leaves_ite ?highlight
      (c07_leaves_ite (c07_leaves_some _ _) (c07_leaves_ite ?br c07_leaves_none)))))))))))
    case para =>
      intro v r h
      simp only [Option.bind_eq_bind, Option.bind_eq_some_iff, Prod.exists, pure] at h
      obtain ⟨sid, r1, e1, sn, r2, e2, num, r3, e3, e4⟩ := h
      have := c07_tryParseClassName_len e1
      have := c07_parseStyleName_len e2
      have := c07_parseNumbering_len e3
      obtain ⟨_, rfl⟩ := Prod.mk.inj (Option.some.inj e4)
      omega
    case highlight =>
      split
      · intro v r h
        simp only [Option.map_eq_some_iff, Prod.exists] at h
        obtain ⟨c, r1, e1, e2⟩ := h
        have := c07_parseBracketString_len e1
        obtain ⟨_, rfl⟩ := Prod.mk.inj e2
        exact this
      · exact c07_leaves_some _ _
    case br =>
      intro v r h
      simp only [Option.bind_eq_bind, Option.bind_eq_some_iff, Prod.exists, pure] at h
      obtain ⟨ty, r1, e1, e2⟩ := h
      have := c07_parseBracketString_len e1
      split at e2
      · obtain ⟨_, rfl⟩ := Prod.mk.inj (Option.some.inj e2)
        exact this
      · nomatch e2
  · nomatch h
/-- `parseStyleMapping` with the fuel of the html-path loops as a parameter -/
def c07_parseStyleMappingFuel (fuel : Nat) (ts : List Token) : Option Style := do
  let (m, r) ← parseDocumentMatcher ts
  let r ← trySkipTy .whitespace r
  let r ← trySkip .symbol ['=', '>'] r
  let r := (trySkipTy .whitespace r).getD r
  let (p, r) ← parseHtmlPath fuel r
  let _ ← trySkipTy .end r
  pure ⟨m, p⟩

theorem c07_parseMoreElements_consumes : ∀ f ts x r, parseMoreElements f ts = some (x, r) →
    r.length + 4 * x.length ≤ ts.length := by
  intro f
  induction f with
  | zero => intro ts x r h; simp [parseMoreElements] at h; obtain ⟨rfl, rfl⟩ := h; simp
  | succ f ih =>
    intro ts x r h
    rw [c07_parseMoreElements_succ] at h
    split at h
    · rename_i v r0
      simp only [Option.bind_eq_bind, Option.bind_eq_some_iff, Prod.exists, pure] at h
      obtain ⟨r1, h1, e, r2, h2, es, r3, h3, h4⟩ := h
      have := c07_trySkipTy_len h1
      have := c07_parseElement_len _ _ _ _ h2
      have := ih _ _ _ h3
      simp at h4
      obtain ⟨rfl, rfl⟩ := h4
      simp only [List.length_cons]; omega
    · simp at h; obtain ⟨rfl, rfl⟩ := h; simp

end Mammoth
