/-
  C17 — `convertImage`, `findContentType`, `readImage` (`_read_image`) and `readInline` each as one equation;
  `splitOnChar` on extensions.
-/
import MammothModel.Reader
import Proofs.Basics
namespace Mammoth

/-! ### running `ConvM` programs; `convertImage` -/

theorem c17_run_pure {α} (a : α) (st : ConvState) : (pure a : ConvM α).run st = .ok (a, st) := run_pure a st
theorem c17_run_modify (f : ConvState → ConvState) (st : ConvState) :
    (modify f : ConvM PUnit).run st = .ok (⟨⟩, f st) := run_modify f st
theorem c17_run_throw {α} (e : Err) (st : ConvState) : (throw e : ConvM α).run st = .error e := run_throw e st
theorem c17_run_warn (m : Str) (st : ConvState) :
    (warn m).run st = .ok ((), { st with messages := st.messages ++ [m] }) := rfl

def c17_altAttr (i : ImageProps) : List (Str × Str) :=
  match i.altText with
  | some a => if a.isEmpty then [] else [(S!"alt", a)]
  | none => []

def c17_logged (st : ConvState) (i : ImageProps) : ConvState := { st with imageCalls := st.imageCalls ++ [i] }

/-- what the converter does with the opened image -/
def c17_finish (cfg : Cfg) (i : ImageProps) : ConvM (List Node) :=
  match cfg.imageConv with
  | .dataUri => do
    match ← openImage cfg i.src with
    | .ok bytes =>
      pure [el S!"img" (c17_altAttr i ++ [(S!"src", S!"data:" ++ pyOpt i.contentType ++ S!";base64," ++ b64encode bytes)]) []]
    | .error msg => do warn msg; pure []
  | .fixed attrs opens => do
    if opens then
      match ← openImage cfg i.src with
      | .ok bytes => pure [el S!"img" (c17_altAttr i ++ attrs ++ [(S!"data-len", natToStr bytes.length)]) []]
      | .error msg => do warn msg; pure []
    else pure [el S!"img" (c17_altAttr i ++ attrs) []]

theorem c17_convertImage_run (cfg : Cfg) (i : ImageProps) (st : ConvState) :
    (convertImage cfg i).run st = (c17_finish cfg i).run (c17_logged st i) := rfl

/-! ### extensions, content types, the alt text of `wp:inline` -/

theorem c17_split_no_sep (sep : Char) (s : Str) (h : sep ∉ s) : splitOnChar sep s = [s] := by
  induction s with
  | nil => rfl
  | cons c cs ih =>
    simp only [List.mem_cons, not_or] at h
    simp only [splitOnChar, ih h.2]
    have : (c == sep) = false := by simpa using fun e => h.1 e.symm
    simp [this]

theorem c17_split_append (sep : Char) (pre ext : Str) :
    ∃ q l, splitOnChar sep (pre ++ sep :: ext) = (q :: l) ++ splitOnChar sep ext := by
  induction pre with
  | nil =>
    refine ⟨[], [], ?_⟩
    simp only [List.nil_append, splitOnChar]
    split
    · rename_i h; simp [h]
    · rename_i h; simp [h]
  | cons c cs ih =>
    obtain ⟨q, l, h⟩ := ih
    simp only [List.cons_append, splitOnChar]
    simp only [List.cons_append] at h
    rw [h]
    by_cases hc : (c == sep) = true
    · exact ⟨[], q :: l, by simp [hc]⟩
    · exact ⟨c :: q, l, by simp [hc]⟩

theorem c17_split_ne_nil (sep : Char) (s : Str) : splitOnChar sep s ≠ [] := by
  cases s with
  | nil => simp [splitOnChar]
  | cons c cs =>
    simp only [splitOnChar]
    split
    · simp
    · split <;> simp

def c17_contentTypeSpec (ct : ContentTypes) (path : Str) : Option Str :=
  (lookupLast path ct.overrides).or
    ((lookupLast (getExtension path) ct.defaults).or
      ((lookupLast (lowerAscii (getExtension path)) Generated.imageExtensions).map (S!"image/" ++ ·)))

theorem c17_findContentType_eq (ct : ContentTypes) (path : Str) :
    findContentType ct path = c17_contentTypeSpec ct path := by
  unfold findContentType c17_contentTypeSpec
  cases lookupLast path ct.overrides <;> simp only [Option.some_or, Option.none_or]
  cases lookupLast (getExtension path) ct.defaults <;> simp only [Option.some_or, Option.none_or]

/-- the warning `_read_image` attaches -/
def c17x_typeWarning (ct : Option Str) : List Str :=
  match ct with
  | some c => if Generated.browserImageTypes.contains c then []
              else [S!"Image of type " ++ c ++ S!" is unlikely to display in web browsers"]
  | none => [S!"Image of type None is unlikely to display in web browsers"]

theorem c17_readImage_eq (env : REnv) (path : Str) (src : ImageSrc) (alt : Option Str) :
    readImage env path src alt =
      { elements := [.image { altText := alt, contentType := findContentType env.contentTypes path, src := src }],
        messages := c17x_typeWarning (findContentType env.contentTypes path) } := by
  unfold readImage c17x_typeWarning
  cases findContentType env.contentTypes path with
  | none => rfl
  | some c =>
    cases hb : Generated.browserImageTypes.contains c with
    | true => simp only [hb]; rfl
    | false => simp only [hb]; rfl

def c17_inlineAlt (cs : List XmlNode) : Option Str :=
  let props := (findChildOrNull S!"wp:docPr" cs).1
  if !(strip ((attr? S!"descr" props).getD [])).isEmpty then attr? S!"descr" props else attr? S!"title" props

def c17_inlineBlips (cs : List XmlNode) : List (Attrs × List XmlNode) :=
  flatChildren S!"a:blip" (flatChildren S!"pic:blipFill" (flatChildren S!"pic:pic"
                 (flatChildren S!"a:graphicData" (findChildren S!"a:graphic" cs))))

theorem c17_readInline_eq (env : REnv) (cs : List XmlNode) :
    readInline env cs = ((c17_inlineBlips cs).mapM fun (b : Attrs × List XmlNode) => readBlip env b.1 (c17_inlineAlt cs)).map
      (fun (rs : List ReadResult) => rs.foldl ReadResult.concat {}) := by
  unfold readInline
  simp only [c17_inlineAlt, c17_inlineBlips, bind_pure_comp]
  rfl

end Mammoth
