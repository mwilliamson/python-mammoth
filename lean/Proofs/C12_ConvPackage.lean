/-
  C12 (conversion) — `docx.read` of the package after the embed equals `docx.read` of the original, under
  the four conditions on the ORIGINAL package defined here:

  * `c12_relEntryOk p`      the `Relationship` element the embed overwrites (if any: the first element in
                            `iter()` order with `Id="rMammothStyleMap"`) is a complete relationship whose type
                            is not one `_find_part_paths` looks up;
  * `c12_overrideEntryOk p` the `Override` element the embed overwrites (if any) has a `ContentType`;
  * `c12_lookupOk p`        no part lookup has `mammoth/style-map` among its candidates (unless that part
                            exists already), and none of the located parts is one of the three entries the
                            embed writes;
  * `c12_refsOk p`          the XML of the body, the notes and the comments does not use the relationship id
                            `rMammothStyleMap` (when its relationships are `word/_rels/document.xml.rels`) and no
                            image has the path `mammoth/style-map`.
-/
import Proofs.C12_Convert
namespace Mammoth

/-! ### the conditions -/

def c12_relEntryOk (p : Package) : Bool :=
  match lookupLast relsPartPath p.parts with
  | some (.xml r) =>
    match xFindFirst c12_relsMatch r with
    | none => true
    | some old => c12_relAttrsOk old
  | _ => true

def c12_overrideEntryOk (p : Package) : Bool :=
  match lookupLast contentTypesPartPath p.parts with
  | some (.xml t) =>
    match xFindFirst c12_ctMatch t with
    | none => true
    | some old => c12_overrideAttrsOk old
  | _ => true

def c12_five : List Str := [S!"comments", S!"endnotes", S!"footnotes", S!"numbering", S!"styles"]

/-- `_find_part_paths`: the main document chosen -/
def c12_mainOf (p : Package) (pkgRels : Rels) : Str :=
  findPartPath p pkgRels (relTypePrefix ++ S!"officeDocument") [] S!"word/document.xml"

/-- `_find_part_paths`: `find(name)` -/
def c12_findOf (p : Package) (docRels : Rels) (main name : Str) : Str :=
  findPartPath p docRels (relTypePrefix ++ name) (splitPath main).1 (S!"word/" ++ name ++ S!".xml")

def c12_lookupOk (p : Package) : Bool :=
  match p.readRels S!"_rels/.rels" with
  | .error _ => true
  | .ok pkgRels =>
    c12_smFree p (c12_candidates pkgRels (relTypePrefix ++ S!"officeDocument") []) &&
    c12_roleOk (c12_mainOf p pkgRels) &&
    (!p.exists (c12_mainOf p pkgRels) ||
      match p.readRels (relsPathFor (c12_mainOf p pkgRels)) with
      | .error _ => true
      | .ok docRels =>
        c12_five.all fun name =>
          c12_smFree p (c12_candidates docRels (relTypePrefix ++ name) (splitPath (c12_mainOf p pkgRels)).1) &&
          c12_roleOk (c12_findOf p docRels (c12_mainOf p pkgRels) name))

/-- the XML of one part that is read with a body reader -/
def c12_partRefsOk (p : Package) (shared : REnv) (path : Str) : Bool :=
  if p.exists path then
    match p.readRels (relsPathFor path), p.readXml path with
    | .ok rels, .ok (_, cs) =>
      c12_useOkL (relsPathFor path == relsPartPath) { shared with rels := rels } cs
    | _, _ => true
  else true

def c12_refsOk (p : Package) : Bool :=
  match findPartPaths p with
  | .error _ => true
  | .ok paths =>
    match readSharedEnv p paths with
    | .error _ => true
    | .ok shared =>
      c12_partRefsOk p shared paths.footnotes && c12_partRefsOk p shared paths.endnotes &&
      c12_partRefsOk p shared paths.comments && c12_partRefsOk p shared paths.mainDocument

/-! ### `_find_part_paths` in normal form -/

def c12_pathsOf (p : Package) (main : Str) (docRels : Rels) : PartPaths :=
  { mainDocument := main, comments := c12_findOf p docRels main S!"comments",
    endnotes := c12_findOf p docRels main S!"endnotes", footnotes := c12_findOf p docRels main S!"footnotes",
    numbering := c12_findOf p docRels main S!"numbering", styles := c12_findOf p docRels main S!"styles" }

theorem c12_findPartPaths_eq (p : Package) :
    findPartPaths p =
      match p.readRels S!"_rels/.rels" with
      | .error e => .error e
      | .ok pkgRels =>
        if p.exists (c12_mainOf p pkgRels) then
          match p.readRels (relsPathFor (c12_mainOf p pkgRels)) with
          | .error e => .error e
          | .ok docRels => .ok (c12_pathsOf p (c12_mainOf p pkgRels) docRels)
        else .error (.io S!"Could not find main document part. Are you sure this is a valid .docx file?") := by
  unfold findPartPaths c12_mainOf
  cases p.readRels S!"_rels/.rels" with
  | error e => rfl
  | ok pkgRels =>
    simp only [bind, Except.bind]
    generalize findPartPath p pkgRels (relTypePrefix ++ S!"officeDocument") [] S!"word/document.xml" = main
    cases hex : p.exists main with
    | false => rfl
    | true =>
      simp only [Bool.not_true, Bool.false_eq_true, if_false, if_true]
      cases p.readRels (relsPathFor main) <;> rfl

section embedded
variable (p : Package) (s : Str) (r r' t t' : XmlNode)
variable (hr : lookupLast relsPartPath p.parts = some (.xml r))
variable (ht : lookupLast contentTypesPartPath p.parts = some (.xml t))
variable (hr' : xAddOrUpdate r c12_relName S!"Id" styleMapRelAttrs = some r')
variable (ht' : xAddOrUpdate t c12_overrideName S!"PartName" styleMapOverrideAttrs = some t')

theorem c12_relEntryOk_use (h : c12_relEntryOk p = true) (hr : lookupLast relsPartPath p.parts = some (.xml r)) :
    ∀ old, xFindFirst c12_relsMatch r = some old → c12_relAttrsOk old = true := by
  intro old ho
  unfold c12_relEntryOk at h
  rw [hr] at h
  simp only [ho] at h
  exact h

theorem c12_overrideEntryOk_use (h : c12_overrideEntryOk p = true)
    (ht : lookupLast contentTypesPartPath p.parts = some (.xml t)) :
    ∀ old, xFindFirst c12_ctMatch t = some old → c12_overrideAttrsOk old = true := by
  intro old ho
  unfold c12_overrideEntryOk at h
  rw [ht] at h
  simp only [ho] at h
  exact h

theorem c12_five_lookedUp : ∀ name ∈ c12_five, relTypePrefix ++ name ∈ c12_lookedUp := by decide +kernel

include hr ht hr' in
/-- `_find_part_paths` finds the same parts; and they are none of the three entries written -/
theorem c12_findPartPaths_embedded (h1 : c12_relEntryOk p = true) (h3 : c12_lookupOk p = true) :
    findPartPaths (c12_embedded p s r' t') = findPartPaths p ∧
    ∀ paths, findPartPaths p = .ok paths →
      c12_roleOk paths.mainDocument = true ∧ c12_roleOk paths.comments = true ∧
      c12_roleOk paths.endnotes = true ∧ c12_roleOk paths.footnotes = true ∧
      c12_roleOk paths.numbering = true ∧ c12_roleOk paths.styles = true := by
  rw [c12_findPartPaths_eq, c12_findPartPaths_eq]
  have hpk : (c12_embedded p s r' t').readRels S!"_rels/.rels" = p.readRels S!"_rels/.rels" :=
    c12_readRels_congr _ _ _ (c12_embedded_other p s r' t' _ (by decide +kernel) (by decide +kernel)
      (by decide +kernel))
  rw [hpk]
  unfold c12_lookupOk at h3
  cases hx : p.readRels S!"_rels/.rels" with
  | error e => exact ⟨rfl, fun _ h => by cases h⟩
  | ok pkgRels =>
    rw [hx] at h3
    simp only [Bool.and_eq_true] at h3
    obtain ⟨⟨hfree, hrole⟩, hrest⟩ := h3
    have hmain : c12_mainOf (c12_embedded p s r' t') pkgRels = c12_mainOf p pkgRels :=
      c12_findPartPath_embedded p s r r' t t' hr ht pkgRels pkgRels _ _ _ rfl hfree
    simp only [hmain]
    have hex : (c12_embedded p s r' t').exists (c12_mainOf p pkgRels) = p.exists (c12_mainOf p pkgRels) :=
      c12_exists_congr _ _ _ (c12_embedded_lookup_role p s r' t' _ hrole)
    rw [hex]
    cases hpm : p.exists (c12_mainOf p pkgRels) with
    | false => exact ⟨rfl, fun _ h => by cases h⟩
    | true =>
      rw [hpm] at hrest
      simp only [Bool.not_true, Bool.false_or, if_true] at hrest ⊢
      rcases c12_readRels_any p s r r' t' hr hr' (c12_relEntryOk_use p r h1 hr) (c12_mainOf p pkgRels) with
        ⟨e, e1, e2⟩ | ⟨rels, rels', e1, e2, hty, _⟩
      · rw [e1, e2]; exact ⟨rfl, fun _ h => by cases h⟩
      · rw [e1, e2]
        rw [e1] at hrest
        simp only [List.all_eq_true, Bool.and_eq_true] at hrest
        have hf : ∀ name, name ∈ c12_five →
            c12_findOf (c12_embedded p s r' t') rels' (c12_mainOf p pkgRels) name
              = c12_findOf p rels (c12_mainOf p pkgRels) name := fun name hn =>
          c12_findPartPath_embedded p s r r' t t' hr ht rels rels' _ _ _
            (hty _ (c12_five_lookedUp name hn)) (hrest name hn).1
        have m1 : S!"comments" ∈ c12_five := by decide +kernel
        have m2 : S!"endnotes" ∈ c12_five := by decide +kernel
        have m3 : S!"footnotes" ∈ c12_five := by decide +kernel
        have m4 : S!"numbering" ∈ c12_five := by decide +kernel
        have m5 : S!"styles" ∈ c12_five := by decide +kernel
        constructor
        · simp only [c12_pathsOf, hf _ m1, hf _ m2, hf _ m3, hf _ m4, hf _ m5]
        · intro paths hp
          cases hp
          exact ⟨hrole, (hrest _ m1).2, (hrest _ m2).2, (hrest _ m3).2, (hrest _ m4).2, (hrest _ m5).2⟩

/-! ### the shared environment -/

/-- the styles and the numbering of `_part_with_body_reader`: they do not depend on the content types -/
def c12_stylesNumbering (p : Package) (paths : PartPaths) : Except Err (Styles × Numbering) := do
  let styles ← if p.exists paths.styles then do
      let (_, cs) ← p.readXml paths.styles; pure (readStylesXml cs)
    else pure {}
  let numbering ← if p.exists paths.numbering then do
      let (_, cs) ← p.readXml paths.numbering; readNumberingXml cs styles
    else pure {}
  pure (styles, numbering)

theorem c12_readSharedEnv_eq (p : Package) (paths : PartPaths) :
    readSharedEnv p paths = c12_readCt p >>= fun ct => c12_stylesNumbering p paths >>= fun sn =>
      pure { numbering := sn.2, contentTypes := ct, styles := sn.1, rels := [] } := by
  unfold readSharedEnv c12_readCt c12_stylesNumbering
  cases p.exists S!"[Content_Types].xml" <;> cases p.exists paths.styles <;> cases p.exists paths.numbering <;>
    simp only [bind_assoc, pure_bind, if_true, if_false, Bool.false_eq_true]

include ht ht' in
theorem c12_readSharedEnv_embedded (h2 : c12_overrideEntryOk p = true) (paths : PartPaths)
    (hs : c12_roleOk paths.styles = true) (hn : c12_roleOk paths.numbering = true) :
    (∃ e, readSharedEnv p paths = .error e ∧ readSharedEnv (c12_embedded p s r' t') paths = .error e) ∨
    (∃ sh ct', readSharedEnv p paths = .ok sh ∧
      readSharedEnv (c12_embedded p s r' t') paths = .ok { sh with contentTypes := ct' } ∧
      c12_CtSim sh.contentTypes ct') := by
  rw [c12_readSharedEnv_eq, c12_readSharedEnv_eq]
  have hrest : c12_stylesNumbering (c12_embedded p s r' t') paths = c12_stylesNumbering p paths := by
    unfold c12_stylesNumbering
    rw [c12_exists_congr _ _ _ (c12_embedded_lookup_role p s r' t' _ hs),
      c12_exists_congr _ _ _ (c12_embedded_lookup_role p s r' t' _ hn),
      c12_readXml_congr _ _ _ (c12_embedded_lookup_role p s r' t' _ hs),
      c12_readXml_congr _ _ _ (c12_embedded_lookup_role p s r' t' _ hn)]
  rw [hrest]
  rcases c12_readCt_ct p s t t' r' ht ht' (c12_overrideEntryOk_use p t h2 ht) with
    ⟨e, e1, e2⟩ | ⟨ct, ct', e1, e2, hsim⟩
  · rw [e1, e2]; exact Or.inl ⟨e, rfl, rfl⟩
  · rw [e1, e2]
    cases c12_stylesNumbering p paths with
    | error e => exact Or.inl ⟨e, rfl, rfl⟩
    | ok sn => exact Or.inr ⟨_, ct', rfl, rfl, hsim⟩

/-! ### the parts read with a body reader -/

include hr hr' in
/-- A part read with a body reader: its relationships and its XML are handed to a continuation. -/
theorem c12_bodyPart_embedded {α : Type} (h1 : c12_relEntryOk p = true) (sh : REnv) (ct' : ContentTypes)
    (hct : c12_CtSim sh.contentTypes ct') (path : Str) (hrole : c12_roleOk path = true)
    (hex : p.exists path = true) (hrefs : c12_partRefsOk p sh path = true)
    (k k' : Rels → Attrs × List XmlNode → Except Err α)
    (hk : ∀ rels rels' v, c12_EnvSim (relsPathFor path == relsPartPath) { sh with rels := rels } rels' ct' →
      c12_useOkL (relsPathFor path == relsPartPath) { sh with rels := rels } v.2 = true →
      k' rels' v = k rels v) :
    ((c12_embedded p s r' t').readRels (relsPathFor path) >>= fun rels =>
      (c12_embedded p s r' t').readXml path >>= k' rels) =
    (p.readRels (relsPathFor path) >>= fun rels => p.readXml path >>= k rels) := by
  rw [c12_readXml_congr _ _ _ (c12_embedded_lookup_role p s r' t' _ hrole)]
  unfold c12_partRefsOk at hrefs
  rw [if_pos hex] at hrefs
  rcases c12_readRels_any p s r r' t' hr hr' (c12_relEntryOk_use p r h1 hr) path with
    ⟨e, e1, e2⟩ | ⟨rels, rels', e1, e2, _, hid⟩
  · rw [e1, e2]; rfl
  · rw [e1, e2]
    rw [e1] at hrefs
    cases hx : p.readXml path with
    | error e => rfl
    | ok v =>
      rw [hx] at hrefs
      exact hk rels rels' v ⟨hid, hct⟩ hrefs

include hr hr' in
theorem c12_readNotesPart_embedded (h1 : c12_relEntryOk p = true) (sh : REnv) (ct' : ContentTypes)
    (hct : c12_CtSim sh.contentTypes ct') (fuel : Nat) (path ty : Str)
    (hrole : c12_roleOk path = true) (hrefs : c12_partRefsOk p sh path = true) :
    readNotesPart (c12_embedded p s r' t') { sh with contentTypes := ct' } fuel path ty
      = readNotesPart p sh fuel path ty := by
  unfold readNotesPart
  rw [c12_exists_congr _ _ _ (c12_embedded_lookup_role p s r' t' _ hrole)]
  cases hex : p.exists path with
  | false => simp only [Bool.false_eq_true, if_false]
  | true =>
    rw [if_pos rfl, if_pos rfl]
    refine c12_bodyPart_embedded p s r r' t' hr hr' h1 sh ct' hct path hrole hex hrefs _ _ ?_
    exact fun rels rels' v hsim huse => c12_readNoteElems_eq hsim fuel ty _ {}
        (c12_elemsOk_filter _ _ _ _ (c12_elemsOk_findChildren _ _ _ _ huse)) rfl

include hr hr' in
theorem c12_readCommentsPart_embedded (h1 : c12_relEntryOk p = true) (sh : REnv) (ct' : ContentTypes)
    (hct : c12_CtSim sh.contentTypes ct') (fuel : Nat) (path : Str)
    (hrole : c12_roleOk path = true) (hrefs : c12_partRefsOk p sh path = true) :
    readCommentsPart (c12_embedded p s r' t') { sh with contentTypes := ct' } fuel path
      = readCommentsPart p sh fuel path := by
  unfold readCommentsPart
  rw [c12_exists_congr _ _ _ (c12_embedded_lookup_role p s r' t' _ hrole)]
  cases hex : p.exists path with
  | false => simp only [Bool.false_eq_true, if_false]
  | true =>
    rw [if_pos rfl, if_pos rfl]
    refine c12_bodyPart_embedded p s r r' t' hr hr' h1 sh ct' hct path hrole hex hrefs _ _ ?_
    exact fun rels rels' v hsim huse => c12_readCommentElems_eq hsim fuel _ {}
        (c12_elemsOk_findChildren _ _ _ _ huse) rfl

/-- the main document part, as `docx.read` reads it -/
def c12_mainPart (p : Package) (shared : REnv) (fuel : Nat) (main : Str) : Except Err ReadResult := do
  let rels ← p.readRels (relsPathFor main)
  let (_, cs) ← p.readXml main
  match findChild S!"w:body" cs with
  | none => throw (.value S!"Could not find the body element: are you sure this is a docx file?")
  | some (_, body) => do
    let (r, _) ← readAll { shared with rels := rels } fuel {} body
    pure r

include hr hr' in
theorem c12_mainPart_embedded (h1 : c12_relEntryOk p = true) (sh : REnv) (ct' : ContentTypes)
    (hct : c12_CtSim sh.contentTypes ct') (fuel : Nat) (path : Str)
    (hrole : c12_roleOk path = true) (hex : p.exists path = true) (hrefs : c12_partRefsOk p sh path = true) :
    c12_mainPart (c12_embedded p s r' t') { sh with contentTypes := ct' } fuel path
      = c12_mainPart p sh fuel path := by
  unfold c12_mainPart
  refine c12_bodyPart_embedded p s r r' t' hr hr' h1 sh ct' hct path hrole hex hrefs _ _ ?_
  intro rels rels' v hsim huse
  dsimp only
  cases hb : findChild S!"w:body" v.2 with
  | none => rfl
  | some ab =>
    have hbody : c12_useOkL (relsPathFor path == relsPartPath) { sh with rels := rels } ab.2 = true := by
      have := c12_useOkL_findChild _ _ S!"w:body" v.2 huse
      rwa [findChildOrNull, hb] at this
    have := (c12_readAll_ag hsim fuel {} ab.2 hbody rfl).1
    simp only [c12_reenv] at this
    simp only [this]

end embedded

/-! ### `docx.read` -/

theorem c12_readPackage_eq (p : Package) (fuel : Nat) :
    readPackage p fuel = (do
      let paths ← findPartPaths p
      let shared ← readSharedEnv p paths
      let nf ← readNotesPart p shared fuel paths.footnotes S!"footnote"
      let ne ← readNotesPart p shared fuel paths.endnotes S!"endnote"
      let cm ← readCommentsPart p shared fuel paths.comments
      let r ← c12_mainPart p shared fuel paths.mainDocument
      pure ({ children := r.elements, notes := nf.1 ++ ne.1, comments := cm.1 },
            nf.2 ++ ne.2 ++ cm.2 ++ r.messages)) := by
  unfold readPackage c12_mainPart
  simp only [bind_assoc]
  -- the two sides differ only in where the `match` on the body element stands
  refine bind_congr fun paths => bind_congr fun shared => bind_congr fun nf => bind_congr fun ne =>
    bind_congr fun cm => bind_congr fun rels => bind_congr fun v => ?_
  cases findChild S!"w:body" v.2 with
  | none => rfl
  | some ab => simp only [bind_assoc, pure_bind]

/-- `docx.read` of the package after the embed equals `docx.read` of the original -/
theorem c12_readPackage_embedded (p : Package) (s : Str) (p' : Package) (fuel : Nat)
    (h : c12_embedPkg p s = some p')
    (h1 : c12_relEntryOk p = true) (h2 : c12_overrideEntryOk p = true)
    (h3 : c12_lookupOk p = true) (h4 : c12_refsOk p = true) :
    readPackage p' fuel = readPackage p fuel := by
  obtain ⟨r, r', t, t', hr, hr', ht, ht', rfl⟩ := c12_embedPkg_inv p s p' h
  rw [c12_readPackage_eq, c12_readPackage_eq]
  obtain ⟨hpaths, hroles⟩ := c12_findPartPaths_embedded p s r r' t t' hr ht hr' h1 h3
  rw [hpaths]
  unfold c12_refsOk at h4
  cases hfp : findPartPaths p with
  | error e => simp only [bind, Except.bind]
  | ok paths =>
    rw [hfp] at h4
    simp only at h4
    obtain ⟨rm, rc, re, rf, rn, rs⟩ := hroles paths hfp
    simp only [bind, Except.bind]
    rcases c12_readSharedEnv_embedded p s t t' ht ht' (r' := r') h2 paths rs rn with
      ⟨e, e1, e2⟩ | ⟨sh, ct', e1, e2, hct⟩
    · rw [e1, e2]
    · rw [e1, e2]
      rw [e1] at h4
      simp only [Bool.and_eq_true] at h4
      obtain ⟨⟨⟨q1, q2⟩, q3⟩, q4⟩ := h4
      simp only
      rw [c12_readNotesPart_embedded p s r r' t' hr hr' h1 sh ct' hct fuel _ _ rf q1,
        c12_readNotesPart_embedded p s r r' t' hr hr' h1 sh ct' hct fuel _ _ re q2,
        c12_readCommentsPart_embedded p s r r' t' hr hr' h1 sh ct' hct fuel _ rc q3]
      -- the main document exists (else `_find_part_paths` had failed)
      have hex : p.exists paths.mainDocument = true := by
        rw [c12_findPartPaths_eq] at hfp
        split at hfp
        · cases hfp
        · split at hfp
          · rename_i hx
            split at hfp
            · cases hfp
            · cases hfp; exact hx
          · cases hfp
      rw [c12_mainPart_embedded p s r r' t' hr hr' h1 sh ct' hct fuel _ rm hex q4]

end Mammoth
