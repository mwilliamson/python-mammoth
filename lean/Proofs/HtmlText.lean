/-
  `textOf` equations; `stripEmpty` preserves text.
-/
import MammothModel.Html
namespace Mammoth

@[simp] theorem textOfL_nil : textOfL [] = [] := by simp [textOfL]
@[simp] theorem textOfL_cons (c : Node) (cs : List Node) : textOfL (c :: cs) = textOf c ++ textOfL cs := by
  simp [textOfL]

@[simp] theorem textOfL_append (a b : List Node) : textOfL (a ++ b) = textOfL a ++ textOfL b := by
  induction a with
  | nil => simp
  | cons x xs ih => simp [ih, List.append_assoc]

@[simp] theorem textOf_text (s : Str) : textOf (.text s) = s := by simp [textOf]
@[simp] theorem textOf_fw : textOf .forceWrite = [] := by simp [textOf]
@[simp] theorem textOf_elem (t : Tag) (cs : List Node) : textOf (.elem t cs) = textOfL cs := by simp [textOf]

/-! ### stripEmpty keeps all text -/
mutual
theorem text_stripNode (n : Node) : textOfL (stripNode n) = textOf n := by
  match n with
  | .text s =>
    unfold stripNode
    by_cases h : s.isEmpty
    · simp [List.isEmpty_iff.mp h]
    · simp [h]
  | .forceWrite => simp [stripNode]
  | .elem t cs =>
    unfold stripNode
    have ih := text_stripList cs
    by_cases h : ((stripList cs).isEmpty && !isVoid t cs) = true
    · have he : stripList cs = [] := List.isEmpty_iff.mp (Bool.and_eq_true_iff.mp h).1
      rw [if_pos h]
      simpa [he] using ih
    · simp only [h]
      simp [ih]
theorem text_stripList (ns : List Node) : textOfL (stripList ns) = textOfL ns := by
  match ns with
  | [] => simp [stripList]
  | c :: cs =>
    unfold stripList
    simp [text_stripNode c, text_stripList cs]
end

theorem text_stripEmpty (ns : List Node) : textOfL (stripEmpty ns) = textOfL ns := text_stripList ns

end Mammoth
