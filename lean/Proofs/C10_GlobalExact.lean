/-
  C10, the whole output forest: `c10_refsClosed` is not only sufficient but (barring accidental name clashes)
  necessary for all generated hrefs to resolve; and a simpler form of the uniqueness hypothesis.
-/
import Proofs.C10_GlobalUnique
namespace Mammoth

theorem c10_referentId_eq (cfg : Cfg) (ty id : Str) :
    referentId cfg ty id = cfg.idPrefix ++ c10_itemSfx (ty, id) := by
  simp [referentId, htmlId, c10_itemSfx]

theorem c10_keys_of_ref (evs : List c10_Ev) (k : Str × Str) (h : k ∈ c10_evRefs evs) : k ∈ c10_evKeys evs :=
  (c10_keys_perm evs).mem_iff.mpr (List.mem_append_left _ h)
theorem c10_keys_of_cref (evs : List c10_Ev) (i : Str) (h : i ∈ c10_evCRefs evs) :
    (c10_commentTy, i) ∈ c10_evKeys evs :=
  (c10_keys_perm evs).mem_iff.mpr (List.mem_append_right _ (List.mem_map.mpr ⟨i, h, rfl⟩))

/-- with distinct keys, no note reference has the key of a comment reference -/
theorem c10_ref_cref_disjoint (evs : List c10_Ev) (hk : (c10_evKeys evs).Nodup) (k : Str × Str)
    (h1 : k ∈ c10_evRefs evs) (i : Str) (h2 : i ∈ c10_evCRefs evs) : k ≠ (c10_commentTy, i) := by
  have := (c10_keys_perm evs).nodup_iff.mp hk
  rw [List.nodup_append] at this
  exact this.2.2 k h1 _ (List.mem_map.mpr ⟨i, h2, rfl⟩)

/-- the side conditions under which "resolves" can only mean "the note/comment is rendered": distinct,
    well-formed keys, and no bookmark named `type-id` for a referenced key -/
def c10_noClash (evs : List c10_Ev) : Bool :=
  decide (c10_evKeys evs).Nodup && (c10_evKeys evs).all c10_keyOK &&
  (c10_evKeys evs).all (fun k => !(c10_evBookmarks evs).contains (c10_itemSfx k))

/-- if the referent id of a visited reference key is an id of the output, its item is rendered -/
theorem c10_item_of_resolves (cfg : Cfg) (d : Document) (ok : c10_DocOK cfg d)
    (hc : c10_noClash (c10_docEvents cfg d) = true) (k : Str × Str) (hk : k ∈ c10_evKeys (c10_docEvents cfg d))
    (hr : referentId cfg k.1 k.2 ∈ c10_evIds cfg (c10_docEvents cfg d)) :
    k ∈ c10_evItems (c10_docEvents cfg d) := by
  simp only [c10_noClash, Bool.and_eq_true, decide_eq_true_eq, List.all_eq_true, Bool.not_eq_true',
    ← Bool.not_eq_true, List.contains_iff_mem] at hc
  obtain ⟨⟨hn, hok⟩, hb⟩ := hc
  obtain ⟨_, hsub⟩ := c10_docItems_nodup cfg d ok hn
  rw [c10_referentId_eq, c10_internal_target] at hr
  rcases hr with h1 | h2 | h3
  · exact absurd h1 (hb k hk)
  · obtain ⟨k', hk', e⟩ := List.mem_map.mp h2
    exact absurd e (c10_ref_ne_item k' k (hok k' hk') (hok k hk))
  · obtain ⟨k', hk', e⟩ := List.mem_map.mp h3
    have := c10_itemSfx_inj k' k (hok k' (hsub k' hk')) (hok k hk) e
    exact this ▸ hk'

theorem c10_closed_necessary (cfg : Cfg) (d : Document) (ok : c10_DocOK cfg d)
    (hc : c10_noClash (c10_docEvents cfg d) = true)
    (hres : ∀ ev ∈ c10_docEvents cfg d, c10_isLink ev = false → ∀ h ∈ c10_evHref cfg ev,
        ∃ x, h = '#' :: x ∧ x ∈ c10_evIds cfg (c10_docEvents cfg d)) :
    c10_refsClosed cfg d = true := by
  have hn : (c10_evKeys (c10_docEvents cfg d)).Nodup := by
    simp only [c10_noClash, Bool.and_eq_true, decide_eq_true_eq] at hc
    exact hc.1.1
  have hE := c10_docEvents_eq cfg d
  have hI := c10_docItems cfg d ok
  simp only [c10_refsClosed, Bool.and_eq_true, List.all_eq_true, List.contains_iff_mem]
  constructor
  · intro k hk
    obtain ⟨ty, id⟩ := k
    have hkE : (ty, id) ∈ c10_evRefs (c10_docEvents cfg d) := by
      rw [hE, List.append_assoc, c10_evRefs_append]; exact List.mem_append_right _ hk
    have hev : .noteRef ty id ∈ c10_docEvents cfg d := (c10_mem_evRefs _ ty id).mp hkE
    obtain ⟨x, e, hx⟩ := hres _ hev rfl (['#'] ++ referentId cfg ty id) (by simp [c10_evHref])
    have ex : x = referentId cfg ty id := by simpa using e.symm
    subst ex
    have := c10_item_of_resolves cfg d ok hc (ty, id) (c10_keys_of_ref _ _ hkE) hx
    rw [hI, List.mem_append] at this
    rcases this with h1 | h2
    · exact h1
    · obtain ⟨i, hi, e'⟩ := List.mem_map.mp h2
      have hiE : i ∈ c10_evCRefs (c10_docEvents cfg d) := by
        rw [hE, c10_evCRefs_append]; exact List.mem_append_left _ hi
      exact absurd e'.symm (c10_ref_cref_disjoint _ hn _ hkE i hiE)
  · intro i hi
    have hiE : i ∈ c10_evCRefs (c10_docEvents cfg d) := by
      rw [hE, c10_evCRefs_append]; exact List.mem_append_right _ hi
    have hev : .commentRef i ∈ c10_docEvents cfg d := (c10_mem_evCRefs _ i).mp hiE
    obtain ⟨x, e, hx⟩ := hres _ hev rfl (['#'] ++ referentId cfg c10_commentTy i) (by simp [c10_evHref])
    have ex : x = referentId cfg c10_commentTy i := by simpa using e.symm
    subst ex
    have := c10_item_of_resolves cfg d ok hc (c10_commentTy, i) (c10_keys_of_cref _ _ hiE) hx
    rw [hI, List.mem_append] at this
    rcases this with h1 | h2
    · have h1E : (c10_commentTy, i) ∈ c10_evRefs (c10_docEvents cfg d) := by
        rw [hE, List.append_assoc, c10_evRefs_append]; exact List.mem_append_left _ h1
      exact absurd rfl (c10_ref_cref_disjoint _ hn _ h1E i hiE)
    · obtain ⟨j, hj, e'⟩ := List.mem_map.mp h2
      simp only [Prod.mk.injEq, true_and] at e'
      exact e' ▸ hj

/-! ### the uniqueness hypothesis in the vocabulary of the reader -/

/-- what the docx reader produces: note types `footnote` / `endnote`; then it suffices that no note is
    referenced twice, no comment twice, no id starts with `ref-`, bookmark names are distinct and none is
    named like a generated id -/
def c10_uniqueHypSimple (evs : List c10_Ev) : Bool :=
  decide (c10_evRefs evs).Nodup && decide (c10_evCRefs evs).Nodup &&
  (c10_evRefs evs).all (fun k => (k.1 == S!"footnote" || k.1 == S!"endnote") && !startsWith k.2 S!"ref-") &&
  (c10_evCRefs evs).all (fun i => !startsWith i S!"ref-") &&
  decide (c10_evBookmarks evs).Nodup &&
  (c10_evBookmarks evs).all (fun b =>
    !((c10_evKeys evs).map c10_refSfx ++ (c10_evItems evs).map c10_itemSfx).contains b)

theorem c10_uniqueHypSimple_imp (evs : List c10_Ev) (h : c10_uniqueHypSimple evs = true) :
    c10_uniqueHyp evs = true := by
  simp only [c10_uniqueHypSimple, Bool.and_eq_true, decide_eq_true_eq, List.all_eq_true, Bool.or_eq_true,
    beq_iff_eq] at h
  obtain ⟨⟨⟨⟨⟨h1, h2⟩, h3⟩, h4⟩, h5⟩, h6⟩ := h
  have hp := c10_keys_perm evs
  simp only [c10_uniqueHyp, Bool.and_eq_true, decide_eq_true_eq, List.all_eq_true]
  refine ⟨⟨⟨?_, ?_⟩, h5⟩, h6⟩
  · rw [hp.nodup_iff, List.nodup_append]
    refine ⟨h1, ?_, ?_⟩
    · exact c10_nodup_map_on _ _ h2 (fun a _ b _ e => by simpa using e)
    · intro a ha b hb e
      obtain ⟨i, _, rfl⟩ := List.mem_map.mp hb
      have := (h3 a ha).1
      subst e
      rcases this with e | e <;> (simp only [c10_commentTy] at e; exact absurd e (by decide))
  · intro k hk
    rw [hp.mem_iff, List.mem_append] at hk
    rcases hk with hk | hk
    · obtain ⟨ht, hi⟩ := h3 k hk
      simp only [c10_keyOK, Bool.and_eq_true]
      refine ⟨?_, hi⟩
      rcases ht with e | e <;> (rw [e]; decide)
    · obtain ⟨i, hi, rfl⟩ := List.mem_map.mp hk
      simp only [c10_keyOK, Bool.and_eq_true]
      exact ⟨by decide, h4 i hi⟩

end Mammoth
