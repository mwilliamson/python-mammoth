/-
  C01, reader half — small facts used by the refinement proofs:
  element names versus handler names, the childless results (symbols, breaks, images),
  and the predicate "no cell is marked as a vertical-merge continuation" on XML.
-/
import Proofs.C01_Sweep
import Proofs.C05_Balanced
namespace Mammoth

/-! ### element names and handlers -/

/-- the kind of text content each handler of the reader stands for -/
def c01_handlerKind (h : Str) : c01_Kind :=
  if h = S!"text" then .text else if h = S!"tab" then .tab
  else if h = S!"no_break_hyphen" then .noBreakHyphen else if h = S!"soft_hyphen" then .softHyphen
  else if h = S!"symbol" then .sym
  else if h = S!"note_reference:footnote" then .noteRef S!"footnote"
  else if h = S!"note_reference:endnote" then .noteRef S!"endnote"
  else if h = S!"read_comment_reference" then .commentRef
  else if h = S!"paragraph" then .paragraph else if h = S!"pict" then .pict
  else if h = S!"alternate_content" then .alt else if h = S!"read_sdt" then .sdt
  else if h ∈ [S!"run", S!"table", S!"table_row", S!"table_cell", S!"read_child_elements", S!"hyperlink"] then .through
  else .skip

theorem c01_kinds_agree :
    Generated.handlers.all (fun p => decide (c01_kindOf p.1 = c01_handlerKind p.2)) = true := by decide +kernel

theorem c01_kinds_known : c01_kinds.all (fun p => (handlerOf p.1).isSome) = true := by decide +kernel

/-- a name with a handler has the kind of that handler -/
theorem c01_kindOf_handler {name h : Str} (hh : handlerOf name = some h) : c01_kindOf name = c01_handlerKind h := by
  have hm := lookupLast_mem hh
  have := List.all_eq_true.mp c01_kinds_agree _ hm
  simpa using this

theorem c01_kindIn_skip (tbl : List (Str × c01_Kind)) (name : Str) :
    c01_kindIn tbl name = .skip ∨ ∃ p ∈ tbl, p.1 = name := by
  induction tbl with
  | nil => exact Or.inl rfl
  | cons p tbl ih =>
    obtain ⟨k, v⟩ := p
    simp only [c01_kindIn]
    split
    · rename_i hk; exact Or.inr ⟨(k, v), List.mem_cons_self, hk.symm⟩
    · rcases ih with h | ⟨q, hq, hqn⟩
      · exact Or.inl h
      · exact Or.inr ⟨q, List.mem_cons_of_mem _ hq, hqn⟩

/-- a name without a handler is skipped -/
theorem c01_kindOf_none {name : Str} (hh : handlerOf name = none) : c01_kindOf name = .skip := by
  rcases c01_kindIn_skip c01_kinds name with h | ⟨p, hp, hpn⟩
  · exact h
  · have := List.all_eq_true.mp c01_kinds_known p hp
    rw [hpn, hh] at this
    cases this

theorem c01_cell_name : Generated.handlers.all (fun p => p.2 != S!"table_cell" || p.1 == S!"w:tc") = true := by decide +kernel

theorem c01_handler_cell {name : Str} (hh : handlerOf name = some S!"table_cell") : name = S!"w:tc" := by
  have hm := lookupLast_mem hh
  have := List.all_eq_true.mp c01_cell_name _ hm
  simpa using this

/-! ### equations of the specification, by kind -/

section
variable {name : Str} (as : Attrs) (cs : List XmlNode)

theorem c01_xmlLive_skip (h : c01_kindOf name = .skip) : c01_xmlLive (.elem name as cs) = {} := by
  simp [c01_xmlLive, h]
theorem c01_xmlLive_textK (h : c01_kindOf name = .text) :
    c01_xmlLive (.elem name as cs) = ⟨[.text (innerTextL cs)], []⟩ := by simp [c01_xmlLive, h]
theorem c01_xmlLive_tab (h : c01_kindOf name = .tab) : c01_xmlLive (.elem name as cs) = ⟨[.tab], []⟩ := by
  simp [c01_xmlLive, h]
theorem c01_xmlLive_nbh (h : c01_kindOf name = .noBreakHyphen) :
    c01_xmlLive (.elem name as cs) = ⟨[.text [Char.ofNat 0x2011]], []⟩ := by simp [c01_xmlLive, h]
theorem c01_xmlLive_sh (h : c01_kindOf name = .softHyphen) :
    c01_xmlLive (.elem name as cs) = ⟨[.text [Char.ofNat 0xAD]], []⟩ := by simp [c01_xmlLive, h]
theorem c01_xmlLive_sym (h : c01_kindOf name = .sym) :
    c01_xmlLive (.elem name as cs) = ⟨c01_symLeaf as, []⟩ := by simp [c01_xmlLive, h]
theorem c01_xmlLive_noteRef {ty : Str} (h : c01_kindOf name = .noteRef ty) :
    c01_xmlLive (.elem name as cs) =
      (match attr? S!"w:id" as with | some id => ⟨[.noteRef ty id], []⟩ | none => {}) := by
  simp only [c01_xmlLive, h]; rfl
theorem c01_xmlLive_commentRef (h : c01_kindOf name = .commentRef) :
    c01_xmlLive (.elem name as cs) =
      (match attr? S!"w:id" as with | some id => ⟨[.commentRef id], []⟩ | none => {}) := by
  simp only [c01_xmlLive, h]; rfl
theorem c01_xmlLive_through (h : c01_kindOf name = .through) :
    c01_xmlLive (.elem name as cs) = c01_xmlLiveL cs := by simp [c01_xmlLive, h]
theorem c01_xmlLive_paragraph (h : c01_kindOf name = .paragraph) :
    c01_xmlLive (.elem name as cs) = ⟨(c01_xmlLiveL cs).inline ++ (c01_xmlLiveL cs).extra, []⟩ := by
  simp [c01_xmlLive, h]
theorem c01_xmlLive_pict (h : c01_kindOf name = .pict) :
    c01_xmlLive (.elem name as cs) = ⟨[], (c01_xmlLiveL cs).extra ++ (c01_xmlLiveL cs).inline⟩ := by
  simp [c01_xmlLive, h]
theorem c01_xmlLive_alt (h : c01_kindOf name = .alt) :
    c01_xmlLive (.elem name as cs) = c01_xmlLiveL (findChildOrNull S!"mc:Fallback" cs).2 := by
  simp [c01_xmlLive, h, c01_xmlLiveIn_eq]
theorem c01_xmlLive_sdt (h : c01_kindOf name = .sdt) :
    c01_xmlLive (.elem name as cs) =
      if c01_isCheckboxSdt cs then {} else c01_xmlLiveL (findChildOrNull S!"w:sdtContent" cs).2 := by
  simp [c01_xmlLive, h, c01_xmlLiveIn_eq]
end

/-! ### no vertical-merge continuation cells, as a predicate on the XML -/

/-- the cell is not marked `w:vMerge` = continue -/
def c01_elemNoVMerge (name : Str) (cs : List XmlNode) : Bool :=
  !(name == S!"w:tc") || !readVmerge (findChildOrNull S!"w:tcPr" cs).2

mutual
/-- no `w:tc` anywhere in the tree is a vertical-merge continuation cell -/
def c01_noVMerge : XmlNode → Bool
  | .text _ => true
  | .elem name _ cs => c01_elemNoVMerge name cs && c01_noVMergeL cs
def c01_noVMergeL : List XmlNode → Bool
  | [] => true
  | c :: cs => c01_noVMerge c && c01_noVMergeL cs
end

theorem c01_noVMergeL_append (a b : List XmlNode) :
    c01_noVMergeL (a ++ b) = (c01_noVMergeL a && c01_noVMergeL b) :=
  andL_append rfl (fun _ _ => rfl) a b

theorem c01_noVMergeL_findChild (name : Str) (cs : List XmlNode) (h : c01_noVMergeL cs = true) :
    c01_noVMergeL (findChildOrNull name cs).2 = true :=
  andL_findChild (fun _ _ => rfl) (fun _ _ _ => rfl) name cs h

/-! ### childless results -/

/-- a result made of childless elements that are not leaves, with nothing in the extra channel -/
def c01_silent (r : ReadResult) : Prop :=
  r.extra = [] ∧ r.elements.all c01_atom = true ∧ c01_elemLeavesL r.elements = []

theorem c01_silent_empty : c01_silent {} := ⟨rfl, rfl, by simp⟩
theorem c01_silent_msg (m : Str) : c01_silent (rrMsg m) := ⟨rfl, rfl, by simp [rrMsg]⟩

theorem c01_silent_concat {a b : ReadResult} (ha : c01_silent a) (hb : c01_silent b) : c01_silent (a.concat b) := by
  obtain ⟨a1, a2, a3⟩ := ha
  obtain ⟨b1, b2, b3⟩ := hb
  refine ⟨by simp [ReadResult.concat, a1, b1], by simp only [ReadResult.concat, List.all_append, a2, b2]; rfl, ?_⟩
  simp [ReadResult.concat, c01_leafHom.append, a3, b3]

theorem c01_silent_ite {c : Prop} [Decidable c] {a b : ReadResult} (ha : c01_silent a) (hb : c01_silent b) :
    c01_silent (if c then a else b) := by
  split
  · exact ha
  · exact hb

theorem c01_silent_brk (ty : Str) : c01_silent (rrElems [.brk ty]) := ⟨rfl, rfl, rfl⟩

theorem c01_silent_break (as : Attrs) : c01_silent (readBreak as) := by
  unfold readBreak
  split
  · exact c01_silent_brk _
  · exact c01_silent_ite (c01_silent_brk _) (c01_silent_ite (c01_silent_brk _)
      (c01_silent_ite (c01_silent_brk _) (c01_silent_msg _)))

theorem c01_silent_image (env : REnv) (path : Str) (src : ImageSrc) (alt : Option Str) :
    c01_silent (readImage env path src alt) :=
  c01_silent_ite ⟨rfl, rfl, rfl⟩ ⟨rfl, rfl, rfl⟩

theorem c01_silent_embedded (env : REnv) (rid : Str) (alt : Option Str) (r : ReadResult)
    (h : readEmbeddedImage env rid alt = .ok r) : c01_silent r := by
  obtain ⟨t, _, h⟩ := bind_ok h
  rw [← Except.ok.inj h]
  exact c01_silent_image _ _ _ _

theorem c01_silent_blip (env : REnv) (as : Attrs) (alt : Option Str) (r : ReadResult)
    (h : readBlip env as alt = .ok r) : c01_silent r := by
  unfold readBlip at h
  split at h
  · exact c01_silent_embedded _ _ _ _ h
  · split at h
    · obtain ⟨t, _, h⟩ := bind_ok h
      rw [← Except.ok.inj h]
      exact c01_silent_image _ _ _ _
    · rw [← Except.ok.inj h]
      exact c01_silent_msg _

theorem c01_silent_foldl (rs : List ReadResult) (acc : ReadResult) (hacc : c01_silent acc)
    (h : ∀ r ∈ rs, c01_silent r) : c01_silent (rs.foldl ReadResult.concat acc) := by
  induction rs generalizing acc with
  | nil => exact hacc
  | cons r rs ih =>
    simp only [List.foldl_cons]
    exact ih _ (c01_silent_concat hacc (h r List.mem_cons_self)) (fun r' hr' => h r' (List.mem_cons_of_mem _ hr'))

theorem c01_silent_inline (env : REnv) (cs : List XmlNode) (r : ReadResult)
    (h : readInline env cs = .ok r) : c01_silent r := by
  unfold readInline at h
  dsimp only at h
  obtain ⟨rs, hrs, h⟩ := bind_ok h
  simp only [pure, Except.pure, Except.ok.injEq] at h
  rw [← h]
  refine c01_silent_foldl rs {} c01_silent_empty ?_
  intro r hr
  obtain ⟨a, _, hab⟩ := mapM_mem _ hrs r hr
  exact c01_silent_blip env _ _ r hab

theorem c01_sym_cp (font : Option Str) (ch : Str) (code : Nat) :
    ((dingbat font code).orElse fun _ =>
      match ch with
      | 'F' :: '0' :: a :: b :: _ =>
        if a = '\n' ∨ b = '\n' then none else (parseHex (ch.drop 2)).bind (dingbat font)
      | _ => none) =
    (match dingbat font code with
      | some c => some c
      | none =>
        match ch with
        | 'F' :: '0' :: a :: b :: _ =>
          if a != '\n' && b != '\n' then (parseHex (ch.drop 2)).bind (dingbat font) else none
        | _ => none) := by
  cases dingbat font code with
  | some c => rfl
  | none =>
    simp only [Option.orElse]
    split
    · rename_i a b tail
      by_cases ha : a = '\n'
      · simp [ha]
      · by_cases hb : b = '\n'
        · simp [hb]
        · simp [ha, hb]
    · rfl

/-- `w:sym`: the reader's element is the character of the specification -/
theorem c01_readSymbol_leaves (as : Attrs) (r : ReadResult) (h : readSymbol as = .ok r) :
    r.extra = [] ∧ r.elements.all c01_atom = true ∧ c01_elemLeavesL r.elements = c01_symLeaf as := by
  unfold readSymbol at h
  unfold c01_symLeaf
  cases hch : attr? S!"w:char" as with
  | none =>
    rw [hch] at h
    rw [← Except.ok.inj h]
    exact c01_silent_msg _
  | some ch =>
    rw [hch] at h
    dsimp only at h ⊢
    cases hcode : parseHex ch with
    | none => rw [hcode] at h; cases h
    | some code =>
      rw [hcode] at h
      dsimp only at h
      rw [Option.bind_some]
      split at h
      · rename_i c hc
        rw [← Except.ok.inj h]
        erw [(c01_sym_cp _ ch code).trans hc]
        exact ⟨rfl, rfl, rfl⟩
      · rename_i hc
        rw [← Except.ok.inj h]
        erw [(c01_sym_cp _ ch code).trans hc]
        exact c01_silent_msg _

end Mammoth
