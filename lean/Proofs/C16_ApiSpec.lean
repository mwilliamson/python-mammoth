/-
  C16 — composition to the public entry point: the messages of `mammoth.convert` in terms of the
  specifications (style-map warnings, reader warnings of the package's stories, converter messages), and
  the hypotheses of the clean-package theorem.
-/
import Proofs.C16_PkgSpec
import Proofs.C16_Api
import Proofs.C16_Clean
namespace Mammoth

/-- every line of the style map (comments and blank lines aside) is understood -/
def c16_styleMapOk (text : Str) : Bool := (styleLines text).all fun l => (readStyleMapping l).isSome

theorem c16_styleMapOk_warn (text : Str) (h : c16_styleMapOk text = true) : c16_styleWarnings text = [] := by
  unfold c16_styleMapOk at h
  unfold c16_styleWarnings
  generalize styleLines text = lines at h ⊢
  induction lines with
  | nil => rfl
  | cons l ls ih =>
    simp only [List.all_cons, Bool.and_eq_true] at h
    simp only [List.map_cons, List.filterMap_cons]
    have : (readStyleMapping l).isNone = false := by
      cases hr : readStyleMapping l with
      | none => rw [hr] at h; cases h.1
      | some x => rfl
    simp only [this, Bool.false_eq_true, if_false]
    exact ih h.2

/-- every story of the package is clean XML (in the environment in which it is read) -/
def c16_pkgXmlClean (p : Package) : Bool :=
  match c16_pkgStories p with
  | .ok stories => stories.all fun s => c16_xmlCleanL s.1 s.2
  | .error _ => false

/-- every paragraph and run of the document (body, notes, comments) has a matching mapping or no style
    id, and every image can be opened -/
def c16_docClean (cfg : Cfg) (d : Document) : Bool :=
  c16_cleanL cfg d.children && d.notes.all (fun n => c16_cleanL cfg n.body) &&
    d.comments.all (fun c => c16_cleanL cfg c.body)

theorem c16_xmlWarnings_clean (env : REnv) (ns : List XmlNode) (h : c16_xmlCleanL env ns = true) :
    c16_xmlWarnings env ns = [] :=
  (c16_xmlQuietL env ns c16_noBuf h c16_BufSilent_noBuf).msgs {}

theorem c16_storiesWarnings_clean (ss : List (REnv × List XmlNode))
    (h : (ss.all fun s => c16_xmlCleanL s.1 s.2) = true) : c16_storiesWarnings ss = [] := by
  induction ss with
  | nil => rfl
  | cons s ss ih =>
    obtain ⟨env, ns⟩ := s
    simp only [List.all_cons, Bool.and_eq_true] at h
    simp [c16_storiesWarnings, c16_xmlWarnings_clean env ns h.1, ih h.2]

end Mammoth
