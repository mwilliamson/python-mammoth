/-
  C09 — abstract table grids: the input type, validity, the specification of `calculateRowSpans`.
-/
import MammothModel.Reader
namespace Mammoth

/-- `w:vMerge` of a cell: absent, `restart`, or a continuation (`continue` / no value) -/
inductive c09_Merge where
  | none | restart | cont
deriving DecidableEq, Repr, Inhabited

/-- a table cell as the reader sees it: its grid span, its vertical-merge kind, its (already read) content -/
structure c09_Cell where
  span : Nat
  merge : c09_Merge
  content : List Elem := []
deriving Repr, Inhabited

abbrev c09_Row := List c09_Cell

def c09_Cell.isCont (c : c09_Cell) : Bool := c.merge == .cont

/-- the `TableCell` the reader builds before `calculate_row_spans`: rowspan 1, `_vmerge` set for continuations -/
def c09_toCell (c : c09_Cell) : Elem := .cell c.span 1 c.isCont c.content

/-- the `TableRow`s of a grid; `hdr i` is the header flag of row `i` (rows numbered from `r`) -/
def c09_toElemsFrom (hdr : Nat → Bool) : Nat → List c09_Row → List Elem
  | _, [] => []
  | r, row :: rest => .row (hdr r) (row.map c09_toCell) :: c09_toElemsFrom hdr (r + 1) rest

def c09_toElems (hdr : Nat → Bool) (rows : List c09_Row) : List Elem := c09_toElemsFrom hdr 0 rows

/-- the cell of the row `cells` (laid out left to right from column `ci`) that starts at column `s` -/
def c09_findStart : c09_Row → Nat → Nat → Option c09_Cell
  | [], _, _ => none
  | c :: cs, ci, s => if ci = s then some c else c09_findStart cs (ci + c.span) s

/-- the row has a continuation cell starting at column `s` -/
def c09_hasContAtFrom (cells : c09_Row) (ci s : Nat) : Bool :=
  match c09_findStart cells ci s with
  | some c => c.isCont
  | none => false

def c09_hasContAt (row : c09_Row) (s : Nat) : Bool := c09_hasContAtFrom row 0 s

/-- number of consecutive rows, from the top of `below`, that have a continuation cell starting at column `s` -/
def c09_chain : List c09_Row → Nat → Nat
  | [], _ => 0
  | row :: rest, s => if c09_hasContAt row s then 1 + c09_chain rest s else 0

/-- every span is ≥ 1 and every continuation cell of `cells` (laid out from `ci`) has, in the row `prev`,
    a `restart`/`cont` cell with the same start column and the same span -/
def c09_rowOkFrom (prev : c09_Row) : c09_Row → Nat → Bool
  | [], _ => true
  | c :: cs, ci =>
    decide (1 ≤ c.span) &&
    (!c.isCont ||
      (match c09_findStart prev 0 ci with
       | some p => p.span == c.span && p.merge != .none
       | none => false)) &&
    c09_rowOkFrom prev cs (ci + c.span)

def c09_width : c09_Row → Nat
  | [] => 0
  | c :: cs => c.span + c09_width cs

/-- each row is well-formed with respect to the row above it (`prev` above the first one) -/
def c09_validFrom (prev : c09_Row) : List c09_Row → Bool
  | [] => true
  | row :: rest => c09_rowOkFrom prev row 0 && c09_validFrom row rest

/-- a well-formed grid: all spans ≥ 1, all rows have the same total width, every continuation cell has
    directly above it a `restart` or `cont` cell with the same start column and span (so there is none
    in the first row) -/
def c09_validGrid (rows : List c09_Row) : Bool :=
  c09_validFrom [] rows &&
  (match rows with
   | [] => true
   | r :: rs => rs.all fun r' => c09_width r' == c09_width r)

/-- what `calculate_row_spans` should make of one row, given the rows below it: the continuation cells are
    gone, every other cell keeps its span and gets rowspan 1 + the length of the merge chain below it -/
def c09_expectedCells (below : List c09_Row) : c09_Row → Nat → List Elem
  | [], _ => []
  | c :: cs, ci =>
    if c.isCont then c09_expectedCells below cs (ci + c.span)
    else .cell c.span (1 + c09_chain below ci) false c.content :: c09_expectedCells below cs (ci + c.span)

def c09_expectedFrom (hdr : Nat → Bool) : Nat → List c09_Row → List Elem
  | _, [] => []
  | r, row :: rest => .row (hdr r) (c09_expectedCells rest row 0) :: c09_expectedFrom hdr (r + 1) rest

def c09_expected (hdr : Nat → Bool) (rows : List c09_Row) : List Elem := c09_expectedFrom hdr 0 rows

/-- a 3×3 grid: column 0 of rows 0–1 is one vertically merged cell, columns 1–2 of row 0 one wide cell -/
def c09_ex : List c09_Row :=
  [[⟨1, .restart, [.text S!"a"]⟩, ⟨2, .none, [.text S!"b"]⟩],
   [⟨1, .cont, []⟩, ⟨1, .none, []⟩, ⟨1, .none, []⟩],
   [⟨1, .none, []⟩, ⟨1, .none, []⟩, ⟨1, .none, []⟩]]

/-! ### basic facts -/

theorem c09_validGrid_from {rows : List c09_Row} (h : c09_validGrid rows = true) : c09_validFrom [] rows = true :=
  (Bool.and_eq_true_iff.mp h).1

theorem c09_findStart_lt (cells : c09_Row) (ci s : Nat) (h : s < ci) : c09_findStart cells ci s = none := by
  induction cells generalizing ci with
  | nil => rfl
  | cons c cs ih =>
    have : ci ≠ s := by omega
    simp only [c09_findStart, this, if_false]
    exact ih _ (by omega)

theorem c09_rowOk_span (prev : c09_Row) (c : c09_Cell) (cs : c09_Row) (ci : Nat)
    (h : c09_rowOkFrom prev (c :: cs) ci = true) : 1 ≤ c.span ∧ c09_rowOkFrom prev cs (ci + c.span) = true := by
  simp only [c09_rowOkFrom, Bool.and_eq_true, decide_eq_true_eq] at h
  exact ⟨h.1.1, h.2⟩

/-- validity: a continuation cell has a same-span mergeable cell above it -/
theorem c09_rowOk_above (prev cells : c09_Row) (ci s : Nat) (c : c09_Cell)
    (hok : c09_rowOkFrom prev cells ci = true) (hf : c09_findStart cells ci s = some c)
    (hc : c.isCont = true) :
    ∃ p, c09_findStart prev 0 s = some p ∧ p.span = c.span ∧ p.merge ≠ .none := by
  induction cells generalizing ci with
  | nil => simp [c09_findStart] at hf
  | cons d ds ih =>
    simp only [c09_findStart] at hf
    by_cases hcs : ci = s
    · simp only [hcs, if_true, Option.some.injEq] at hf
      subst hf; subst hcs
      simp only [c09_rowOkFrom, Bool.and_eq_true, hc, Bool.not_true, Bool.false_or] at hok
      cases hp : c09_findStart prev 0 ci with
      | none => simp [hp] at hok
      | some p =>
        simp [hp] at hok
        exact ⟨p, rfl, hok.1.2.1, hok.1.2.2⟩
    · simp only [hcs, if_false] at hf
      exact ih _ (c09_rowOk_span prev d ds ci hok).2 hf

/-- all children are rows and all their children are cells -/
def c09e7_shape (rows : List Elem) : Bool := rows.all fun r => isRow r && (rowCells r).all isCell

theorem c09e7_shape_iff (rows : List Elem) :
    c09e7_shape rows = true ↔ (rows.all isRow = true ∧ (rows.all fun r => (rowCells r).all isCell) = true) := by
  simp only [c09e7_shape, List.all_eq_true, Bool.and_eq_true]
  constructor
  · intro h; exact ⟨fun x hx => (h x hx).1, fun x hx => (h x hx).2⟩
  · intro h x hx; exact ⟨h.1 x hx, h.2 x hx⟩

theorem c09e7_cases (rows : List Elem) :
    (rows.all isRow = false → calculateRowSpans rows =
        (rows, [S!"unexpected non-row element in table, cell merging may be incorrect"])) ∧
    (rows.all isRow = true → (rows.all fun r => (rowCells r).all isCell) = false → calculateRowSpans rows =
        (rows, [S!"unexpected non-cell element in table row, cell merging may be incorrect"])) ∧
    (c09e7_shape rows = true → calculateRowSpans rows = (rebuildRows (sweepRows rows 0 {}) rows 0, [])) := by
  refine ⟨fun h => ?_, fun h1 h2 => ?_, fun h => ?_⟩
  · simp [calculateRowSpans, h]
  · simp [calculateRowSpans, h1, h2]
  · obtain ⟨h1, h2⟩ := (c09e7_shape_iff rows).mp h
    simp [calculateRowSpans, h1, h2]

theorem c09_toElems_shape (hdr : Nat → Bool) (rows : List c09_Row) (r : Nat) :
    c09e7_shape (c09_toElemsFrom hdr r rows) = true := by
  induction rows generalizing r with
  | nil => rfl
  | cons row rest ih =>
    have h1 : (row.map c09_toCell).all isCell = true := by
      rw [List.all_eq_true]
      intro e he
      obtain ⟨c, _, rfl⟩ := List.mem_map.mp he
      rfl
    show ((true && (row.map c09_toCell).all isCell) && c09e7_shape _) = true
    rw [h1, ih]
    rfl

end Mammoth
