/-
  C13 — the DOM → XmlNode conversion (`MammothModel/Dom.lean`).
-/
import MammothModel.Dom
namespace Mammoth

/-! ### basic equations -/

@[simp] theorem c13_convertNodes_nil (T : List (Str × Str)) : convertNodes T [] = [] := by
  simp [convertNodes]

theorem c13_convertNodes_cons (T : List (Str × Str)) (c : DomNode) (cs : List DomNode) :
    convertNodes T (c :: cs) = (convertNode T c).toList ++ convertNodes T cs := by
  rw [convertNodes]
  cases convertNode T c <;> simp

theorem c13_convertNodes_append (T : List (Str × Str)) (a b : List DomNode) :
    convertNodes T (a ++ b) = convertNodes T a ++ convertNodes T b := by
  induction a with
  | nil => simp
  | cons x xs ih => simp [c13_convertNodes_cons, ih]

@[simp] theorem c13_convertNode_elem (T : List (Str × Str)) ns l as cs :
    convertNode T (.elem ns l as cs) = some (.elem (convertName T ns l) (convertAttrs T as) (convertNodes T cs)) := by
  simp [convertNode]
@[simp] theorem c13_convertNode_text (T : List (Str × Str)) s : convertNode T (.text s) = some (.text s) := by
  simp [convertNode]
@[simp] theorem c13_convertNode_cdata (T : List (Str × Str)) s : convertNode T (.cdata s) = some (.text s) := by
  simp [convertNode]
@[simp] theorem c13_convertNode_comment (T : List (Str × Str)) s : convertNode T (.comment s) = none := by
  simp [convertNode]
@[simp] theorem c13_convertNode_pi (T : List (Str × Str)) t d : convertNode T (.pi t d) = none := by
  simp [convertNode]

/-! ### a DOM that still carries prefixes -/

/-- an attribute as minidom really stores it: with its `prefix` -/
structure c13_PAttr where
  pfx : Option Str
  ns : Option Str
  localName : Str
  value : Str

/-- a minidom node with the `prefix` field that `parse_xml` never reads -/
inductive c13_PNode where
  | elem (pfx : Option Str) (ns : Option Str) (localName : Str) (attrs : List c13_PAttr) (children : List c13_PNode)
  | text (s : Str)
  | cdata (s : Str)
  | comment (s : Str)
  | pi (target data : Str)

def c13_eraseAttr (a : c13_PAttr) : DomAttr := ⟨a.ns, a.localName, a.value⟩

mutual
/-- forget the prefixes: exactly the fields `parse_xml` reads remain -/
def c13_erasePrefix : c13_PNode → DomNode
  | .elem _ ns l as cs => .elem ns l (as.map c13_eraseAttr) (c13_erasePrefixL cs)
  | .text s => .text s
  | .cdata s => .cdata s
  | .comment s => .comment s
  | .pi t d => .pi t d
def c13_erasePrefixL : List c13_PNode → List DomNode
  | [] => []
  | c :: cs => c13_erasePrefix c :: c13_erasePrefixL cs
end

def c13_relabelAttr (r : Option Str → Option Str) (a : c13_PAttr) : c13_PAttr := { a with pfx := r a.pfx }

mutual
/-- replace every prefix `p` by `r p` (the namespace URIs stay): what re-serialising a document
    with other prefixes, or with a default namespace (`r _ = none`), does to the DOM -/
def c13_relabel (r : Option Str → Option Str) : c13_PNode → c13_PNode
  | .elem p ns l as cs => .elem (r p) ns l (as.map (c13_relabelAttr r)) (c13_relabelL r cs)
  | .text s => .text s
  | .cdata s => .cdata s
  | .comment s => .comment s
  | .pi t d => .pi t d
def c13_relabelL (r : Option Str → Option Str) : List c13_PNode → List c13_PNode
  | [] => []
  | c :: cs => c13_relabel r c :: c13_relabelL r cs
end

theorem c13_eraseAttr_relabel (r : Option Str → Option Str) (as : List c13_PAttr) :
    (as.map (c13_relabelAttr r)).map c13_eraseAttr = as.map c13_eraseAttr := by
  induction as with
  | nil => rfl
  | cons a as ih => simp [c13_eraseAttr, c13_relabelAttr]

mutual
theorem c13_erase_relabel (r : Option Str → Option Str) (d : c13_PNode) :
    c13_erasePrefix (c13_relabel r d) = c13_erasePrefix d := by
  match d with
  | .elem p ns l as cs =>
    simp only [c13_relabel, c13_erasePrefix, c13_eraseAttr_relabel, c13_erase_relabelL r cs]
  | .text _ | .cdata _ | .comment _ | .pi _ _ => rfl
theorem c13_erase_relabelL (r : Option Str → Option Str) (ds : List c13_PNode) :
    c13_erasePrefixL (c13_relabelL r ds) = c13_erasePrefixL ds := by
  match ds with
  | [] => simp [c13_relabelL, c13_erasePrefixL]
  | c :: cs => simp [c13_relabelL, c13_erasePrefixL, c13_erase_relabel r c, c13_erase_relabelL r cs]
end

/-! ### Strict ↔ Transitional -/

/-- the other URI that `office_xml._namespaces` lists under the same prefix (Transitional ↔ Strict
    for `w`, `r`, `wp`, `a`, `pic`); every other string is left alone -/
def c13_swapNs (uri : Str) : Str :=
  match Generated.namespaces.find? (fun pu => pu.2 == uri) with
  | none => uri
  | some pu =>
    match Generated.namespaces.find? (fun qu => qu.1 == pu.1 && qu.2 != uri) with
    | some qu => qu.2
    | none => uri

/-- everything the proof needs about the extracted table, checked by evaluation on its 17 rows; a row
    that the swap leaves alone is settled by the first disjunct, before the slower prefix lookups -/
def c13_tableOk : Bool :=
  Generated.namespaces.all fun pu =>
    c13_swapNs pu.2 == pu.2 ||
    (nsPrefix Generated.namespaces (c13_swapNs pu.2) == nsPrefix Generated.namespaces pu.2
      && (nsPrefix Generated.namespaces pu.2).isSome
      && c13_swapNs (c13_swapNs pu.2) == pu.2
      && c13_swapNs pu.2 != xmlnsUri && pu.2 != xmlnsUri)

theorem c13_tableOk_true : c13_tableOk = true := by decide +kernel

theorem c13_swap_cases (uri : Str) :
    c13_swapNs uri = uri ∨
    (nsPrefix Generated.namespaces (c13_swapNs uri) = nsPrefix Generated.namespaces uri
      ∧ (nsPrefix Generated.namespaces uri).isSome = true
      ∧ c13_swapNs (c13_swapNs uri) = uri
      ∧ c13_swapNs uri ≠ xmlnsUri ∧ uri ≠ xmlnsUri) := by
  cases h : Generated.namespaces.find? (fun pu => pu.2 == uri) with
  | none => left; simp [c13_swapNs, h]
  | some pu =>
    have he : pu.2 = uri := by simpa using List.find?_some h
    have := List.all_eq_true.mp c13_tableOk_true pu (List.mem_of_find?_eq_some h)
    rw [he] at this
    simpa only [Bool.or_eq_true, Bool.and_eq_true, beq_iff_eq, bne_iff_ne, ne_eq, and_assoc] using this

theorem c13_swap_xmlns (uri : Str) : (c13_swapNs uri = xmlnsUri) ↔ (uri = xmlnsUri) := by
  rcases c13_swap_cases uri with h | h
  · rw [h]
  · exact ⟨fun e => absurd e h.2.2.2.1, fun e => absurd e h.2.2.2.2⟩

theorem c13_convertName_swap (ns : Option Str) (l : Str) :
    convertName Generated.namespaces (ns.map c13_swapNs) l = convertName Generated.namespaces ns l := by
  cases ns with
  | none => rfl
  | some uri =>
    rcases c13_swap_cases uri with h | h
    · simp [h]
    · simp only [Option.map_some, convertName, h.1]
      cases hp : nsPrefix Generated.namespaces uri with
      | none => rw [hp] at h; simp at h
      | some p => rfl

def c13_mapAttrNs (f : Str → Str) (a : DomAttr) : DomAttr := { a with ns := a.ns.map f }

mutual
/-- rewrite every namespace URI (of elements and of attributes) with `f` -/
def c13_mapNs (f : Str → Str) : DomNode → DomNode
  | .elem ns l as cs => .elem (ns.map f) l (as.map (c13_mapAttrNs f)) (c13_mapNsL f cs)
  | .text s => .text s
  | .cdata s => .cdata s
  | .comment s => .comment s
  | .pi t d => .pi t d
def c13_mapNsL (f : Str → Str) : List DomNode → List DomNode
  | [] => []
  | c :: cs => c13_mapNs f c :: c13_mapNsL f cs
end

theorem c13_convertAttrPairs_swap (as : List DomAttr) :
    convertAttrPairs Generated.namespaces (as.map (c13_mapAttrNs c13_swapNs))
      = convertAttrPairs Generated.namespaces as := by
  induction as with
  | nil => rfl
  | cons a as ih =>
    unfold convertAttrPairs at ih ⊢
    have hx : ((c13_mapAttrNs c13_swapNs a).ns != some xmlnsUri) = (a.ns != some xmlnsUri) := by
      cases hn : a.ns with
      | none => simp [c13_mapAttrNs, hn]
      | some u =>
        simp only [c13_mapAttrNs, hn, Option.map_some, bne, Option.some_beq_some]
        congr 1
        rw [Bool.eq_iff_iff, beq_iff_eq, beq_iff_eq, c13_swap_xmlns]
    simp only [List.map_cons, List.filter_cons, hx]
    by_cases hk : (a.ns != some xmlnsUri) = true
    · simp only [hk, if_true, List.map_cons, ih]
      congr 1
      simp [c13_mapAttrNs, c13_convertName_swap]
    · simp only [hk]
      exact ih

mutual
theorem c13_convertNode_swap (d : DomNode) :
    convertNode Generated.namespaces (c13_mapNs c13_swapNs d) = convertNode Generated.namespaces d := by
  match d with
  | .elem ns l as cs =>
    simp only [c13_mapNs, c13_convertNode_elem, c13_convertName_swap, convertAttrs,
      c13_convertAttrPairs_swap, c13_convertNodes_swap cs]
  | .text _ | .cdata _ | .comment _ | .pi _ _ => rfl
theorem c13_convertNodes_swap (ds : List DomNode) :
    convertNodes Generated.namespaces (c13_mapNsL c13_swapNs ds) = convertNodes Generated.namespaces ds := by
  match ds with
  | [] => simp [c13_mapNsL]
  | c :: cs =>
    simp only [c13_mapNsL, c13_convertNodes_cons, c13_convertNode_swap c, c13_convertNodes_swap cs]
end

/-! ### comments and processing instructions -/

def c13_notCommentOrPi : DomNode → Bool
  | .comment _ => false
  | .pi _ _ => false
  | _ => true

mutual
/-- remove every comment and processing instruction, at every depth -/
def c13_stripNoise : DomNode → DomNode
  | .elem ns l as cs => .elem ns l as (c13_stripNoiseL cs)
  | .text s => .text s
  | .cdata s => .cdata s
  | .comment s => .comment s
  | .pi t d => .pi t d
def c13_stripNoiseL : List DomNode → List DomNode
  | [] => []
  | c :: cs => if c13_notCommentOrPi c then c13_stripNoise c :: c13_stripNoiseL cs else c13_stripNoiseL cs
end

mutual
theorem c13_convertNode_stripNoise (T : List (Str × Str)) (d : DomNode) :
    convertNode T (c13_stripNoise d) = convertNode T d := by
  match d with
  | .elem ns l as cs => simp only [c13_stripNoise, c13_convertNode_elem, c13_convertNodes_stripNoise T cs]
  | .text _ | .cdata _ | .comment _ | .pi _ _ => rfl
theorem c13_convertNodes_stripNoise (T : List (Str × Str)) (ds : List DomNode) :
    convertNodes T (c13_stripNoiseL ds) = convertNodes T ds := by
  match ds with
  | [] => simp [c13_stripNoiseL]
  | c :: cs =>
    have ih := c13_convertNodes_stripNoise T cs
    have ihc := c13_convertNode_stripNoise T c
    unfold c13_stripNoiseL
    cases c with
    | comment _ | pi _ _ => simp [c13_notCommentOrPi, c13_convertNodes_cons, ih]
    | elem _ _ _ _ | text _ | cdata _ => simp only [c13_notCommentOrPi, if_true, c13_convertNodes_cons, ih, ihc]
end

/-! ### CDATA -/

mutual
/-- replace every CDATA section by a text node with the same characters -/
def c13_cdataToText : DomNode → DomNode
  | .elem ns l as cs => .elem ns l as (c13_cdataToTextL cs)
  | .text s => .text s
  | .cdata s => .text s
  | .comment s => .comment s
  | .pi t d => .pi t d
def c13_cdataToTextL : List DomNode → List DomNode
  | [] => []
  | c :: cs => c13_cdataToText c :: c13_cdataToTextL cs
end

mutual
theorem c13_convertNode_cdataToText (T : List (Str × Str)) (d : DomNode) :
    convertNode T (c13_cdataToText d) = convertNode T d := by
  match d with
  | .elem ns l as cs => simp only [c13_cdataToText, c13_convertNode_elem, c13_convertNodes_cdataToText T cs]
  | .text _ | .cdata _ | .comment _ | .pi _ _ => rfl
theorem c13_convertNodes_cdataToText (T : List (Str × Str)) (ds : List DomNode) :
    convertNodes T (c13_cdataToTextL ds) = convertNodes T ds := by
  match ds with
  | [] => simp [c13_cdataToTextL]
  | c :: cs =>
    simp only [c13_cdataToTextL, c13_convertNodes_cons, c13_convertNode_cdataToText T c,
      c13_convertNodes_cdataToText T cs]
end

/-! ### namespace declarations -/

def c13_isXmlnsDecl (a : DomAttr) : Bool := a.ns == some xmlnsUri

theorem c13_convertAttrPairs_filter (T : List (Str × Str)) (as : List DomAttr) :
    convertAttrPairs T (as.filter fun a => !c13_isXmlnsDecl a) = convertAttrPairs T as := by
  unfold convertAttrPairs
  rw [List.filter_filter]
  congr 1
  apply List.filter_congr
  intro a _
  simp [c13_isXmlnsDecl, bne]

mutual
/-- remove every namespace declaration, at every depth -/
def c13_stripXmlns : DomNode → DomNode
  | .elem ns l as cs => .elem ns l (as.filter fun a => !c13_isXmlnsDecl a) (c13_stripXmlnsL cs)
  | .text s => .text s
  | .cdata s => .cdata s
  | .comment s => .comment s
  | .pi t d => .pi t d
def c13_stripXmlnsL : List DomNode → List DomNode
  | [] => []
  | c :: cs => c13_stripXmlns c :: c13_stripXmlnsL cs
end

mutual
theorem c13_convertNode_stripXmlns (T : List (Str × Str)) (d : DomNode) :
    convertNode T (c13_stripXmlns d) = convertNode T d := by
  match d with
  | .elem ns l as cs =>
    simp only [c13_stripXmlns, c13_convertNode_elem, convertAttrs, c13_convertAttrPairs_filter,
      c13_convertNodes_stripXmlns T cs]
  | .text _ | .cdata _ | .comment _ | .pi _ _ => rfl
theorem c13_convertNodes_stripXmlns (T : List (Str × Str)) (ds : List DomNode) :
    convertNodes T (c13_stripXmlnsL ds) = convertNodes T ds := by
  match ds with
  | [] => simp [c13_stripXmlnsL]
  | c :: cs =>
    simp only [c13_stripXmlnsL, c13_convertNodes_cons, c13_convertNode_stripXmlns T c,
      c13_convertNodes_stripXmlns T cs]
end

/-! ### whole packages -/

/-- rewrite the DOM of every XML part; the rewrite may depend on the part's name -/
def c13_mapParts (f : Str → DomNode → DomNode) : DomPackage → DomPackage
  | [] => []
  | (n, .xml root) :: rest => (n, .xml (f n root)) :: c13_mapParts f rest
  | (n, .bytes b) :: rest => (n, .bytes b) :: c13_mapParts f rest

theorem c13_parseParts_mapParts (f : Str → DomNode → DomNode)
    (hf : ∀ n d, parseXml (f n d) = parseXml d) (dp : DomPackage) :
    DomPackage.parseParts (c13_mapParts f dp) = DomPackage.parseParts dp := by
  induction dp with
  | nil => rfl
  | cons x rest ih =>
    obtain ⟨n, part⟩ := x
    cases part with
    | xml root => simp only [c13_mapParts, DomPackage.parseParts, DomPart.parse, hf, ih]
    | bytes b => simp only [c13_mapParts, DomPackage.parseParts, DomPart.parse, ih]

/-- the rewrites of this file, closed under composition -/
inductive c13_Respelling : (DomNode → DomNode) → Prop where
  | same : c13_Respelling id
  | strictTransitional : c13_Respelling (c13_mapNs c13_swapNs)
  | dropCommentsPis : c13_Respelling c13_stripNoise
  | cdataToText : c13_Respelling c13_cdataToText
  | dropXmlns : c13_Respelling c13_stripXmlns
  | comp {f g : DomNode → DomNode} : c13_Respelling f → c13_Respelling g → c13_Respelling (f ∘ g)

theorem c13_respelling_parse {f : DomNode → DomNode} (h : c13_Respelling f) (d : DomNode) :
    parseXml (f d) = parseXml d := by
  induction h generalizing d with
  | same => rfl
  | strictTransitional => exact c13_convertNode_swap d
  | dropCommentsPis => exact c13_convertNode_stripNoise _ d
  | cdataToText => exact c13_convertNode_cdataToText _ d
  | dropXmlns => exact c13_convertNode_stripXmlns _ d
  | comp _ _ ihf ihg => simp only [Function.comp]; rw [ihf, ihg]

/-- `mammoth.convert` started from the DOM level: parse every XML part, then the model's pipeline -/
def c13_convertDom (dp : DomPackage) (fuel : Nat) (base : Option Str) (world : Str → Option Bytes)
    (transform : Document → Document) (o : Options) : Option (Except Err ApiOut) :=
  dp.toPackage.map fun p => apiConvert p fuel base world transform o

end Mammoth
