/-
  C15_Dict.lean — the key-sorted association list `Dict` is a canonical form:
  `strLt` is a strict total order, `Dict.insert` keeps the keys strictly increasing,
  `Dict.get?` of an insert is "last write wins", and two sorted dictionaries with the
  same lookups are equal.  Hence insertion order of distinct keys cannot be observed.
-/
import MammothModel.Basic
import Proofs.Basics
namespace Mammoth

/-! ### `strLt` is a strict total order -/

theorem c15_strLt_cons (a b : Char) (as bs : Str) :
    strLt (a :: as) (b :: bs) = true ↔ a.toNat < b.toNat ∨ (a = b ∧ strLt as bs = true) := by
  simp [strLt]

theorem c15_strLt_irrefl : ∀ a : Str, strLt a a = false
  | [] => by simp [strLt]
  | a :: as => by simp [strLt, c15_strLt_irrefl as]

theorem c15_strLt_trans : ∀ a b c : Str, strLt a b = true → strLt b c = true → strLt a c = true
  | [], [], _, h, _ => by simp [strLt] at h
  | [], _ :: _, [], _, h => by simp [strLt] at h
  | [], _ :: _, _ :: _, _, _ => by simp [strLt]
  | _ :: _, [], _, h, _ => by simp [strLt] at h
  | _ :: _, _ :: _, [], _, h => by simp [strLt] at h
  | a :: as, b :: bs, c :: cs, h1, h2 => by
    rw [c15_strLt_cons] at h1 h2 ⊢
    rcases h1 with h1 | ⟨rfl, h1⟩
    · rcases h2 with h2 | ⟨rfl, _⟩
      · exact .inl (Nat.lt_trans h1 h2)
      · exact .inl h1
    · rcases h2 with h2 | ⟨rfl, h2⟩
      · exact .inl h2
      · exact .inr ⟨rfl, c15_strLt_trans as bs cs h1 h2⟩

theorem c15_strLt_trichotomy : ∀ a b : Str, a = b ∨ strLt a b = true ∨ strLt b a = true
  | [], [] => .inl rfl
  | [], _ :: _ => .inr (.inl (by simp [strLt]))
  | _ :: _, [] => .inr (.inr (by simp [strLt]))
  | a :: as, b :: bs => by
    rcases Nat.lt_trichotomy a.toNat b.toNat with h | h | h
    · exact .inr (.inl ((c15_strLt_cons ..).2 (.inl h)))
    · have hab : a = b := Char.toNat_inj.mp h
      subst hab
      rcases c15_strLt_trichotomy as bs with h | h | h
      · exact .inl (by rw [h])
      · exact .inr (.inl ((c15_strLt_cons ..).2 (.inr ⟨rfl, h⟩)))
      · exact .inr (.inr ((c15_strLt_cons ..).2 (.inr ⟨rfl, h⟩)))
    · exact .inr (.inr ((c15_strLt_cons ..).2 (.inl h)))

theorem c15_strLt_ne (a b : Str) (h : strLt a b = true) : a ≠ b := by
  intro e; subst e; rw [c15_strLt_irrefl] at h; exact Bool.noConfusion h

/-! ### sortedness -/

/-- the `Dict` invariant: keys strictly increasing (hence pairwise distinct) -/
def c15_sorted {β} (d : Dict β) : Prop := List.Pairwise (fun a b => strLt a.1 b.1 = true) d

/-- executable version of the invariant, for closed examples -/
def c15_sortedB {β} : Dict β → Bool
  | [] => true
  | (k, _) :: rest => rest.all (fun p => strLt k p.1) && c15_sortedB rest

theorem c15_sorted_nil {β} : c15_sorted ([] : Dict β) := List.Pairwise.nil

theorem c15_sorted_cons {β} (p : Str × β) (d : Dict β) :
    c15_sorted (p :: d) ↔ (∀ q ∈ d, strLt p.1 q.1 = true) ∧ c15_sorted d := by
  simp only [c15_sorted, List.pairwise_cons]

theorem c15_mem_insert {β} (k : Str) (v : β) :
    ∀ (d : Dict β) (q : Str × β), q ∈ Dict.insert k v d → q = (k, v) ∨ q ∈ d
  | [], q, h => by simp [Dict.insert] at h; exact .inl h
  | (k', v') :: rest, q, h => by
    simp only [Dict.insert] at h
    split at h
    · rcases List.mem_cons.1 h with h | h
      · exact .inl h
      · exact .inr (List.mem_cons_of_mem _ h)
    · split at h
      · rcases List.mem_cons.1 h with h | h
        · exact .inl h
        · exact .inr h
      · rcases List.mem_cons.1 h with h | h
        · exact .inr (h ▸ List.mem_cons_self)
        · rcases c15_mem_insert k v rest q h with h | h
          · exact .inl h
          · exact .inr (List.mem_cons_of_mem _ h)

theorem c15_insert_sorted {β} (k : Str) (v : β) :
    ∀ d : Dict β, c15_sorted d → c15_sorted (Dict.insert k v d)
  | [], _ => by simp [Dict.insert, c15_sorted]
  | (k', v') :: rest, h => by
    rw [c15_sorted_cons] at h
    simp only [Dict.insert]
    split
    · rename_i e; subst e
      rw [c15_sorted_cons]; exact h
    · rename_i hne
      split
      · rename_i hlt
        rw [c15_sorted_cons]
        refine ⟨?_, (c15_sorted_cons _ _).2 h⟩
        intro q hq
        rcases List.mem_cons.1 hq with hq | hq
        · subst hq; exact hlt
        · exact c15_strLt_trans _ _ _ hlt (h.1 q hq)
      · rename_i hnlt
        have hgt : strLt k' k = true := by
          rcases c15_strLt_trichotomy k k' with e | e | e
          · exact absurd e hne
          · exact absurd e hnlt
          · exact e
        rw [c15_sorted_cons]
        refine ⟨?_, c15_insert_sorted k v rest h.2⟩
        intro q hq
        rcases c15_mem_insert k v rest q hq with hq | hq
        · subst hq; exact hgt
        · exact h.1 q hq

theorem c15_foldl_sorted {β} : ∀ (l : List (Str × β)) (acc : Dict β), c15_sorted acc →
    c15_sorted (l.foldl (fun d kv => Dict.insert kv.1 kv.2 d) acc)
  | [], _, h => h
  | kv :: l, acc, h => by
    simp only [List.foldl_cons]
    exact c15_foldl_sorted l _ (c15_insert_sorted kv.1 kv.2 acc h)

/-! ### lookups -/

theorem c15_get_none_of_lt {β} (k : Str) :
    ∀ d : Dict β, (∀ q ∈ d, strLt k q.1 = true) → Dict.get? k d = none
  | [], _ => rfl
  | (k', v') :: rest, h => by
    have hne : k ≠ k' := c15_strLt_ne _ _ (h (k', v') List.mem_cons_self)
    simp only [Dict.get?, hne, if_false]
    exact c15_get_none_of_lt k rest (fun q hq => h q (List.mem_cons_of_mem _ hq))

/-- extensionality: a sorted dictionary is determined by its lookups -/
theorem c15_sorted_ext {β} : ∀ (d₁ d₂ : Dict β), c15_sorted d₁ → c15_sorted d₂ →
    (∀ k, Dict.get? k d₁ = Dict.get? k d₂) → d₁ = d₂
  | [], [], _, _, _ => rfl
  | [], (k, v) :: _, _, _, h => by have := h k; simp [Dict.get?] at this
  | (k, v) :: _, [], _, _, h => by have := h k; simp [Dict.get?] at this
  | (k₁, v₁) :: r₁, (k₂, v₂) :: r₂, s₁, s₂, h => by
    rw [c15_sorted_cons] at s₁ s₂
    have n₁ : Dict.get? k₁ r₁ = none := c15_get_none_of_lt k₁ r₁ s₁.1
    have n₂ : Dict.get? k₂ r₂ = none := c15_get_none_of_lt k₂ r₂ s₂.1
    rcases c15_strLt_trichotomy k₁ k₂ with e | e | e
    · subst e
      have hv := h k₁
      simp only [Dict.get?, if_true] at hv
      have hv : v₁ = v₂ := Option.some.inj hv
      subst hv
      have : r₁ = r₂ := by
        apply c15_sorted_ext r₁ r₂ s₁.2 s₂.2
        intro q
        by_cases hq : q = k₁
        · subst hq; rw [n₁, n₂]
        · have := h q
          simpa only [Dict.get?, hq, if_false] using this
      rw [this]
    · -- k₁ < k₂ : k₁ is absent from d₂
      have := h k₁
      have hne : k₁ ≠ k₂ := c15_strLt_ne _ _ e
      have hn : Dict.get? k₁ r₂ = none :=
        c15_get_none_of_lt k₁ r₂ (fun q hq => c15_strLt_trans _ _ _ e (s₂.1 q hq))
      simp [Dict.get?, hne, hn] at this
    · have := h k₂
      have hne : k₂ ≠ k₁ := c15_strLt_ne _ _ e
      have hn : Dict.get? k₂ r₁ = none :=
        c15_get_none_of_lt k₂ r₁ (fun q hq => c15_strLt_trans _ _ _ e (s₁.1 q hq))
      simp [Dict.get?, hne, hn] at this

/-! ### consequences: commuting -/

theorem c15_insert_comm {β} (k₁ k₂ : Str) (v₁ v₂ : β) (d : Dict β) (hne : k₁ ≠ k₂)
    (hs : c15_sorted d) :
    Dict.insert k₁ v₁ (Dict.insert k₂ v₂ d) = Dict.insert k₂ v₂ (Dict.insert k₁ v₁ d) := by
  apply c15_sorted_ext
  · exact c15_insert_sorted _ _ _ (c15_insert_sorted _ _ _ hs)
  · exact c15_insert_sorted _ _ _ (c15_insert_sorted _ _ _ hs)
  · intro q
    simp only [Dict.get?_insert]
    by_cases h1 : q = k₁
    · have : q ≠ k₂ := fun e => hne (h1 ▸ e)
      simp [h1, hne]
    · simp [h1]

/-! ### permutations of pairs with distinct keys -/

theorem c15_foldl_perm {β} {l₁ l₂ : List (Str × β)} (hp : l₁.Perm l₂) :
    (l₁.map Prod.fst).Nodup → ∀ acc : Dict β, c15_sorted acc →
      l₁.foldl (fun d kv => Dict.insert kv.1 kv.2 d) acc =
      l₂.foldl (fun d kv => Dict.insert kv.1 kv.2 d) acc := by
  induction hp with
  | nil => intros; rfl
  | cons x _ ih =>
    intro hn acc hs
    simp only [List.map_cons, List.nodup_cons] at hn
    simp only [List.foldl_cons]
    exact ih hn.2 _ (c15_insert_sorted _ _ _ hs)
  | swap x y l =>
    intro hn acc hs
    simp only [List.map_cons, List.nodup_cons, List.mem_cons, not_or] at hn
    simp only [List.foldl_cons]
    rw [c15_insert_comm x.1 y.1 x.2 y.2 acc (fun e => hn.1.1 e.symm) hs]
  | trans h₁ _ ih₁ ih₂ =>
    intro hn acc hs
    rw [ih₁ hn acc hs]
    exact ih₂ (((h₁.map Prod.fst).nodup_iff).1 hn) acc hs

end Mammoth
