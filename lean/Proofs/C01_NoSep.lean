/-
  C01 — the converter only emits separator-free tags unless the style map asks for a separator.
-/
import Proofs.VisitPost
namespace Mammoth

/-- no tag of the path carries a (non-empty) separator -/
def c01_noSepPath : HtmlPath → Bool
  | .elements es => es.all fun t => (sepText t).isEmpty
  | .ignore => true

/-- no style mapping of the configuration uses a separator (`:separator('…')`) -/
def c01_noSepMap (cfg : Cfg) : Bool := cfg.styleMap.all fun s => c01_noSepPath s.path

theorem c01_noSepL_wrapElems (es : List Tag) (ns : List Node)
    (he : c01_noSepPath (.elements es) = true) (hn : noSepL ns = true) :
    noSepL (wrapElems es ns) = true := by
  induction es with
  | nil => simpa [wrapElems] using hn
  | cons t ts ih =>
    simp only [c01_noSepPath, List.all_cons, Bool.and_eq_true] at he
    simp only [wrapElems, noSepL, noSep, Bool.and_eq_true, and_true]
    exact ⟨he.1, ih (by simpa [c01_noSepPath] using he.2)⟩

/-! ### the visitor -/

/-- the forest contains no tag with a separator -/
abbrev c01_NS (ns : List Node) : Prop := noSepL ns = true

/-- the elements conversion.py and images.py make themselves have no separator -/
theorem c01_noSep_closed (cfg : Cfg) (hm : c01_noSepMap cfg = true) : VisitClosed cfg c01_NS where
  nil := rfl
  append ha hb := by simp [c01_NS, noSepL_append, ha, hb]
  text _ := rfl
  forceWrite := rfl
  elem := fun _ _ _ hc => by simpa [c01_NS, noSepL, noSep, sepText] using hc
  found := Wraps.of_map (P := c01_NS) c01_noSepPath hm rfl c01_noSepL_wrapElems
  image i := c01_post_convertImage cfg i c01_NS (fun a => by simp [c01_NS, noSepL, noSep, el, sepText]) rfl

theorem c01_noSep_visit (cfg : Cfg) (hm : c01_noSepMap cfg = true) (hdr : Bool) (e : Elem) :
    c01_post c01_NS (visit cfg hdr e) :=
  (c01_noSep_closed cfg hm).visit hdr e

theorem c01_noSep_visitRows (cfg : Cfg) (hm : c01_noSepMap cfg = true) (inHead : Bool) (rs : List Elem) :
    c01_post (fun p => c01_NS p.1 ∧ c01_NS p.2) (visitRows cfg inHead rs) :=
  (c01_noSep_closed cfg hm).visitRows inHead rs

/-! ### strip_empty introduces no separator -/
mutual
theorem c01_noSepL_stripNode (n : Node) (h : noSep n = true) : noSepL (stripNode n) = true := by
  match n with
  | .text s => unfold stripNode; split <;> simp [noSepL, noSep]
  | .forceWrite => simp [stripNode, noSepL, noSep]
  | .elem t cs =>
    have h' := h
    simp only [noSep, Bool.and_eq_true] at h'
    unfold stripNode
    simp only []
    split
    · simp [noSepL]
    · simp [noSepL, noSep, h'.1, c01_noSepL_stripList cs h'.2]
theorem c01_noSepL_stripList (ns : List Node) (h : noSepL ns = true) : noSepL (stripList ns) = true := by
  match ns with
  | [] => simp [stripList, noSepL]
  | c :: cs =>
    have h' := h
    simp only [noSepL, Bool.and_eq_true] at h'
    unfold stripList
    simp [noSepL_append, c01_noSepL_stripNode c h'.1, c01_noSepL_stripList cs h'.2]
end

end Mammoth
