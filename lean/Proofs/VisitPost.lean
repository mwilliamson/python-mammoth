/-
  What the converter's forest is built from: nothing, concatenation, text, the force-write marker, the paths
  of the style map wrapped around a forest, elements under one of conversion.py's own literal names with its own
  literal attribute keys, and the `img` elements of the image converter.  A property of forests that all of
  these preserve (`VisitClosed`) therefore holds of whatever the visitor returns.
-/
import Proofs.C01_Refine
namespace Mammoth

/-- the element names conversion.py writes itself (`img` is images.py's) -/
inductive VisitName : Str → Prop
  | p : VisitName S!"p"
  | table : VisitName S!"table"
  | br : VisitName S!"br"
  | s : VisitName S!"s"
  | sub : VisitName S!"sub"
  | sup : VisitName S!"sup"
  | em : VisitName S!"em"
  | strong : VisitName S!"strong"
  | a : VisitName S!"a"
  | input : VisitName S!"input"
  | thead : VisitName S!"thead"
  | tbody : VisitName S!"tbody"
  | tr : VisitName S!"tr"
  | th : VisitName S!"th"
  | td : VisitName S!"td"
  | li : VisitName S!"li"
  | ol : VisitName S!"ol"
  | dl : VisitName S!"dl"
  | dt : VisitName S!"dt"
  | dd : VisitName S!"dd"

inductive VisitKey : Str → Prop
  | href : VisitKey S!"href"
  | target : VisitKey S!"target"
  | type : VisitKey S!"type"
  | checked : VisitKey S!"checked"
  | colspan : VisitKey S!"colspan"
  | rowspan : VisitKey S!"rowspan"
  | id : VisitKey S!"id"

inductive VisitAttrs : List (Str × Str) → Prop
  | nil : VisitAttrs []
  | cons {k v a} : VisitKey k → VisitAttrs a → VisitAttrs ((k, v) :: a)

theorem VisitAttrs.append {a b : List (Str × Str)} (ha : VisitAttrs a) (hb : VisitAttrs b) : VisitAttrs (a ++ b) := by
  induction ha with
  | nil => exact hb
  | cons hk _ ih => exact .cons hk ih

def Wraps (P : List Node → Prop) (p : HtmlPath) : Prop := ∀ ⦃ns⦄, P ns → P (wrapAll [p] ns)

structure VisitClosed (cfg : Cfg) (P : List Node → Prop) : Prop where
  nil : P []
  append : ∀ {a b}, P a → P b → P (a ++ b)
  text : ∀ s, P [.text s]
  forceWrite : P [.forceWrite]
  elem : ∀ {n a cs} c, VisitName n → VisitAttrs a → P cs →
    P [.elem { name := n, attrs := Dict.ofList a, collapsible := c } cs]
  found : ∀ {t p}, findPath cfg t = some p → Wraps P p
  image : ∀ i, c01_post P (convertImage cfg i)

theorem findPath_mem {cfg : Cfg} {t : Target} {p : HtmlPath} (h : findPath cfg t = some p) :
    ∃ s ∈ cfg.styleMap, s.path = p := by
  unfold findPath findStyle at h
  cases hf : cfg.styleMap.find? (fun s => matcherMatches cfg.upper s.matcher t) with
  | none => simp [hf] at h
  | some s =>
    simp only [hf, Option.map_some, Option.some.injEq] at h
    exact ⟨s, List.mem_of_find?_eq_some hf, h⟩

theorem Wraps.of_map {cfg : Cfg} {P : List Node → Prop} (q : HtmlPath → Bool)
    (hm : (cfg.styleMap.all fun s => q s.path) = true) (hnil : P [])
    (hw : ∀ es ns, q (.elements es) = true → P ns → P (wrapElems es ns))
    {t : Target} {p : HtmlPath} (h : findPath cfg t = some p) : Wraps P p := by
  obtain ⟨s, hs, rfl⟩ := findPath_mem h
  have hq := List.all_eq_true.mp hm s hs
  intro ns hn
  cases hp : s.path with
  | ignore => exact hnil
  | elements es => exact hw es ns (hp ▸ hq) hn

theorem Wraps.all {P : List Node → Prop} {ps : List HtmlPath} (hp : ∀ p ∈ ps, Wraps P p) {ns : List Node}
    (hn : P ns) : P (wrapAll ps ns) := by
  induction ps generalizing ns with
  | nil => exact hn
  | cons p ps ih =>
    have := hp p List.mem_cons_self hn
    cases p <;> exact ih (fun q hq => hp q (List.mem_cons_of_mem _ hq)) this

theorem propPath_cases {cfg : Cfg} {Q : HtmlPath → Prop} (hfound : ∀ {t p}, findPath cfg t = some p → Q p)
    (htag : ∀ {n}, VisitName n → Q (.elements [pathElem n false])) (hnil : Q (.elements []))
    (t : Target) (d : Option Str) (hd : d.elim True VisitName) : Q (propPath cfg t d) := by
  unfold propPath
  cases hf : findPath cfg t with
  | some p => exact hfound hf
  | none =>
    cases d with
    | none => exact hnil
    | some n => exact htag hd

theorem runPropPaths_cases {cfg : Cfg} {Q : HtmlPath → Prop} (hfound : ∀ {t p}, findPath cfg t = some p → Q p)
    (htag : ∀ {n}, VisitName n → Q (.elements [pathElem n false])) (hnil : Q (.elements []))
    (r : RunProps) : ∀ p ∈ runPropPaths cfg r, Q p := by
  have hprop := propPath_cases (Q := Q) hfound htag hnil
  intro p hp
  simp only [runPropPaths, List.mem_append, List.mem_ite_nil_right, List.mem_singleton] at hp
  rcases hp with ((((((((hp | hp) | hp) | hp) | hp) | hp) | hp) | hp) | hp)
  · cases hc : r.highlight with
    | none => simp [hc] at hp
    | some c =>
      cases hf : findPath cfg (.highlight c) with
      | none => simp [hc, hf] at hp
      | some q =>
        simp only [hc, hf, List.mem_singleton] at hp
        exact hp ▸ hfound hf
  · exact hp.2 ▸ hprop .smallCaps none trivial
  · exact hp.2 ▸ hprop .allCaps none trivial
  · exact hp.2 ▸ hprop .strikethrough (some _) VisitName.s
  · exact hp.2 ▸ hprop .underline none trivial
  · exact hp.2 ▸ htag .sub
  · exact hp.2 ▸ htag .sup
  · exact hp.2 ▸ hprop .italic (some _) VisitName.em
  · exact hp.2 ▸ hprop .bold (some _) VisitName.strong

theorem c01_post_map {α β} {P : α → Prop} {Q : β → Prop} {x : ConvM α} {f : α → β} (hx : c01_post P x)
    (hf : ∀ a, P a → Q (f a)) : c01_post Q (x >>= fun a => pure (f a)) :=
  c01_post_bind _ _ _ _ hx fun a ha => c01_post_pure _ _ (hf a ha)

namespace VisitClosed
variable {cfg : Cfg} {P : List Node → Prop} (h : VisitClosed cfg P)
include h

theorem cons_forceWrite {ns : List Node} (hn : P ns) : P (.forceWrite :: ns) :=
  h.append h.forceWrite hn

theorem el {n : Str} {a : List (Str × Str)} {cs : List Node} (hn : VisitName n) (ha : VisitAttrs a) (hc : P cs) :
    P [el n a cs] :=
  h.elem false hn ha hc

theorem cel {n : Str} {a : List (Str × Str)} {cs : List Node} (hn : VisitName n) (ha : VisitAttrs a) (hc : P cs) :
    P [cel n a cs] :=
  h.elem true hn ha hc

theorem tag {n : Str} (f : Bool) (hn : VisitName n) : Wraps P (.elements [pathElem n f]) :=
  fun _ hc => h.elem (!f) hn .nil hc

theorem path (t : Target) {d : HtmlPath} (hd : Wraps P d) : Wraps P (c01_path cfg t d) := by
  unfold c01_path
  cases hf : findPath cfg t with
  | none => exact hd
  | some p => exact h.found hf

theorem runPropPaths (r : RunProps) {ns : List Node} (hn : P ns) : P (wrapAll (runPropPaths cfg r) ns) :=
  Wraps.all (runPropPaths_cases h.found (h.tag false) (fun _ => id) r) hn

theorem findPathWarn (t : Target) (kind : Str) (sid sname : Option Str) {d : HtmlPath} (hd : Wraps P d) :
    c01_post (Wraps P) (findPathWarn cfg t kind sid sname d) := by
  intro st p st' hr
  rw [c01_findPathWarn_run] at hr
  cases hr
  exact h.path t hd

mutual
theorem visit (hdr : Bool) (e : Elem) : c01_post P (visit cfg hdr e) := by
  match e with
  | .paragraph p cs =>
    simp only [Mammoth.visit]
    refine c01_post_bind _ _ _ _ (h.findPathWarn _ _ _ _ (h.tag true .p)) ?_
    intro path hpath
    cases path with
    | ignore => exact c01_post_pure _ _ h.nil
    | elements es =>
      refine c01_post_bind _ _ _ _ (visitAll hdr cs) ?_
      intro content hc
      refine c01_post_pure _ _ (hpath ?_)
      split
      · exact hc
      · exact h.cons_forceWrite hc
  | .run r cs =>
    simp only [Mammoth.visit]
    refine c01_post_bind _ _ _ _ (h.findPathWarn _ _ _ _ (d := .elements []) fun _ => id) ?_
    intro sp hsp
    have hall : ∀ {ns}, P ns → P (wrapAll (Mammoth.runPropPaths cfg r ++ [sp]) ns) := by
      intro ns hn
      rw [c03_wrapAll_append]
      exact hsp (h.runPropPaths r hn)
    split
    · exact c01_post_pure _ _ (hall h.nil)
    · refine c01_post_bind _ _ _ _ (visitAll hdr cs) ?_
      intro ns hns
      exact c01_post_pure _ _ (hall hns)
  | .text s => exact c01_post_pure _ _ (h.text s)
  | .hyperlink l cs =>
    simp only [Mammoth.visit]
    refine c01_post_map (visitAll hdr cs) fun ns hns => h.cel .a (.append (.cons .href .nil) ?_) hns
    cases l.targetFrame with
    | none => exact .nil
    | some t => exact .cons .target .nil
  | .checkbox c =>
    refine c01_post_pure _ _ (h.el .input (.append (.cons .type .nil) ?_) h.nil)
    cases c with
    | false => exact .nil
    | true => exact .cons .checked .nil
  | .table sid sname rows =>
    simp only [Mammoth.visit]
    have hpath := h.path (.table sid sname) (h.tag true .table)
    revert hpath
    unfold c01_path
    generalize (findPath cfg (.table sid sname)).getD (.elements [pathElem S!"table" true]) = path
    intro hpath
    cases path with
    | ignore => exact c01_post_pure _ _ h.nil
    | elements es =>
      refine c01_post_bind _ _ _ _ (visitRows true rows) ?_
      intro hb hhb
      refine c01_post_pure _ _ (hpath (h.cons_forceWrite ?_))
      split
      · exact hhb.2
      · exact h.append (h.el .thead .nil hhb.1) (h.el .tbody .nil hhb.2)
  | .row _ cells =>
    simp only [Mammoth.visit]
    exact c01_post_map (visitAll hdr cells) fun ns hns => h.el .tr .nil (h.cons_forceWrite hns)
  | .cell a b _ cs =>
    simp only [Mammoth.visit]
    refine c01_post_map (visitAll hdr cs) fun ns hns => h.el ?_ (.append ?_ ?_) (h.cons_forceWrite hns)
    · cases hdr with
      | false => exact .td
      | true => exact .th
    · split
      · exact .cons .colspan .nil
      · exact .nil
    · split
      · exact .cons .rowspan .nil
      · exact .nil
  | .brk ty =>
    simp only [Mammoth.visit]
    cases hf : findPath cfg (.brk ty) with
    | none =>
      simp only []
      split
      · exact c01_post_pure _ _ (h.tag true .br h.nil)
      · exact c01_post_pure _ _ h.nil
    | some p =>
      have := h.found hf h.nil
      cases p with
      | ignore => exact c01_post_pure _ _ h.nil
      | elements es => exact c01_post_pure _ _ this
  | .tab => exact c01_post_pure _ _ (h.text _)
  | .image i => simp only [Mammoth.visit]; exact h.image i
  | .bookmark n => exact c01_post_pure _ _ (h.cel .a (.cons .id .nil) h.forceWrite)
  | .noteRef ty id =>
    simp only [Mammoth.visit]
    refine c01_post_bind_any _ _ _ ?_; intro _
    refine c01_post_bind_any _ _ _ ?_; intro _
    exact c01_post_pure _ _ (h.el .sup .nil (h.el .a (.cons .href (.cons .id .nil)) (h.text _)))
  | .commentRef id =>
    simp only [Mammoth.visit]
    cases hf : findPath cfg .commentReference with
    | none => exact c01_post_pure _ _ h.nil
    | some p =>
      have hp := h.found hf
      cases p with
      | ignore => exact c01_post_pure _ _ h.nil
      | elements es =>
        simp only []
        split
        · intro st a st' hr; simp at hr
        · refine c01_post_bind_any _ _ _ ?_; intro _
          refine c01_post_bind_any _ _ _ ?_; intro _
          exact c01_post_pure _ _ (hp (h.el .a (.cons .href (.cons .id .nil)) (h.text _)))
theorem visitAll (hdr : Bool) (es : List Elem) : c01_post P (visitAll cfg hdr es) := by
  match es with
  | [] => exact c01_post_pure _ _ h.nil
  | e :: es =>
    simp only [Mammoth.visitAll]
    refine c01_post_bind _ _ _ _ (visit hdr e) ?_
    intro a ha
    refine c01_post_bind _ _ _ _ (visitAll hdr es) ?_
    intro b hb
    exact c01_post_pure _ _ (h.append ha hb)
theorem visitRows (inHead : Bool) (rs : List Elem) :
    c01_post (fun p => P p.1 ∧ P p.2) (visitRows cfg inHead rs) := by
  match rs with
  | [] => exact c01_post_pure _ _ ⟨h.nil, h.nil⟩
  | r :: rs =>
    simp only [Mammoth.visitRows]
    split
    · refine c01_post_bind _ _ _ _ (visit true r) ?_
      intro a ha
      refine c01_post_bind _ _ _ _ (visitRows true rs) ?_
      intro hb hhb
      exact c01_post_pure _ _ ⟨h.append ha hhb.1, hhb.2⟩
    · refine c01_post_bind _ _ _ _ (visit false r) ?_
      intro a ha
      refine c01_post_bind _ _ _ _ (visitRows false rs) ?_
      intro hb hhb
      exact c01_post_pure _ _ ⟨hhb.1, h.append ha hhb.2⟩
end

theorem mapMConcat {α} (f : α → ConvM (List Node)) (hf : ∀ x, c01_post P (f x)) (xs : List α) :
    c01_post P (mapMConcat f xs) := by
  induction xs with
  | nil => exact c01_post_pure _ _ h.nil
  | cons x xs ih =>
    simp only [Mammoth.mapMConcat]
    refine c01_post_bind _ _ _ _ (hf x) ?_
    intro a ha
    refine c01_post_bind _ _ _ _ ih ?_
    intro b hb
    exact c01_post_pure _ _ (h.append ha hb)

theorem backLink (href : Str) : P [backLink href] :=
  h.cel .p .nil (h.append (h.text _) (h.el .a (.cons .href .nil) (h.text _)))

theorem visitNote (n : Note) : c01_post P (visitNote cfg n) := by
  unfold Mammoth.visitNote
  exact c01_post_map (h.visitAll false n.body) fun b hb => h.el .li (.cons .id .nil) (h.append hb (h.backLink _))

theorem visitComment (lc : Str × Comment) : c01_post P (visitComment cfg lc) := by
  unfold Mammoth.visitComment
  exact c01_post_map (h.visitAll false lc.2.body) fun b hb =>
    h.append (h.el .dt (.cons .id .nil) (h.text _)) (h.el .dd .nil (h.append hb (h.backLink _)))

theorem visitDocument (d : Document) : c01_post P (visitDocument cfg d) := by
  unfold Mammoth.visitDocument
  refine c01_post_bind _ _ _ _ (h.visitAll false d.children) ?_
  intro nodes hnodes
  refine c01_post_bind_any _ _ _ ?_; intro st1
  simp only []
  split
  · refine c01_post_bind_any _ _ _ ?_; intro notes
    refine c01_post_bind _ _ _ _ (h.mapMConcat _ h.visitNote notes) ?_
    intro nn hnn
    refine c01_post_bind_any _ _ _ ?_; intro st2
    refine c01_post_map (h.mapMConcat _ h.visitComment _) fun cn hcn => ?_
    exact h.append hnodes (h.append (h.el .ol .nil hnn) (h.el .dl .nil hcn))
  · intro st a st' hr
    rw [app_bind, app_throw] at hr
    cases hr

end VisitClosed

end Mammoth
