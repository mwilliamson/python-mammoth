/-
  C11 — helper definitions and lemmas: the specification of the formatting paths of a run.
-/
import Proofs.C03_Lemmas
namespace Mammoth

/-- a non-fresh element with that name and no attributes: what `html_paths.element(name)` builds -/
def c11_tag (name : Str) : Tag := { name := name, collapsible := true }

theorem c11_pathElem (name : Str) : pathElem name false = c11_tag name := rfl

/-- the path of an on/off formatting property: nothing when off; when on, the path of the first
    matching mapping, else the default element `dflt`, else the empty path (no element) -/
def c11_propSpec (cfg : Cfg) (on : Bool) (t : Target) (dflt : Option Str) : List HtmlPath :=
  if on then
    [match findStyle cfg.upper cfg.styleMap t with
     | some s => s.path
     | none =>
       match dflt with
       | some d => .elements [c11_tag d]
       | none => .elements []]
  else []

/-- highlight: only when a colour is set and a highlight mapping matches it -/
def c11_highlightSpec (cfg : Cfg) (h : Option Str) : List HtmlPath :=
  match h with
  | none => []
  | some c =>
    match findStyle cfg.upper cfg.styleMap (.highlight c) with
    | some s => [s.path]
    | none => []

/-- vertical alignment: `sub` / `sup`, never mapped -/
def c11_vertSpec (v : Option Str) : List HtmlPath :=
  if v = some S!"subscript" then [.elements [c11_tag S!"sub"]]
  else if v = some S!"superscript" then [.elements [c11_tag S!"sup"]]
  else []

theorem c11_propPath_eq (cfg : Cfg) (t : Target) (dflt : Option Str) :
    propPath cfg t dflt =
      match findStyle cfg.upper cfg.styleMap t with
      | some s => s.path
      | none =>
        match dflt with
        | some d => .elements [c11_tag d]
        | none => .elements [] := by
  unfold propPath findPath
  cases findStyle cfg.upper cfg.styleMap t <;> cases dflt <;> rfl

theorem c11_prop_eq (cfg : Cfg) (on : Bool) (t : Target) (dflt : Option Str) :
    (if on = true then [propPath cfg t dflt] else []) = c11_propSpec cfg on t dflt := by
  unfold c11_propSpec
  rw [c11_propPath_eq]

theorem c11_highlight_eq (cfg : Cfg) (h : Option Str) :
    (match h with
      | some c => (match findPath cfg (.highlight c) with | some p => [p] | none => [])
      | none => []) = c11_highlightSpec cfg h := by
  unfold c11_highlightSpec findPath
  cases h with
  | none => rfl
  | some c =>
    show (match (findStyle cfg.upper cfg.styleMap (.highlight c)).map (·.path) with
          | some p => [p] | none => []) =
         (match findStyle cfg.upper cfg.styleMap (.highlight c) with
          | some s => [s.path] | none => [])
    cases findStyle cfg.upper cfg.styleMap (.highlight c) <;> rfl

theorem c11_vert_eq (v : Option Str) :
    (if (v == some S!"subscript") = true then [HtmlPath.elements [pathElem S!"sub" false]] else []) ++
    (if (v == some S!"superscript") = true then [HtmlPath.elements [pathElem S!"sup" false]] else []) =
      c11_vertSpec v := by
  simp only [c11_vertSpec, beq_iff_eq]
  by_cases h1 : v = some S!"subscript"
  · have h2 : v ≠ some S!"superscript" := by rw [h1]; decide
    rw [if_pos h1, if_pos h1, if_neg h2]
    rfl
  · rw [if_neg h1, if_neg h1]
    split <;> rfl

/-- wrap in one element iff the flag is set -/
def c11_wrapIf (b : Bool) (t : Tag) (ns : List Node) : List Node :=
  if b then [.elem t ns] else ns

theorem c11_wrapAll_if (b : Bool) (t : Tag) (ns : List Node) :
    wrapAll (if b = true then [.elements [t]] else []) ns = c11_wrapIf b t ns := by
  cases b <;> rfl

theorem c11_wrapAll_if_empty (b : Bool) (ns : List Node) :
    wrapAll (if b = true then [.elements []] else []) ns = ns := by
  cases b <;> rfl

theorem c11_any_if (b : Bool) (es : List Tag) :
    (if b = true then [HtmlPath.elements es] else []).any HtmlPath.isIgnore = false := by
  cases b <;> rfl

theorem c11_wrapElems_append (a b : List Tag) (ns : List Node) :
    wrapElems (a ++ b) ns = wrapElems a (wrapElems b ns) := by
  induction a with
  | nil => rfl
  | cons t a ih => simp only [List.cons_append, wrapElems, ih]

theorem c11_findPath_nil (cfg : Cfg) (t : Target) (h : cfg.styleMap = []) : findPath cfg t = none := by
  simp [findPath, findStyle, h]

/-- `match x with ok (a, s) => ok (a, s) | error e => error e` is `x` -/
theorem c11_match_id {α} (x : Except Err (α × ConvState)) :
    (match x with
      | .ok (a, s) => (.ok (a, s) : Except Err (α × ConvState))
      | .error e => .error e) = x := by
  cases x with
  | error e => rfl
  | ok r => rfl

end Mammoth
