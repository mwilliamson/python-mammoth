/-
  C02 — the simulation of `Proofs/C02_DocSubst.lean` for the visitor, notes, comments and the whole
  document.
-/
import Proofs.C02_DocSubst
namespace Mammoth

@[simp] theorem c02_mapCfg_ignoreEmpty (σ : Str → Str) (cfg : Cfg) :
    (c02_mapCfg σ cfg).ignoreEmpty = cfg.ignoreEmpty := rfl
@[simp] theorem c02_mapCfg_comments (σ : Str → Str) (cfg : Cfg) :
    (c02_mapCfg σ cfg).comments = cfg.comments.map (c02_mapComment σ) := rfl
@[simp] theorem c02_htmlId_mapCfg (σ : Str → Str) (cfg : Cfg) (s : Str) :
    htmlId (c02_mapCfg σ cfg) s = htmlId cfg s := rfl
@[simp] theorem c02_referentId_mapCfg (σ : Str → Str) (cfg : Cfg) (a b : Str) :
    referentId (c02_mapCfg σ cfg) a b = referentId cfg a b := rfl
@[simp] theorem c02_referenceId_mapCfg (σ : Str → Str) (cfg : Cfg) (a b : Str) :
    referenceId (c02_mapCfg σ cfg) a b = referenceId cfg a b := rfl
@[simp] theorem c02_mapComment_id (σ : Str → Str) (c : Comment) : (c02_mapComment σ c).id = c.id := rfl
@[simp] theorem c02_mapComment_body (σ : Str → Str) (c : Comment) :
    (c02_mapComment σ c).body = c02_mapElems σ c.body := rfl
@[simp] theorem c02_mapComment_label (σ : Str → Str) (c : Comment) :
    commentAuthorLabel (c02_mapComment σ c) = commentAuthorLabel c := rfl
@[simp] theorem c02_mapSt_noteRefs (σ : Str → Str) (s : ConvState) : (c02_mapSt σ s).noteRefs = s.noteRefs := rfl
@[simp] theorem c02_mapSt_refComments (σ : Str → Str) (s : ConvState) :
    (c02_mapSt σ s).refComments = s.refComments.map fun lc => (lc.1, c02_mapComment σ lc.2) := rfl

theorem c02_isHeaderRow_map (σ : Str → Str) (e : Elem) : isHeaderRow (c02_mapElem σ e) = isHeaderRow e := by
  cases e <;> simp [c02_mapElem, isHeaderRow]

theorem c02_bodyIndex_map (σ : Str → Str) (rows : List Elem) :
    bodyIndex (c02_mapElems σ rows) = bodyIndex rows := by
  induction rows with
  | nil => simp [c02_mapElems]
  | cons r rs ih => simp [c02_mapElems, bodyIndex, c02_isHeaderRow_map, ih]

theorem c02_lookupLast_map {α β : Type} [DecidableEq α] (key : β → α) (g : β → β)
    (hk : ∀ x, key (g x) = key x) (k : α) (xs : List β) :
    lookupLast k ((xs.map g).map fun n => (key n, n)) = (lookupLast k (xs.map fun n => (key n, n))).map g := by
  induction xs with
  | nil => rfl
  | cons x xs ih =>
    simp only [List.map_cons, lookupLast, ih, hk]
    cases lookupLast k (xs.map fun n => (key n, n)) with
    | some w => rfl
    | none => simp only [Option.map_none]; split <;> rfl

/-- the pairs of results of `visitRows` that differ only in text -/
abbrev c02_BR2 (p p' : List Node × List Node) : Prop := c02_BR p.1 p'.1 ∧ c02_BR p.2 p'.2

mutual
theorem c02_sim_visit (σ : Str → Str) (hσ : ∀ s, (σ s).isEmpty = s.isEmpty) (cfg : Cfg) (hdr : Bool)
    (e : Elem) : c02_sim σ c02_BR (visit cfg hdr e) (visit (c02_mapCfg σ cfg) hdr (c02_mapElem σ e)) := by
  match e with
  | .paragraph p cs =>
    simp only [c02_mapElem, visit]
    refine c02_sim_bind (c02_sim_findPathWarn σ cfg _ _ _ _ _) ?_
    intro path path' hp
    subst hp
    cases path with
    | ignore => exact c02_sim_pure rfl
    | elements es =>
      refine c02_sim_bind (c02_sim_visitAll σ hσ cfg hdr cs) ?_
      intro c c' hc
      refine c02_sim_pure ?_
      apply c02_BR_wrapElems
      simp only [c02_mapCfg_ignoreEmpty]
      by_cases hi : cfg.ignoreEmpty = true
      · simp only [hi, if_true]; exact hc
      · simp only [hi]; exact c02_BR_cons _ _ _ hc
  | .run r cs =>
    simp only [c02_mapElem, visit, c02_runPropPaths_mapCfg]
    refine c02_sim_bind (c02_sim_findPathWarn σ cfg _ _ _ _ _) ?_
    intro sp sp' hp
    subst hp
    by_cases hany : (runPropPaths cfg r ++ [sp]).any HtmlPath.isIgnore = true
    · simp only [hany, if_true]
      exact c02_sim_pure rfl
    · simp only [hany]
      refine c02_sim_bind (c02_sim_visitAll σ hσ cfg hdr cs) ?_
      intro ns ns' hns
      exact c02_sim_pure (c02_BR_wrapAll _ _ _ hns)
  | .text s =>
    simp only [c02_mapElem, visit]
    refine c02_sim_pure ?_
    simp only [c02_BR, c02_blank, c02_mapForest_cons, c02_mapNode_text, c02_mapForest_nil, c02_blankSub, hσ s]
  | .hyperlink h cs =>
    simp only [c02_mapElem, visit, c02_htmlId_mapCfg]
    refine c02_sim_bind (c02_sim_visitAll σ hσ cfg hdr cs) ?_
    intro ns ns' hns
    exact c02_sim_pure (c02_BR_elem _ _ _ hns)
  | .checkbox c =>
    simp only [c02_mapElem, visit]
    exact c02_sim_pure rfl
  | .table sid sname rows =>
    simp only [c02_mapElem, visit, c02_findPath_mapCfg, c02_bodyIndex_map]
    generalize (findPath cfg (.table sid sname)).getD (.elements [pathElem S!"table" true]) = path
    cases path with
    | ignore => exact c02_sim_pure rfl
    | elements es =>
      refine c02_sim_bind (c02_sim_visitRows σ hσ cfg true rows) ?_
      intro hb hb' hhb
      refine c02_sim_pure ?_
      apply c02_BR_wrapElems
      apply c02_BR_cons
      split
      · exact hhb.2
      · exact c02_BR_append [_] [_] [_] [_] (c02_BR_elem _ _ _ hhb.1) (c02_BR_elem _ _ _ hhb.2)
  | .row h cells =>
    simp only [c02_mapElem, visit]
    refine c02_sim_bind (c02_sim_visitAll σ hσ cfg hdr cells) ?_
    intro ns ns' hns
    exact c02_sim_pure (c02_BR_elem _ _ _ (c02_BR_cons _ _ _ hns))
  | .cell a b c cs =>
    simp only [c02_mapElem, visit]
    refine c02_sim_bind (c02_sim_visitAll σ hσ cfg hdr cs) ?_
    intro ns ns' hns
    exact c02_sim_pure (c02_BR_elem _ _ _ (c02_BR_cons _ _ _ hns))
  | .brk ty =>
    simp only [c02_mapElem, visit, c02_findPath_mapCfg]
    split
    · exact c02_sim_pure rfl
    · exact c02_sim_pure rfl
    · split <;> exact c02_sim_pure rfl
  | .tab =>
    simp only [c02_mapElem, visit]
    exact c02_sim_pure rfl
  | .image i =>
    simp only [c02_mapElem, visit]
    exact c02_sim_convertImage σ cfg i
  | .bookmark n =>
    simp only [c02_mapElem, visit, c02_htmlId_mapCfg]
    exact c02_sim_pure rfl
  | .noteRef ty id =>
    simp only [c02_mapElem, visit, c02_referentId_mapCfg, c02_referenceId_mapCfg]
    refine c02_sim_bind (c02_sim_modify _ _ (fun _ => rfl)) ?_
    intro _ _ _
    refine c02_sim_bind c02_sim_get ?_
    intro s s' hs
    subst hs
    exact c02_sim_pure rfl
  | .commentRef id =>
    simp only [c02_mapElem, visit, c02_findPath_mapCfg, c02_referentId_mapCfg, c02_referenceId_mapCfg,
      c02_mapCfg_comments]
    rw [c02_lookupLast_map (fun c : Comment => c.id) (c02_mapComment σ) (fun _ => rfl) id cfg.comments]
    split
    · exact c02_sim_pure rfl
    · exact c02_sim_pure rfl
    · cases lookupLast id (cfg.comments.map fun c => (c.id, c)) with
      | none => exact c02_sim_throw _ _
      | some c =>
        simp only [Option.map_some]
        refine c02_sim_bind c02_sim_get ?_
        intro s s' hs
        subst hs
        simp only [c02_mapSt_refComments, List.length_map, c02_mapComment_label]
        refine c02_sim_bind (c02_sim_modify _ _ (fun st => by simp [c02_mapSt])) ?_
        intro _ _ _
        exact c02_sim_pure rfl
theorem c02_sim_visitAll (σ : Str → Str) (hσ : ∀ s, (σ s).isEmpty = s.isEmpty) (cfg : Cfg) (hdr : Bool)
    (es : List Elem) :
    c02_sim σ c02_BR (visitAll cfg hdr es) (visitAll (c02_mapCfg σ cfg) hdr (c02_mapElems σ es)) := by
  match es with
  | [] => simp only [c02_mapElems, visitAll]; exact c02_sim_pure rfl
  | e :: es =>
    simp only [c02_mapElems, visitAll]
    refine c02_sim_bind (c02_sim_visit σ hσ cfg hdr e) ?_
    intro a a' ha
    refine c02_sim_bind (c02_sim_visitAll σ hσ cfg hdr es) ?_
    intro b b' hb
    exact c02_sim_pure (c02_BR_append _ _ _ _ ha hb)
theorem c02_sim_visitRows (σ : Str → Str) (hσ : ∀ s, (σ s).isEmpty = s.isEmpty) (cfg : Cfg)
    (inHead : Bool) (rs : List Elem) :
    c02_sim σ c02_BR2 (visitRows cfg inHead rs) (visitRows (c02_mapCfg σ cfg) inHead (c02_mapElems σ rs)) := by
  match rs with
  | [] => simp only [c02_mapElems, visitRows]; exact c02_sim_pure ⟨rfl, rfl⟩
  | r :: rs =>
    simp only [c02_mapElems, visitRows, c02_isHeaderRow_map]
    split
    · refine c02_sim_bind (c02_sim_visit σ hσ cfg true r) ?_
      intro a a' ha
      refine c02_sim_bind (c02_sim_visitRows σ hσ cfg true rs) ?_
      intro hb hb' hhb
      exact c02_sim_pure ⟨c02_BR_append _ _ _ _ ha hhb.1, hhb.2⟩
    · refine c02_sim_bind (c02_sim_visit σ hσ cfg false r) ?_
      intro a a' ha
      refine c02_sim_bind (c02_sim_visitRows σ hσ cfg false rs) ?_
      intro hb hb' hhb
      exact c02_sim_pure ⟨hhb.1, c02_BR_append _ _ _ _ ha hhb.2⟩
end

/-! ### notes, comments, the document -/

theorem c02_sim_visitNote (σ : Str → Str) (hσ : ∀ s, (σ s).isEmpty = s.isEmpty) (cfg : Cfg) (n : Note) :
    c02_sim σ c02_BR (visitNote cfg n) (visitNote (c02_mapCfg σ cfg) (c02_mapNote σ n)) := by
  unfold visitNote
  simp only [c02_referentId_mapCfg, c02_referenceId_mapCfg]
  refine c02_sim_bind (c02_sim_visitAll σ hσ cfg false n.body) ?_
  intro b b' hb
  exact c02_sim_pure (c02_BR_elem _ _ _ (c02_BR_append _ _ [_] [_] hb rfl))

theorem c02_sim_visitComment (σ : Str → Str) (hσ : ∀ s, (σ s).isEmpty = s.isEmpty) (cfg : Cfg)
    (lc : Str × Comment) :
    c02_sim σ c02_BR (visitComment cfg lc) (visitComment (c02_mapCfg σ cfg) (lc.1, c02_mapComment σ lc.2)) := by
  unfold visitComment
  simp only [c02_referentId_mapCfg, c02_referenceId_mapCfg, c02_mapComment_id, c02_mapComment_body]
  refine c02_sim_bind (c02_sim_visitAll σ hσ cfg false lc.2.body) ?_
  intro b b' hb
  refine c02_sim_pure ?_
  exact c02_BR_append [_] [_] [_] [_] rfl (c02_BR_elem _ _ _ (c02_BR_append _ _ [_] [_] hb rfl))

theorem c02_sim_mapMConcat {α : Type} (σ : Str → Str) (f f' : α → ConvM (List Node)) (g : α → α)
    (h : ∀ x, c02_sim σ c02_BR (f x) (f' (g x))) (xs : List α) :
    c02_sim σ c02_BR (mapMConcat f xs) (mapMConcat f' (xs.map g)) := by
  induction xs with
  | nil => simp only [List.map_nil, mapMConcat]; exact c02_sim_pure rfl
  | cons x xs ih =>
    simp only [List.map_cons, mapMConcat]
    refine c02_sim_bind (h x) ?_
    intro a a' ha
    refine c02_sim_bind ih ?_
    intro b b' hb
    exact c02_sim_pure (c02_BR_append _ _ _ _ ha hb)

theorem c02_resolveNote_map (σ : Str → Str) (notes : List Note) (ref : Str × Str) :
    resolveNote (notes.map (c02_mapNote σ)) ref = (resolveNote notes ref).map (c02_mapNote σ) := by
  unfold resolveNote
  rw [c02_lookupLast_map (fun n : Note => (n.ty, n.id)) (c02_mapNote σ) (fun _ => rfl) ref notes]
  cases lookupLast ref (notes.map fun n => ((n.ty, n.id), n)) <;> rfl

theorem c02_mapM_resolveNote_map (σ : Str → Str) (notes : List Note) (refs : List (Str × Str)) :
    refs.mapM (resolveNote (notes.map (c02_mapNote σ)))
      = (refs.mapM (resolveNote notes)).map (List.map (c02_mapNote σ)) := by
  induction refs with
  | nil => rfl
  | cons r rs ih =>
    simp only [List.mapM_cons, ih, c02_resolveNote_map]
    cases resolveNote notes r with
    | error e => rfl
    | ok n =>
      cases rs.mapM (resolveNote notes) with
      | error e => rfl
      | ok ns => rfl

theorem c02_sim_visitDocument (σ : Str → Str) (hσ : ∀ s, (σ s).isEmpty = s.isEmpty) (cfg : Cfg)
    (d : Document) :
    c02_sim σ c02_BR (visitDocument cfg d) (visitDocument (c02_mapCfg σ cfg) (c02_mapDocText σ d)) := by
  unfold visitDocument
  simp only [c02_mapDocText]
  refine c02_sim_bind (c02_sim_visitAll σ hσ cfg false d.children) ?_
  intro nodes nodes' hnodes
  refine c02_sim_bind c02_sim_get ?_
  intro s s' hs
  subst hs
  simp only [c02_mapSt_noteRefs, c02_mapM_resolveNote_map]
  have key : ∀ notes : List Note, c02_sim σ c02_BR
      (do
        let noteNodes ← mapMConcat (visitNote cfg) notes
        let __do_lift ← get
        let commentNodes ← mapMConcat (visitComment cfg) __do_lift.refComments
        pure (nodes ++ [el S!"ol" [] noteNodes, el S!"dl" [] commentNodes]))
      (do
        let noteNodes ← mapMConcat (visitNote (c02_mapCfg σ cfg)) (notes.map (c02_mapNote σ))
        let __do_lift ← get
        let commentNodes ← mapMConcat (visitComment (c02_mapCfg σ cfg)) __do_lift.refComments
        pure (nodes' ++ [el S!"ol" [] noteNodes, el S!"dl" [] commentNodes])) := by
    intro notes
    refine c02_sim_bind (c02_sim_mapMConcat σ _ _ _ (c02_sim_visitNote σ hσ cfg) notes) ?_
    intro nn nn' hnn
    refine c02_sim_bind c02_sim_get ?_
    intro s2 s2' hs2
    subst hs2
    simp only [c02_mapSt_refComments]
    refine c02_sim_bind (c02_sim_mapMConcat σ _ _ _ (c02_sim_visitComment σ hσ cfg) s2.refComments) ?_
    intro cn cn' hcn
    refine c02_sim_pure ?_
    exact c02_BR_append _ _ _ _ hnodes
      (c02_BR_append [_] [_] [_] [_] (c02_BR_elem _ _ _ hnn) (c02_BR_elem _ _ _ hcn))
  cases s.noteRefs.mapM (resolveNote d.notes) with
  | error e =>
    simp only [Except.map]
    exact c02_sim_bind (R := fun _ _ => False) (c02_sim_throw _ e) (fun _ _ h => h.elim)
  | ok ns =>
    simp only [Except.map]
    exact c02_sim_bind (R := fun a a' => a' = a.map (c02_mapNote σ)) (c02_sim_pure rfl)
      (fun a a' h => by subst h; exact key a)

/-- what two results of `convertDoc` have in common when the documents differ only in text runs -/
def c02_sameUpToText : Except Err ConvResult → Except Err ConvResult → Prop
  | .ok r, .ok r' => c02_BR r.nodes r'.nodes ∧ r'.messages = r.messages ∧ r'.ioTrace = r.ioTrace ∧
      r'.imageCalls = r.imageCalls ∧ r'.noteRefs = r.noteRefs
  | .error e, .error e' => e' = e
  | _, _ => False

theorem c02_convertDoc_mapText (σ : Str → Str) (hσ : ∀ s, (σ s).isEmpty = s.isEmpty) (cfg : Cfg)
    (d : Document) : c02_sameUpToText (convertDoc cfg d) (convertDoc cfg (c02_mapDocText σ d)) := by
  have h := c02_sim_visitDocument σ hσ { cfg with comments := d.comments } d {}
  unfold convertDoc
  have e1 : ({ cfg with comments := (c02_mapDocText σ d).comments } : Cfg)
      = c02_mapCfg σ { cfg with comments := d.comments } := rfl
  have e2 : c02_mapSt σ {} = {} := rfl
  rw [e1]
  rw [e2] at h
  simp only [StateT.run]
  cases r : visitDocument { cfg with comments := d.comments } d {} with
  | error err =>
    cases r' : visitDocument (c02_mapCfg σ { cfg with comments := d.comments }) (c02_mapDocText σ d) {} with
    | error err' => rw [r, r'] at h; exact h
    | ok p' => rw [r, r'] at h; exact h.elim
  | ok p =>
    cases r' : visitDocument (c02_mapCfg σ { cfg with comments := d.comments }) (c02_mapDocText σ d) {} with
    | error err' => rw [r, r'] at h; exact h.elim
    | ok p' =>
      rw [r, r'] at h
      obtain ⟨a, s⟩ := p
      obtain ⟨a', s'⟩ := p'
      obtain ⟨hR, hs⟩ := h
      subst hs
      exact ⟨hR, rfl, rfl, rfl, rfl⟩

end Mammoth
