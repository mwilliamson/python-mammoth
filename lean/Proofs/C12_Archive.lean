/-
  C12 helpers: `unique`, last-wins lookup and the in-memory rebuild `updateZip`.
-/
import MammothModel.Embed
import Proofs.Basics
namespace Mammoth

theorem c12_strsNodup_cons (x : Str) (xs : List Str) :
    strsNodup (x :: xs) = true ↔ x ∉ xs ∧ strsNodup xs = true := by
  simp [strsNodup]

theorem c12_nodup_uniqueAux (seen xs : List Str) : strsNodup (uniqueAux seen xs) = true := by
  induction xs generalizing seen with
  | nil => simp [uniqueAux, strsNodup]
  | cons y ys ih =>
    unfold uniqueAux
    by_cases hy : y ∈ seen
    · simp only [hy, if_true]; exact ih seen
    · simp only [hy, if_false]
      rw [c12_strsNodup_cons]
      refine ⟨?_, ih _⟩
      rw [mem_uniqueAux]
      intro h; exact h.2 (List.mem_cons_self ..)

theorem c12_nodup_unique (xs : List Str) : strsNodup (unique xs) = true :=
  c12_nodup_uniqueAux [] xs

/-- last-wins lookup in a list whose values are a function of the key -/
theorem c12_lookupLast_map {β} (f : Str → β) (ns : List Str) (n : Str) :
    lookupLast n (ns.map fun m => (m, f m)) = if n ∈ ns then some (f n) else none := by
  induction ns with
  | nil => simp [lookupLast]
  | cons m ms ih =>
    simp only [List.map_cons, lookupLast, ih, List.mem_cons]
    by_cases h : n ∈ ms
    · simp [h]
    · by_cases h2 : n = m
      · subst h2; simp [h]
      · simp [h, h2]

theorem c12_lookupLast_isSome {β} (n : Str) (a : List (Str × β)) :
    (lookupLast n a).isSome = true ↔ n ∈ a.map (·.1) := by
  induction a with
  | nil => simp [lookupLast]
  | cons kv rest ih =>
    obtain ⟨k, v⟩ := kv
    simp only [lookupLast, List.map_cons, List.mem_cons]
    cases h : lookupLast n rest with
    | some w =>
      have : n ∈ rest.map (·.1) := ih.mp (by simp [h])
      simp [this]
    | none =>
      have : n ∉ rest.map (·.1) := fun hm => by simpa [h] using ih.mpr hm
      by_cases hk : n = k <;> simp [hk, this]

theorem c12_lookupLast_none {β} (n : Str) (a : List (Str × β)) :
    lookupLast n a = none ↔ n ∉ a.map (·.1) := by
  rw [← c12_lookupLast_isSome]
  cases lookupLast n a <;> simp

/-- names of the rebuilt archive: the union, each once -/
theorem c12_updateZip_names_mem (a : Archive) (files : List (Str × Bytes)) (n : Str) :
    n ∈ (updateZip a files).names ↔ n ∈ a.names ∨ n ∈ files.map (·.1) := by
  simp only [updateZip, Archive.names, List.map_map]
  have : ((fun x : Str × Bytes => x.1) ∘ fun n => (n, updateZipContent a files n)) = id := by
    funext x; rfl
  rw [this, List.map_id, mem_unique, List.mem_append]

theorem c12_updateZip_names (a : Archive) (files : List (Str × Bytes)) :
    (updateZip a files).names = unique (a.names ++ files.map (·.1)) := by
  simp only [updateZip, Archive.names, List.map_map]
  have : ((fun x : Str × Bytes => x.1) ∘ fun n => (n, updateZipContent a files n)) = id := by
    funext x; rfl
  rw [this, List.map_id]

theorem c12_updateZip_unique (a : Archive) (files : List (Str × Bytes)) :
    (updateZip a files).uniqueNames = true := by
  rw [Archive.uniqueNames, c12_updateZip_names]; exact c12_nodup_unique _

/-- content of the rebuilt archive: `files` wins, otherwise the old content, otherwise absent -/
theorem c12_updateZip_get (a : Archive) (files : List (Str × Bytes)) (n : Str) :
    (updateZip a files).get? n =
      match lookupLast n files with
      | some b => some b
      | none => a.get? n := by
  unfold updateZip Archive.get?
  rw [c12_lookupLast_map (updateZipContent a files)]
  unfold updateZipContent
  cases hf : lookupLast n files with
  | some b =>
    have : n ∈ files.map (·.1) := (c12_lookupLast_isSome n files).mp (by simp [hf])
    simp [mem_unique, this]
  | none =>
    have hnf : n ∉ files.map (·.1) := (c12_lookupLast_none n files).mp hf
    cases ha : lookupLast n a with
    | some b =>
      have : n ∈ a.names := (c12_lookupLast_isSome n a).mp (by simp [ha])
      simp [mem_unique, this, Archive.get?, ha]
    | none =>
      have : n ∉ a.names := (c12_lookupLast_none n a).mp ha
      simp only [mem_unique, List.mem_append, this, false_or]
      rw [if_neg hnf]

end Mammoth
