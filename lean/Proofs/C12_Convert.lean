/-
  C12 (conversion) — `embed_style_map` at the level of the `Package` the converter reads, and what the
  part readers (`_find_part_paths`, relationships, content types) see of it.

  `c12_embedPkg p s` mirrors `write_style_map` (mammoth/docx/style_map.py) line by line:
    * `word/_rels/document.xml.rels` is parsed and `_add_or_update_element(…, "Relationship", "Id", {Id, Type, Target})`
      is applied to the tree (`xAddOrUpdate`, the first element in `iter()` order with that tag and `Id`
      gets the three attributes, else a new child is appended to the root);
    * the same for `[Content_Types].xml` with `Override` / `PartName`;
    * `update_zip`: the names are the old names and the three keys, each once; the content of a name is the
      new content if it is one of the three, else the old content (last entry of that name).
  `none`: one of the two parts is missing (KeyError) or is not XML (parse error) — nothing is written.
-/
import Proofs.C12_ConvReadAll
import Proofs.C12_ConvVisit
import Proofs.C12_Archive
namespace Mammoth

/-- `files[name] if name in files else source.read(name)` -/
def c12_partContent (parts files : List (Str × Part)) (n : Str) : Part :=
  match lookupLast n files with
  | some x => x
  | none => (lookupLast n parts).getD (.bytes [])

/-- `update_zip(fileobj, files)` on the parts of a package -/
def c12_updateParts (parts files : List (Str × Part)) : List (Str × Part) :=
  (unique (parts.map (·.1) ++ files.map (·.1))).map fun n => (n, c12_partContent parts files n)

/-- the dictionary handed to `update_zip` -/
def c12_newParts (s : Str) (r' t' : XmlNode) : List (Str × Part) :=
  [(styleMapPath, .bytes (utf8Encode s)), (relsPartPath, .xml r'), (contentTypesPartPath, .xml t')]

/-- `embed_style_map(fileobj, s)` on the package the converter reads -/
def c12_embedPkg (p : Package) (s : Str) : Option Package :=
  match lookupLast relsPartPath p.parts with
  | some (.xml r) =>
    match xAddOrUpdate r c12_relName S!"Id" styleMapRelAttrs with
    | none => none
    | some r' =>
      match lookupLast contentTypesPartPath p.parts with
      | some (.xml t) =>
        match xAddOrUpdate t c12_overrideName S!"PartName" styleMapOverrideAttrs with
        | none => none
        | some t' => some ⟨c12_updateParts p.parts (c12_newParts s r' t')⟩
      | _ => none
  | _ => none

theorem c12_updateParts_get (parts files : List (Str × Part)) (n : Str) :
    lookupLast n (c12_updateParts parts files) =
      match lookupLast n files with
      | some b => some b
      | none => lookupLast n parts := by
  unfold c12_updateParts
  rw [c12_lookupLast_map (c12_partContent parts files)]
  unfold c12_partContent
  cases hf : lookupLast n files with
  | some b =>
    have : n ∈ files.map (·.1) := (c12_lookupLast_isSome n files).mp (by simp [hf])
    simp [mem_unique, this]
  | none =>
    have hnf : n ∉ files.map (·.1) := (c12_lookupLast_none n files).mp hf
    cases ha : lookupLast n parts with
    | some b =>
      have : n ∈ parts.map (·.1) := (c12_lookupLast_isSome n parts).mp (by simp [ha])
      simp [mem_unique, this]
    | none =>
      have : n ∉ parts.map (·.1) := (c12_lookupLast_none n parts).mp ha
      simp only [mem_unique, List.mem_append, this, false_or]
      rw [if_neg hnf]

/-- the package after the embed, given the two updated trees -/
def c12_embedded (p : Package) (s : Str) (r' t' : XmlNode) : Package :=
  ⟨c12_updateParts p.parts (c12_newParts s r' t')⟩

theorem c12_embedPkg_inv (p : Package) (s : Str) (p' : Package) (h : c12_embedPkg p s = some p') :
    ∃ r r' t t', lookupLast relsPartPath p.parts = some (.xml r) ∧
      xAddOrUpdate r c12_relName S!"Id" styleMapRelAttrs = some r' ∧
      lookupLast contentTypesPartPath p.parts = some (.xml t) ∧
      xAddOrUpdate t c12_overrideName S!"PartName" styleMapOverrideAttrs = some t' ∧
      p' = c12_embedded p s r' t' := by
  unfold c12_embedPkg at h
  split at h
  · rename_i r hr
    split at h
    · cases h
    · rename_i r' hr'
      split at h
      · rename_i t ht
        split at h
        · cases h
        · rename_i t' ht'
          cases h
          exact ⟨r, r', t, t', hr, hr', ht, ht', rfl⟩
      · cases h
  · cases h

/-! ### the parts of the new package -/

section parts
variable (p : Package) (s : Str) (r' t' : XmlNode)

theorem c12_embedded_sm :
    lookupLast styleMapPath (c12_embedded p s r' t').parts = some (.bytes (utf8Encode s)) := by
  unfold c12_embedded
  rw [c12_updateParts_get]
  rfl

theorem c12_embedded_rels :
    lookupLast relsPartPath (c12_embedded p s r' t').parts = some (.xml r') := by
  unfold c12_embedded
  rw [c12_updateParts_get]
  rfl

theorem c12_embedded_ct :
    lookupLast contentTypesPartPath (c12_embedded p s r' t').parts = some (.xml t') := by
  unfold c12_embedded
  rw [c12_updateParts_get]
  rfl

theorem c12_embedded_other (n : Str) (h1 : n ≠ styleMapPath) (h2 : n ≠ relsPartPath)
    (h3 : n ≠ contentTypesPartPath) :
    lookupLast n (c12_embedded p s r' t').parts = lookupLast n p.parts := by
  unfold c12_embedded
  rw [c12_updateParts_get]
  simp only [c12_newParts, lookupLast, h1, h2, h3, if_false]

end parts

/-! ### `_read_entry`, existence -/

theorem c12_readXml_xml (p : Package) (name : Str) (root : XmlNode)
    (h : lookupLast name p.parts = some (.xml root)) :
    p.readXml name = c12_rootOf (collapseAlt root) := by
  unfold Package.readXml c12_rootOf
  rw [h]
  dsimp only
  cases collapseAlt root with
  | nil => rfl
  | cons x xs => cases x <;> rfl

theorem c12_readXml_congr (p q : Package) (name : Str)
    (h : lookupLast name q.parts = lookupLast name p.parts) : q.readXml name = p.readXml name := by
  unfold Package.readXml
  rw [h]

theorem c12_exists_congr (p q : Package) (name : Str)
    (h : lookupLast name q.parts = lookupLast name p.parts) : q.exists name = p.exists name := by
  unfold Package.exists
  rw [h]

theorem c12_readRels_congr (p q : Package) (name : Str)
    (h : lookupLast name q.parts = lookupLast name p.parts) : q.readRels name = p.readRels name := by
  unfold Package.readRels
  rw [c12_exists_congr p q name h, c12_readXml_congr p q name h]

/-! ### relationship part names end in `.rels` -/

theorem c12_relsPathFor_suffix (name : Str) : ∃ pre, relsPathFor name = pre ++ S!".rels" := by
  unfold relsPathFor
  generalize splitPath name = db
  obtain ⟨d, b⟩ := db
  simp only
  have hx : (b ++ S!".rels").isEmpty = false := by simp
  by_cases hd : d.isEmpty = true
  · by_cases hs : startsWith (b ++ S!".rels") ['/'] = true
    · exact ⟨b, by simp [joinPath, hd, hx, hs, joinWith, startsWith]⟩
    · exact ⟨S!"_rels/" ++ b, by simp [joinPath, hd, hx, hs, joinWith, startsWith]⟩
  · by_cases hs : startsWith (b ++ S!".rels") ['/'] = true
    · exact ⟨b, by
        by_cases hds : startsWith d ['/'] = true <;>
          simp [joinPath, hd, hx, hs, hds, joinWith, startsWith]⟩
    · exact ⟨d ++ S!"/_rels/" ++ b, by
        by_cases hds : startsWith d ['/'] = true <;>
          simp [joinPath, hd, hx, hs, hds, joinWith, startsWith]⟩

theorem c12_relsPathFor_ne (name : Str) :
    relsPathFor name ≠ styleMapPath ∧ relsPathFor name ≠ contentTypesPartPath := by
  obtain ⟨pre, h⟩ := c12_relsPathFor_suffix name
  rw [h]
  constructor <;>
  · intro e
    have := congrArg List.getLast? e
    simp [styleMapPath, contentTypesPartPath] at this

/-! ### what `_read_entry` returns before and after `_add_or_update_element` -/

theorem c12_addOrUpdate_root (nm idAttr : Str) (attrs : Attrs) (r r' : XmlNode)
    (hac : (nm == c12_acName) = false) (hfb : (nm == S!"mc:Fallback") = false)
    (h : xAddOrUpdate r nm idAttr attrs = some r') :
    (∃ e, c12_rootOf (collapseAlt r) = .error e ∧ c12_rootOf (collapseAlt r') = .error e) ∨
    (∃ as cs as' cs', c12_rootOf (collapseAlt r) = .ok (as, cs) ∧
      c12_rootOf (collapseAlt r') = .ok (as', cs') ∧
      ((∃ old, xFindFirst (xMatches nm idAttr attrs) r = some old ∧
          c12_D1L (xMatches nm idAttr attrs) old attrs cs cs') ∨
       cs' = cs ∨ cs' = cs ++ [.elem nm attrs []])) := by
  cases r with
  | text s => simp [xAddOrUpdate] at h
  | elem n as cs0 =>
    unfold xAddOrUpdate at h
    simp only at h
    cases hsf : xSetFirst (xMatches nm idAttr attrs) attrs (.elem n as cs0) with
    | some r1 =>
      rw [hsf] at h
      cases h
      obtain ⟨old, hf, hd⟩ := c12_xSetFirst_D1 _ _ _ _ hsf
      have hp : ∀ m, xMatches nm idAttr attrs m old = true → (m == c12_acName) = false := by
        intro m hm
        simp only [xMatches, Bool.and_eq_true] at hm
        have := eq_of_beq hm.1
        subst this
        exact hac
      rcases c12_rootOf_D1L (c12_collapseAlt_D1 hp hd) with ⟨e, e1, e2⟩ | ⟨a1, c1, a2, c2, e1, e2, hl⟩
      · exact Or.inl ⟨e, e1, e2⟩
      · exact Or.inr ⟨a1, c1, a2, c2, e1, e2, Or.inl ⟨old, hf, hl⟩⟩
    | none =>
      rw [hsf] at h
      cases h
      by_cases hn : (n == c12_acName) = true
      · rw [c12_collapseAlt_elem_ac n as _ hn, c12_collapseAlt_elem_ac n as _ hn,
          c12_fallback_append cs0 nm attrs [] hfb]
        cases hroot : c12_rootOf (collapseAltFallback cs0) with
        | error e => exact Or.inl ⟨e, rfl, rfl⟩
        | ok x => exact Or.inr ⟨x.1, x.2, x.1, x.2, rfl, rfl, Or.inr (Or.inl rfl)⟩
      · have hn' : (n == c12_acName) = false := by simpa using hn
        rw [c12_collapseAlt_elem_ne n as _ hn', c12_collapseAlt_elem_ne n as _ hn',
          c12_collapseAltL_append, c12_collapseAltL_cons, c12_collapseAlt_elem_ne nm attrs [] hac]
        refine Or.inr ⟨as, _, as, _, rfl, rfl, Or.inr (Or.inr ?_)⟩
        simp [collapseAltL]

/-! ### the relationships part and the content-types part, before and after -/

def c12_relsMatch : Str → Attrs → Bool := xMatches c12_relName S!"Id" styleMapRelAttrs
def c12_ctMatch : Str → Attrs → Bool := xMatches c12_overrideName S!"PartName" styleMapOverrideAttrs

theorem c12_exists_of_lookup (p : Package) (name : Str) (x : Part) (h : lookupLast name p.parts = some x) :
    p.exists name = true := by
  unfold Package.exists; rw [h]; rfl

theorem c12_readRels_rels (p : Package) (s : Str) (r r' t' : XmlNode)
    (hr : lookupLast relsPartPath p.parts = some (.xml r))
    (hr' : xAddOrUpdate r c12_relName S!"Id" styleMapRelAttrs = some r')
    (hok : ∀ old, xFindFirst c12_relsMatch r = some old → c12_relAttrsOk old = true) :
    (∃ e, p.readRels relsPartPath = .error e ∧ (c12_embedded p s r' t').readRels relsPartPath = .error e) ∨
    (∃ rels rels', p.readRels relsPartPath = .ok rels ∧
      (c12_embedded p s r' t').readRels relsPartPath = .ok rels' ∧ c12_RelsSim rels rels') := by
  have hr2 := c12_embedded_rels p s r' t'
  unfold Package.readRels
  rw [c12_exists_of_lookup p _ _ hr, c12_exists_of_lookup _ _ _ hr2, c12_readXml_xml p _ _ hr,
    c12_readXml_xml _ _ _ hr2]
  simp only [if_true, bind, Except.bind]
  rcases c12_addOrUpdate_root c12_relName S!"Id" styleMapRelAttrs r r' (by decide +kernel) (by decide +kernel) hr'
    with ⟨e, e1, e2⟩ | ⟨a1, c1, a2, c2, e1, e2, hl⟩
  · rw [e1, e2]; exact Or.inl ⟨e, rfl, rfl⟩
  · rw [e1, e2]
    simp only
    rcases hl with ⟨old, hf, hd⟩ | hl | hl
    · exact c12_readRelsXml_D1L hd (hok old hf)
    · rw [hl]
      cases hx : readRelsXml c1 with
      | error e => exact Or.inl ⟨e, rfl, rfl⟩
      | ok rels => exact Or.inr ⟨rels, rels, rfl, rfl, c12_RelsSim_refl rels⟩
    · rw [hl]; exact c12_readRelsXml_snoc c1

/-- `[Content_Types].xml` as `_part_with_body_reader` reads it -/
def c12_readCt (p : Package) : Except Err ContentTypes :=
  if p.exists S!"[Content_Types].xml" then do
    let (_, cs) ← p.readXml S!"[Content_Types].xml"; readContentTypesXml cs
  else pure {}

theorem c12_readCt_ct (p : Package) (s : Str) (t t' r' : XmlNode)
    (ht : lookupLast contentTypesPartPath p.parts = some (.xml t))
    (ht' : xAddOrUpdate t c12_overrideName S!"PartName" styleMapOverrideAttrs = some t')
    (hok : ∀ old, xFindFirst c12_ctMatch t = some old → c12_overrideAttrsOk old = true) :
    (∃ e, c12_readCt p = .error e ∧ c12_readCt (c12_embedded p s r' t') = .error e) ∨
    (∃ ct ct', c12_readCt p = .ok ct ∧ c12_readCt (c12_embedded p s r' t') = .ok ct' ∧ c12_CtSim ct ct') := by
  have ht2 := c12_embedded_ct p s r' t'
  unfold c12_readCt
  rw [show S!"[Content_Types].xml" = contentTypesPartPath from rfl,
    c12_exists_of_lookup p _ _ ht, c12_exists_of_lookup _ _ _ ht2, c12_readXml_xml p _ _ ht,
    c12_readXml_xml _ _ _ ht2]
  simp only [if_true, bind, Except.bind]
  rcases c12_addOrUpdate_root c12_overrideName S!"PartName" styleMapOverrideAttrs t t' (by decide +kernel)
    (by decide +kernel) ht' with ⟨e, e1, e2⟩ | ⟨a1, c1, a2, c2, e1, e2, hl⟩
  · rw [e1, e2]; exact Or.inl ⟨e, rfl, rfl⟩
  · rw [e1, e2]
    simp only
    rcases hl with ⟨old, hf, hd⟩ | hl | hl
    · exact c12_readContentTypesXml_D1L hd (hok old hf)
    · rw [hl]
      cases hx : readContentTypesXml c1 with
      | error e => exact Or.inl ⟨e, rfl, rfl⟩
      | ok ct => exact Or.inr ⟨ct, ct, rfl, rfl, c12_CtSim_refl ct⟩
    · rw [hl]; exact c12_readContentTypesXml_snoc c1

/-! ### the new package, seen through `exists` / `_read_entry` / `readRels` -/

section embedded
variable (p : Package) (s : Str) (r r' t t' : XmlNode)
variable (hr : lookupLast relsPartPath p.parts = some (.xml r))
variable (ht : lookupLast contentTypesPartPath p.parts = some (.xml t))

include hr ht in
theorem c12_embedded_exists (n : Str) (h : p.exists styleMapPath = true ∨ n ≠ styleMapPath) :
    (c12_embedded p s r' t').exists n = p.exists n := by
  by_cases h1 : n = styleMapPath
  · subst h1
    rw [c12_exists_of_lookup _ _ _ (c12_embedded_sm p s r' t')]
    rcases h with h | h
    · exact h.symm
    · exact absurd rfl h
  · by_cases h2 : n = relsPartPath
    · subst h2
      rw [c12_exists_of_lookup _ _ _ (c12_embedded_rels p s r' t'), c12_exists_of_lookup _ _ _ hr]
    · by_cases h3 : n = contentTypesPartPath
      · subst h3
        rw [c12_exists_of_lookup _ _ _ (c12_embedded_ct p s r' t'), c12_exists_of_lookup _ _ _ ht]
      · exact c12_exists_congr _ _ _ (c12_embedded_other p s r' t' n h1 h2 h3)

/-- the path is none of the three entries the embed writes -/
def c12_roleOk (q : Str) : Bool := q != styleMapPath && q != relsPartPath && q != contentTypesPartPath

theorem c12_roleOk_ne {q : Str} (h : c12_roleOk q = true) :
    q ≠ styleMapPath ∧ q ≠ relsPartPath ∧ q ≠ contentTypesPartPath := by
  simp only [c12_roleOk, Bool.and_eq_true, bne_iff_ne] at h
  exact ⟨h.1.1, h.1.2, h.2⟩

theorem c12_embedded_lookup_role (q : Str) (h : c12_roleOk q = true) :
    lookupLast q (c12_embedded p s r' t').parts = lookupLast q p.parts := by
  obtain ⟨h1, h2, h3⟩ := c12_roleOk_ne h
  exact c12_embedded_other p s r' t' q h1 h2 h3

/-- the paths a relationship lookup chooses among -/
def c12_candidates (rels : Rels) (relType base : Str) : List Str :=
  (rels.targetsByType relType).map fun t => lstripChar '/' (joinPath [base, t])

/-- `mammoth/style-map` already exists, or is not one of the candidates -/
def c12_smFree (p : Package) (cands : List Str) : Bool :=
  p.exists styleMapPath || !cands.contains styleMapPath

theorem c12_findPartPath_eq (q : Package) (rels : Rels) (ty base fb : Str) :
    findPartPath q rels ty base fb =
      match (c12_candidates rels ty base).filter q.exists with
      | [] => fb
      | x :: _ => x := rfl

include hr ht in
theorem c12_findPartPath_embedded (rels rels' : Rels) (ty base fb : Str)
    (hty : rels'.targetsByType ty = rels.targetsByType ty)
    (hfree : c12_smFree p (c12_candidates rels ty base) = true) :
    findPartPath (c12_embedded p s r' t') rels' ty base fb = findPartPath p rels ty base fb := by
  rw [c12_findPartPath_eq, c12_findPartPath_eq]
  have hc : c12_candidates rels' ty base = c12_candidates rels ty base := by
    unfold c12_candidates; rw [hty]
  rw [hc]
  have : (c12_candidates rels ty base).filter (c12_embedded p s r' t').exists
      = (c12_candidates rels ty base).filter p.exists := by
    apply List.filter_congr
    intro x hx
    apply c12_embedded_exists p s r r' t t' hr ht
    simp only [c12_smFree, Bool.or_eq_true, Bool.not_eq_true'] at hfree
    rcases hfree with h | h
    · exact Or.inl h
    · refine Or.inr (fun e => ?_)
      subst e
      have : (c12_candidates rels ty base).contains styleMapPath = true := by simpa using hx
      rw [this] at h; cases h
  rw [this]

include hr in
/-- the relationships of any part, before and after: the same error, or relationships that answer alike -/
theorem c12_readRels_any (hr' : xAddOrUpdate r c12_relName S!"Id" styleMapRelAttrs = some r')
    (hok : ∀ old, xFindFirst c12_relsMatch r = some old → c12_relAttrsOk old = true) (path : Str) :
    (∃ e, p.readRels (relsPathFor path) = .error e ∧
      (c12_embedded p s r' t').readRels (relsPathFor path) = .error e) ∨
    (∃ rels rels', p.readRels (relsPathFor path) = .ok rels ∧
      (c12_embedded p s r' t').readRels (relsPathFor path) = .ok rels' ∧
      (∀ ty, ty ∈ c12_lookedUp → rels'.targetsByType ty = rels.targetsByType ty) ∧
      (∀ rid, c12_ridOk (relsPathFor path == relsPartPath) rid = true →
        rels'.targetById rid = rels.targetById rid)) := by
  by_cases hp : relsPathFor path = relsPartPath
  · rw [hp]
    rcases c12_readRels_rels p s r r' t' hr hr' hok with ⟨e, e1, e2⟩ | ⟨rels, rels', e1, e2, hsim⟩
    · exact Or.inl ⟨e, e1, e2⟩
    · refine Or.inr ⟨rels, rels', e1, e2, hsim.byType, fun rid hrid => hsim.byId rid ?_⟩
      simp only [c12_ridOk, beq_self_eq_true, Bool.true_and, Bool.not_eq_true', beq_eq_false_iff_ne] at hrid
      exact hrid
  · have hne := c12_relsPathFor_ne path
    have := c12_readRels_congr p (c12_embedded p s r' t') (relsPathFor path)
      (c12_embedded_other p s r' t' _ hne.1 hp hne.2)
    rw [this]
    cases hx : p.readRels (relsPathFor path) with
    | error e => exact Or.inl ⟨e, rfl, rfl⟩
    | ok rels => exact Or.inr ⟨rels, rels, rfl, rfl, fun _ _ => rfl, fun _ _ => rfl⟩

end embedded

end Mammoth
