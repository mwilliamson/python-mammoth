/-
  C02 — HTML output is well-formed and document strings never become markup.
  Definitions and helper lemmas live in
  Proofs/C02_Escape.lean (decoder `c02_unescape`, entity check `c02_ampsOk`),
  Proofs/C02_Tokens.lean (token model `c02_Tok`, `c02_tokens`, `c02_balanced`, `c02_coalesce`),
  Proofs/C02_Lexer.lean (strict lexer `c02_lexHtml`, hypothesis `c02_plainNames`),
  Proofs/C02_Sound.lean (canonical spelling `c02_render` of a token list),
  Proofs/C02_Subst.lean (substitutions `c02_Sub`, `c02_mapForest`, `c02_mapStrings`; they commute with
    `strip_empty` and `collapse`), Proofs/C02_Shape.lean (`c02_shape`, `c02_skeleton`, substituted tokens),
  Proofs/C02_AllTags.lean (tag predicates survive `strip_empty`/`collapse`; plain names),
  Proofs/C02_SubstLocal.lean (per-forest, decidable hypotheses `c02_subOkOn`),
  Proofs/C02_ConvertNames.lean (the converter emits plain names: `c02_plainCfg`),
  Proofs/C02_DocSubst.lean, Proofs/C02_DocSubstVisit.lean (text runs of the document are never inspected).
-/
import Proofs.C02_Escape
import Proofs.C02_Tokens
import Proofs.C02_Lexer
import Proofs.C02_Sound
import Proofs.C02_Subst
import Proofs.C02_Shape
import Proofs.C02_AllTags
import Proofs.C02_SubstLocal
import Proofs.C02_ConvertNames
import Proofs.C02_DocSubstVisit
import Proofs.C08_DefaultMap
import Proofs.Pins
import Proofs.Eval
namespace Mammoth

/-! ## 1. escaping -/

/-- `_escape_html` acts character by character: `"`, `&`, `<`, `>` become `&quot; &amp; &lt; &gt;`
    and every other character is copied (read off the extracted table). -/
theorem C02_escapeChar_cases (c : Char) :
    escapeChar c =
      if c = '"' then S!"&quot;" else if c = '&' then S!"&amp;"
      else if c = '<' then S!"&lt;" else if c = '>' then S!"&gt;" else [c] :=
  c02_escapeChar_cases c

/-- An escaped string (of ANY input string) contains no `<`, no `>` and no `"`. -/
theorem C02_escape_safe (s : Str) : ∀ c ∈ escape s, c ≠ '<' ∧ c ≠ '>' ∧ c ≠ '"' :=
  c02_escape_safe s

/-- Decoding the four entities `&amp; &lt; &gt; &quot;` of an escaped string gives back exactly the
    original string, for ANY string (also one that already contains text like `&lt;`). -/
theorem C02_unescape_escape (s : Str) : c02_unescape (escape s) = s := by
  induction s with
  | nil => simp [c02_unescape]
  | cons c cs ih =>
    rw [c02_escape_cons]
    rcases c02_char_cases c with h | h | h | h | ⟨h1, h2, h3, h4⟩
    · subst h; rw [c02_escapeChar_quot, c02_unescape_quot, ih]
    · subst h; rw [c02_escapeChar_amp, c02_unescape_amp, ih]
    · subst h; rw [c02_escapeChar_lt, c02_unescape_lt, ih]
    · subst h; rw [c02_escapeChar_gt, c02_unescape_gt, ih]
    · rw [c02_escapeChar_other c h1 h2 h3 h4]
      simp only [List.singleton_append]
      rw [c02_unescape_other c _ h2, ih]

/-- Every `&` in an escaped string is the first character of `&amp;`, `&lt;`, `&gt;` or `&quot;`. -/
theorem C02_escape_amp (s : Str) : c02_ampsOk (escape s) = true := by
  induction s with
  | nil => simp [c02_ampsOk]
  | cons c cs ih =>
    rw [c02_escape_cons]
    rcases c02_char_cases c with h | h | h | h | ⟨h1, h2, h3, h4⟩
    · subst h; rw [c02_escapeChar_quot]; simp [c02_ampsOk, startsWith, ih]
    · subst h; rw [c02_escapeChar_amp]; simp [c02_ampsOk, startsWith, ih]
    · subst h; rw [c02_escapeChar_lt]; simp [c02_ampsOk, startsWith, ih]
    · subst h; rw [c02_escapeChar_gt]; simp [c02_ampsOk, startsWith, ih]
    · rw [c02_escapeChar_other c h1 h2 h3 h4]
      simp [c02_ampsOk, h2, ih]

/-- escaping is a homomorphism for concatenation (so it can be done piecewise) -/
theorem C02_escape_append (a b : Str) : escape (a ++ b) = escape a ++ escape b :=
  c02_escape_append a b

/-! ## 2. token model: balance and void elements -/

/-- The token stream of any forest obeys the stack discipline: every end tag closes the innermost
    open element and has its name, and nothing stays open (no hypothesis on the forest). -/
theorem C02_tokens_balanced (ns : List Node) : c02_balanced (c02_tokens ns) = true := by
  simp [c02_balanced, c02_balRun_tokens ns []]

/-- the same inside any context: the tokens of a forest leave the stack of open elements unchanged -/
theorem C02_tokens_stack_neutral (ns : List Node) (st : List Str) :
    c02_balRun (some st) (c02_tokens ns) = some st :=
  c02_balRun_tokens ns st

/-- `is_void`: no children and the name is one of `br hr img input`. -/
theorem C02_isVoid_iff (t : Tag) (cs : List Node) :
    isVoid t cs = true ↔ cs = [] ∧ t.name ∈ [S!"br", S!"hr", S!"img", S!"input"] := by
  simp [isVoid, voidNames, Generated.voidTagNames, List.isEmpty_iff]

/-- An element is written self-closed (`<name attrs />`, one `selfClose` token) if it is void, and
    as `<name attrs>` children `</name>` (start token, children's tokens, end token) otherwise;
    in particular it is written self-closed IFF it is void. -/
theorem C02_void_selfclosed (t : Tag) (cs : List Node) :
    (isVoid t cs = true →
        writeNode (.elem t cs) = ['<'] ++ t.name ++ attrString t.attrs ++ S!" />" ∧
        c02_tokensN (.elem t cs) = [.selfClose t.name t.attrs]) ∧
    (isVoid t cs = false →
        writeNode (.elem t cs)
          = ['<'] ++ t.name ++ attrString t.attrs ++ ['>'] ++ writeList cs ++ S!"</" ++ t.name ++ ['>'] ∧
        c02_tokensN (.elem t cs) = [.start t.name t.attrs] ++ c02_tokens cs ++ [.end t.name]) ∧
    ((∃ n as, c02_tokensN (.elem t cs) = [.selfClose n as]) ↔ isVoid t cs = true) := by
  refine ⟨?_, ?_, ?_⟩
  · intro h; simp [writeNode, c02_tokensN, h]
  · intro h; simp [writeNode, c02_tokensN, h]
  · by_cases h : isVoid t cs = true
    · simp [c02_tokensN, h]
    · simp [c02_tokensN, h]

/-! ## 3. the lexer round trip (main theorem) -/

/-- ROUND TRIP.  If every tag name and attribute key of the forest is a plain name (non-empty, no
    whitespace, none of `< > / = " &`), then the strict lexer — which accepts exactly
    `<name( key="escaped")*>`, `<name( key="escaped")* />`, `</name>` and escaped text, rejects a raw
    `<`, `>`, `"` or a `&` that is not one of the four entities, and decodes entities in text and in
    attribute values — accepts the written HTML and returns exactly the tokens of the forest, with
    adjacent text joined and empty text dropped.  Attribute values and text are arbitrary strings. -/
theorem C02_lex_write (ns : List Node) (hp : c02_plainNames ns = true) :
    c02_lexHtml (writeHtml ns) = some (c02_coalesce (c02_tokens ns)) :=
  c02_lexHtml_write ns hp

/-- When the forest's token stream has no empty text and no two adjacent text nodes, the lexer
    returns the forest's tokens exactly (every single text node string is recovered). -/
theorem C02_lex_write_exact (ns : List Node) (hp : c02_plainNames ns = true)
    (hs : c02_textSeparated (c02_tokens ns) = true) :
    c02_lexHtml (writeHtml ns) = some (c02_tokens ns) := by
  rw [C02_lex_write ns hp, c02_coalesce_separated _ hs]

/-- WELL-FORMEDNESS.  The written HTML is in the strict grammar and its tags balance and nest. -/
theorem C02_written_wellformed (ns : List Node) (hp : c02_plainNames ns = true) :
    ∃ toks, c02_lexHtml (writeHtml ns) = some toks ∧ c02_balanced toks = true ∧
      c02_tokMarkup toks = c02_tokMarkup (c02_tokens ns) := by
  refine ⟨_, C02_lex_write ns hp, ?_, ?_⟩
  · rw [c02_balanced_coalesce]; exact C02_tokens_balanced ns
  · exact c02_tokMarkup_coalesce _

/-- THE LEXER IS EXACTLY THE GRAMMAR (soundness).  Whatever string the lexer accepts is literally the
    concatenation of the canonical spellings of the tokens it returns (`<name key="escaped"…>`,
    `</name>`, `<name … />`, escaped text): so in an accepted string every `<`, `>`, `"` is part of a
    tag and every `&` starts one of the four entities. -/
theorem C02_lex_sound (s : Str) (toks : List c02_Tok) (h : c02_lexHtml s = some toks) :
    s = c02_render toks := by
  unfold c02_lexHtml at h
  split at h
  · rename_i toks' acc hr
    cases h
    have hf : (c02_run ⟨[], .text []⟩ s).mode ≠ .fail := by rw [hr]; simp
    have := c02_run_str s _ hf
    rw [hr] at this
    simp [c02_stStr, c02_modeStr] at this
    simp [c02_render_append, c02_render_flush, this]
  · cases h

/-- (completeness) every canonical spelling of plain-named tokens is accepted, and lexes to the
    tokens themselves up to joining adjacent text -/
theorem C02_lex_render (ts : List c02_Tok) (hp : ts.all c02_plainTok = true) :
    c02_lexHtml (c02_render ts) = some (c02_coalesce ts) :=
  c02_lexHtml_render ts hp

/-- the written HTML is the canonical spelling of the forest's (coalesced) token stream -/
theorem C02_written_is_render (ns : List Node) (hp : c02_plainNames ns = true) :
    writeHtml ns = c02_render (c02_coalesce (c02_tokens ns)) :=
  -- true of every forest: the hypothesis is not used
  (fun _ => by rw [c02_render_coalesce, writeHtml, c02_writeList_render]) hp

/-! ## 4. corollaries: the document's strings come back unchanged -/

/-- The strings recovered by the lexer are the originals, in order: the decoded attribute
    (key, value) pairs are exactly the forest's attribute pairs in document order, and the decoded
    text is exactly the forest's text. -/
theorem C02_strings_roundtrip (ns : List Node) (hp : c02_plainNames ns = true) :
    ∃ toks, c02_lexHtml (writeHtml ns) = some toks ∧
      c02_tokAttrs toks = c02_attrsOfL ns ∧ c02_tokText toks = textOfL ns := by
  refine ⟨_, C02_lex_write ns hp, ?_, ?_⟩
  · rw [c02_tokAttrs_coalesce, c02_tokAttrs_tokens]
  · rw [c02_tokText_coalesce, c02_tokText_tokens]

/-- Stripping the tags of the written HTML and decoding the entities gives exactly the
    text content of the forest. -/
theorem C02_text_of_written (ns : List Node) (hp : c02_plainNames ns = true) :
    c02_htmlText (writeHtml ns) = textOfL ns := by
  simp [c02_htmlText, C02_lex_write ns hp, c02_tokText_coalesce, c02_tokText_tokens]

/-- one text node, any string: it lexes back to itself (and to nothing if empty) -/
theorem C02_text_node_roundtrip (s : Str) :
    c02_lexHtml (writeHtml [.text s]) = some (if s.isEmpty then [] else [.text s]) := by
  rw [C02_lex_write [.text s] (by simp [c02_plainNames, c02_plainNamesN])]
  simp [c02_coalesce, c02_feedStep, c02_flush]

/-! ## 5. examples -/

/-- a forest with hostile strings in text and attribute values, a void element, a non-void `br`
    (it has a child), adjacent text nodes, an empty text node and a force-write marker -/
def c02_example : List Node :=
  [ .elem { name := S!"p", attrs := [(S!"title", S!"\"><script>alert(1)</script>")] }
      [ .text S!"a < b && c > \"d\" &lt;", .forceWrite, .elem { name := S!"br" } [],
        .text S!"x", .text [], .text S!"&amp;y",
        .elem { name := S!"img", attrs := [(S!"alt", S!"&quot; <b>"), (S!"src", S!"x.png?a=1&b=2")] } [] ],
    .elem { name := S!"br" } [.text S!"not void"] ]

example : c02_plainNames c02_example = true := by decide +kernel

example : writeHtml c02_example =
    S!"<p title=\"&quot;&gt;&lt;script&gt;alert(1)&lt;/script&gt;\">a &lt; b &amp;&amp; c &gt; &quot;d&quot; &amp;lt;<br />x&amp;amp;y<img alt=\"&amp;quot; &lt;b&gt;\" src=\"x.png?a=1&amp;b=2\" /></p><br>not void</br>" := by
  decide +kernel

set_option maxRecDepth 20000 in
example : c02_lexHtml (writeHtml c02_example) = some
    [ .start S!"p" [(S!"title", S!"\"><script>alert(1)</script>")],
      .text S!"a < b && c > \"d\" &lt;",
      .selfClose S!"br" [],
      .text S!"x&amp;y",
      .selfClose S!"img" [(S!"alt", S!"&quot; <b>"), (S!"src", S!"x.png?a=1&b=2")],
      .end S!"p",
      .start S!"br" [], .text S!"not void", .end S!"br" ] :=
  (C02_lex_write _ (by decide +kernel)).trans (by decide +kernel)

set_option maxRecDepth 20000 in
example : c02_htmlText (writeHtml c02_example) = S!"a < b && c > \"d\" &lt;x&amp;ynot void" :=
  (C02_text_of_written _ (by decide +kernel)).trans (by decide +kernel)

example : c02_balanced (c02_tokens c02_example) = true := by decide +kernel

example : c02_unescape (escape S!"\"><script>&lt;&amp;") = S!"\"><script>&lt;&amp;" := by decide +kernel

-- the lexer is strict: raw markup characters, unknown or unterminated entities, unquoted values,
-- empty names and unfinished tags are rejected
example : c02_lexHtml S!"a<b" = none := by decide +kernel
example : c02_lexHtml S!"a > b" = none := by decide +kernel
example : c02_lexHtml S!"say \"hi\"" = none := by decide +kernel
example : c02_lexHtml S!"AT&T" = none := by decide +kernel
example : c02_lexHtml S!"&nbsp;" = none := by decide +kernel
example : c02_lexHtml S!"<a href=x>" = none := by decide +kernel
example : c02_lexHtml S!"<a href=\"<\">" = none := by decide +kernel
example : c02_lexHtml S!"<>" = none := by decide +kernel
example : c02_lexHtml S!"<br/>" = none := by decide +kernel
-- ... and it does not check balance itself (that is `c02_balanced`'s job)
example : c02_lexHtml S!"<a></b>" = some [.start S!"a" [], .end S!"b"] := by decide +kernel
example : c02_balanced [.start S!"a" [], .end S!"b"] = false := by decide +kernel
example : c02_balanced [.start S!"a" [], .start S!"b" [], .end S!"a", .end S!"b"] = false := by decide +kernel


-- the hypothesis `c02_plainNames` is needed: the writer copies tag names and attribute keys verbatim
-- (they come from the style map and from library constants, never from the document)
example : writeHtml [.elem { name := S!"p><script" } []] = S!"<p><script></p><script>" := by decide +kernel
example : c02_plainNames [.elem { name := S!"p><script" } []] = false := by decide +kernel

/-! ## 6. substitution invariance on forests

A substitution `σ : c02_Sub` replaces every string of a forest: `σ.text` is applied to the string of
every text node and to every separator, `σ.attr k` to the value of every attribute named `k`
(`c02_mapForest σ`); tag names, alternative names, attribute names, their order and the collapsible
flags are left alone.  `c02_mapStrings σ` is the special case of one function `σ : Str → Str` used
everywhere.  Hypotheses (they quantify over strings, so they are `Prop`s, not `Bool`s; the examples
below discharge them for concrete substitutions, and section 7 gives the decidable, per-forest form):
`σ.TextOk`: `σ.text s` is empty iff `s` is;  `σ.AttrInj`: each `σ.attr k` is injective. -/

/-- `strip_empty` commutes with substitution, provided text stays empty / non-empty. -/
theorem C02_strip_subst (σ : c02_Sub) (ht : σ.TextOk) (ns : List Node) :
    stripEmpty (c02_mapForest σ ns) = c02_mapForest σ (stripEmpty ns) :=
  c02_stripList_map σ ht ns

/-- `collapse` commutes with substitution, provided distinct values of an attribute stay distinct
    (`_is_match` compares the attribute dictionaries) and separators stay empty / non-empty
    (`if node.separator:`). -/
theorem C02_collapse_subst (σ : c02_Sub) (ht : σ.TextOk) (ha : σ.AttrInj) (ns : List Node) :
    collapse (c02_mapForest σ ns) = c02_mapForest σ (collapse ns) := by
  have := c02_collapseFrom_map σ ht ha [] ns
  simpa [collapse] using this

/-- Hence the forest that is written for the substituted input is the substituted forest that is
    written for the original input. -/
theorem C02_render_forest_subst (σ : c02_Sub) (ht : σ.TextOk) (ha : σ.AttrInj) (ns : List Node) :
    collapse (stripEmpty (c02_mapForest σ ns)) = c02_mapForest σ (collapse (stripEmpty ns)) := by
  rw [C02_strip_subst σ ht, C02_collapse_subst σ ht ha]

/-- SHAPE INVARIANCE.  The written forest of the substituted input has the same shape — tag names,
    attribute names in order, nesting, positions of text leaves — as that of the original input. -/
theorem C02_shape_subst (σ : c02_Sub) (ht : σ.TextOk) (ha : σ.AttrInj) (ns : List Node) :
    c02_shape (collapse (stripEmpty (c02_mapForest σ ns))) = c02_shape (collapse (stripEmpty ns)) := by
  rw [C02_render_forest_subst σ ht ha, c02_shape_map]

/-- The token stream of a substituted forest is the image of the token stream (no hypothesis): tags
    keep their names and attribute names, void elements stay void. -/
theorem C02_tokens_subst (σ : c02_Sub) (ns : List Node) :
    c02_tokens (c02_mapForest σ ns) = (c02_tokens ns).map (c02_mapTok σ) :=
  c02_tokens_map σ ns

/-- WRITTEN FORM.  For a forest with plain names, the HTML rendered for the original and for the
    substituted forest both lex; the two token lists have the same skeleton (tags, attribute names,
    nesting, places of text); the tags of the second are exactly the images of the tags of the first
    (attribute values replaced by their substitutes); and both balance. -/
theorem C02_render_subst (σ : c02_Sub) (ht : σ.TextOk) (ha : σ.AttrInj) (ns : List Node)
    (hp : c02_plainNames ns = true) :
    ∃ toks toks', c02_lexHtml (render ns) = some toks ∧
      c02_lexHtml (render (c02_mapForest σ ns)) = some toks' ∧
      c02_skeleton toks' = c02_skeleton toks ∧
      c02_tokMarkup toks' = (c02_tokMarkup toks).map (c02_mapTok σ) ∧
      c02_balanced toks = true ∧ c02_balanced toks' = true := by
  have hp1 := c02_plainNames_render ns hp
  have hp2 : c02_plainNames (c02_mapForest σ (collapse (stripEmpty ns))) = true := by
    rw [c02_plainNames_map]; exact hp1
  refine ⟨c02_coalesce (c02_tokens (collapse (stripEmpty ns))),
    c02_coalesce ((c02_tokens (collapse (stripEmpty ns))).map (c02_mapTok σ)),
    C02_lex_write _ hp1, ?_, ?_, ?_, ?_, ?_⟩
  · show c02_lexHtml (writeHtml (collapse (stripEmpty (c02_mapForest σ ns)))) = _
    rw [C02_render_forest_subst σ ht ha, C02_lex_write _ hp2, c02_tokens_map]
  · exact c02_skeleton_coalesce_map σ ht _
  · exact c02_tokMarkup_coalesce_map σ _
  · rw [c02_balanced_coalesce]; exact C02_tokens_balanced _
  · rw [c02_balanced_coalesce, ← c02_tokens_map]; exact C02_tokens_balanced _

/-- WRITTEN FORM, exact.  If in addition the written forest has no two adjacent text nodes (and no
    empty one), the token list of the substituted rendering is literally the image of the token list
    of the original rendering: every text and every attribute value is replaced by its substitute
    and nothing else changes. -/
theorem C02_render_subst_exact (σ : c02_Sub) (ht : σ.TextOk) (ha : σ.AttrInj) (ns : List Node)
    (hp : c02_plainNames ns = true)
    (hs : c02_textSeparated (c02_tokens (collapse (stripEmpty ns))) = true) :
    ∃ toks, c02_lexHtml (render ns) = some toks ∧
      c02_lexHtml (render (c02_mapForest σ ns)) = some (toks.map (c02_mapTok σ)) := by
  have hp1 := c02_plainNames_render ns hp
  have hp2 : c02_plainNames (c02_mapForest σ (collapse (stripEmpty ns))) = true := by
    rw [c02_plainNames_map]; exact hp1
  refine ⟨_, C02_lex_write_exact _ hp1 hs, ?_⟩
  show c02_lexHtml (writeHtml (collapse (stripEmpty (c02_mapForest σ ns)))) = _
  rw [C02_render_forest_subst σ ht ha, C02_lex_write_exact _ hp2, c02_tokens_map]
  rw [c02_tokens_map, c02_textSeparated_map σ ht]; exact hs

/-! ### one function for all strings -/

/-- a function that is injective and fixes the empty string keeps non-empty strings non-empty -/
theorem C02_uniform_ok (σ : Str → Str) (hi : ∀ a b, σ a = σ b → a = b) (h0 : σ [] = []) :
    (c02_Sub.uniform σ).TextOk ∧ (c02_Sub.uniform σ).AttrInj := by
  refine ⟨?_, fun _ a b h => hi a b h⟩
  intro s
  cases s with
  | nil => show (σ []).isEmpty = _; rw [h0]
  | cons c cs =>
    show (σ (c :: cs)).isEmpty = false
    cases h : σ (c :: cs) with
    | nil => exact absurd (hi _ _ (h.trans h0.symm)) (by simp)
    | cons _ _ => rfl

/-- SHAPE INVARIANCE for `mapStrings σ`, `σ` injective with `σ "" = ""` (so that non-empty strings
    stay non-empty): replacing every text, attribute value and separator `s` by `σ s` changes no tag,
    attribute name or nesting of the written forest. -/
theorem C02_mapStrings_shape (σ : Str → Str) (hi : ∀ a b, σ a = σ b → a = b) (h0 : σ [] = [])
    (ns : List Node) :
    c02_shape (collapse (stripEmpty (c02_mapStrings σ ns))) = c02_shape (collapse (stripEmpty ns)) :=
  C02_shape_subst _ (C02_uniform_ok σ hi h0).1 (C02_uniform_ok σ hi h0).2 ns

/-- ... and the written forest itself is the `σ`-image of the original written forest -/
theorem C02_mapStrings_render_forest (σ : Str → Str) (hi : ∀ a b, σ a = σ b → a = b) (h0 : σ [] = [])
    (ns : List Node) :
    collapse (stripEmpty (c02_mapStrings σ ns)) = c02_mapStrings σ (collapse (stripEmpty ns)) :=
  C02_render_forest_subst _ (C02_uniform_ok σ hi h0).1 (C02_uniform_ok σ hi h0).2 ns

/-! ### examples -/

/-- hostile replacement: every non-empty string gets `"><script>` in front (injective, fixes `""`) -/
def c02_exSigma (s : Str) : Str := if s.isEmpty then [] else S!"\"><script>" ++ s

theorem c02_exSigma_inj (a b : Str) (h : c02_exSigma a = c02_exSigma b) : a = b := by
  unfold c02_exSigma at h
  cases a <;> cases b <;> simp_all

/-- two collapsible links with the same target (they merge), a paragraph that is stripped, a
    separator, an empty text node -/
def c02_exForest : List Node :=
  [ .elem { name := S!"a", attrs := [(S!"href", S!"u?x=1&y=2")], collapsible := true } [.text S!"one"],
    .elem { name := S!"a", attrs := [(S!"href", S!"u?x=1&y=2")], collapsible := true, separator := some S!", " }
      [.text S!"two"],
    .elem { name := S!"a", attrs := [(S!"href", S!"other")], collapsible := true } [.text S!"three"],
    .elem { name := S!"p" } [.text []],
    .elem { name := S!"img", attrs := [(S!"alt", S!"A & B"), (S!"src", S!"x.png")] } [] ]

example : c02_plainNames c02_exForest = true := by decide +kernel

example : render c02_exForest =
    S!"<a href=\"u?x=1&amp;y=2\">one, two</a><a href=\"other\">three</a><img alt=\"A &amp; B\" src=\"x.png\" />" := by
  decide +kernel

set_option maxRecDepth 20000 in
example : render (c02_mapStrings c02_exSigma c02_exForest) =
    S!"<a href=\"&quot;&gt;&lt;script&gt;u?x=1&amp;y=2\">&quot;&gt;&lt;script&gt;one&quot;&gt;&lt;script&gt;, &quot;&gt;&lt;script&gt;two</a><a href=\"&quot;&gt;&lt;script&gt;other\">&quot;&gt;&lt;script&gt;three</a><img alt=\"&quot;&gt;&lt;script&gt;A &amp; B\" src=\"&quot;&gt;&lt;script&gt;x.png\" />" := by
  decide +kernel

example : c02_shape (collapse (stripEmpty (c02_mapStrings c02_exSigma c02_exForest)))
    = c02_shape (collapse (stripEmpty c02_exForest)) :=
  C02_mapStrings_shape _ c02_exSigma_inj rfl _

example : c02_shape (collapse (stripEmpty c02_exForest)) =
    [ .elem S!"a" [S!"href"] [.text, .text, .text], .elem S!"a" [S!"href"] [.text],
      .elem S!"img" [S!"alt", S!"src"] [] ] := by rfl

/-- a substitution with different functions: text is blanked to `"x"`, attribute values are reversed -/
def c02_exSub : c02_Sub := ⟨fun s => if s.isEmpty then [] else S!"x", fun _ v => v.reverse⟩

theorem c02_exSub_ok : c02_exSub.TextOk ∧ c02_exSub.AttrInj := by
  refine ⟨fun s => ?_, fun _ a b h => List.reverse_inj.mp h⟩
  cases s <;> simp [c02_exSub]

example : ∃ toks toks', c02_lexHtml (render c02_exForest) = some toks ∧
      c02_lexHtml (render (c02_mapForest c02_exSub c02_exForest)) = some toks' ∧
      c02_skeleton toks' = c02_skeleton toks ∧
      c02_tokMarkup toks' = (c02_tokMarkup toks).map (c02_mapTok c02_exSub) ∧
      c02_balanced toks = true ∧ c02_balanced toks' = true :=
  C02_render_subst _ c02_exSub_ok.1 c02_exSub_ok.2 _ (by decide +kernel)

set_option maxRecDepth 20000 in
example : (c02_lexHtml (render (c02_mapForest c02_exSub c02_exForest))).map c02_skeleton = some
    [ .start S!"a" [S!"href"], .text, .end S!"a", .start S!"a" [S!"href"], .text, .end S!"a",
      .selfClose S!"img" [S!"alt", S!"src"] ] := by decide +kernel

/-- two links with different targets and a void element between text -/
def c02_cexLinks' : List Node :=
  [ .elem { name := S!"a", attrs := [(S!"href", S!"u1")], collapsible := true } [.text S!"1"],
    .elem { name := S!"a", attrs := [(S!"href", S!"u2")], collapsible := true }
      [.text S!"2", .elem { name := S!"br" } [], .text S!"3"] ]

example : stripEmpty (c02_mapForest c02_exSub c02_exForest) = c02_mapForest c02_exSub (stripEmpty c02_exForest) :=
  C02_strip_subst _ c02_exSub_ok.1 _
example : collapse (c02_mapForest c02_exSub (stripEmpty c02_exForest))
    = c02_mapForest c02_exSub (collapse (stripEmpty c02_exForest)) :=
  C02_collapse_subst _ c02_exSub_ok.1 c02_exSub_ok.2 _
example : collapse (stripEmpty (c02_mapForest c02_exSub c02_exForest)) =
    [ .elem { name := S!"a", attrs := [(S!"href", S!"2=y&1=x?u")], collapsible := true }
        [.text S!"x", .text S!"x", .text S!"x"],
      .elem { name := S!"a", attrs := [(S!"href", S!"rehto")], collapsible := true } [.text S!"x"],
      .elem { name := S!"img", attrs := [(S!"alt", S!"B & A"), (S!"src", S!"gnp.x")] } [] ] := by decide +kernel

-- `C02_render_subst_exact`: a forest whose written form has no adjacent text nodes
example : c02_plainNames c02_cexLinks' = true ∧
    c02_textSeparated (c02_tokens (collapse (stripEmpty c02_cexLinks'))) = true := by decide +kernel
example : ∃ toks, c02_lexHtml (render c02_cexLinks') = some toks ∧
    c02_lexHtml (render (c02_mapForest c02_exSub c02_cexLinks')) = some (toks.map (c02_mapTok c02_exSub)) :=
  C02_render_subst_exact _ c02_exSub_ok.1 c02_exSub_ok.2 _ (by decide +kernel) (by decide +kernel)

/-! ### each hypothesis is needed -/

/-- NOT INJECTIVE on attribute values: two links with different targets are kept apart, but after
    replacing both targets by the same string `collapse` merges them (one `<a>` instead of two). -/
def c02_cexLinks : List Node :=
  [ .elem { name := S!"a", attrs := [(S!"href", S!"u1")], collapsible := true } [.text S!"1"],
    .elem { name := S!"a", attrs := [(S!"href", S!"u2")], collapsible := true } [.text S!"2"] ]
def c02_cexConst (s : Str) : Str := if s.isEmpty then [] else S!"x"

example : (c02_Sub.uniform c02_cexConst).TextOk := by intro s; cases s <;> simp [c02_Sub.uniform, c02_cexConst]
example : render c02_cexLinks = S!"<a href=\"u1\">1</a><a href=\"u2\">2</a>" := by decide +kernel
example : render (c02_mapStrings c02_cexConst c02_cexLinks) = S!"<a href=\"x\">xx</a>" := by decide +kernel
example : c02_shape (collapse (stripEmpty c02_cexLinks))
    = [.elem S!"a" [S!"href"] [.text], .elem S!"a" [S!"href"] [.text]] := by rfl
example : c02_shape (collapse (stripEmpty (c02_mapStrings c02_cexConst c02_cexLinks)))
    = [.elem S!"a" [S!"href"] [.text, .text]] := by rfl
example : c02_skeleton (c02_tokens (collapse (stripEmpty (c02_mapStrings c02_cexConst c02_cexLinks))))
    ≠ c02_skeleton (c02_tokens (collapse (stripEmpty c02_cexLinks))) := by decide +kernel

/-- A NON-EMPTY TEXT BECOMES EMPTY (attribute values untouched, so `AttrInj` holds): the paragraph
    is stripped. -/
def c02_cexBlank : c02_Sub := ⟨fun _ => [], fun _ v => v⟩
example : c02_cexBlank.AttrInj := fun _ _ _ h => h
example : render [.elem { name := S!"p" } [.text S!"a"]] = S!"<p>a</p>" := by decide +kernel
example : render (c02_mapForest c02_cexBlank [.elem { name := S!"p" } [.text S!"a"]]) = [] := by decide +kernel
example : c02_shape (collapse (stripEmpty (c02_mapForest c02_cexBlank [.elem { name := S!"p" } [.text S!"a"]])))
    = [] := by rfl

/-- THE EMPTY TEXT BECOMES NON-EMPTY (`σ s = "x" ++ s` is injective and keeps non-empty strings
    non-empty, but `σ "" ≠ ""`): a paragraph that was stripped now appears. -/
def c02_cexPrefix (s : Str) : Str := 'x' :: s
example : ∀ a b, c02_cexPrefix a = c02_cexPrefix b → a = b := by intro a b h; simpa [c02_cexPrefix] using h
example : ∀ s, s ≠ [] → c02_cexPrefix s ≠ [] := by intro s _; simp [c02_cexPrefix]
example : render [.elem { name := S!"p" } [.text []]] = [] := by decide +kernel
example : render (c02_mapStrings c02_cexPrefix [.elem { name := S!"p" } [.text []]]) = S!"<p>x</p>" := by decide +kernel

/-- A NON-EMPTY SEPARATOR BECOMES EMPTY: the merged element loses a text leaf. -/
def c02_cexSep : List Node :=
  [ .elem { name := S!"pre", collapsible := true } [.text S!"1"],
    .elem { name := S!"pre", collapsible := true, separator := some S!"\n" } [.text S!"2"] ]
def c02_cexSepSub : c02_Sub := ⟨fun s => if s = S!"\n" then [] else s, fun _ v => v⟩
example : c02_shape (collapse (stripEmpty c02_cexSep)) = [.elem S!"pre" [] [.text, .text, .text]] := by rfl
example : c02_shape (collapse (stripEmpty (c02_mapForest c02_cexSepSub c02_cexSep)))
    = [.elem S!"pre" [] [.text, .text]] := by rfl

/-! ## 7. substitution invariance, hypotheses checked on the forest only

`c02_subOkOn σ ns` is the decidable form of the hypotheses of section 6, restricted to the strings
that occur in `ns`: every text/separator string of `ns` stays empty or non-empty under `σ.text`,
and any two DIFFERENT values that `ns` gives to the same attribute name get different substitutes
("distinct for distinct originals").  Nothing is asked of `σ` on other strings. -/

/-- EXTENSION.  A substitution that is good on the strings of `ns` acts on `ns` exactly like some
    substitution that is good on all strings (so every theorem of section 6 applies to it). -/
theorem C02_subst_extend (σ : c02_Sub) (ns : List Node) (h : c02_subOkOn σ ns = true) :
    ∃ τ : c02_Sub, τ.TextOk ∧ τ.AttrInj ∧ c02_mapForest σ ns = c02_mapForest τ ns ∧
      (∀ s ∈ c02_texts ns, τ.text s = σ.text s) ∧
      (∀ p ∈ c02_attrsOfL ns, τ.attr p.1 p.2 = σ.attr p.1 p.2) := by
  simp only [c02_subOkOn, Bool.and_eq_true] at h
  have e1 : ∀ s ∈ c02_texts ns, (c02_extend σ (c02_texts ns) (c02_attrsOfL ns)).text s = σ.text s := by
    intro s hs; simp [c02_extend, hs]
  have e2 : ∀ p ∈ c02_attrsOfL ns, (c02_extend σ (c02_texts ns) (c02_attrsOfL ns)).attr p.1 p.2 = σ.attr p.1 p.2 := by
    intro p hp; simp [c02_extend, hp]
  refine ⟨c02_extend σ (c02_texts ns) (c02_attrsOfL ns), c02_extend_textOk σ _ _ h.1,
    c02_extend_attrInj σ _ _ h.2, ?_, e1, e2⟩
  exact c02_mapForest_congr _ _ ns (fun s hs => (e1 s hs).symm) (fun p hp => (e2 p hp).symm)

/-- SHAPE INVARIANCE, per-forest hypotheses. -/
theorem C02_shape_subst_local (σ : c02_Sub) (ns : List Node) (h : c02_subOkOn σ ns = true) :
    c02_shape (collapse (stripEmpty (c02_mapForest σ ns))) = c02_shape (collapse (stripEmpty ns)) := by
  obtain ⟨τ, ht, ha, he, _, _⟩ := C02_subst_extend σ ns h
  rw [he]
  exact C02_shape_subst τ ht ha ns

/-- WRITTEN FORM, per-forest hypotheses: both renderings lex, to token lists with the same skeleton
    (same tags, attribute names, nesting and text places), and both balance. -/
theorem C02_render_subst_local (σ : c02_Sub) (ns : List Node) (h : c02_subOkOn σ ns = true)
    (hp : c02_plainNames ns = true) :
    ∃ toks toks', c02_lexHtml (render ns) = some toks ∧
      c02_lexHtml (render (c02_mapForest σ ns)) = some toks' ∧
      c02_skeleton toks' = c02_skeleton toks ∧
      c02_balanced toks = true ∧ c02_balanced toks' = true := by
  obtain ⟨τ, ht, ha, he, _, _⟩ := C02_subst_extend σ ns h
  obtain ⟨toks, toks', h1, h2, h3, _, h5, h6⟩ := C02_render_subst τ ht ha ns hp
  exact ⟨toks, toks', h1, by rw [he]; exact h2, h3, h5, h6⟩

/-- a finite substitution given by a table (strings not in the table are left alone) -/
def c02_exTable (tbl : List (Str × Str)) (s : Str) : Str :=
  match tbl.find? (fun p => p.1 == s) with
  | some p => p.2
  | none => s

/-- texts and targets of `c02_exForest` replaced by hostile strings; the two equal targets get the
    same substitute, the third target a different one -/
def c02_exLocalSub : c02_Sub :=
  c02_Sub.uniform (c02_exTable
    [ (S!"one", S!"</a>"), (S!"two", S!"<a>"), (S!"three", S!"&"), (S!", ", S!"\""),
      (S!"u?x=1&y=2", S!"\" onclick=\""), (S!"other", S!"javascript:alert(1)"),
      (S!"A & B", S!"<b>"), (S!"x.png", S!"y.png") ])

example : c02_subOkOn c02_exLocalSub c02_exForest = true := by decide +kernel

set_option maxRecDepth 20000 in
example : render (c02_mapForest c02_exLocalSub c02_exForest) =
    S!"<a href=\"&quot; onclick=&quot;\">&lt;/a&gt;&quot;&lt;a&gt;</a><a href=\"javascript:alert(1)\">&amp;</a><img alt=\"&lt;b&gt;\" src=\"y.png\" />" := by
  decide +kernel

example : c02_shape (collapse (stripEmpty (c02_mapForest c02_exLocalSub c02_exForest)))
    = c02_shape (collapse (stripEmpty c02_exForest)) :=
  C02_shape_subst_local _ _ (by decide +kernel)

-- the per-forest check fails for the counterexamples of section 6
example : c02_subOkOn (c02_Sub.uniform c02_cexConst) c02_cexLinks = false := by decide +kernel
example : c02_subOkOn c02_cexBlank [.elem { name := S!"p" } [.text S!"a"]] = false := by decide +kernel
example : c02_subOkOn (c02_Sub.uniform c02_cexPrefix) [.elem { name := S!"p" } [.text []]] = false := by decide +kernel
example : c02_subOkOn c02_cexSepSub c02_cexSep = false := by decide +kernel

/-! ## 8. the converter produces plain names only

`c02_plainCfg cfg`: every tag of every style-map path has a plain name and plain attribute names
(`c02_plainMap`), and the attribute names returned by the image converter are plain
(`c02_plainConv`; `data_uri` returns `src` only).  All other names in the output are the literals of
conversion.py / images.py: `p s sub sup em strong a input table thead tbody tr th td br img li ol dl
dt dd` and `href target type checked colspan rowspan alt src id`; `data-len` is the attribute by which the
model's image converter records how many bytes it read (MammothModel/Convert.lean), not a name of the library. -/

/-- Every tag name and attribute name produced by `visit` (any element, any state) is plain. -/
theorem C02_visit_plain_names (cfg : Cfg) (h : c02_plainCfg cfg = true) (hdr : Bool) (e : Elem)
    (st st' : ConvState) (ns : List Node) (hr : visit cfg hdr e st = .ok (ns, st')) :
    c02_plainNames ns = true := by
  simp only [c02_plainCfg, Bool.and_eq_true] at h
  exact c02_plain_visit cfg h.1 h.2 hdr e st ns st' hr

/-- Every tag name and attribute name in the forest produced for a whole document — body, notes,
    comments, the trailing `ol` and `dl` — is plain, for every document. -/
theorem C02_convert_plain_names (cfg : Cfg) (h : c02_plainCfg cfg = true) (d : Document) (r : ConvResult)
    (hr : convertDoc cfg d = .ok r) : c02_plainNames r.nodes = true :=
  c02_plain_convertDoc cfg h d r hr

/-- WELL-FORMEDNESS OF REAL CONVERSIONS.  For every document and every configuration with plain
    names, the returned HTML (`render` of the produced forest) is in the strict grammar, its tags
    balance and nest, and the attribute values and the text decode to exactly the strings of the
    written forest. -/
theorem C02_convert_wellformed (cfg : Cfg) (h : c02_plainCfg cfg = true) (d : Document) (r : ConvResult)
    (hr : convertDoc cfg d = .ok r) :
    ∃ toks, c02_lexHtml (render r.nodes) = some toks ∧ c02_balanced toks = true ∧
      c02_tokAttrs toks = c02_attrsOfL (collapse (stripEmpty r.nodes)) ∧
      c02_tokText toks = textOfL (collapse (stripEmpty r.nodes)) := by
  have hp := c02_plainNames_render _ (C02_convert_plain_names cfg h d r hr)
  obtain ⟨toks, h1, h2, h3⟩ := C02_strings_roundtrip _ hp
  refine ⟨toks, h1, ?_, h2, h3⟩
  obtain ⟨toks', h1', h2', _⟩ := C02_written_wellformed _ hp
  have : toks = toks' := Option.some.inj (h1.symm.trans h1')
  rw [this]; exact h2'

/-- SUBSTITUTION INVARIANCE OF REAL CONVERSIONS (forest level).  Replacing the strings of the
    produced forest by others (good on that forest) changes no tag, attribute name or nesting of the
    returned HTML. -/
theorem C02_convert_subst (cfg : Cfg) (h : c02_plainCfg cfg = true) (d : Document) (r : ConvResult)
    (hr : convertDoc cfg d = .ok r) (σ : c02_Sub) (hσ : c02_subOkOn σ r.nodes = true) :
    ∃ toks toks', c02_lexHtml (render r.nodes) = some toks ∧
      c02_lexHtml (render (c02_mapForest σ r.nodes)) = some toks' ∧
      c02_skeleton toks' = c02_skeleton toks ∧
      c02_balanced toks = true ∧ c02_balanced toks' = true :=
  C02_render_subst_local σ r.nodes hσ (C02_convert_plain_names cfg h d r hr)

/-- a style map with attributes and a separator, a custom image converter -/
def c02_exCfg : Cfg :=
  { styleMap :=
      [ { matcher := .paragraph (some S!"Code") none none,
          path := .elements [ { name := S!"pre", attrs := [(S!"class", S!"code <x>")], collapsible := true,
                                separator := some S!"\n" } ] },
        { matcher := .bold, path := .elements [ { name := S!"b", collapsible := true } ] },
        { matcher := .commentReference, path := .elements [pathElem S!"sup" false] } ],
    idPrefix := S!"doc-\"1\"-",
    imageConv := .fixed [(S!"src", S!"a&b.png"), (S!"class", S!"im\"g")] false }

def c02_exDoc : Document :=
  { children :=
      [ .paragraph { styleId := some S!"Code" } [.text S!"if a < b && c:"],
        .paragraph { styleId := some S!"Code" } [.text S!"  print(\"<&>\")"],
        .paragraph {} [ .bookmark (some S!"top\"><"), .run { bold := true } [.text S!"x"],
                        .run { bold := true } [.text S!"y", .noteRef S!"footnote" S!"1"],
                        .hyperlink { href := some S!"http://e.x/?a=1&b=\"2\"" } [.text S!"link"],
                        .image { altText := some S!"<alt>", src := .linked S!"z.png" },
                        .commentRef S!"c\"0" ],
        .table none none [ .row false [.cell 2 1 false [.paragraph {} [.text S!"cell"]]] ] ],
    notes := [ { ty := S!"footnote", id := S!"1", body := [.paragraph {} [.text S!"note & more"]] } ],
    comments := [ { id := S!"c\"0", body := [.paragraph {} [.text S!"why?"]], authorInitials := some S!"<A>" } ] }


example : c02_plainCfg c02_exCfg = true := by decide +kernel

set_option maxRecDepth 100000 in
example : (convertDoc c02_exCfg c02_exDoc).map (fun r => render r.nodes) = .ok
    S!"<pre class=\"code &lt;x&gt;\">if a &lt; b &amp;&amp; c:\n  print(&quot;&lt;&amp;&gt;&quot;)</pre><p><a id=\"doc-&quot;1&quot;-top&quot;&gt;&lt;\"></a><b>xy<sup><a href=\"#doc-&quot;1&quot;-footnote-1\" id=\"doc-&quot;1&quot;-footnote-ref-1\">[1]</a></sup></b><a href=\"http://e.x/?a=1&amp;b=&quot;2&quot;\">link</a><img alt=\"&lt;alt&gt;\" class=\"im&quot;g\" src=\"a&amp;b.png\" /><sup><a href=\"#doc-&quot;1&quot;-comment-c&quot;0\" id=\"doc-&quot;1&quot;-comment-ref-c&quot;0\">[&lt;A&gt;1]</a></sup></p><table><tr><td colspan=\"2\"><p>cell</p></td></tr></table><ol><li id=\"doc-&quot;1&quot;-footnote-1\"><p>note &amp; more <a href=\"#doc-&quot;1&quot;-footnote-ref-1\">↑</a></p></li></ol><dl><dt id=\"doc-&quot;1&quot;-comment-c&quot;0\">Comment [&lt;A&gt;1]</dt><dd><p>why? <a href=\"#doc-&quot;1&quot;-comment-ref-c&quot;0\">↑</a></p></dd></dl>" := by
  decide +kernel

/-- the default style map (`options._default_style_map`, parsed by the model's DSL parser) and the
    default image converter have plain names: the theorems above apply to conversions with default
    options, for every document -/
theorem C02_default_cfg_plain (cfg : Cfg) (hs : cfg.styleMap = defaultStyleMap) (hi : cfg.imageConv = .dataUri) :
    c02_plainCfg cfg = true := by
  simp only [c02_plainCfg, c02_plainMap, hs, hi, c08_default_map_value, c02_plainConv, Bool.and_true]
  decide +kernel

-- `C02_convert_subst` on the example: all strings of the produced forest reversed
set_option maxRecDepth 100000 in
example : (convertDoc c02_exCfg c02_exDoc).map (fun r => c02_subOkOn (c02_Sub.uniform List.reverse) r.nodes)
    = .ok true := by decide +kernel

-- the hypothesis is needed: names from the style map and from the image converter are copied verbatim
example : (convertDoc { styleMap := [ { matcher := .bold, path := .elements [pathElem S!"b><script" false] } ] }
      { children := [.run { bold := true } [.text S!"x"]] }).map (fun r => render r.nodes)
    = .ok S!"<b><script>x</b><script>" := by decide +kernel
example : c02_plainCfg { styleMap := [ { matcher := .bold, path := .elements [pathElem S!"b><script" false] } ] }
    = false := by decide +kernel
example : (convertDoc { imageConv := .fixed [(S!"src=\"\" onerror", S!"alert(1)")] false }
      { children := [.image { src := .linked S!"z.png" }] }).map (fun r => render r.nodes)
    = .ok S!"<img src=\"\" onerror=\"alert(1)\" />" := by decide +kernel
example : c02_plainCfg { imageConv := .fixed [(S!"src=\"\" onerror", S!"alert(1)")] false } = false := by decide +kernel

/-- ... and the style-map language itself does NOT guarantee plain names: a backslash escapes any
    character inside a tag name, so `b => em\>\<script` is read as the tag name `em><script` (the
    real parser does the same; the output is `<p><em><script>1</em><script></p>`).  Plainness of the
    style map's names is a genuine hypothesis about the (trusted) options. -/
example : (readStyleMap S!"b => em\\>\\<script").1 =
    [ { matcher := .bold, path := .elements [ { name := S!"em><script", collapsible := true } ] } ] := by
  decide +kernel
example : c02_plainCfg { styleMap := (readStyleMap S!"b => em\\>\\<script").1 } = false := by decide +kernel

/-! ## 9. substitution in the document: text runs

`c02_mapDocText σ d` applies `σ` to the string of every text run (`documents.Text.value`) of the
body, of every note and of every comment of `d`; nothing else is touched.  Hypothesis on `σ`: a text
is empty iff its substitute is (no injectivity is needed: the converter never compares text).
NOT covered: the strings that end up in attribute values (link targets, anchor and bookmark names,
alt text, ids, `id_prefix`) — for those see `C02_convert_subst` (forest level) and the
counterexample at the end of this section — and style ids / style names, which the converter
legitimately inspects to choose the style mapping. -/

/-- The converter does not look at text: on the substituted document the conversion raises the same
    error, or succeeds with the same warnings, the same image-converter calls, the same I/O and the
    same note references, and a forest that differs from the original one only in the strings of
    its text leaves (`c02_BR`: equal after blanking every non-empty text). -/
theorem C02_convert_text_subst (σ : Str → Str) (hσ : ∀ s, (σ s).isEmpty = s.isEmpty) (cfg : Cfg)
    (d : Document) : c02_sameUpToText (convertDoc cfg d) (convertDoc cfg (c02_mapDocText σ d)) :=
  c02_convertDoc_mapText σ hσ cfg d

/-- Forests that differ only in the strings of their text leaves are written with the same shape;
    more precisely the written forests again differ only in the strings of their text leaves. -/
theorem C02_blank_render (ns ns' : List Node) (h : c02_BR ns ns') :
    c02_BR (collapse (stripEmpty ns)) (collapse (stripEmpty ns')) ∧
    c02_shape (collapse (stripEmpty ns')) = c02_shape (collapse (stripEmpty ns)) := by
  have e := fun ms => C02_render_forest_subst c02_blankSub c02_blankSub_textOk c02_blankSub_attrInj ms
  have h1 : c02_BR (collapse (stripEmpty ns)) (collapse (stripEmpty ns')) := by
    show c02_mapForest c02_blankSub _ = c02_mapForest c02_blankSub _
    rw [← e, ← e]
    exact congrArg (fun x => collapse (stripEmpty x)) h
  refine ⟨h1, ?_⟩
  rw [← c02_shape_map c02_blankSub (collapse (stripEmpty ns')), ← c02_shape_map c02_blankSub (collapse (stripEmpty ns))]
  exact congrArg c02_shape h1

/-- SUBSTITUTION INVARIANCE FOR TEXT RUNS, shape.  If the conversion of `d` succeeds, so does the
    conversion of the substituted document, with the same messages, and the written forests have the
    same shape. -/
theorem C02_convert_text_shape (σ : Str → Str) (hσ : ∀ s, (σ s).isEmpty = s.isEmpty) (cfg : Cfg)
    (d : Document) (r : ConvResult) (h : convertDoc cfg d = .ok r) :
    ∃ r', convertDoc cfg (c02_mapDocText σ d) = .ok r' ∧ r'.messages = r.messages ∧
      c02_shape (collapse (stripEmpty r'.nodes)) = c02_shape (collapse (stripEmpty r.nodes)) := by
  have hs := C02_convert_text_subst σ hσ cfg d
  rw [h] at hs
  cases h' : convertDoc cfg (c02_mapDocText σ d) with
  | error e => rw [h'] at hs; exact hs.elim
  | ok r' =>
    rw [h'] at hs
    exact ⟨r', rfl, hs.2.1, (C02_blank_render _ _ hs.1).2⟩

/-- SUBSTITUTION INVARIANCE FOR TEXT RUNS, written form.  With plain names in the options, both
    HTML results lex; the tags of the two token lists are literally the same (names, attribute
    names AND attribute values, order), and the skeletons (tags and places of text) are the same. -/
theorem C02_convert_text_written (σ : Str → Str) (hσ : ∀ s, (σ s).isEmpty = s.isEmpty) (cfg : Cfg)
    (hc : c02_plainCfg cfg = true) (d : Document) (r : ConvResult) (h : convertDoc cfg d = .ok r) :
    ∃ r' toks toks', convertDoc cfg (c02_mapDocText σ d) = .ok r' ∧
      c02_lexHtml (render r.nodes) = some toks ∧ c02_lexHtml (render r'.nodes) = some toks' ∧
      c02_tokMarkup toks' = c02_tokMarkup toks ∧ c02_skeleton toks' = c02_skeleton toks := by
  have hs := C02_convert_text_subst σ hσ cfg d
  rw [h] at hs
  cases h' : convertDoc cfg (c02_mapDocText σ d) with
  | error e => rw [h'] at hs; exact hs.elim
  | ok r' =>
    rw [h'] at hs
    have hb := (C02_blank_render _ _ hs.1).1
    have hp := c02_plainNames_render _ (C02_convert_plain_names cfg hc d r h)
    have hp' := c02_plainNames_render _ (C02_convert_plain_names cfg hc _ r' h')
    refine ⟨r', _, _, rfl, C02_lex_write _ hp, C02_lex_write _ hp', ?_, ?_⟩
    · have e := congrArg (fun x => c02_tokMarkup (c02_tokens x)) hb
      simp only [c02_blank, c02_tokens_map] at e
      rw [c02_tokMarkup_coalesce, c02_tokMarkup_coalesce]
      have idm : ∀ ts : List c02_Tok, c02_tokMarkup (ts.map (c02_mapTok c02_blankSub)) = c02_tokMarkup ts := by
        intro ts
        have ida : ∀ as : List (Str × Str), c02_mapAttrs c02_blankSub.attr as = as := by
          intro as
          induction as with
          | nil => rfl
          | cons kv r ih => obtain ⟨k, v⟩ := kv; simp only [c02_mapAttrs, ih]; rfl
        induction ts with
        | nil => rfl
        | cons t ts ih => cases t <;> simp [c02_tokMarkup, c02_mapTok, ih, ida]
      rw [idm, idm] at e
      exact e
    · have e := congrArg (fun x => c02_skeleton (c02_coalesce (c02_tokens x))) hb
      simp only [c02_blank, c02_tokens_map, c02_skeleton_coalesce_map c02_blankSub c02_blankSub_textOk] at e
      exact e

/-- the hostile replacement of section 6 keeps empty / non-empty apart -/
theorem c02_exSigma_ok (s : Str) : (c02_exSigma s).isEmpty = s.isEmpty := by
  cases s <;> simp [c02_exSigma]

set_option maxRecDepth 100000 in
example : (convertDoc c02_exCfg (c02_mapDocText c02_exSigma c02_exDoc)).map (fun r => render r.nodes) = .ok
    S!"<pre class=\"code &lt;x&gt;\">&quot;&gt;&lt;script&gt;if a &lt; b &amp;&amp; c:\n&quot;&gt;&lt;script&gt;  print(&quot;&lt;&amp;&gt;&quot;)</pre><p><a id=\"doc-&quot;1&quot;-top&quot;&gt;&lt;\"></a><b>&quot;&gt;&lt;script&gt;x&quot;&gt;&lt;script&gt;y<sup><a href=\"#doc-&quot;1&quot;-footnote-1\" id=\"doc-&quot;1&quot;-footnote-ref-1\">[1]</a></sup></b><a href=\"http://e.x/?a=1&amp;b=&quot;2&quot;\">&quot;&gt;&lt;script&gt;link</a><img alt=\"&lt;alt&gt;\" class=\"im&quot;g\" src=\"a&amp;b.png\" /><sup><a href=\"#doc-&quot;1&quot;-comment-c&quot;0\" id=\"doc-&quot;1&quot;-comment-ref-c&quot;0\">[&lt;A&gt;1]</a></sup></p><table><tr><td colspan=\"2\"><p>&quot;&gt;&lt;script&gt;cell</p></td></tr></table><ol><li id=\"doc-&quot;1&quot;-footnote-1\"><p>&quot;&gt;&lt;script&gt;note &amp; more <a href=\"#doc-&quot;1&quot;-footnote-ref-1\">↑</a></p></li></ol><dl><dt id=\"doc-&quot;1&quot;-comment-c&quot;0\">Comment [&lt;A&gt;1]</dt><dd><p>&quot;&gt;&lt;script&gt;why? <a href=\"#doc-&quot;1&quot;-comment-ref-c&quot;0\">↑</a></p></dd></dl>" := by
  decide +kernel

example : c02_sameUpToText (convertDoc c02_exCfg c02_exDoc) (convertDoc c02_exCfg (c02_mapDocText c02_exSigma c02_exDoc)) :=
  C02_convert_text_subst _ c02_exSigma_ok _ _

/-- the hypothesis is needed: blanking a non-empty run makes its paragraph disappear -/
example : (convertDoc {} { children := [.paragraph {} [.text S!"a"]] }).map (fun r => render r.nodes)
    = .ok S!"<p>a</p>" := by decide +kernel
example : (convertDoc {} (c02_mapDocText (fun _ => []) { children := [.paragraph {} [.text S!"a"]] })).map
    (fun r => render r.nodes) = .ok [] := by decide +kernel

/-! ### attribute strings: the document-level statement is FALSE as literally worded

An external link target `#pa` and the internal anchor `a` are different document strings, but with
`id_prefix = "p"` both become the attribute value `#pa`, so the two adjacent links collapse into
one.  Replacing the anchor name by another string (distinct originals still get distinct
substitutes) separates them: the nesting changes.  The real library does the same (checked:
`<p><a href="#pa">12</a></p>` versus `<p><a href="#pa">1</a><a href="#pb">2</a></p>`).  The forest
level theorem `C02_convert_subst` is the correct form: what must stay distinct are the attribute
VALUES of the produced forest. -/
def c02_cexAnchorDoc (anchor : Str) : Document :=
  { children := [ .paragraph {} [ .hyperlink { href := some S!"#pa" } [.run {} [.text S!"1"]],
                                  .hyperlink { anchor := some anchor } [.run {} [.text S!"2"]] ] ] }

example : (convertDoc { idPrefix := S!"p" } (c02_cexAnchorDoc S!"a")).map (fun r => render r.nodes)
    = .ok S!"<p><a href=\"#pa\">12</a></p>" := by decide +kernel
example : (convertDoc { idPrefix := S!"p" } (c02_cexAnchorDoc S!"b")).map (fun r => render r.nodes)
    = .ok S!"<p><a href=\"#pa\">1</a><a href=\"#pb\">2</a></p>" := by decide +kernel

/-- The tables extracted from the library that this property's theorems consume
    equal the validated copies in `Proofs/Pins.lean`. -/
theorem C02_tables_as_validated :
    (Generated.escapeTable = pin_escapeTable) ∧
    (Generated.voidTagNames = pin_voidTagNames) :=
  ⟨pins_escapeTable, pins_voidTagNames⟩

end Mammoth
