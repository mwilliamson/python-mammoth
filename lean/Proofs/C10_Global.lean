/-
  C10, the whole output forest: what is read off an output forest (`idsOf`, `hrefsOf`, `anchorsOf`, …), the
  "clean configuration" hypothesis, and the structural lemmas about these functions.
-/
import Proofs.C10_Convert
import Proofs.Strip
import Proofs.VisitPost
namespace Mammoth

/-! ### reading attributes off a forest -/

/-- every value the writer prints for attribute `k` of a tag (`attrString` prints every pair of the
    association list, so every pair with key `k` counts) -/
def c10_tagVals (k : Str) (t : Tag) : List Str :=
  (t.attrs.filter (fun kv => kv.1 == k)).map (·.2)

mutual
/-- all values of attribute `k` in a node, in document order (the element itself, then its children) -/
def valsOf (k : Str) : Node → List Str
  | .elem t cs => c10_tagVals k t ++ valsOfL k cs
  | _ => []
/-- all values of attribute `k` in a forest, in document order -/
def valsOfL (k : Str) : List Node → List Str
  | [] => []
  | c :: cs => valsOf k c ++ valsOfL k cs
end

/-- all values of attribute `id` in the forest, in document order -/
def idsOf (ns : List Node) : List Str := valsOfL S!"id" ns
/-- all values of attribute `href` in the forest, in document order -/
def hrefsOf (ns : List Node) : List Str := valsOfL S!"href" ns

/-- an element that carries both an `id` and an `href`: (id, href, text content) -/
def c10_tagAnchor (t : Tag) (cs : List Node) : List (Str × Str × Str) :=
  match c10_tagVals S!"id" t, c10_tagVals S!"href" t with
  | i :: _, h :: _ => [(i, h, textOfL cs)]
  | _, _ => []

mutual
def anchorsOfN : Node → List (Str × Str × Str)
  | .elem t cs => c10_tagAnchor t cs ++ anchorsOf cs
  | _ => []
/-- the elements of the forest that carry both an `id` and an `href` (these are the note and comment
    reference anchors), in document order, each as (id, href, text content) -/
def anchorsOf : List Node → List (Str × Str × Str)
  | [] => []
  | c :: cs => anchorsOfN c ++ anchorsOf cs
end

mutual
/-- every element that carries an `id` has content (so `strip_empty` keeps it) -/
def c10_idContent : Node → Bool
  | .elem t cs => ((c10_tagVals S!"id" t).isEmpty || hasContent (.elem t cs)) && c10_idContentL cs
  | _ => true
def c10_idContentL : List Node → Bool
  | [] => true
  | c :: cs => c10_idContent c && c10_idContentL cs
end

/-! ### the summary of a forest: (ids, hrefs, anchors, id-elements have content) -/

abbrev c10_Sum := List Str × List Str × List (Str × Str × Str) × Bool

def c10_sum (ns : List Node) : c10_Sum := (idsOf ns, hrefsOf ns, anchorsOf ns, c10_idContentL ns)
def c10_add (a b : c10_Sum) : c10_Sum :=
  (a.1 ++ b.1, a.2.1 ++ b.2.1, a.2.2.1 ++ b.2.2.1, a.2.2.2 && b.2.2.2)
def c10_zero : c10_Sum := ([], [], [], true)
/-- what the tag of an element contributes -/
def c10_tagSum (t : Tag) (cs : List Node) : c10_Sum :=
  (c10_tagVals S!"id" t, c10_tagVals S!"href" t, c10_tagAnchor t cs,
   (c10_tagVals S!"id" t).isEmpty || hasContent (.elem t cs))

@[simp] theorem c10_add_zero (a : c10_Sum) : c10_add a c10_zero = a := by
  simp [c10_add, c10_zero]
@[simp] theorem c10_zero_add (a : c10_Sum) : c10_add c10_zero a = a := by
  simp [c10_add, c10_zero]
theorem c10_add_assoc (a b c : c10_Sum) : c10_add (c10_add a b) c = c10_add a (c10_add b c) := by
  simp [c10_add, Bool.and_assoc]

theorem valsOfL_append (k : Str) (a b : List Node) : valsOfL k (a ++ b) = valsOfL k a ++ valsOfL k b := by
  induction a with
  | nil => simp [valsOfL]
  | cons x xs ih => simp [valsOfL, ih]

theorem anchorsOf_append (a b : List Node) : anchorsOf (a ++ b) = anchorsOf a ++ anchorsOf b := by
  induction a with
  | nil => simp [anchorsOf]
  | cons x xs ih => simp [anchorsOf, ih]

theorem c10_idContentL_append (a b : List Node) :
    c10_idContentL (a ++ b) = (c10_idContentL a && c10_idContentL b) :=
  andL_append rfl (fun _ _ => rfl) a b

theorem c10_sum_append (a b : List Node) : c10_sum (a ++ b) = c10_add (c10_sum a) (c10_sum b) := by
  simp [c10_sum, c10_add, idsOf, hrefsOf, valsOfL_append, anchorsOf_append, c10_idContentL_append]

@[simp] theorem c10_sum_nil : c10_sum [] = c10_zero := by
  simp [c10_sum, c10_zero, idsOf, hrefsOf, valsOfL, anchorsOf, c10_idContentL]

theorem c10_sum_elem (t : Tag) (cs : List Node) :
    c10_sum [.elem t cs] = c10_add (c10_tagSum t cs) (c10_sum cs) := by
  simp [c10_sum, c10_add, c10_tagSum, idsOf, hrefsOf, valsOfL, valsOf, anchorsOf, anchorsOfN, c10_idContentL,
    c10_idContent]

theorem c10_sum_cons (n : Node) (ns : List Node) : c10_sum (n :: ns) = c10_add (c10_sum [n]) (c10_sum ns) :=
  c10_sum_append [n] ns

@[simp] theorem c10_sum_text (s : Str) : c10_sum [.text s] = c10_zero := by
  simp [c10_sum, c10_zero, idsOf, hrefsOf, valsOfL, valsOf, anchorsOf, anchorsOfN, c10_idContentL, c10_idContent]
@[simp] theorem c10_sum_fw : c10_sum [.forceWrite] = c10_zero := by
  simp [c10_sum, c10_zero, idsOf, hrefsOf, valsOfL, valsOf, anchorsOf, anchorsOfN, c10_idContentL, c10_idContent]
@[simp] theorem c10_sum_fw_cons (ns : List Node) : c10_sum (.forceWrite :: ns) = c10_sum ns := by
  rw [c10_sum_cons]; simp
@[simp] theorem c10_sum_text_cons (s : Str) (ns : List Node) : c10_sum (.text s :: ns) = c10_sum ns := by
  rw [c10_sum_cons]; simp

/-! ### clean tags: no `id`, no `href` -/

/-- an attribute list that mentions neither `id` nor `href` -/
def c10_cleanAttrs (as : List (Str × Str)) : Bool :=
  as.all (fun kv => kv.1 != S!"id" && kv.1 != S!"href")
def c10_cleanTag (t : Tag) : Bool := c10_cleanAttrs t.attrs
def c10_cleanPath : HtmlPath → Bool
  | .elements es => es.all c10_cleanTag
  | .ignore => true
/-- THE hypothesis of the global theorems: no HTML path of the style map writes an `id` or `href`
    attribute, and neither does the image converter.  (Then every `id` in the output is the converter's.) -/
def c10_cleanCfg (cfg : Cfg) : Bool :=
  cfg.styleMap.all (fun s => c10_cleanPath s.path) &&
  (match cfg.imageConv with
   | .dataUri => true
   | .fixed attrs _ => c10_cleanAttrs attrs)

theorem c10_tagVals_clean (t : Tag) (h : c10_cleanTag t = true) :
    c10_tagVals S!"id" t = [] ∧ c10_tagVals S!"href" t = [] := by
  unfold c10_cleanTag c10_cleanAttrs at h
  simp only [List.all_eq_true, Bool.and_eq_true, bne_iff_ne, ne_eq] at h
  simp only [c10_tagVals, List.map_eq_nil_iff, List.filter_eq_nil_iff, beq_iff_eq]
  exact ⟨fun kv hkv => (h kv hkv).1, fun kv hkv => (h kv hkv).2⟩

theorem c10_tagSum_clean (t : Tag) (cs : List Node) (h : c10_cleanTag t = true) :
    c10_tagSum t cs = c10_zero := by
  obtain ⟨h1, h2⟩ := c10_tagVals_clean t h
  simp [c10_tagSum, c10_tagAnchor, h1, h2, c10_zero]

theorem c10_sum_cleanElem (t : Tag) (cs : List Node) (h : c10_cleanTag t = true) :
    c10_sum [.elem t cs] = c10_sum cs := by
  rw [c10_sum_elem, c10_tagSum_clean t cs h, c10_zero_add]

theorem c10_cleanAttrs_append (a b : List (Str × Str)) :
    c10_cleanAttrs (a ++ b) = (c10_cleanAttrs a && c10_cleanAttrs b) := by
  simp [c10_cleanAttrs, List.all_append]

theorem c10_cleanAttrs_cons (k v : Str) (xs : List (Str × Str)) :
    c10_cleanAttrs ((k, v) :: xs) = ((k != S!"id" && k != S!"href") && c10_cleanAttrs xs) := rfl

theorem c10_cleanAttrs_insert (k v : Str) (d : Dict Str) (hk : (k != S!"id" && k != S!"href") = true)
    (hd : c10_cleanAttrs d = true) : c10_cleanAttrs (Dict.insert k v d) = true := by
  induction d with
  | nil => rw [Dict.insert, c10_cleanAttrs_cons, hk]; rfl
  | cons x xs ih =>
    obtain ⟨k', v'⟩ := x
    rw [c10_cleanAttrs_cons, Bool.and_eq_true] at hd
    rw [Dict.insert]
    split
    · rw [c10_cleanAttrs_cons, hk, hd.2]; rfl
    · split
      · rw [c10_cleanAttrs_cons, c10_cleanAttrs_cons, hk, hd.1, hd.2]; rfl
      · rw [c10_cleanAttrs_cons, hd.1, ih hd.2]; rfl

theorem c10_cleanAttrs_foldl (kvs : List (Str × Str)) (d : Dict Str) (hk : c10_cleanAttrs kvs = true)
    (hd : c10_cleanAttrs d = true) :
    c10_cleanAttrs (kvs.foldl (fun d kv => Dict.insert kv.1 kv.2 d) d) = true := by
  induction kvs generalizing d with
  | nil => exact hd
  | cons x xs ih =>
    obtain ⟨k, v⟩ := x
    rw [c10_cleanAttrs_cons, Bool.and_eq_true] at hk
    exact ih _ hk.2 (c10_cleanAttrs_insert k v d hk.1 hd)

theorem c10_cleanAttrs_ofList (kvs : List (Str × Str)) (hk : c10_cleanAttrs kvs = true) :
    c10_cleanAttrs (Dict.ofList kvs) = true :=
  c10_cleanAttrs_foldl kvs [] hk rfl

/-- an `el` / `cel` whose attribute list is clean contributes nothing itself -/
theorem c10_sum_el (name : Str) (attrs : List (Str × Str)) (cs : List Node)
    (h : c10_cleanAttrs attrs = true) : c10_sum [el name attrs cs] = c10_sum cs :=
  c10_sum_cleanElem _ _ (c10_cleanAttrs_ofList attrs h)
theorem c10_sum_cel (name : Str) (attrs : List (Str × Str)) (cs : List Node)
    (h : c10_cleanAttrs attrs = true) : c10_sum [cel name attrs cs] = c10_sum cs :=
  c10_sum_cleanElem _ _ (c10_cleanAttrs_ofList attrs h)

theorem c10_sum_wrapElems (es : List Tag) (ns : List Node) (h : es.all c10_cleanTag = true) :
    c10_sum (wrapElems es ns) = c10_sum ns := by
  induction es with
  | nil => rfl
  | cons t ts ih =>
    simp only [List.all_cons, Bool.and_eq_true] at h
    simp only [wrapElems]
    rw [c10_sum_cleanElem _ _ h.1, ih h.2]

theorem c10_sum_wrapAll (ps : List HtmlPath) (h : ps.all c10_cleanPath = true) (ns : List Node) :
    c10_sum (wrapAll ps ns) = if ps.any HtmlPath.isIgnore then c10_zero else c10_sum ns := by
  induction ps generalizing ns with
  | nil => simp [wrapAll]
  | cons p ps ih =>
    simp only [List.all_cons, Bool.and_eq_true] at h
    cases p with
    | ignore =>
      simp only [wrapAll, List.any_cons, HtmlPath.isIgnore, Bool.true_or, if_true]
      rw [ih h.2]; simp
    | elements es =>
      simp only [wrapAll, List.any_cons, HtmlPath.isIgnore, Bool.false_or]
      rw [ih h.2, c10_sum_wrapElems es ns (by simpa [c10_cleanPath] using h.1)]

/-! ### the paths the style map can yield are clean -/

theorem c10_findPath_clean (cfg : Cfg) (hc : c10_cleanCfg cfg = true) (t : Target) (p : HtmlPath)
    (h : findPath cfg t = some p) : c10_cleanPath p = true := by
  obtain ⟨s, hs, rfl⟩ := findPath_mem h
  simp only [c10_cleanCfg, Bool.and_eq_true, List.all_eq_true] at hc
  exact hc.1 s hs

theorem c10_path_clean (cfg : Cfg) (hc : c10_cleanCfg cfg = true) (t : Target) (d : HtmlPath)
    (hd : c10_cleanPath d = true) : c10_cleanPath (c01_path cfg t d) = true := by
  unfold c01_path
  cases h : findPath cfg t with
  | none => simpa using hd
  | some p => simpa using c10_findPath_clean cfg hc t p h

theorem c10_runPropPaths_clean (cfg : Cfg) (hc : c10_cleanCfg cfg = true) (r : RunProps) :
    (runPropPaths cfg r).all c10_cleanPath = true :=
  List.all_eq_true.mpr (runPropPaths_cases (c10_findPath_clean cfg hc _ _) (fun _ => rfl) rfl r)

theorem c10_runPaths_clean (cfg : Cfg) (hc : c10_cleanCfg cfg = true) (r : RunProps) :
    (c01_runPaths cfg r).all c10_cleanPath = true := by
  unfold c01_runPaths
  simp only [List.all_append, Bool.and_eq_true, List.all_cons, List.all_nil, Bool.and_true]
  exact ⟨c10_runPropPaths_clean cfg hc r, c10_path_clean cfg hc _ _ rfl⟩

end Mammoth

