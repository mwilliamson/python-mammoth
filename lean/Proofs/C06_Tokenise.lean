/-
  C06_Tokenise — the tokeniser on the printed text of a mapping gives back the intended tokens.
-/
import Proofs.C06_Lex
import Proofs.C07_Lexer
namespace Mammoth

def c06_symbols : List Str :=
  [[':'], ['>'], ['=', '>'], ['^', '='], ['='], ['('], [')'], ['['], [']'], ['|'], ['!'], ['.']]

def c06_headNe (p : Char → Bool) : Str → Bool
  | [] => true
  | c :: _ => !p c

theorem c06_lexOne_id (s rest : Str) (hs : s ≠ []) (h : c06_stop rest = true) :
    lexOne (c06_printIdent s ++ rest) = some (c06_id s, rest) := by
  unfold lexOne
  rw [c06_lexIdent_print s rest hs h]
  rfl

theorem c06_lexIdent_none (c : Char) (X : Str) (h1 : c ≠ '\\') (h2 : isIdentStart c = false) :
    lexIdent (c :: X) = none := by
  rw [lexIdent.eq_2 c X (fun _ _ e _ => h1 e), if_neg (by simp [h2])]

theorem c06_lexSymbol_eq (c : Char) (cs : Str) (h : c ≠ '>') :
    lexSymbol ('=' :: c :: cs) = some (['='], c :: cs) :=
  lexSymbol.eq_5 (c :: cs) (fun _ e => h (List.cons.inj e).1)

theorem c06_lexSymbol_digit (d : Char) (X : Str) (hdd : isDigit d = true) : lexSymbol (d :: X) = none := by
  rw [lexSymbol.eq_def]
  split
  case h_13 => rfl
  all_goals (rename_i heq; cases heq; cases hdd)

theorem c06_lexSymbol_of (v rest : Str) (hv : v ∈ c06_symbols)
    (h : v = ['='] → c06_headNe (· == '>') rest = true) :
    lexIdent (v ++ rest) = none ∧ lexSymbol (v ++ rest) = some (v, rest) := by
  simp only [c06_symbols, List.mem_cons, List.not_mem_nil, or_false] at hv
  rcases hv with rfl | rfl | rfl | rfl | rfl | rfl | rfl | rfl | rfl | rfl | rfl | rfl
  case inr.inr.inr.inr.inl =>
    refine ⟨c06_lexIdent_none _ _ (by decide) (by decide), ?_⟩
    have h' := h rfl
    cases rest with
    | nil => rfl
    | cons c cs =>
      simp only [c06_headNe, Bool.not_eq_true', beq_eq_false_iff_ne] at h'
      exact c06_lexSymbol_eq c cs h'
  all_goals exact ⟨c06_lexIdent_none _ _ (by decide) (by decide), rfl⟩

theorem c06_lexOne_sym (v rest : Str) (hv : v ∈ c06_symbols)
    (h : v = ['='] → c06_headNe (· == '>') rest = true) :
    lexOne (v ++ rest) = some (c06_sym v, rest) := by
  obtain ⟨h1, h2⟩ := c06_lexSymbol_of v rest hv h
  unfold lexOne
  rw [h1, h2]
  rfl

theorem c06_lexOne_sp (rest : Str) (h : c06_headNe isSpace rest = true) :
    lexOne (' ' :: rest) = some (c06_sp, rest) := by
  have hw := c06_lexWs_blank rest (by
    intro c t e; subst e; simpa [c06_headNe] using h)
  have h1 : lexIdent (' ' :: rest) = none := c06_lexIdent_none _ _ (by decide) (by decide)
  have h2 : lexSymbol (' ' :: rest) = none := by simp [lexSymbol]
  unfold lexOne
  rw [h1, h2, hw]
  rfl

theorem c06_lexOne_str (s rest : Str) :
    lexOne (c06_printString s ++ rest) = some (c06_str s, rest) := by
  have h4 := c06_lexString_print s rest
  simp only [c06_printString, List.cons_append] at h4 ⊢
  have h1 : ∀ X, lexIdent ('\'' :: X) = none := fun X => c06_lexIdent_none _ _ (by decide) (by decide)
  have h2 : ∀ X, lexSymbol ('\'' :: X) = none := by intro X; simp [lexSymbol]
  have h3 : ∀ X, lexWs ('\'' :: X) = none := by intro X; simp [lexWs, spanP, isSpace]
  unfold lexOne
  rw [h1, h2, h3, h4]
  rfl

theorem c06_lexOne_int (ds rest : Str) (hne : ds ≠ []) (hd : ∀ c ∈ ds, isDigit c = true)
    (hr : c06_headNe isDigit rest = true) :
    lexOne (ds ++ rest) = some (⟨.integer, ds⟩, rest) := by
  have hI := c06_lexInt_digits ds rest hne hd (by intro c t e; subst e; simpa [c06_headNe] using hr)
  cases ds with
  | nil => exact absurd rfl hne
  | cons d ds =>
    have hdd := hd d (List.mem_cons_self)
    obtain ⟨hsp, hid⟩ := c06_digit_facts d hdd
    have hbs : d ≠ '\\' := by intro e; subst e; revert hdd; decide
    have h1 : lexIdent (d :: (ds ++ rest)) = none := c06_lexIdent_none _ _ hbs hid
    have h2 : lexSymbol (d :: (ds ++ rest)) = none := c06_lexSymbol_digit _ _ hdd
    have h3 : lexWs (d :: (ds ++ rest)) = none := by simp [lexWs, spanP, hsp]
    have hq : d ≠ '\'' := by intro e; subst e; revert hdd; decide
    have h4 := c07_lexString_other (d :: (ds ++ rest)) (fun cs e => hq (List.cons.inj e).1)
    simp only [List.cons_append] at hI ⊢
    unfold lexOne
    rw [h1, h2, h3, h4, hI]

/-- every token of the list is what the tokeniser produces at its position, when the list's text
    is followed by `rest` -/
def c06_chain : List Token → Str → Prop
  | [], _ => True
  | t :: ts, rest =>
    t.val ≠ [] ∧ lexOne (t.val ++ (c06_text ts ++ rest)) = some (t, c06_text ts ++ rest) ∧ c06_chain ts rest

theorem c06_text_append (a b : List Token) : c06_text (a ++ b) = c06_text a ++ c06_text b := by
  induction a with
  | nil => rfl
  | cons t ts ih => simp [c06_text, ih]

theorem c06_chain_append (a b : List Token) (rest : Str) (ha : c06_chain a (c06_text b ++ rest))
    (hb : c06_chain b rest) : c06_chain (a ++ b) rest := by
  induction a with
  | nil => simpa using hb
  | cons t ts ih =>
    obtain ⟨h1, h2, h3⟩ := ha
    refine ⟨h1, ?_, ih h3⟩
    simpa [c06_text_append, List.append_assoc] using h2

theorem c06_tokeniseFuel_chain (ts : List Token) : ∀ (f : Nat), (c06_text ts).length ≤ f →
    c06_chain ts [] → tokeniseFuel f (c06_text ts) = some (ts ++ [c06_end]) := by
  induction ts with
  | nil => intro f _ _; simp [c06_text, tokeniseFuel, c06_end]
  | cons t ts ih =>
    intro f hf hc
    obtain ⟨h1, h2, h3⟩ := hc
    simp only [List.append_nil] at h2
    simp only [c06_text, List.length_append] at hf
    have hl : 0 < t.val.length := List.length_pos_iff.mpr h1
    cases f with
    | zero => omega
    | succ f =>
      have := ih f (by omega) h3
      cases hv : t.val ++ c06_text ts with
      | nil => simp at hv; exact absurd hv.1 h1
      | cons c cs =>
        rw [hv] at h2
        simp only [c06_text, hv, tokeniseFuel, h2, this]
        simp

end Mammoth
