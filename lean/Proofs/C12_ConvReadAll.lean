/-
  C12 (conversion) — `read_all`, the note reader and the comment reader under the two environments of
  `Proofs/C12_ConvRead.lean`.
-/
import Proofs.C12_ConvRead
namespace Mammoth

theorem c12_readAllWith_ag {chk : Bool} {env : REnv} (rd' rd : c05_Rd)
    (hrd : ∀ st n, c12_useOk chk env n = true → c12_useOkL chk env st.deleted = true →
      c12_ag (c12_I chk env) (rd' st n) (rd st n)) :
    ∀ (ns : List XmlNode) (st : RState), c12_useOkL chk env ns = true → c12_useOkL chk env st.deleted = true →
      c12_ag (c12_I chk env) (readAllWith rd' st ns) (readAllWith rd st ns)
  | [], st, _, hd => by simp only [readAllWith]; exact c12_ag_ok _ hd
  | .text _ :: rest, st, hs, hd => by
    simp only [readAllWith]
    simp only [c12_useOkL, Bool.and_eq_true] at hs
    exact c12_readAllWith_ag rd' rd hrd rest st hs.2 hd
  | .elem n as cs :: rest, st, hs, hd => by
    simp only [readAllWith]
    simp only [c12_useOkL, Bool.and_eq_true] at hs
    refine c12_ag_bind (hrd _ _ hs.1 hd) (fun a ha => ?_)
    refine c12_ag_bind (c12_readAllWith_ag rd' rd hrd rest _ hs.2 ha) (fun b hb => ?_)
    exact c12_ag_ok _ hb

theorem c12_readElem_ag {chk : Bool} {env : REnv} {rels' : Rels} {ct' : ContentTypes}
    (hs : c12_EnvSim chk env rels' ct') :
    ∀ (f : Nat) (st : RState) (n : XmlNode), c12_useOk chk env n = true → c12_useOkL chk env st.deleted = true →
      c12_ag (c12_I chk env) (readElem (c12_reenv env rels' ct') f st n) (readElem env f st n)
  | f, st, .text s, _, hd => by rw [c05_readElem_text, c05_readElem_text]; exact c12_ag_ok _ hd
  | 0, st, .elem name as cs, _, _ => by
    rw [c05_readElem_zero, c05_readElem_zero]; exact c12_ag_err _
  | f+1, st, .elem name as cs, hu, hd => by
    simp only [c12_useOk, Bool.and_eq_true] at hu
    cases hg : handlerOf name with
    | none =>
      rw [c05_readElem_unhandled _ _ _ _ _ hg, c05_readElem_unhandled _ _ _ _ _ hg, readUnhandled]
      split <;> exact c12_ag_ok _ hd
    | some h =>
      obtain ⟨k, rfl⟩ := handlerOf_known hg
      rw [c05_readElem_handler _ _ _ _ _ k hg, c05_readElem_handler _ _ _ _ _ k hg]
      exact c12_readHandler_ag hs _ _
        (fun st ns h1 h2 => c12_readAllWith_ag _ _ (c12_readElem_ag hs f) ns st h1 h2)
        st as cs k (c12_elemOk_handler hg ▸ hu.1) hu.2 hd

/-- `read_all` gives the same result under both environments -/
theorem c12_readAll_ag {chk : Bool} {env : REnv} {rels' : Rels} {ct' : ContentTypes}
    (hs : c12_EnvSim chk env rels' ct') (fuel : Nat) (st : RState) (ns : List XmlNode)
    (hns : c12_useOkL chk env ns = true) (hd : c12_useOkL chk env st.deleted = true) :
    c12_ag (c12_I chk env) (readAll (c12_reenv env rels' ct') fuel st ns) (readAll env fuel st ns) :=
  c12_readAllWith_ag _ _ (c12_readElem_ag hs fuel) ns st hns hd

/-- the children of every listed element are fine -/
def c12_elemsOk (chk : Bool) (env : REnv) (xs : List (Attrs × List XmlNode)) : Bool :=
  xs.all fun x => c12_useOkL chk env x.2

theorem c12_elemsOk_findChildren (chk : Bool) (env : REnv) (name : Str) (cs : List XmlNode)
    (h : c12_useOkL chk env cs = true) : c12_elemsOk chk env (findChildren name cs) = true := by
  unfold c12_elemsOk
  induction cs with
  | nil => simp [findChildren]
  | cons c cs ih =>
    simp only [c12_useOkL, Bool.and_eq_true] at h
    cases c with
    | text s => simp only [findChildren]; exact ih h.2
    | elem n as ccs =>
      simp only [findChildren]
      have h1 := h.1
      simp only [c12_useOk, Bool.and_eq_true] at h1
      split
      · simp only [List.all_cons, Bool.and_eq_true]; exact ⟨h1.2, ih h.2⟩
      · exact ih h.2

theorem c12_elemsOk_filter (chk : Bool) (env : REnv) (q : Attrs × List XmlNode → Bool)
    (xs : List (Attrs × List XmlNode)) (h : c12_elemsOk chk env xs = true) :
    c12_elemsOk chk env (xs.filter q) = true := by
  unfold c12_elemsOk at h ⊢
  rw [List.all_eq_true] at h ⊢
  exact fun x hx => h x (List.mem_filter.mp hx).1

theorem c12_readNoteElems_eq {chk : Bool} {env : REnv} {rels' : Rels} {ct' : ContentTypes}
    (hs : c12_EnvSim chk env rels' ct') (fuel : Nat) (ty : Str) :
    ∀ (xs : List (Attrs × List XmlNode)) (st : RState), c12_elemsOk chk env xs = true →
      c12_useOkL chk env st.deleted = true →
      readNoteElems (c12_reenv env rels' ct') fuel ty st xs = readNoteElems env fuel ty st xs
  | [], st, _, _ => by simp only [readNoteElems]
  | (as, cs) :: rest, st, hx, hd => by
    simp only [c12_elemsOk, List.all_cons, Bool.and_eq_true] at hx
    simp only [readNoteElems, bind, Except.bind]
    obtain ⟨he, hI⟩ := c12_readAll_ag hs fuel st cs hx.1 hd
    rw [he]
    cases hr : readAll env fuel st cs with
    | error e => simp only
    | ok a =>
      have := c12_readNoteElems_eq hs fuel ty rest a.2 hx.2 (hI a hr)
      simp only
      rw [this]

theorem c12_readCommentElems_eq {chk : Bool} {env : REnv} {rels' : Rels} {ct' : ContentTypes}
    (hs : c12_EnvSim chk env rels' ct') (fuel : Nat) :
    ∀ (xs : List (Attrs × List XmlNode)) (st : RState), c12_elemsOk chk env xs = true →
      c12_useOkL chk env st.deleted = true →
      readCommentElems (c12_reenv env rels' ct') fuel st xs = readCommentElems env fuel st xs
  | [], st, _, _ => by simp only [readCommentElems]
  | (as, cs) :: rest, st, hx, hd => by
    simp only [c12_elemsOk, List.all_cons, Bool.and_eq_true] at hx
    simp only [readCommentElems, bind, Except.bind]
    obtain ⟨he, hI⟩ := c12_readAll_ag hs fuel st cs hx.1 hd
    rw [he]
    cases hr : readAll env fuel st cs with
    | error e => simp only
    | ok a =>
      have := c12_readCommentElems_eq hs fuel rest a.2 hx.2 (hI a hr)
      simp only
      rw [this]

end Mammoth
