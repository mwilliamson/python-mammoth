/-
  C09 (conversion side) — helper lemmas about the table cases of `visit`.
-/
import MammothModel.Reader
import Proofs.Basics
namespace Mammoth

theorem c09_bodyIndex_eq (rows : List Elem) :
    bodyIndex rows = (rows.takeWhile isHeaderRow).length := by
  induction rows with
  | nil => rfl
  | cons r rs ih =>
    by_cases h : isHeaderRow r = true
    · simp [bodyIndex, h, ih]; omega
    · simp [bodyIndex, h]

theorem c09_take_bodyIndex (rows : List Elem) :
    rows.take (bodyIndex rows) = rows.takeWhile isHeaderRow := by
  induction rows with
  | nil => rfl
  | cons r rs ih =>
    by_cases h : isHeaderRow r = true
    · simp [bodyIndex, h, Nat.add_comm 1, ih]
    · simp [bodyIndex, h]

theorem c09_drop_bodyIndex (rows : List Elem) :
    rows.drop (bodyIndex rows) = rows.dropWhile isHeaderRow := by
  induction rows with
  | nil => rfl
  | cons r rs ih =>
    by_cases h : isHeaderRow r = true
    · simp [bodyIndex, h, Nat.add_comm 1, ih]
    · simp [bodyIndex, h]

theorem c09_visit_cell (cfg : Cfg) (hdr : Bool) (colspan rowspan : Nat) (vm : Bool) (cs : List Elem) :
    visit cfg hdr (.cell colspan rowspan vm cs) =
      (do let ns ← visitAll cfg hdr cs
          pure [el (if hdr then S!"th" else S!"td") (cellAttrs colspan rowspan) (.forceWrite :: ns)]) := by
  rw [visit]

theorem c09_visit_row (cfg : Cfg) (hdr h : Bool) (cells : List Elem) :
    visit cfg hdr (.row h cells) =
      (do let ns ← visitAll cfg hdr cells
          pure [el S!"tr" [] (.forceWrite :: ns)]) := by
  rw [visit]

theorem c09_visit_table (cfg : Cfg) (hdr : Bool) (sid sname : Option Str) (rows : List Elem) :
    visit cfg hdr (.table sid sname rows) =
      (match (findPath cfg (.table sid sname)).getD (.elements [pathElem S!"table" true]) with
       | .ignore => pure []
       | .elements es => do
         let (head, body) ← visitRows cfg true rows
         pure (wrapElems es (.forceWrite ::
           (if bodyIndex rows == 0 then body else [el S!"thead" [] head, el S!"tbody" [] body])))) := by
  rw [visit]
  rfl

theorem c09_visitAll_nil (cfg : Cfg) (hdr : Bool) : visitAll cfg hdr [] = pure [] := by
  rw [visitAll]

theorem c09_visitAll_cons (cfg : Cfg) (hdr : Bool) (e : Elem) (es : List Elem) :
    visitAll cfg hdr (e :: es) =
      (do let a ← visit cfg hdr e
          let b ← visitAll cfg hdr es
          pure (a ++ b)) := by
  rw [visitAll]

/-- outside the head part every row is a body row -/
theorem c09_visitRows_false (cfg : Cfg) (rows : List Elem) :
    visitRows cfg false rows = (do let b ← visitAll cfg false rows; pure ([], b)) := by
  induction rows with
  | nil => rw [visitRows, visitAll]; simp
  | cons r rs ih =>
    rw [visitRows, visitAll]
    simp [ih]

/-- `visitRows` visits the leading header rows with the header flag and the others without -/
theorem c09_visitRows_true (cfg : Cfg) (rows : List Elem) :
    visitRows cfg true rows =
      (do let h ← visitAll cfg true (rows.take (bodyIndex rows))
          let b ← visitAll cfg false (rows.drop (bodyIndex rows))
          pure (h, b)) := by
  induction rows with
  | nil => rw [visitRows]; simp [bodyIndex, c09_visitAll_nil]
  | cons r rs ih =>
    rw [visitRows]
    by_cases h : isHeaderRow r = true
    · simp [h, bodyIndex, Nat.add_comm 1, ih, c09_visitAll_cons]
    · simp [h, bodyIndex, c09_visitRows_false, c09_visitAll_cons, c09_visitAll_nil]


/-! ### successful runs: inversion of `>>=` and the shape of the emitted nodes -/

/-- pointwise relation between two lists of the same length (core has no `List.Forall₂`) -/
inductive c09_Forall2 {α β} (R : α → β → Prop) : List α → List β → Prop where
  | nil : c09_Forall2 R [] []
  | cons {a b as bs} : R a b → c09_Forall2 R as bs → c09_Forall2 R (a :: as) (b :: bs)

theorem c09_Forall2.length_eq {α β} {R : α → β → Prop} {as : List α} {bs : List β}
    (h : c09_Forall2 R as bs) : as.length = bs.length := by
  induction h with
  | nil => rfl
  | cons _ _ ih => simp [ih]

theorem c09_Forall2.get {α β} {R : α → β → Prop} {as : List α} {bs : List β}
    (h : c09_Forall2 R as bs) : ∀ (i : Nat) (a : α), as[i]? = some a → ∃ b, bs[i]? = some b ∧ R a b := by
  induction h with
  | nil => intro i a h; cases h
  | cons hab _ ih =>
    intro i a h
    cases i with
    | zero => cases h; exact ⟨_, rfl, hab⟩
    | succ i => exact ih i a h

/-- the element emitted for one table cell, given the nodes of its content -/
def c09_cellNode (hdr : Bool) (colspan rowspan : Nat) (ns : List Node) : Node :=
  el (if hdr then S!"th" else S!"td") (cellAttrs colspan rowspan) (.forceWrite :: ns)

/-- the element emitted for one table row, given the nodes of its cells -/
def c09_rowNode (ns : List Node) : Node := el S!"tr" [] (.forceWrite :: ns)

/-- `n` is the `th`/`td` element of the cell `e` (some content `ns`) -/
def c09_cellRel (hdr : Bool) (e : Elem) (n : Node) : Prop :=
  ∃ c r vm cs ns, e = .cell c r vm cs ∧ n = c09_cellNode hdr c r ns

/-- `n` is the `tr` element of the row `e`: one cell element per cell, in order -/
def c09_rowRel (hdr : Bool) (e : Elem) (n : Node) : Prop :=
  ∃ h cells ns, e = .row h cells ∧ n = c09_rowNode ns ∧ c09_Forall2 (c09_cellRel hdr) cells ns

theorem c09_isCell_eq {e : Elem} (h : isCell e = true) : ∃ c r vm cs, e = .cell c r vm cs := by
  unfold isCell at h
  split at h
  · exact ⟨_, _, _, _, rfl⟩
  · cases h

theorem c09_isRow_eq {e : Elem} (h : isRow e = true) : ∃ hh cells, e = .row hh cells := by
  unfold isRow at h
  split at h
  · exact ⟨_, _, rfl⟩
  · cases h

theorem c09_visitAll_forall2 {cfg : Cfg} {hdr : Bool} {R : Elem → Node → Prop} (es : List Elem)
    (hv : ∀ e ∈ es, ∀ s s' a, (visit cfg hdr e).run s = .ok (a, s') → ∃ n, a = [n] ∧ R e n) :
    ∀ (s s' : ConvState) (ns : List Node), (visitAll cfg hdr es).run s = .ok (ns, s') →
      c09_Forall2 R es ns := by
  induction es with
  | nil =>
    intro s s' ns h
    rw [c09_visitAll_nil, run_pure_ok] at h
    rw [← h.1]; exact .nil
  | cons e es ih =>
    intro s s' ns h
    rw [c09_visitAll_cons, run_bind_ok] at h
    obtain ⟨a, s1, h1, h⟩ := h
    rw [run_bind_ok] at h
    obtain ⟨b, s2, h2, h⟩ := h
    rw [run_pure_ok] at h
    obtain ⟨n, rfl, hn⟩ := hv e List.mem_cons_self s s1 a h1
    rw [← h.1]
    exact .cons hn (ih (fun e' he' => hv e' (List.mem_cons_of_mem _ he')) s1 s2 b h2)

theorem c09_visitAll_cells (cfg : Cfg) (hdr : Bool) (cells : List Elem) (hc : cells.all isCell = true) :
    ∀ (s s' : ConvState) (ns : List Node), (visitAll cfg hdr cells).run s = .ok (ns, s') →
      c09_Forall2 (c09_cellRel hdr) cells ns := by
  refine c09_visitAll_forall2 cells fun e he s s' a h => ?_
  obtain ⟨c, r, vm, cs, rfl⟩ := c09_isCell_eq (List.all_eq_true.mp hc e he)
  rw [c09_visit_cell, run_bind_ok] at h
  obtain ⟨cn, s0, _, h⟩ := h
  rw [run_pure_ok] at h
  exact ⟨_, h.1.symm, c, r, vm, cs, cn, rfl, rfl⟩

theorem c09_visitAll_rows (cfg : Cfg) (hdr : Bool) (rows : List Elem)
    (hr : rows.all (fun r => isRow r && (rowCells r).all isCell) = true) :
    ∀ (s s' : ConvState) (ns : List Node), (visitAll cfg hdr rows).run s = .ok (ns, s') →
      c09_Forall2 (c09_rowRel hdr) rows ns := by
  refine c09_visitAll_forall2 rows fun e he s s' a h => ?_
  have hre := List.all_eq_true.mp hr e he
  rw [Bool.and_eq_true] at hre
  obtain ⟨hh, cells, rfl⟩ := c09_isRow_eq hre.1
  rw [c09_visit_row, run_bind_ok] at h
  obtain ⟨cn, s0, h0, h⟩ := h
  rw [run_pure_ok] at h
  exact ⟨_, h.1.symm, hh, cells, cn, rfl, rfl, c09_visitAll_cells cfg hdr cells hre.2 s s0 cn h0⟩

end Mammoth
