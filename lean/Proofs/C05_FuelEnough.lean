/-
  C05 — fuel is enough for all trees, deleted paragraph marks included.  A deleted paragraph mark defers
  the paragraph's children (`st.deleted`); the next undeleted paragraph reads them before its own children,
  one level of fuel below itself.  So the fuel needed is bounded by the size of the node PLUS the size of
  what is deferred on entry, and what is deferred on exit is no larger than that sum:

      xmlSize n + xmlSizeL st.deleted ≤ fuel  ⟹  no `.fuel`, and xmlSizeL st'.deleted ≤ xmlSize n + xmlSizeL st.deleted
-/
import Proofs.C05_Static
namespace Mammoth

abbrev c05_notFuel : Err → Prop := fun e => e ≠ Err.fuel

theorem c05_readSymbol_nf (as : Attrs) : c05_spec c05_notFuel (fun _ => True) (readSymbol as) := by
  unfold readSymbol
  dsimp only
  split
  · exact c05_spec_ok _ trivial
  split
  · exact c05_spec_err _ nofun
  · split <;> exact c05_spec_ok _ trivial

theorem c05_targetById_nf (rs : Rels) (rid : Str) : c05_spec c05_notFuel (fun _ => True) (rs.targetById rid) := by
  unfold Rels.targetById
  split
  · exact c05_spec_ok _ trivial
  · exact c05_spec_err _ nofun

theorem c05_readEmbeddedImage_nf (env : REnv) (rid : Str) (alt : Option Str) :
    c05_spec c05_notFuel (fun _ => True) (readEmbeddedImage env rid alt) := by
  unfold readEmbeddedImage
  refine c05_spec_bind (Q := fun _ => True) _ _ (c05_targetById_nf _ _) (fun _ _ => ?_)
  exact c05_spec_pure _ trivial

theorem c05_readBlip_nf (env : REnv) (as : Attrs) (alt : Option Str) :
    c05_spec c05_notFuel (fun _ => True) (readBlip env as alt) := by
  unfold readBlip
  split
  · exact c05_readEmbeddedImage_nf _ _ _
  split
  · exact c05_spec_bind (Q := fun _ => True) _ _ (c05_targetById_nf _ _) fun _ _ => c05_spec_pure _ trivial
  · exact c05_spec_ok _ trivial

theorem c05_readInline_nf (env : REnv) (cs : List XmlNode) :
    c05_spec c05_notFuel (fun _ => True) (readInline env cs) := by
  unfold readInline
  dsimp only
  refine c05_spec_bind (Q := fun _ => True) _ _ (c05_spec_mapM _ _ (fun a => ?_)) (fun _ _ => ?_)
  · exact c05_readBlip_nf _ _ _
  · exact c05_spec_pure _ trivial

theorem c05_findLevel_nf (n : Numbering) : ∀ (f : Nat) (numId : Option Str) (lvl : Str),
    c05_spec c05_notFuel (fun _ => True) (findLevel n f numId lvl)
  | 0, _, _ => by unfold findLevel; exact c05_spec_err _ nofun
  | f+1, numId, lvl => by
    unfold findLevel
    -- every lookup that misses answers `none`; a style link is followed with one unit of fuel less
    split
    · exact c05_spec_ok _ trivial
    split
    · exact c05_spec_ok _ trivial
    split
    · exact c05_spec_ok _ trivial
    split
    · exact c05_spec_ok _ trivial
    · exact c05_findLevel_nf n f _ _

theorem c05_readNumberingProps_nf (env : REnv) (sid : Option Str) (numPr : List XmlNode) :
    c05_spec c05_notFuel (fun _ => True) (readNumberingProps env sid numPr) := by
  unfold readNumberingProps
  split
  · exact c05_findLevel_nf _ _ _ _
  · split <;> exact c05_spec_ok _ trivial

theorem c05_readFldChar_nf (st : RState) (as : Attrs) (cs : List XmlNode) :
    c05_spec c05_notFuel (fun p => p.2.deleted = st.deleted) (readFldChar st as cs) :=
  have h := c05_readFldChar_kind st as cs
  ⟨fun e he => by obtain ⟨w, rfl⟩ := h.err e he; exact nofun, fun a ha => (h.ok a ha).1⟩

theorem c05_xmlSizeL_findChild (name : Str) (cs : List XmlNode) :
    xmlSizeL (findChildOrNull name cs).2 ≤ xmlSizeL cs := by
  refine findChildOrNull_induct (P := (xmlSizeL · ≤ xmlSizeL cs)) name cs (Nat.le_refl _) ?_ ?_
  · intro _ _ h
    simp only [xmlSizeL] at h
    omega
  · intro _ _ _ _ h
    simp only [xmlSizeL, xmlSize] at h
    omega

abbrev c05_Qsz (B : Nat) : ReadResult × RState → Prop := fun p => xmlSizeL p.2.deleted ≤ B

theorem c05_xmlSizeL_append (xs ys : List XmlNode) : xmlSizeL (xs ++ ys) = xmlSizeL xs + xmlSizeL ys := by
  induction xs with
  | nil => simp [xmlSizeL]
  | cons x xs ih => simp only [List.cons_append, xmlSizeL, ih]; omega

theorem c05_readHandler_nofuel (env : REnv) (ra : c05_RdAll) (F : Nat)
    (ih : ∀ st ns, xmlSizeL ns + xmlSizeL st.deleted ≤ F →
      c05_spec c05_notFuel (c05_Qsz (xmlSizeL ns + xmlSizeL st.deleted)) (ra st ns))
    (st : RState) (as : Attrs) (cs : List XmlNode) (k : Handler)
    (hsz : xmlSizeL cs + xmlSizeL st.deleted ≤ F) (B : Nat) (hB : xmlSizeL cs + xmlSizeL st.deleted ≤ B) :
    c05_spec c05_notFuel (c05_Qsz B) (readHandler env ra st as cs k) := by
  have hdel : xmlSizeL st.deleted ≤ B := by omega
  have sub : c05_spec c05_notFuel (c05_Qsz B) (ra st cs) :=
    c05_spec_weaken (ih st cs hsz) fun a ha => Nat.le_trans ha hB
  have child : ∀ nm, c05_spec c05_notFuel (c05_Qsz B) (ra st (findChildOrNull nm cs).2) := fun nm =>
    have := c05_xmlSizeL_findChild nm cs
    c05_spec_weaken (ih st _ (by omega)) fun a ha => Nat.le_trans ha (by omega)
  have keep : ∀ {x : ReadResult × RState}, c05_Qsz B x → ∀ r, c05_spec c05_notFuel (c05_Qsz B) (pure (r, x.2)) :=
    fun h _ => c05_spec_pure _ h
  cases k with
  | text | tab | noBreakHyphen | softHyphen | break_ | instrText => exact c05_spec_ok _ hdel
  | run | table | tableRow | pict => exact c05_spec_bind _ _ sub fun _ h => keep h _
  | childElements => exact sub
  | alternateContent => exact child _
  | paragraph =>
    have hall : xmlSizeL (st.deleted ++ cs) ≤ B := by rw [c05_xmlSizeL_append]; omega
    dsimp only [readHandler]
    split
    · exact c05_spec_ok _ hall
    · -- the deferred nodes are read with the paragraph's own children
      have hsub := ih { st with deleted := [] } (st.deleted ++ cs) (by rw [c05_xmlSizeL_append]; simp only [xmlSizeL]; omega)
      refine c05_spec_bind (Q := c05_Qsz B) _ _ (c05_spec_weaken hsub fun a ha => ?_) fun _ h => ?_
      · rw [c05_xmlSizeL_append] at ha; simp only [xmlSizeL] at ha; exact Nat.le_trans ha (by omega)
      · exact c05_spec_bind (Q := fun _ => True) _ _ (c05_readNumberingProps_nf env _ _) fun _ _ => keep h _
  | fldChar => exact c05_spec_weaken (c05_readFldChar_nf st as cs) fun a ha => by rw [c05_Qsz, ha]; exact hdel
  | symbol => exact c05_spec_map _ _ (c05_readSymbol_nf as) fun _ _ => hdel
  | inline => exact c05_spec_map _ _ (c05_readInline_nf env cs) fun _ _ => hdel
  | tableCell =>
    rw [readHandler_tableCell]
    refine c05_spec_bind (Q := fun _ => True) _ _ ?_ fun _ _ => c05_spec_bind _ _ sub fun _ h => keep h _
    unfold readGridSpan
    split
    · exact c05_spec_pure _ trivial
    · split
      · exact c05_spec_pure _ trivial
      · exact c05_spec_err _ nofun
  | hyperlink =>
    refine c05_spec_bind _ _ sub fun _ h => ?_
    dsimp only
    split
    · exact c05_spec_bind (Q := fun _ => True) _ _ (c05_targetById_nf _ _) fun _ _ => keep h _
    · split <;> exact keep h _
  | bookmarkStart => dsimp only [readHandler]; split <;> exact c05_spec_ok _ hdel
  | imagedata =>
    dsimp only [readHandler]
    split
    · exact c05_spec_ok _ hdel
    · exact c05_spec_map _ _ (c05_readEmbeddedImage_nf env _ _) fun _ _ => hdel
  | footnoteRef | endnoteRef | commentRef =>
    dsimp only [readHandler, readNoteRef]
    split
    · exact c05_spec_err _ nofun
    · exact c05_spec_ok _ hdel
  | sdt =>
    dsimp only [readHandler]
    split
    · exact c05_spec_ok _ hdel
    · exact child _

theorem c05_readAllWith_nofuelA (rd : c05_Rd) (F : Nat)
    (hrd : ∀ st n, xmlSize n + xmlSizeL st.deleted ≤ F →
      c05_spec c05_notFuel (c05_Qsz (xmlSize n + xmlSizeL st.deleted)) (rd st n)) :
    ∀ (ns : List XmlNode) (st : RState), xmlSizeL ns + xmlSizeL st.deleted ≤ F →
      c05_spec c05_notFuel (c05_Qsz (xmlSizeL ns + xmlSizeL st.deleted)) (readAllWith rd st ns)
  | [], st, _ => by
    simp only [readAllWith]; exact c05_spec_ok _ (by show xmlSizeL st.deleted ≤ _; omega)
  | .text _ :: rest, st, hsz => by
    simp only [readAllWith]
    simp only [xmlSizeL, xmlSize] at hsz ⊢
    exact c05_spec_weaken (c05_readAllWith_nofuelA rd F hrd rest st (by omega))
      (fun a ha => Nat.le_trans ha (by omega))
  | .elem n as cs :: rest, st, hsz => by
    simp only [readAllWith]
    simp only [xmlSizeL] at hsz ⊢
    refine c05_spec_bind (Q := c05_Qsz (xmlSize (.elem n as cs) + xmlSizeL st.deleted)) _ _
      (hrd _ _ (by omega)) (fun a ha => ?_)
    have ha' : xmlSizeL a.2.deleted ≤ xmlSize (.elem n as cs) + xmlSizeL st.deleted := ha
    refine c05_spec_bind (Q := c05_Qsz (xmlSizeL rest + xmlSizeL a.2.deleted)) _ _
      (c05_readAllWith_nofuelA rd F hrd rest _ (by omega)) (fun b hb => ?_)
    have hb' : xmlSizeL b.2.deleted ≤ xmlSizeL rest + xmlSizeL a.2.deleted := hb
    exact c05_spec_pure _ (by show xmlSizeL b.2.deleted ≤ _; omega)

theorem c05_readElem_nofuelA (env : REnv) :
    ∀ (f : Nat) (st : RState) (n : XmlNode), xmlSize n + xmlSizeL st.deleted ≤ f →
      c05_spec c05_notFuel (c05_Qsz (xmlSize n + xmlSizeL st.deleted)) (readElem env f st n)
  | f, st, .text s, _ => by
    rw [c05_readElem_text]; exact c05_spec_ok _ (by show xmlSizeL st.deleted ≤ _; omega)
  | 0, st, .elem name as cs, hsz => by simp only [xmlSize] at hsz; omega
  | f+1, st, .elem name as cs, hsz => by
    simp only [xmlSize] at hsz ⊢
    cases hg : handlerOf name with
    | none =>
      rw [c05_readElem_unhandled _ _ _ _ _ hg, readUnhandled]
      split <;> exact c05_spec_ok _ (by show xmlSizeL st.deleted ≤ _; omega)
    | some h =>
      obtain ⟨k, rfl⟩ := handlerOf_known hg
      rw [c05_readElem_handler _ _ _ _ _ k hg]
      exact c05_readHandler_nofuel env _ f
        (fun st ns h => c05_readAllWith_nofuelA _ f (c05_readElem_nofuelA env f) ns st h)
        st as cs k (by omega) _ (by omega)

end Mammoth
