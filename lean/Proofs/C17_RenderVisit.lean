/-
  C17 — the forest produced by the converter satisfies `c17_imgGood` (every `img` is childless, nothing
  collapsible can merge with one) whenever no style mapping mentions `img`; so the `img` elements
  survive `strip_empty` and `collapse` (`Proofs/C17_Render.lean`).
-/
import Proofs.C17_Render
import Proofs.VisitPost
namespace Mammoth

abbrev c17_G (ns : List Node) : Prop := c17_imgGood ns = true

theorem c17_good_wrapElems (es : List Tag) (ns : List Node)
    (he : c17_noImgPath (.elements es) = true) (hn : c17_imgGood ns = true) :
    c17_imgGood (wrapElems es ns) = true := by
  induction es with
  | nil => simpa [wrapElems] using hn
  | cons t ts ih =>
    simp only [c17_noImgPath, List.all_cons, Bool.and_eq_true, Bool.not_eq_true'] at he
    have := ih (by simpa [c17_noImgPath] using he.2)
    simp only [wrapElems, c17_imgGood_cons, c17_imgGoodN_elem, c17_imgGood_nil, Bool.and_true, Bool.and_eq_true]
    refine ⟨?_, this⟩
    have hne := c17_name_ne_img he.1
    simp only [c17_imgGoodTag, Bool.and_eq_true, Bool.or_eq_true, bne_iff_ne, ne_eq, Bool.not_eq_true']
    exact ⟨Or.inl hne, Or.inl he.1⟩

/-- conversion.py makes no `img` itself; the image converter's are fresh and childless -/
theorem c17_good_closed (cfg : Cfg) (hm : c17_noImgMap cfg = true) : VisitClosed cfg c17_G where
  nil := rfl
  append ha hb := by simp [c17_G, c17_imgGood_append, ha, hb]
  text _ := rfl
  forceWrite := rfl
  elem := fun c hn _ hcs => by
    have h := c17_visitName_ne_img hn
    have h' : ¬ (S!"img" = _) := fun e => h e.symm
    simpa [c17_G, c17_imgGoodN_elem, c17_imgGoodTag, Tag.names, h, h'] using hcs
  found := Wraps.of_map (P := c17_G) c17_noImgPath hm rfl c17_good_wrapElems
  image i := c01_post_convertImage cfg i c17_G
    (fun a => by simp [c17_G, el, c17_imgGoodN_elem, c17_imgGoodTag, Tag.names]) rfl

theorem c17_good_visit (cfg : Cfg) (hm : c17_noImgMap cfg = true) (hdr : Bool) (e : Elem) :
    c01_post c17_G (visit cfg hdr e) :=
  (c17_good_closed cfg hm).visit hdr e

theorem c17_good_visitRows (cfg : Cfg) (hm : c17_noImgMap cfg = true) (inHead : Bool) (rs : List Elem) :
    c01_post (fun p => c17_G p.1 ∧ c17_G p.2) (visitRows cfg inHead rs) :=
  (c17_good_closed cfg hm).visitRows inHead rs

theorem c17_good_convertDoc (cfg : Cfg) (hm : c17_noImgMap cfg = true) (d : Document) (r : ConvResult)
    (h : convertDoc cfg d = .ok r) : c17_imgGood r.nodes = true := by
  unfold convertDoc at h
  split at h
  · rename_i nodes st hrun
    cases h
    exact (c17_good_closed { cfg with comments := d.comments } hm).visitDocument d _ _ _ hrun
  · cases h

end Mammoth
