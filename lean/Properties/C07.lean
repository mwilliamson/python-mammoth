/-
  C07 — reading a style map never fails and never hangs.

  Part 1: the tokeniser model is total (every rule that fires consumes a character, the catch-all
          rule fires on everything else), so `readStyleMapping` never reaches its "impossible" branch.
  Part 2: `readStyleMap` is `filterMap` over the non-blank, non-comment lines; every other line gives
          one warning quoting it (duplicates merged); lines do not influence each other.
  Part 3: a step-counting model of backtracking regex matching (MammothModel/Regex.lean): the STRING
          rule before the repair needs exponentially many steps, the repaired one linearly many, and
          the repaired rule computes what the hand-written lexer `lexString` computes.
  Part 4: the parser's loops consume a token per iteration: the fuel never runs out.
  Part 6: the regexes of part 3 are what tokeniser.py contains (`Generated.tokenRules` parsed by
          `c07_parseRegex`); every rule is linear; the tokeniser run with these regexes is `tokenise`,
          and all its match attempts together cost at most 48 steps per character.
-/
import Proofs.C07_StyleMap
import Proofs.C07_Regex
import Proofs.C07_Parser
import Proofs.C07_RegexIdent
import Proofs.C07_RegexDet
import Proofs.C07_RegexParseCost
namespace Mammoth

/-! ## 1. the tokeniser is total -/

/-- On a non-empty input some rule matches and what is left is strictly shorter: every rule consumes
    at least one character, `unknown` matches any non-newline character, and a newline is white space
    (`\s`), so the WHITESPACE rule takes it; `lexOne` fails on the empty input only. -/
theorem C07_lexOne_progress_all (s : Str) (hne : s ≠ []) :
    ∃ t r, lexOne s = some (t, r) ∧ r.length < s.length :=
  c07_lexOne_progress' s hne

/-- In particular on the newline-free lines that `readStyleMap` hands over. -/
theorem C07_lexOne_progress (s : Str) (hne : s ≠ []) (_hnl : ∀ c ∈ s, c ≠ '\n') :
    ∃ t r, lexOne s = some (t, r) ∧ r.length < s.length :=
  C07_lexOne_progress_all s hne

/-- The token produced is a non-empty prefix of the input and the rest is what follows it. -/
theorem C07_lexOne_prefix (s r : Str) (t : Token) (h : lexOne s = some (t, r)) :
    t.val ++ r = s ∧ t.val ≠ [] :=
  c07_lexOne_split s r t h

/-- `tokenise` never raises "Should be impossible": with fuel `s.length` it returns a token list,
    for every string whatsoever. -/
theorem C07_tokenise_total_all (s : Str) : ∃ ts, tokenise s = some ts := by
  obtain ⟨ts, h, _⟩ := c07_tokeniseFuel_total s.length s (Nat.le_refl _)
  exact ⟨ts, h⟩

theorem C07_tokenise_total (s : Str) (_hnl : ∀ c ∈ s, c ≠ '\n') : ∃ ts, tokenise s = some ts :=
  C07_tokenise_total_all s

/-- The token list ends with the END token, and the token values concatenate to the input
    (nothing is dropped, nothing invented). -/
theorem C07_tokenise_shape (s : Str) (ts : List Token) (h : tokenise s = some ts) :
    ts.getLast? = some ⟨.end, []⟩ ∧ (ts.map (·.val)).flatten = s := by
  obtain ⟨ts', h', h1, h2⟩ := c07_tokeniseFuel_total s.length s (Nat.le_refl _)
  obtain rfl : ts' = ts := Option.some.inj (h'.symm.trans h)
  exact ⟨h1, h2⟩

/-- More fuel changes nothing. -/
theorem C07_tokenise_fuel_irrelevant (s : Str) (f : Nat) (h : s.length ≤ f) :
    tokeniseFuel f s = tokenise s :=
  c07_tokeniseFuel_stable f s.length s h (Nat.le_refl _)

/-- Every line handed to `readStyleMapping` by `readStyleMap` is newline-free: the pieces of
    `splitOnChar '\n'` contain no newline and `strip` only removes characters. -/
theorem C07_lines_no_newline (text l : Str) (h : l ∈ styleLines text) : ∀ c ∈ l, c ≠ '\n' := by
  obtain ⟨⟨p, hp, rfl⟩, _, _⟩ := c07_styleLines_mem text l h
  intro c hc
  exact c07_splitOnChar_no_sep '\n' text p hp c (c07_mem_strip p c hc)

/-- Hence `readStyleMapping` never takes its "Should be impossible" branch: it is the parser applied
    to an actual token list. -/
theorem C07_readStyleMapping_tokenises (l : Str) :
    ∃ ts, tokenise l = some ts ∧ readStyleMapping l = parseStyleMapping ts := by
  obtain ⟨ts, h⟩ := C07_tokenise_total_all l
  exact ⟨ts, h, by simp [readStyleMapping, h]⟩

/-! ## 2. specification of `readStyleMap` -/

/-- The mappings are those of the lines that parse, in order; the messages are the warnings of the
    lines that do not, in order, de-duplicated. -/
theorem C07_readStyleMap_spec (text : Str) :
    (readStyleMap text).1 = (styleLines text).filterMap readStyleMapping ∧
    (readStyleMap text).2 =
      unique (((styleLines text).filter (fun l => (readStyleMapping l).isNone)).map styleWarning) :=
  ⟨c07_readStyleMap_fst text, c07_readStyleMap_snd text⟩

/-- No considered line is blank or a comment (after `strip`) ... -/
theorem C07_blank_and_comment_lines_silent (text l : Str) (h : l ∈ styleLines text) :
    l ≠ [] ∧ startsWith l ['#'] = false :=
  (c07_styleLines_mem text l h).2

/-- ... and a blank or comment line in the middle of a text is as if it were not there: same
    mappings, same messages. -/
theorem C07_blank_or_comment_line_ignored (a p b : Str) (hnl : ∀ c ∈ p, c ≠ '\n')
    (hp : strip p = [] ∨ startsWith (strip p) ['#'] = true) :
    readStyleMap (a ++ S!"\n" ++ p ++ S!"\n" ++ b) = readStyleMap (a ++ S!"\n" ++ b) := by
  have hl : styleLines p = [] := by
    rw [c07_styleLines_single p hnl]
    rcases hp with hp | hp <;> simp [hp]
  have : styleLines (a ++ S!"\n" ++ p ++ S!"\n" ++ b) = styleLines (a ++ S!"\n" ++ b) := by
    simp only [List.append_assoc, List.cons_append, List.nil_append]
    rw [c07_styleLines_append, c07_styleLines_append, c07_styleLines_append, hl, List.nil_append]
  simp only [readStyleMap, this]

/-- `unique` has no duplicates and the same members. -/
theorem C07_unique_nodup {α} [DecidableEq α] (l : List α) :
    (unique l).Nodup ∧ ∀ x, x ∈ unique l ↔ x ∈ l :=
  ⟨c07_nodup_uniqueAux l [], fun _ => mem_unique⟩

/-- Every message is the warning for some line that was not understood, it quotes that line at its
    end, every such line has its message, and no message occurs twice. -/
theorem C07_warning_quotes_line (text : Str) :
    (∀ w, w ∈ (readStyleMap text).2 ↔
        ∃ l ∈ styleLines text, readStyleMapping l = none ∧
          w = S!"Did not understand this style mapping, so ignored it: " ++ l) ∧
    (readStyleMap text).2.Nodup := by
  rw [c07_readStyleMap_snd]
  refine ⟨fun w => ?_, (C07_unique_nodup _).1⟩
  rw [mem_unique, c07_mem_rawWarnings]
  rfl

/-- Lines do not influence each other: the result for `a ⏎ b` is assembled from the results for
    `a` and for `b`. -/
theorem C07_lines_independent (a b : Str) :
    (readStyleMap (a ++ S!"\n" ++ b)).1 = (readStyleMap a).1 ++ (readStyleMap b).1 ∧
    (∀ w, w ∈ (readStyleMap (a ++ S!"\n" ++ b)).2 ↔
      w ∈ (readStyleMap a).2 ∨ w ∈ (readStyleMap b).2) := by
  have e : a ++ S!"\n" ++ b = a ++ '\n' :: b := by simp
  rw [e]
  constructor
  · simp only [c07_readStyleMap_fst, c07_styleLines_append, List.filterMap_append]
  · intro w
    simp only [c07_readStyleMap_snd, mem_unique, c07_rawWarnings_append, List.mem_append]

/-- A line that is not understood is reported and ignored; the lines before and after it still take
    effect exactly as without it. -/
theorem C07_bad_line_local (a bad b : Str) (hnl : ∀ c ∈ bad, c ≠ '\n')
    (h1 : strip bad ≠ []) (h2 : startsWith (strip bad) ['#'] = false)
    (hbad : readStyleMapping (strip bad) = none) :
    (readStyleMap (a ++ S!"\n" ++ bad ++ S!"\n" ++ b)).1 = (readStyleMap a).1 ++ (readStyleMap b).1 ∧
    (∀ w, w ∈ (readStyleMap (a ++ S!"\n" ++ bad ++ S!"\n" ++ b)).2 ↔
      w ∈ (readStyleMap a).2 ∨ w = styleWarning (strip bad) ∨ w ∈ (readStyleMap b).2) := by
  have hl : styleLines bad = [strip bad] := by
    rw [c07_styleLines_single bad hnl]
    have : (strip bad).isEmpty = false := by
      cases h : strip bad with
      | nil => exact absurd h h1
      | cons _ _ => rfl
    simp [this, h2]
  have e : a ++ S!"\n" ++ bad ++ S!"\n" ++ b = a ++ '\n' :: (bad ++ '\n' :: b) := by simp
  rw [e]
  constructor
  · simp only [c07_readStyleMap_fst, c07_styleLines_append, List.filterMap_append, hl]
    simp [hbad]
  · intro w
    simp only [c07_readStyleMap_snd, mem_unique, c07_rawWarnings_append, List.mem_append]
    have : c07_rawWarnings bad = [styleWarning (strip bad)] := by
      simp [c07_rawWarnings, hl, hbad]
    simp [this]

/-! ## 3. cost of regex matching by backtracking -/

/-- The fuel of the repetition loop in the cost model is irrelevant once it exceeds the length of
    the input (the model always supplies `length + 1`). -/
theorem C07_star_fuel_irrelevant (body : Str → (Str → C07Res) → C07Res) (k : Str → C07Res)
    (f g : Nat) (s : Str) (hf : s.length < f) (hg : s.length < g) :
    c07_starLoop body f s k = c07_starLoop body g s k :=
  c07_starLoop_fuel body k f g s hf hg

/-- Fuel-free description of the greedy star: one more iteration (which must consume something) and
    then the star again; if all of that fails, leave the loop here. -/
theorem C07_star_unfold (a : C07Regex) (s : Str) (k : Str → C07Res) :
    (C07Regex.star a).run s k =
      ((a.run s fun s' =>
          if s'.length < s.length then (C07Regex.star a).run s' k else .fail).orElse (k s)).tick :=
  c07_star_unfold a s k

/-- BEFORE THE REPAIR: on a quote followed by `2k` backslashes (and no closing quote) the rule
    `'(?:\\.|[^'])*'` takes at least `2^k` steps: both alternatives accept a backslash, and the
    step count `T` satisfies `T(n+2) = T(n+1) + T(n) + 6`. -/
theorem C07_old_rule_exponential (k : Nat) :
    2 ^ k ≤ c07_stringRuleOld.steps ('\'' :: List.replicate (2 * k) '\\') := by
  unfold C07Regex.steps c07_stringRuleOld
  rw [c07_stringRule_exec]
  simp only [(c07_oldLoop_two (2 * k)).1, c07_tick_fst]
  have := c07_oldCost_exp k
  omega

/-- the exact recurrence behind it -/
theorem C07_old_rule_recurrence (n : Nat) :
    c07_stringRuleOld.steps ('\'' :: List.replicate (n + 2) '\\') =
      c07_stringRuleOld.steps ('\'' :: List.replicate (n + 1) '\\') +
      c07_stringRuleOld.steps ('\'' :: List.replicate n '\\') + 5 := by
  unfold C07Regex.steps c07_stringRuleOld
  simp only [c07_stringRule_exec, (c07_oldLoop_two (n+1)).2, (c07_oldLoop_two n).2,
    (c07_oldLoop_two n).1, c07_tick_fst, c07_oldCost]
  omega

/-- AFTER THE REPAIR: on ANY input the rule `'(?:\\.|[^'\\])*'` takes at most `6 * (length + 1)`
    steps. -/
theorem C07_new_rule_linear (s : Str) : c07_stringRuleNew.steps s ≤ 6 * (s.length + 1) := by
  unfold C07Regex.steps c07_stringRuleNew
  rw [c07_stringRule_exec]
  split
  · rename_i cs
    have := (c07_newLoop_kq cs).1
    have := c07_lexStringBody_length cs
    simp only [c07_tick_fst, List.length_cons]
    omega
  · simp; omega

/-- ... and so does the UNTERMINATED_STRING rule `'(?:\\.|[^'\\])*`. -/
theorem C07_unterminated_rule_linear (s : Str) :
    c07_unterminatedRule.steps s ≤ 6 * (s.length + 1) := by
  unfold C07Regex.steps
  rw [c07_unterminated_exec]
  split
  · rename_i cs
    have := (c07_newLoop_k0 cs).1
    have := c07_lexStringBody_length cs
    simp only [c07_tick_fst, List.length_cons]
    omega
  · simp; omega

/-- The repaired STRING rule, run by the backtracking matcher, matches exactly when the hand-written
    `lexString` produces a `string` token, and leaves the same rest. -/
theorem C07_model_agrees (s : Str) :
    (c07_stringRuleNew.exec s).2 =
      match lexString s with
      | some (.string, _, r) => some r
      | _ => none :=
  c07_new_result s

/-- The whole STRING / UNTERMINATED_STRING step of `regex_tokeniser` (try the first regex, then the
    second, token value = matched prefix), computed with the regex matcher, is `lexString`. -/
theorem C07_model_agrees_lexString (s : Str) : c07_lexStringRx s = lexString s :=
  c07_lexStringRx_eq s

/-- The IDENTIFIER rule `(?:[a-zA-Z\-_]|\\.)(?:(?:[a-zA-Z\-_]|\\.)|[0-9])*`, run by the
    backtracking matcher, takes at most `8 * (length + 1)` steps and leaves the rest that the
    hand-written `lexIdent` leaves (and fails exactly when `lexIdent` fails). -/
theorem C07_model_agrees_ident (s : Str) :
    c07_identRule.steps s ≤ 8 * (s.length + 1) ∧
    (c07_identRule.exec s).2 = (lexIdent s).map (·.2) := by
  have := c07_ruleOK_linear c07_ident_ok s
  exact ⟨by omega, (c07_ident_agrees s).2⟩

/-- GENERAL CRITERION.  For a rule `prefix (A₁|…|Aₙ)* suffix` where prefix, suffix and every `Aᵢ`
    are plain sequences of character classes: if the first classes of the `Aᵢ` are pairwise
    disjoint (`c07_deterministic`, a syntactic check), then on every input the matcher takes at most
    `c07_detConst r * (length + 1)` steps, where
    `c07_detConst r = |prefix| + 2n + Σ|Aᵢ| + |suffix| + 2`. -/
theorem C07_deterministic_linear (r : C07StarRule) (h : c07_deterministic r = true) (s : Str) :
    r.toRegex.steps s ≤ c07_detConst r * (s.length + 1) :=
  c07_deterministic_steps r h s

/-- The repaired STRING rule passes the check (so it is linear, here with constant 11), the rule
    before the repair does not. -/
theorem C07_string_rules_classified :
    c07_newStarRule.toRegex = c07_stringRuleNew ∧ c07_deterministic c07_newStarRule = true ∧
    c07_detConst c07_newStarRule = 11 ∧
    c07_oldStarRule.toRegex = c07_stringRuleOld ∧ c07_deterministic c07_oldStarRule = false := by
  exact ⟨c07_newStarRule_regex, c07_newStarRule_det, by decide, c07_oldStarRule_regex, c07_oldStarRule_not_det⟩

/-! ## 4. the parser's loops -/

/-- Every iteration of a parser loop consumes tokens: `|tag` two, `.class` two (`[a='v']` five),
    `␣>␣element` at least four; so a loop that returns `n` items has eaten at least `2n` (`4n`)
    tokens, and an element consumes at least one token. -/
theorem C07_parse_consumes (f : Nat) (ts r : List Token) :
    (∀ x, parseAlts f ts = some (x, r) → r.length + 2 * x.length ≤ ts.length) ∧
    (∀ x, parseAttrs f ts = some (x, r) → r.length + 2 * x.length ≤ ts.length) ∧
    (∀ x, parseMoreElements f ts = some (x, r) → r.length + 4 * x.length ≤ ts.length) ∧
    (∀ e, parseElement f ts = some (e, r) → r.length < ts.length) :=
  ⟨fun x h => c07_parseAlts_consumes f ts x r h, fun x h => c07_parseAttrs_consumes f ts x r h,
   fun x h => c07_parseMoreElements_consumes f ts x r h,
   fun e h => c07_parseElement_len f ts e r h⟩

/-- With fuel at least the number of tokens, the loops never stop for lack of fuel: any two such
    fuels give the same result. -/
theorem C07_parse_loops_fuel_stable (f g : Nat) (ts : List Token)
    (hf : ts.length ≤ f) (hg : ts.length ≤ g) :
    parseAlts f ts = parseAlts g ts ∧ parseAttrs f ts = parseAttrs g ts ∧
    parseElement f ts = parseElement g ts ∧ parseMoreElements f ts = parseMoreElements g ts ∧
    parseHtmlPath f ts = parseHtmlPath g ts :=
  ⟨c07_parseAlts_stable f g ts hf hg, c07_parseAttrs_stable f g ts hf hg,
   c07_parseElement_stable f g ts hf hg, c07_parseMoreElements_stable f g ts hf hg,
   c07_parseHtmlPath_stable f g ts hf hg⟩

/-- `parseStyleMapping` passes `ts.length` as fuel; passing any larger number gives the same
    result, i.e. the fuel is not what ends the loops. -/
theorem C07_parse_fuel_stable (ts : List Token) (fuel : Nat) (h : ts.length ≤ fuel) :
    c07_parseStyleMappingFuel fuel ts = parseStyleMapping ts := by
  show _ = c07_parseStyleMappingFuel ts.length ts
  unfold c07_parseStyleMappingFuel
  refine Option.bind_congr ?_
  rintro ⟨m, r1⟩ h1
  refine Option.bind_congr fun r2 h2 => Option.bind_congr fun r3 h3 => ?_
  have := c07_parseDocumentMatcher_len h1
  have := c07_trySkipTy_len h2
  have := c07_trySkip_len h3
  have : ((trySkipTy .whitespace r3).getD r3).length ≤ r3.length := by
    cases h4 : trySkipTy .whitespace r3 with
    | none => exact Nat.le_refl _
    | some r4 => have := c07_trySkipTy_len h4; simp only [Option.getD_some]; omega
  dsimp only
  rw [c07_parseHtmlPath_stable fuel ts.length _ (by omega) (by omega)]

/-! ## 5. examples (non-vacuity) -/

/-- escapes in identifiers and strings, an unterminated string at the end -/
example : tokenise S!"p.a\\.b[style-name='it\\'s'] => 'x 12" = some [
    ⟨.identifier, S!"p"⟩, ⟨.symbol, S!"."⟩, ⟨.identifier, S!"a\\.b"⟩, ⟨.symbol, S!"["⟩,
    ⟨.identifier, S!"style-name"⟩, ⟨.symbol, S!"="⟩, ⟨.string, S!"'it\\'s'"⟩, ⟨.symbol, S!"]"⟩,
    ⟨.whitespace, S!" "⟩, ⟨.symbol, S!"=>"⟩, ⟨.whitespace, S!" "⟩, ⟨.unterminated, S!"'x 12"⟩,
    ⟨.end, []⟩] := by decide +kernel

/-- a comment, a mapping, a blank line, a bad line, an indented mapping and the same bad line
    again: two mappings, one warning -/
example : readStyleMap
      S!"# comment\np.Heading1 => h1:fresh\n\nq => oops\n  r => strong  \nq => oops" =
    ([⟨.paragraph (some S!"Heading1") none none, .elements [{ name := S!"h1" }]⟩,
      ⟨.run none none, .elements [{ name := S!"strong", collapsible := true }]⟩],
     [S!"Did not understand this style mapping, so ignored it: q => oops"]) := by decide +kernel

/-- ten backslashes after a quote: 1304 steps with the old rule, 36 with the new one -/
example : c07_stringRuleOld.steps S!"'\\\\\\\\\\\\\\\\\\\\" = 1304 := by decide +kernel
example : c07_stringRuleNew.steps S!"'\\\\\\\\\\\\\\\\\\\\" = 36 := by decide +kernel
example : c07_stringRuleNew.exec S!"'a\\'b' rest" = (18, some S!" rest") := by decide +kernel
example : c07_stringRuleNew.matchLen S!"'a\\'b' rest" = some 6 := by decide +kernel
example : c07_identRule.exec S!"a\\.b-9 x" = (28, some S!" x") := by decide +kernel
/-- hypotheses of `C07_bad_line_local` / `C07_blank_or_comment_line_ignored` are satisfiable -/
example : strip S!" q => oops " ≠ [] ∧ startsWith (strip S!" q => oops ") ['#'] = false ∧
    readStyleMapping (strip S!" q => oops ") = none := by decide +kernel
example : startsWith (strip S!"  # note") ['#'] = true := by decide +kernel

/-! ## 6. the regexes of section 3 are the ones tokeniser.py contains

  `Generated.tokenRules` holds the SOURCE TEXT of the tokeniser's regular expressions; gen/extract.py
  writes it from mammoth/styles/parser/tokeniser.py.  `c07_parseRegex`
  (MammothModel/RegexParse.lean) reads such a text into a value of the cost model.  The theorems
  below are closed computations on the generated table: editing a regex in tokeniser.py changes
  the table, and the theorem about that rule stops checking. -/

/-- `regex_tokeniser` tries exactly these seven rules, in this order (the first rule that matches
    wins, so the order is part of the behaviour). -/
theorem C07_generated_rule_names :
    Generated.tokenRules.map (·.1) =
      [S!"identifier", S!"symbol", S!"whitespace", S!"string", S!"unterminated string",
       S!"integer", S!"unknown"] := by decide +kernel

/-- the IDENTIFIER regex of the source is the value `c07_identRule` of `C07_model_agrees_ident` -/
theorem C07_generated_identifier_rule :
    (List.lookup S!"identifier" Generated.tokenRules).bind c07_parseRegex = some c07_identRule := by
  decide +kernel

/-- the SYMBOL regex of the source is `c07_symbolRule` -/
theorem C07_generated_symbol_rule :
    (List.lookup S!"symbol" Generated.tokenRules).bind c07_parseRegex = some c07_symbolRule := by
  decide +kernel

/-- the WHITESPACE regex of the source is `c07_wsRule` (`\s+`) -/
theorem C07_generated_whitespace_rule :
    (List.lookup S!"whitespace" Generated.tokenRules).bind c07_parseRegex = some c07_wsRule := by
  decide +kernel

/-- the STRING regex of the source is the REPAIRED rule `c07_stringRuleNew` of `C07_new_rule_linear`
    and `C07_model_agrees` (with the regex before the repair this is false: see
    `C07_old_rule_source`) -/
theorem C07_generated_string_rule :
    (List.lookup S!"string" Generated.tokenRules).bind c07_parseRegex = some c07_stringRuleNew := by
  decide +kernel

/-- the UNTERMINATED_STRING regex of the source is `c07_unterminatedRule` -/
theorem C07_generated_unterminated_string_rule :
    (List.lookup S!"unterminated string" Generated.tokenRules).bind c07_parseRegex =
      some c07_unterminatedRule := by
  decide +kernel

/-- the INTEGER regex of the source is `c07_intRule` (the capturing group costs nothing) -/
theorem C07_generated_integer_rule :
    (List.lookup S!"integer" Generated.tokenRules).bind c07_parseRegex = some c07_intRule := by
  decide +kernel

/-- the catch-all rule that `regex_tokeniser` appends is `.` -/
theorem C07_generated_unknown_rule :
    (List.lookup S!"unknown" Generated.tokenRules).bind c07_parseRegex = some c07_unknownRule := by
  decide +kernel

/-- all seven together, with their token types, as the list the regex-driven tokeniser runs -/
theorem C07_generated_rules : c07_rxRules = some c07_handRules := by
  decide +kernel

/-- the text of the STRING rule before the repair parses to `c07_stringRuleOld`, the value of
    `C07_old_rule_exponential`; it is a different value from the repaired rule -/
theorem C07_old_rule_source :
    c07_parseRegex S!"'(?:\\\\.|[^'])*'" = some c07_stringRuleOld ∧
    c07_stringRuleOld ≠ c07_stringRuleNew := by
  decide +kernel

/-- `\s` of the parser is the white-space set `isSpace` (`str.isspace`) of the model -/
theorem C07_whitespace_class (c : Char) : c07_ccSpace.test c = isSpace c :=
  c07_wsRanges_isSpace c

/-! ### every rule, on every input: at most linearly many steps -/

/-- GENERAL: an expression without repetition costs a constant (`c07_flatBound r 0`), whatever the
    input. -/
theorem C07_repetition_free_constant (r : C07Regex) (h : c07_starFree r = true) (s : Str) :
    r.steps s ≤ c07_flatBound r 0 :=
  c07_flat_steps r h s

/-- SYMBOL `:|>|=>|\^=|=|\(|\)|\[|\]|\||!|\.` : at most 25 steps on ANY input, and it leaves what
    `lexSymbol` leaves (fails exactly when `lexSymbol` fails). -/
theorem C07_model_agrees_symbol (s : Str) :
    c07_symbolRule.steps s ≤ 25 * (s.length + 1) ∧
    c07_symbolRule.steps s ≤ 25 ∧
    (c07_symbolRule.exec s).2 = (lexSymbol s).map (·.2) := by
  have := c07_symbol_steps s
  refine ⟨?_, this, c07_symbol_result s⟩
  have : 25 ≤ 25 * (s.length + 1) := Nat.le_mul_of_pos_right _ (by omega)
  omega

/-- WHITESPACE `\s+` : at most `2 * (length + 1)` steps, leaves what `lexWs` leaves. -/
theorem C07_model_agrees_whitespace (s : Str) :
    c07_wsRule.steps s ≤ 2 * (s.length + 1) ∧
    (c07_wsRule.exec s).2 = (lexWs s).map (·.2) := by
  have := c07_ruleOK_linear c07_ws_ok s
  exact ⟨by omega, (c07_ws_ok s).2.1⟩

/-- INTEGER `([0-9]+)` : at most `2 * (length + 1)` steps, leaves what `lexInt` leaves. -/
theorem C07_model_agrees_integer (s : Str) :
    c07_intRule.steps s ≤ 2 * (s.length + 1) ∧
    (c07_intRule.exec s).2 = (lexInt s).map (·.2) := by
  have := c07_ruleOK_linear c07_int_ok s
  exact ⟨by omega, (c07_int_ok s).2.1⟩

/-- the catch-all `.` : one step; matches one character unless it is a newline. -/
theorem C07_model_agrees_unknown (s : Str) :
    c07_unknownRule.steps s = 1 ∧ c07_unknownRule.steps s ≤ 1 * (s.length + 1) ∧
    (c07_unknownRule.exec s).2 =
      match s with
      | c :: cs => if isDot c then some cs else none
      | [] => none := by
  unfold C07Regex.steps
  rw [c07_unknownRule_exec]
  cases s with
  | nil => exact ⟨rfl, Nat.le_refl _, rfl⟩
  | cons c cs =>
    dsimp only
    split <;> exact ⟨rfl, Nat.le_add_left _ _, rfl⟩

/-- a successful match of any of the seven rules is never empty: what is left is strictly shorter
    (so the loop of `regex_tokeniser` advances). -/
theorem C07_generated_match_nonempty (s r : Str) (t : Token) (n : Nat)
    (h : c07_firstMatch c07_handRules s = (n, some (t, r))) :
    t.val ++ r = s ∧ t.val ≠ [] ∧ r.length < s.length := by
  have hl : lexOne s = some (t, r) := by rw [← c07_firstMatch_lexOne, h]
  exact ⟨(c07_lexOne_split s r t hl).1, (c07_lexOne_split s r t hl).2, c07_lexOne_shorter s r t hl⟩

/-! ### the tokeniser as the code runs it -/

/-- one round of the loop of `regex_tokeniser` (try the parsed rules in order with the backtracking
    matcher, first success wins, token value = matched prefix) is `lexOne`. -/
theorem C07_model_agrees_lexOne (s : Str) : (c07_firstMatch c07_handRules s).2 = lexOne s :=
  c07_firstMatch_lexOne s

/-- AGREEMENT: `tokenise(value)` run with the regexes extracted from tokeniser.py
    (`c07_tokeniseRx`) returns, for every string, exactly the token list of the hand-written lexer
    `tokenise` that all the theorems of C06 and C07 are about. -/
theorem C07_tokeniseRx_agrees (s : Str) : c07_tokeniseRx s = tokenise s := by
  unfold c07_tokeniseRx c07_tokeniseRxWith
  rw [C07_generated_rules]
  simp only
  rw [c07_tokeniseRxFuel_eq]
  exact c07_tokeniseFuel_stable _ _ s (by omega) (Nat.le_refl _)

/-- hence it never raises "Should be impossible" and never loops. -/
theorem C07_tokeniseRx_total (s : Str) : ∃ ts, c07_tokeniseRx s = some ts := by
  rw [C07_tokeniseRx_agrees]; exact C07_tokenise_total_all s

/-- the fuel of the regex-driven loop is irrelevant (tokens and steps) once it covers the input. -/
theorem C07_tokeniseRx_fuel_irrelevant (f g : Nat) (s : Str) (hf : s.length ≤ f) (hg : s.length ≤ g) :
    c07_tokeniseRxFuel c07_handRules f s = c07_tokeniseRxFuel c07_handRules g s :=
  c07_tokeniseRxFuel_stable f g s hf hg

/-- all the attempts made at one position (failed ones included) cost at most 12 steps per character
    of the token produced there, plus 36: a failing STRING attempt that scans to the end of the input
    is followed by UNTERMINATED_STRING consuming that same stretch; every other failing attempt costs
    a constant. -/
theorem C07_position_cost (s r : Str) (t : Token) (h : lexOne s = some (t, r)) :
    (c07_firstMatch c07_handRules s).1 ≤ 12 * t.val.length + 36 :=
  c07_firstMatch_cost s r t h

/-- COST, linear: the steps of ALL match attempts that `tokenise(value)` makes (every rule tried at
    every token start, failed attempts included) are at most `48 * length`, for every string. -/
theorem C07_tokeniseRx_cost_linear (s : Str) :
    ∃ n, c07_tokeniseRxCost s = some n ∧ n ≤ 48 * s.length := by
  unfold c07_tokeniseRxCost c07_tokeniseRxWith
  rw [C07_generated_rules]
  exact ⟨_, rfl, c07_tokeniseRxFuel_cost _ s⟩

/-- COST, "at most polynomially" as the property words it: `≤ 48 * (length + 1)^2`
    (a consequence of the linear bound). -/
theorem C07_tokeniseRx_cost_polynomial (s : Str) :
    ∃ n, c07_tokeniseRxCost s = some n ∧ n ≤ 48 * (s.length + 1) ^ 2 := by
  obtain ⟨n, h1, h2⟩ := C07_tokeniseRx_cost_linear s
  refine ⟨n, h1, Nat.le_trans h2 (Nat.mul_le_mul_left 48 ?_)⟩
  have : s.length + 1 ≤ (s.length + 1) ^ 2 := by
    rw [Nat.pow_two]; exact Nat.le_mul_of_pos_right _ (by omega)
  omega

/-! ### examples (non-vacuity) -/

/-- the regex-driven tokeniser on the example of section 5: same tokens, 341 steps for 39 characters -/
example : c07_tokeniseRx S!"p.a\\.b[style-name='it\\'s'] => 'x 12" =
    tokenise S!"p.a\\.b[style-name='it\\'s'] => 'x 12" := by decide +kernel
example : c07_tokeniseRxCost S!"p.a\\.b[style-name='it\\'s'] => 'x 12" = some 341 := by decide +kernel
/-- an unterminated string: STRING fails after scanning to the end, UNTERMINATED_STRING rescans
    (the hypotheses of `C07_position_cost` and `C07_generated_match_nonempty` are satisfiable) -/
example : lexOne S!"'abc" = some (⟨.unterminated, S!"'abc"⟩, []) := by decide +kernel
example : c07_firstMatch c07_handRules S!"'abc" =
    (65, some (⟨.unterminated, S!"'abc"⟩, [])) := by decide +kernel
/-- the parser: respellings give the same value, things outside the fragment are refused -/
example : c07_parseRegex S!"(?:[0-9])+" = some c07_intRule := by decide +kernel
example : c07_parseRegex S!"[\\s]+" = some c07_wsRule := by decide +kernel
example : c07_parseRegex S!"\\d+" ≠ some c07_intRule := by decide +kernel
example : c07_parseRegex S!"a{2}" = none ∧ c07_parseRegex S!"a*?" = none ∧ c07_parseRegex S!"(a" = none ∧
    c07_parseRegex S!"^a" = none ∧ c07_parseRegex S!"(?:|a)*" = none ∧ c07_parseRegex S!"a**" = none := by
  decide +kernel
example : c07_parseRegex S!"\\s*HYPERLINK\\s+\"([^\"]*)\"" =
    some (.seq (.star (.chr c07_ccSpace)) (.seq (.chr (.lit 'H')) (.seq (.chr (.lit 'Y'))
      (.seq (.chr (.lit 'P')) (.seq (.chr (.lit 'E')) (.seq (.chr (.lit 'R')) (.seq (.chr (.lit 'L'))
      (.seq (.chr (.lit 'I')) (.seq (.chr (.lit 'N')) (.seq (.chr (.lit 'K'))
      (.seq (C07Regex.plus (.chr c07_ccSpace)) (.seq (.chr (.lit '"'))
      (.seq (.star (.chr (.nset [('"', '"')]))) (.chr (.lit '"'))))))))))))))) := by decide +kernel

end Mammoth
