/-
  C05 — the domain of the whole API, `c05_inDomain p` (decidable), and the composition step
  `c05_apiConvert_ok_of_docOk`: a package read into a document that passes the converter's precondition is
  converted.
-/
import Proofs.C05_Package
import Proofs.C05_Api
namespace Mammoth

/-- READABLE: every part that is present parses (`c05_view`), the `w:numStyleLink` chains are acyclic, and
    each of the four node lists handed to the body reader is statically well-formed and has balanced complex
    fields in reading order; note and comment elements carry `w:id` -/
def c05_readable (p : Package) : Bool :=
  match c05_view p with
  | none => false
  | some v => c05_viewReadable v

/-- REFERENCES RESOLVE: every note / comment reference and every embedded-image relationship anywhere in
    the nodes read points to a note / comment the package defines, resp. to a zip entry that is not XML -/
def c05_refsResolve (p : Package) : Bool :=
  match c05_view p with
  | none => false
  | some v => c05_viewRefsOk ((archiveBytes p).map (·.1)) v

/-- the embedded style map, if present, is a UTF-8 text entry -/
def c05_styleMapOk (p : Package) : Bool :=
  match lookupLast S!"mammoth/style-map" p.parts with
  | none => true
  | some (.bytes b) => (utf8Decode b).isSome
  | some (.xml _) => false

/-- THE DOMAIN of C05 -/
def c05_inDomain (p : Package) : Bool := c05_readable p && c05_refsResolve p && c05_styleMapOk p

/-- the fuel that is enough: the largest of the four node lists handed to the body reader -/
def c05_fuelBound (p : Package) : Nat :=
  match c05_view p with
  | none => 0
  | some v => c05_viewFuel v

theorem c05_view_isSome_of_readable {p : Package} (h : c05_readable p = true) : (c05_view p).isSome = true := by
  unfold c05_readable at h
  cases hv : c05_view p with
  | none => rw [hv] at h; cases h
  | some v => rfl

theorem c05_readEmbeddedStyleMap_ok (p : Package) (h : c05_styleMapOk p = true) :
    ∃ s, readEmbeddedStyleMap p = .ok s := by
  unfold c05_styleMapOk at h
  unfold readEmbeddedStyleMap
  split
  · exact ⟨_, rfl⟩
  · rename_i b hb
    rw [hb] at h; dsimp only at h
    cases hu : utf8Decode b with
    | none => rw [hu] at h; cases h
    | some s => exact ⟨_, rfl⟩
  · rename_i x hx
    rw [hx] at h; cases h

/-- composition: once the package is read into a document that passes the converter's precondition (after
    the caller's transformation), `apiConvert` returns normally -/
theorem c05_apiConvert_ok_of_docOk (p : Package) (fuel : Nat) (base : Option Str) (world : Str → Option Bytes)
    (transform : Document → Document) (o : Options) (doc : Document) (msgs : List Str)
    (hs : c05_styleMapOk p = true) (hr : readPackage p fuel = .ok (doc, msgs))
    (hd : ∀ emb, c05_docOk (c05_apiCfg p base world o emb) (transform doc) = true) :
    ∃ out, apiConvert p fuel base world transform o = .ok out := by
  have hemb : ∃ emb, (if o.includeEmbedded then readEmbeddedStyleMap p else pure none) = .ok emb := by
    split
    · exact c05_readEmbeddedStyleMap_ok p hs
    · exact ⟨_, rfl⟩
  obtain ⟨emb, he⟩ := hemb
  obtain ⟨r, hc⟩ := c05_convertDoc_ok _ _ (hd emb)
  rw [c05_apiConvert_eq, he]
  simp only [bind, Except.bind, c05_apiRest, hr, hc]
  exact ⟨_, rfl⟩

/-- the references of a document resolve within the document itself and the zip entries `arch` -/
def c05_docSelfOk (arch : List Str) (d : Document) : Bool :=
  c05_docRefsOk { arch := arch, notes := d.notes.map fun n => (n.ty, n.id), comments := d.comments.map (·.id) } d

theorem c05_docOk_of_docSelfOk (cfg : Cfg) (d : Document)
    (h : c05_docSelfOk (cfg.archive.map (·.1)) d = true) : c05_docOk cfg d = true :=
  c05_docOk_of_docRefsOk _ cfg d (fun _ hn => hn) (fun _ hk => hk) (fun _ hc => hc) h

/-! ### the clauses of the domain, one by one (for the examples: which clause does a package violate?) -/

def c05_idsOk (elems : List (Attrs × List XmlNode)) : Bool := elems.all fun e => (attr? S!"w:id" e.1).isSome

/-- the clauses of `c05_inDomain`, in order: parts parse; acyclic links; footnotes (ids, static, balanced);
    endnotes (ids, static, balanced); comments (ids, static, balanced); body (static, balanced); references
    resolve in footnotes, endnotes, comments, body; embedded style map is text -/
def c05_clauses (p : Package) : List Bool :=
  match c05_view p with
  | none => [false]
  | some v =>
    let R := c05_viewRefs ((archiveBytes p).map (·.1)) v
    [ true, c05_linksAcyclic v.shared,
      c05_idsOk v.fnElems, c05_staticL { v.shared with rels := v.fnRels } (c05_flat v.fnElems), c05_balanced (c05_flat v.fnElems),
      c05_idsOk v.enElems, c05_staticL { v.shared with rels := v.enRels } (c05_flat v.enElems), c05_balanced (c05_flat v.enElems),
      c05_idsOk v.cmElems, c05_staticL { v.shared with rels := v.cmRels } (c05_flat v.cmElems), c05_balanced (c05_flat v.cmElems),
      c05_staticL { v.shared with rels := v.bodyRels } v.body, c05_balanced v.body,
      c05_xrefsL { v.shared with rels := v.fnRels } R (c05_flat v.fnElems),
      c05_xrefsL { v.shared with rels := v.enRels } R (c05_flat v.enElems),
      c05_xrefsL { v.shared with rels := v.cmRels } R (c05_flat v.cmElems),
      c05_xrefsL { v.shared with rels := v.bodyRels } R v.body,
      c05_styleMapOk p ]

/-- the domain is exactly the conjunction of its clauses -/
theorem c05_inDomain_eq_clauses (p : Package) : c05_inDomain p = (c05_clauses p).all id := by
  unfold c05_inDomain c05_readable c05_refsResolve c05_clauses
  cases c05_view p with
  | none => simp
  | some v =>
    simp only [c05_viewReadable, c05_partOk, c05_viewRefsOk, c05_idsOk, List.all_cons, List.all_nil, id,
      Bool.and_true, Bool.true_and, Bool.and_assoc]

end Mammoth
