/-
  C17 — the `img` elements survive rendering.

  `c17_imgGood ns`: every element named `img` is childless, and no tag that could be merged with an `img`
  (a tag having `img` among its names) is collapsible.  The converter's forest is like that when no style
  mapping mentions `img` (`Proofs/C17_RenderVisit.lean`).  For such forests `strip_empty` keeps every `img`
  (it is void) and `collapse` never merges anything into or with one: the sequence of `img` tags of
  `collapse (strip_empty ns)` is that of `ns`, and the written HTML has exactly these `<img … />` tags.
-/
import Proofs.C17_Visit
import Proofs.C02_AllTags
namespace Mammoth

/-- the condition on one element -/
def c17_imgGoodTag (t : Tag) (cs : List Node) : Bool :=
  (t.name != S!"img" || cs.isEmpty) && (!(t.names.contains S!"img") || !t.collapsible)

mutual
def c17_imgGoodN : Node → Bool
  | .elem t cs => c17_imgGoodTag t cs && c17_imgGood cs
  | .text _ => true
  | .forceWrite => true
def c17_imgGood : List Node → Bool
  | [] => true
  | c :: cs => c17_imgGoodN c && c17_imgGood cs
end

@[simp] theorem c17_imgGood_nil : c17_imgGood [] = true := by simp [c17_imgGood]
@[simp] theorem c17_imgGood_cons (c : Node) (cs : List Node) :
    c17_imgGood (c :: cs) = (c17_imgGoodN c && c17_imgGood cs) := by simp [c17_imgGood]
@[simp] theorem c17_imgGoodN_text (s : Str) : c17_imgGoodN (.text s) = true := by simp [c17_imgGoodN]
@[simp] theorem c17_imgGoodN_fw : c17_imgGoodN .forceWrite = true := by simp [c17_imgGoodN]
theorem c17_imgGoodN_elem (t : Tag) (cs : List Node) :
    c17_imgGoodN (.elem t cs) = (c17_imgGoodTag t cs && c17_imgGood cs) := by simp [c17_imgGoodN]

theorem c17_imgGood_append (a b : List Node) : c17_imgGood (a ++ b) = (c17_imgGood a && c17_imgGood b) :=
  andL_append rfl (fun _ _ => rfl) a b

/-- a good element named `img` has no children -/
theorem c17_good_img_void {t : Tag} {cs : List Node} (h : c17_imgGoodTag t cs = true) (hn : t.name = S!"img") :
    cs = [] := by
  simp only [c17_imgGoodTag, Bool.and_eq_true, Bool.or_eq_true, bne_iff_ne, ne_eq, List.isEmpty_iff] at h
  rcases h.1 with h1 | h1
  · exact absurd hn h1
  · exact h1

/-- a good collapsible tag does not have `img` among its names -/
theorem c17_good_collapsible {t : Tag} {cs : List Node} (h : c17_imgGoodTag t cs = true)
    (hc : t.collapsible = true) : t.names.contains S!"img" = false := by
  simp only [c17_imgGoodTag, Bool.and_eq_true, Bool.or_eq_true, Bool.not_eq_true'] at h
  rcases h.2 with h2 | h2
  · exact h2
  · rw [hc] at h2; cases h2

theorem c17_good_children {t : Tag} {cs : List Node} (cs' : List Node) (h : c17_imgGoodTag t cs = true)
    (hn : t.name ≠ S!"img") : c17_imgGoodTag t cs' = true := by
  simp only [c17_imgGoodTag, Bool.and_eq_true, Bool.or_eq_true, bne_iff_ne, ne_eq] at h ⊢
  exact ⟨Or.inl hn, h.2⟩

theorem c17_isVoid_img {t : Tag} (hn : t.name = S!"img") : isVoid t [] = true := by
  simp only [isVoid, List.isEmpty_nil, Bool.true_and, hn]
  decide

/-! ### strip_empty -/
mutual
theorem c17_strip_node (n : Node) (h : c17_imgGoodN n = true) :
    c17_imgGood (stripNode n) = true ∧ c17_imgs (stripNode n) = c17_imgsN n := by
  match n with
  | .text s => unfold stripNode; split <;> simp
  | .forceWrite => simp [stripNode]
  | .elem t cs =>
    simp only [c17_imgGoodN_elem, Bool.and_eq_true] at h
    obtain ⟨ih1, ih2⟩ := c17_strip_list cs h.2
    unfold stripNode
    simp only []
    by_cases hn : t.name = S!"img"
    · have hcs := c17_good_img_void h.1 hn
      subst hcs
      simp [stripList, c17_isVoid_img hn, c17_imgGoodN_elem, h.1, c17_imgsN_elem]
    · split
      · rename_i hd
        simp only [Bool.and_eq_true, List.isEmpty_iff] at hd
        rw [hd.1] at ih2
        simp [c17_imgsN_elem, hn, ← ih2]
      · simp [c17_imgGoodN_elem, c17_good_children _ h.1 hn, ih1, c17_imgsN_elem, ih2]
theorem c17_strip_list (ns : List Node) (h : c17_imgGood ns = true) :
    c17_imgGood (stripList ns) = true ∧ c17_imgs (stripList ns) = c17_imgs ns := by
  match ns with
  | [] => simp [stripList]
  | c :: cs =>
    simp only [c17_imgGood_cons, Bool.and_eq_true] at h
    obtain ⟨a1, a2⟩ := c17_strip_node c h.1
    obtain ⟨b1, b2⟩ := c17_strip_list cs h.2
    unfold stripList
    simp [c17_imgGood_append, c17_imgs_append, a1, a2, b1, b2]
end

/-! ### collapse -/
theorem c17_addAllC (acc ns : List Node) (ha : c17_imgGood acc = true) (h : c17_imgGood ns = true) :
    c17_imgGood (addAllC acc ns) = true ∧ c17_imgs (addAllC acc ns) = c17_imgs acc ++ c17_imgs ns := by
  refine addAllC_induct (M := fun acc ns out => c17_imgGood acc = true → c17_imgGood ns = true →
    c17_imgGood out = true ∧ c17_imgs out = c17_imgs acc ++ c17_imgs ns) (fun _ ha _ => by simp [ha]) ?_ ?_ acc ns ha h
  · intro acc n ns out _ ih ha h
    simp only [c17_imgGood_cons, Bool.and_eq_true] at h
    simpa [c17_imgs_append] using ih (by simp [c17_imgGood_append, ha, h.1]) h.2
  · intro init lt lcs t cs ns out hc hm ihc ih ha h
    simp only [c17_imgGood_append, c17_imgGood_cons, c17_imgGoodN_elem, c17_imgGood_nil, Bool.and_eq_true,
      and_true] at ha h
    obtain ⟨hinit, hlt, hlcs⟩ := ha
    -- the merged tag does not have `img` among its names
    have hnot := c17_good_collapsible h.1.1 hc
    have htn : t.name ≠ S!"img" := c17_name_ne_img hnot
    have hltn : lt.name ≠ S!"img" := by
      intro e
      simp only [isMatch, Bool.and_eq_true] at hm
      rw [e, hnot] at hm
      cases hm.1
    have hsep : c17_imgGood (sepText t) = true ∧ c17_imgs (sepText t) = [] := by
      rcases sepText_cases t with e | ⟨s, _, e⟩ <;> simp [e]
    obtain ⟨g1, g2⟩ := ihc (by simp [c17_imgGood_append, hlcs, hsep.1]) h.1.2
    obtain ⟨o1, o2⟩ :=
      ih (by simp [c17_imgGood_append, hinit, c17_imgGoodN_elem, c17_good_children _ hlt hltn, g1]) h.2
    exact ⟨o1, by simpa [c17_imgs_append, c17_imgsN_elem, g2, hsep.2, htn, hltn] using o2⟩

theorem c17_addC (acc : List Node) (n : Node) (ha : c17_imgGood acc = true) (h : c17_imgGoodN n = true) :
    c17_imgGood (addC acc n) = true ∧ c17_imgs (addC acc n) = c17_imgs acc ++ c17_imgsN n := by
  simpa using c17_addAllC acc [n] ha (by simpa using h)

mutual
theorem c17_collapseNode (n : Node) (h : c17_imgGoodN n = true) :
    c17_imgGoodN (collapseNode n) = true ∧ c17_imgsN (collapseNode n) = c17_imgsN n := by
  match n with
  | .text s => simp [collapseNode]
  | .forceWrite => simp [collapseNode]
  | .elem t cs =>
    simp only [c17_imgGoodN_elem, Bool.and_eq_true] at h
    obtain ⟨i1, i2⟩ := c17_collapseFrom [] cs (by simp) h.2
    simp only [collapseNode, c17_imgGoodN_elem, Bool.and_eq_true, c17_imgsN_elem]
    refine ⟨⟨?_, i1⟩, by rw [i2]; simp⟩
    by_cases hn : t.name = S!"img"
    · have hcs := c17_good_img_void h.1 hn
      subst hcs
      simpa [collapseFrom] using h.1
    · exact c17_good_children _ h.1 hn
theorem c17_collapseFrom (acc ns : List Node) (ha : c17_imgGood acc = true) (h : c17_imgGood ns = true) :
    c17_imgGood (collapseFrom acc ns) = true ∧ c17_imgs (collapseFrom acc ns) = c17_imgs acc ++ c17_imgs ns := by
  match ns with
  | [] => simp [collapseFrom, ha]
  | c :: cs =>
    simp only [c17_imgGood_cons, Bool.and_eq_true] at h
    obtain ⟨n1, n2⟩ := c17_collapseNode c h.1
    obtain ⟨a1, a2⟩ := c17_addC acc (collapseNode c) ha n1
    obtain ⟨b1, b2⟩ := c17_collapseFrom (addC acc (collapseNode c)) cs a1 h.2
    unfold collapseFrom
    exact ⟨b1, by rw [b2, a2, n2]; simp [List.append_assoc]⟩
end

/-- the `img` tags of `collapse (strip_empty ns)` are those of `ns`, in order -/
theorem c17_imgs_render (ns : List Node) (h : c17_imgGood ns = true) :
    c17_imgs (collapse (stripEmpty ns)) = c17_imgs ns ∧ c17_imgGood (collapse (stripEmpty ns)) = true := by
  obtain ⟨s1, s2⟩ := c17_strip_list ns h
  obtain ⟨c1, c2⟩ := c17_collapseFrom [] (stripList ns) (by simp) s1
  exact ⟨by simpa [collapse, stripEmpty, s2] using c2, c1⟩

/-! ### the written HTML -/

/-- the attribute lists of the `img` start tags (`<img …>` or `<img … />`) among the tokens, in order -/
def c17_tokImgs : List c02_Tok → List (List (Str × Str))
  | [] => []
  | .start n as :: r => (if n = S!"img" then [as] else []) ++ c17_tokImgs r
  | .selfClose n as :: r => (if n = S!"img" then [as] else []) ++ c17_tokImgs r
  | .end _ :: r => c17_tokImgs r
  | .text _ :: r => c17_tokImgs r

/-- the void ones only: `<img … />` -/
def c17_tokVoidImgs : List c02_Tok → List (List (Str × Str))
  | [] => []
  | .selfClose n as :: r => (if n = S!"img" then [as] else []) ++ c17_tokVoidImgs r
  | _ :: r => c17_tokVoidImgs r

theorem c17_tokImgs_append (a b : List c02_Tok) : c17_tokImgs (a ++ b) = c17_tokImgs a ++ c17_tokImgs b := by
  induction a with
  | nil => simp [c17_tokImgs]
  | cons t ts ih => cases t <;> simp [c17_tokImgs, ih]

theorem c17_tokVoidImgs_append (a b : List c02_Tok) :
    c17_tokVoidImgs (a ++ b) = c17_tokVoidImgs a ++ c17_tokVoidImgs b := by
  induction a with
  | nil => simp [c17_tokVoidImgs]
  | cons t ts ih => cases t <;> simp [c17_tokVoidImgs, ih]

theorem c17_tokImgs_markup (ts : List c02_Tok) : c17_tokImgs (c02_tokMarkup ts) = c17_tokImgs ts := by
  induction ts with
  | nil => rfl
  | cons t ts ih => cases t <;> simp [c02_tokMarkup, c17_tokImgs, ih]

theorem c17_tokVoidImgs_markup (ts : List c02_Tok) : c17_tokVoidImgs (c02_tokMarkup ts) = c17_tokVoidImgs ts := by
  induction ts with
  | nil => rfl
  | cons t ts ih => cases t <;> simp [c02_tokMarkup, c17_tokVoidImgs, ih]

mutual
theorem c17_tokImgs_tokensN (n : Node) : c17_tokImgs (c02_tokensN n) = (c17_imgsN n).map (·.attrs) := by
  match n with
  | .text s => simp [c17_tokImgs]
  | .forceWrite => simp [c17_tokImgs]
  | .elem t cs =>
    rw [c02_tokensN_elem, c17_imgsN_elem]
    by_cases hv : isVoid t cs = true
    · have hcs : cs = [] := by
        simp only [isVoid, Bool.and_eq_true, List.isEmpty_iff] at hv; exact hv.1
      subst hcs
      simp only [hv, if_true, c17_tokImgs, c17_imgs_nil, List.append_nil]
      split <;> simp
    · simp only [hv, Bool.false_eq_true, if_false, c17_tokImgs_append, c17_tokImgs, List.append_nil,
        c17_tokImgs_tokens cs, List.map_append, List.cons_append, List.nil_append]
      split <;> simp
theorem c17_tokImgs_tokens (ns : List Node) : c17_tokImgs (c02_tokens ns) = (c17_imgs ns).map (·.attrs) := by
  match ns with
  | [] => simp [c17_tokImgs]
  | c :: cs => simp [c17_tokImgs_append, c17_tokImgs_tokensN c, c17_tokImgs_tokens cs]
end

mutual
theorem c17_tokVoidImgs_tokensN (n : Node) (h : c17_imgGoodN n = true) :
    c17_tokVoidImgs (c02_tokensN n) = (c17_imgsN n).map (·.attrs) := by
  match n with
  | .text s => simp [c17_tokVoidImgs]
  | .forceWrite => simp [c17_tokVoidImgs]
  | .elem t cs =>
    simp only [c17_imgGoodN_elem, Bool.and_eq_true] at h
    rw [c02_tokensN_elem, c17_imgsN_elem]
    by_cases hn : t.name = S!"img"
    · have hcs := c17_good_img_void h.1 hn
      subst hcs
      simp [c17_isVoid_img hn, c17_tokVoidImgs, hn]
    · by_cases hv : isVoid t cs = true
      · have hcs : cs = [] := by
          simp only [isVoid, Bool.and_eq_true, List.isEmpty_iff] at hv; exact hv.1
        subst hcs
        simp [hv, c17_tokVoidImgs, hn]
      · simp only [hv, Bool.false_eq_true, if_false, c17_tokVoidImgs_append, c17_tokVoidImgs, List.append_nil,
          c17_tokVoidImgs_tokens cs h.2, List.singleton_append, hn, List.nil_append]
theorem c17_tokVoidImgs_tokens (ns : List Node) (h : c17_imgGood ns = true) :
    c17_tokVoidImgs (c02_tokens ns) = (c17_imgs ns).map (·.attrs) := by
  match ns with
  | [] => simp [c17_tokVoidImgs]
  | c :: cs =>
    simp only [c17_imgGood_cons, Bool.and_eq_true] at h
    simp [c17_tokVoidImgs_append, c17_tokVoidImgs_tokensN c h.1, c17_tokVoidImgs_tokens cs h.2]
end

/-- THE WRITTEN HTML.  For a forest with plain tag and attribute names in which `img` elements are
    childless and unmergeable, the strict lexer accepts `render ns`, and the `img` start tags it finds —
    all of them of the void form `<img … />` — carry, in order, exactly the attribute lists of the `img`
    elements of `ns` (values decoded back to the original strings). -/
theorem c17_written_imgs (ns : List Node) (hp : c02_plainNames ns = true) (hg : c17_imgGood ns = true) :
    ∃ toks, c02_lexHtml (render ns) = some toks ∧
      c17_tokImgs toks = (c17_imgs ns).map (·.attrs) ∧
      c17_tokVoidImgs toks = (c17_imgs ns).map (·.attrs) := by
  have hp' := c02_plainNames_render ns hp
  obtain ⟨r1, r2⟩ := c17_imgs_render ns hg
  refine ⟨_, c02_lexHtml_write _ hp', ?_, ?_⟩
  · rw [← c17_tokImgs_markup, c02_tokMarkup_coalesce, c17_tokImgs_markup, c17_tokImgs_tokens, r1]
  · rw [← c17_tokVoidImgs_markup, c02_tokMarkup_coalesce, c17_tokVoidImgs_markup,
      c17_tokVoidImgs_tokens _ r2, r1]

end Mammoth
