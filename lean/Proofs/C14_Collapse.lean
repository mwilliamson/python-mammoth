/-
  C14 — `collapse` keeps the guarantees of `strip_empty`: a forest in which every element has content
  (`allContentL`) stays such a forest, nothing becomes empty, force-write markers and text nodes are
  never lost.
-/
import Proofs.Strip
import Proofs.Collapse
namespace Mammoth

/-! ### `anyContent` / `allContentL` and list operations -/

theorem allContentL_append (a b : List Node) : allContentL (a ++ b) = (allContentL a && allContentL b) :=
  andL_append rfl (fun _ _ => rfl) a b

theorem hasContent_of_allContent (n : Node) (h : allContent n = true) : hasContent n = true := by
  cases n with
  | text s => simpa [allContent] using h
  | forceWrite => simp [hasContent]
  | elem t cs =>
    simp only [allContent, Bool.and_eq_true] at h
    exact h.1

/-- in a forest without empty elements, having content is the same as being non-empty -/
theorem anyContent_of_allContentL (ns : List Node) (h : allContentL ns = true) :
    anyContent ns = !ns.isEmpty := by
  cases ns with
  | nil => simp [anyContent]
  | cons c cs =>
    simp only [allContentL, Bool.and_eq_true] at h
    simp [anyContent, hasContent_of_allContent c h.1]

theorem allContentL_sepText (t : Tag) : allContentL (sepText t) = true := by
  rcases sepText_cases t with e | ⟨s, hs, e⟩
  · simp [e, allContentL]
  · simp [e, allContentL, allContent, hasContent, hs]

/-! ### `addC` never returns the empty list -/

theorem addC_ne_nil (acc : List Node) (n : Node) : addC acc n ≠ [] := by
  match n with
  | .text s => simp [addC_text]
  | .forceWrite => simp [addC_fw]
  | .elem t cs =>
    unfold addC
    split
    · split <;> simp
    · simp

theorem addAllC_eq_nil (acc ns : List Node) (h : addAllC acc ns = []) : acc = [] ∧ ns = [] := by
  match ns with
  | [] => simpa using h
  | c :: cs =>
    simp only [addAllC_cons] at h
    exact absurd (addAllC_eq_nil (addC acc c) cs h).1 (addC_ne_nil acc c)

theorem collapseFrom_eq_nil (acc ns : List Node) (h : collapseFrom acc ns = []) : acc = [] ∧ ns = [] := by
  match ns with
  | [] => simpa [collapseFrom] using h
  | c :: cs =>
    unfold collapseFrom at h
    exact absurd (collapseFrom_eq_nil _ cs h).1 (addC_ne_nil acc _)

/-- `collapse` returns the empty forest only for the empty forest -/
theorem collapse_eq_nil_iff (ns : List Node) : collapse ns = [] ↔ ns = [] := by
  constructor
  · intro h; exact (collapseFrom_eq_nil [] ns h).2
  · intro h; subst h; rfl

/-! ### no empty element appears -/

theorem hasContent_elem_of_allContentL (t : Tag) (cs : List Node) (h : allContentL cs = true)
    (hne : cs ≠ []) : hasContent (.elem t cs) = true := by
  cases cs with
  | nil => exact absurd rfl hne
  | cons c cs => simp [hasContent, anyContent_of_allContentL _ h]

theorem allContentL_addAllC (acc ns : List Node) (ha : allContentL acc = true)
    (h : allContentL ns = true) : allContentL (addAllC acc ns) = true := by
  refine addAllC_induct
    (M := fun acc ns out => allContentL acc = true → allContentL ns = true → allContentL out = true)
    (fun _ ha _ => ha) ?_ ?_ acc ns ha h
  · intro acc n ns out _ ih ha h
    simp only [allContentL, Bool.and_eq_true] at h
    exact ih (by simp [allContentL_append, allContentL, ha, h.1]) h.2
  · intro init lt lcs t cs ns out _ _ ihc ih ha h
    simp only [allContentL_append, allContentL, allContent, Bool.and_eq_true] at ha h
    have hM := ihc (by simp [allContentL_append, ha.2.1.2, allContentL_sepText]) h.1.2
    refine ih ?_ h.2
    simp only [allContentL_append, allContentL, allContent, Bool.and_eq_true, and_true]
    refine ⟨ha.1, ?_, hM⟩
    by_cases hMe : addAllC (lcs ++ sepText t) cs = []
    · -- nothing was added to no children: the element is the void one it was
      have hl0 : lcs = [] := (List.append_eq_nil_iff.mp (addAllC_eq_nil _ _ hMe).1).1
      rw [hMe]
      exact hl0 ▸ ha.2.1.1
    · exact hasContent_elem_of_allContentL lt _ hM hMe

theorem allContentL_addC (acc : List Node) (n : Node) (ha : allContentL acc = true)
    (hn : allContent n = true) : allContentL (addC acc n) = true :=
  allContentL_addAllC acc [n] ha (by simpa [allContentL] using hn)

mutual
theorem allContent_collapseNode (n : Node) (h : allContent n = true) :
    allContent (collapseNode n) = true := by
  match n with
  | .text s => simpa [collapseNode] using h
  | .forceWrite => simpa [collapseNode] using h
  | .elem t cs =>
    have h' := h
    simp only [allContent, Bool.and_eq_true] at h'
    have hM := allContentL_collapseFrom [] cs (by simp [allContentL]) h'.2
    simp only [collapseNode, allContent, Bool.and_eq_true]
    refine ⟨?_, hM⟩
    by_cases hMe : collapseFrom [] cs = []
    · rw [hMe]
      exact (collapseFrom_eq_nil _ _ hMe).2 ▸ h'.1
    · exact hasContent_elem_of_allContentL t _ hM hMe
theorem allContentL_collapseFrom (acc ns : List Node) (ha : allContentL acc = true)
    (h : allContentL ns = true) : allContentL (collapseFrom acc ns) = true := by
  match ns with
  | [] => simpa [collapseFrom] using ha
  | c :: cs =>
    have h' := h
    simp only [allContentL, Bool.and_eq_true] at h'
    unfold collapseFrom
    exact allContentL_collapseFrom _ cs
      (allContentL_addC acc _ ha (allContent_collapseNode c h'.1)) h'.2
end

/-- a forest without empty elements stays one under `collapse` -/
theorem allContentL_collapse (ns : List Node) (h : allContentL ns = true) :
    allContentL (collapse ns) = true :=
  allContentL_collapseFrom [] ns (by simp [allContentL]) h

/-! ### force-write markers are never lost, duplicated or moved out of order: their number is kept -/
mutual
/-- number of force-write markers in a node -/
def fwCount : Node → Nat
  | .forceWrite => 1
  | .text _ => 0
  | .elem _ cs => fwCountL cs
def fwCountL : List Node → Nat
  | [] => 0
  | c :: cs => fwCount c + fwCountL cs
end

theorem fwCountL_append (a b : List Node) : fwCountL (a ++ b) = fwCountL a + fwCountL b := by
  induction a with
  | nil => simp [fwCountL]
  | cons x xs ih => simp [fwCountL, ih, Nat.add_assoc]

theorem fwCountL_sepText (t : Tag) : fwCountL (sepText t) = 0 := by
  rcases sepText_cases t with e | ⟨s, _, e⟩ <;> simp [e, fwCountL, fwCount]

theorem fwCount_addAllC (acc ns : List Node) :
    fwCountL (addAllC acc ns) = fwCountL acc + fwCountL ns := by
  refine addAllC_induct (M := fun acc ns out => fwCountL out = fwCountL acc + fwCountL ns)
    (fun _ => by simp [fwCountL]) ?_ ?_ acc ns
  · intro acc n ns out _ ih
    simpa [fwCountL_append, fwCountL, Nat.add_assoc] using ih
  · intro init lt lcs t cs ns out _ _ ihc ih
    simpa [fwCountL_append, fwCountL_sepText, fwCountL, fwCount, ihc, Nat.add_assoc] using ih

theorem fwCount_addC (acc : List Node) (n : Node) :
    fwCountL (addC acc n) = fwCountL acc + fwCount n := by
  simpa [fwCountL] using fwCount_addAllC acc [n]

mutual
theorem fwCount_collapseNode (n : Node) : fwCount (collapseNode n) = fwCount n := by
  match n with
  | .text s => simp [collapseNode]
  | .forceWrite => simp [collapseNode]
  | .elem t cs =>
    simp only [collapseNode, fwCount]
    simpa [fwCountL] using fwCount_collapseFrom [] cs
theorem fwCount_collapseFrom (acc ns : List Node) :
    fwCountL (collapseFrom acc ns) = fwCountL acc + fwCountL ns := by
  match ns with
  | [] => simp [collapseFrom, fwCountL]
  | c :: cs =>
    unfold collapseFrom
    rw [fwCount_collapseFrom _ cs, fwCount_addC, fwCount_collapseNode c]
    simp [fwCountL, Nat.add_assoc]
end

theorem fwCount_collapse (ns : List Node) : fwCountL (collapse ns) = fwCountL ns := by
  simpa [collapse, fwCountL] using fwCount_collapseFrom [] ns

mutual
theorem fwCount_pruneNode (n : Node) : fwCount (pruneNode n) = fwCount n := by
  match n with
  | .text s => simp [pruneNode]
  | .forceWrite => simp [pruneNode]
  | .elem t cs => simp only [pruneNode, fwCount]; exact fwCount_prune cs
theorem fwCount_prune (ns : List Node) : fwCountL (prune ns) = fwCountL ns := by
  match ns with
  | [] => simp [prune]
  | c :: cs =>
    unfold prune
    by_cases hc : hasContent c = true
    · simp [hc, fwCountL, fwCount_pruneNode c, fwCount_prune cs]
    · simp only [hc]
      have h0 : fwCount c = 0 := fwCount_of_noContent c (by simpa using hc)
      simp [fwCountL, h0, fwCount_prune cs]
theorem fwCount_of_noContent (n : Node) (h : hasContent n = false) : fwCount n = 0 := by
  match n with
  | .text s => simp [fwCount]
  | .forceWrite => simp [hasContent] at h
  | .elem t cs =>
    simp only [hasContent, Bool.or_eq_false_iff] at h
    simp only [fwCount]
    exact fwCountL_of_noContent cs h.2
theorem fwCountL_of_noContent (ns : List Node) (h : anyContent ns = false) : fwCountL ns = 0 := by
  match ns with
  | [] => simp [fwCountL]
  | c :: cs =>
    simp only [anyContent, Bool.or_eq_false_iff] at h
    simp [fwCountL, fwCount_of_noContent c h.1, fwCountL_of_noContent cs h.2]
end

end Mammoth
