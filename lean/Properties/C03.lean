/-
  C03 — style mappings resolve by first match, with user > embedded > default precedence.
-/
import Proofs.C03_Lemmas
namespace Mammoth

/-! ### precedence of the three sources -/

/-- the style map handed to the converter is: the explicit mappings (top to bottom), then the
    embedded ones (the caller passes `none` when they are disabled), then the built-in defaults
    unless these are disabled -/
theorem C03_styleMap_order (custom embedded : Option Str) (incl : Bool) :
    (readOptions custom embedded incl).1 =
      (readStyleMap (custom.getD [])).1 ++ (readStyleMap (embedded.getD [])).1 ++
        (if incl then defaultStyleMap else []) := rfl

/-- FIRST MATCH.  `findStyle` returns `s` iff the map splits as `pre ++ s :: post` where `s`
    matches and nothing in `pre` does. -/
theorem C03_findStyle_first (up : Str → Str) (sm : List Style) (t : Target) (s : Style) :
    findStyle up sm t = some s ↔
      ∃ pre post, sm = pre ++ s :: post ∧ matcherMatches up s.matcher t = true ∧
        ∀ x ∈ pre, ¬ matcherMatches up x.matcher t = true := by
  unfold findStyle
  rw [List.find?_eq_some_iff_append]
  constructor
  · rintro ⟨hs, pre, post, rfl, hpre⟩
    exact ⟨pre, post, rfl, hs, fun x hx => by simpa using hpre x hx⟩
  · rintro ⟨pre, post, rfl, hs, hpre⟩
    exact ⟨hs, pre, post, rfl, fun x hx => by simpa using hpre x hx⟩

/-- nothing is found iff no mapping matches -/
theorem C03_findStyle_none (up : Str → Str) (sm : List Style) (t : Target) :
    findStyle up sm t = none ↔ ∀ x ∈ sm, ¬ matcherMatches up x.matcher t = true := by
  simp [findStyle]

/-- USER OVERRIDES.  As soon as one mapping of the first list matches, the later lists
    (embedded, defaults) are irrelevant. -/
theorem C03_user_overrides (up : Str → Str) (a b c : List Style) (t : Target)
    (h : ∃ x ∈ a, matcherMatches up x.matcher t = true) :
    findStyle up (a ++ b ++ c) t = findStyle up a t := by
  obtain ⟨x, hx, hm⟩ := h
  unfold findStyle
  rw [List.append_assoc, List.find?_append]
  cases hf : a.find? (fun s => matcherMatches up s.matcher t) with
  | some s => rfl
  | none =>
    rw [List.find?_eq_none] at hf
    exact absurd hm (hf x hx)

/-- …and when nothing of an earlier list matches, the search continues in the next one -/
theorem C03_fallthrough (up : Str → Str) (a b : List Style) (t : Target)
    (h : ∀ x ∈ a, ¬ matcherMatches up x.matcher t = true) :
    findStyle up (a ++ b) t = findStyle up b t := by
  unfold findStyle
  rw [List.find?_append]
  have : a.find? (fun s => matcherMatches up s.matcher t) = none := by
    rw [List.find?_eq_none]; exact h
  rw [this]; rfl

/-! ### when does a mapping match -/

/-- style-name equality is equality after upper-casing both sides -/
theorem C03_name_equal_iff (up : Str → Str) (v n : Str) :
    (StrMatch.equalTo v).matches up n = true ↔ up v = up n := by
  simp [StrMatch.matches]

/-- `^=` : the upper-cased name starts with the upper-cased prefix -/
theorem C03_name_prefix_iff (up : Str → Str) (v n : Str) :
    (StrMatch.startsWith v).matches up n = true ↔ ∃ rest, up n = up v ++ rest := by
  simp [StrMatch.matches, startsWith_iff]

/-- a paragraph matcher matches a paragraph iff the style id (if given) is exactly the
    paragraph's, the style name (if given) matches the paragraph's (which must exist), and the
    list level with its orderedness (if given) is exactly the paragraph's -/
theorem C03_matches_paragraph_iff (up : Str → Str) (sid : Option Str) (sname : Option StrMatch)
    (num : Option NumLevel) (p : ParaProps) :
    matcherMatches up (.paragraph sid sname num) (.paragraph p) = true ↔
      (∀ v, sid = some v → p.styleId = some v) ∧
      (∀ m, sname = some m → ∃ n, p.styleName = some n ∧ m.matches up n = true) ∧
      (∀ l, num = some l → p.numbering = some l) := by
  simp only [matcherMatches, Bool.and_eq_true, c03_optEqOrNone_iff, c03_nameMatches_iff, and_assoc]
  cases num <;> simp

/-- a run matcher (`r`, `r.Id`, `r[style-name=…]`) matches a run iff the style id (if given) is exactly
    the run's and the style name (if given) matches the run's, which must exist -/
theorem C03_matches_run_iff (up : Str → Str) (sid : Option Str) (sname : Option StrMatch)
    (esid esname : Option Str) :
    matcherMatches up (.run sid sname) (.run esid esname) = true ↔
      (∀ v, sid = some v → esid = some v) ∧
      (∀ m, sname = some m → ∃ n, esname = some n ∧ m.matches up n = true) := by
  simp only [matcherMatches, Bool.and_eq_true, c03_optEqOrNone_iff, c03_nameMatches_iff]

theorem C03_matches_table_iff (up : Str → Str) (sid : Option Str) (sname : Option StrMatch)
    (esid esname : Option Str) :
    matcherMatches up (.table sid sname) (.table esid esname) = true ↔
      (∀ v, sid = some v → esid = some v) ∧
      (∀ m, sname = some m → ∃ n, esname = some n ∧ m.matches up n = true) := by
  simp only [matcherMatches, Bool.and_eq_true, c03_optEqOrNone_iff, c03_nameMatches_iff]

/-- a highlight matcher without colour matches every highlight, one with a colour only that colour -/
theorem C03_matches_highlight_iff (up : Str → Str) (c : Option Str) (ec : Str) :
    matcherMatches up (.highlight c) (.highlight ec) = true ↔ ∀ v, c = some v → v = ec := by
  cases c <;> simp [matcherMatches]

/-- a break matcher (`br[type='line'|'page'|'column']`) matches exactly the breaks of its own type -/
theorem C03_matches_break_iff (up : Str → Str) (ty ety : Str) :
    matcherMatches up (.brk ty) (.brk ety) = true ↔ ty = ety := by
  simp [matcherMatches]

/-- the property matchers (bold, italic, …, comment reference) match their own kind unconditionally -/
theorem C03_matches_property (up : Str → Str) :
    matcherMatches up .bold .bold = true ∧ matcherMatches up .italic .italic = true ∧
    matcherMatches up .underline .underline = true ∧
    matcherMatches up .strikethrough .strikethrough = true ∧
    matcherMatches up .allCaps .allCaps = true ∧ matcherMatches up .smallCaps .smallCaps = true ∧
    matcherMatches up .commentReference .commentReference = true := by
  simp [matcherMatches]

/-- a matcher of one kind never matches a target of another kind -/
theorem C03_kind_mismatch (up : Str → Str) (m : Matcher) (t : Target)
    (h : c03_matcherKind m ≠ c03_targetKind t) : matcherMatches up m t = false := by
  fun_cases matcherMatches up m t
  case case14 => rfl
  all_goals exact absurd rfl h

/-! ### the first matching mapping decides the rendering -/

/-- a paragraph is rendered inside the path of the first mapping that matches it (no warning) -/
theorem C03_mapped_paragraph (cfg : Cfg) (hdr : Bool) (p : ParaProps) (cs : List Elem)
    (st : ConvState) (s : Style) (es : List Tag)
    (h : findStyle cfg.upper cfg.styleMap (.paragraph p) = some s) (hp : s.path = .elements es) :
    (visit cfg hdr (.paragraph p cs)).run st =
      match (visitAll cfg hdr cs).run st with
      | .ok (content, st') =>
        .ok (wrapElems es (if cfg.ignoreEmpty then content else .forceWrite :: content), st')
      | .error e => .error e := by
  have hf := c03_findPath_some h hp
  rw [c03_visit_paragraph, hf, c03_warnState_matched _ _ _ _ _ _ _ hf]
  rfl

/-- a table is rendered inside the path of the first mapping that matches it -/
theorem C03_mapped_table (cfg : Cfg) (hdr : Bool) (sid sname : Option Str) (rows : List Elem)
    (st : ConvState) (s : Style) (es : List Tag)
    (h : findStyle cfg.upper cfg.styleMap (.table sid sname) = some s) (hp : s.path = .elements es) :
    (visit cfg hdr (.table sid sname rows)).run st =
      match (visitRows cfg true rows).run st with
      | .ok ((head, body), st') =>
        .ok (wrapElems es
              (.forceWrite :: (if bodyIndex rows == 0 then body
                               else [el S!"thead" [] head, el S!"tbody" [] body])), st')
      | .error e => .error e := by
  have hf := c03_findPath_some h hp
  rw [c03_visit_table, hf]
  rfl

/-- a break is rendered as the (empty) path of the first mapping that matches its type -/
theorem C03_mapped_break (cfg : Cfg) (hdr : Bool) (ty : Str) (st : ConvState) (s : Style)
    (es : List Tag)
    (h : findStyle cfg.upper cfg.styleMap (.brk ty) = some s) (hp : s.path = .elements es) :
    (visit cfg hdr (.brk ty)).run st = .ok (wrapElems es [], st) := by
  have hf := c03_findPath_some h hp
  rw [visit, hf]
  rfl

/-- a run is wrapped (outermost) in the path of the first run mapping that matches it, around its
    formatting paths (which are themselves first-match lookups: see `C11_runPropPaths_spec`) -/
theorem C03_mapped_run (cfg : Cfg) (hdr : Bool) (r : RunProps) (cs : List Elem)
    (st : ConvState) (s : Style) (es : List Tag)
    (h : findStyle cfg.upper cfg.styleMap (.run r.styleId r.styleName) = some s)
    (hp : s.path = .elements es)
    (hno : (runPropPaths cfg r).any HtmlPath.isIgnore = false) :
    (visit cfg hdr (.run r cs)).run st =
      match (visitAll cfg hdr cs).run st with
      | .ok (ns, st') => .ok (wrapElems es (wrapAll (runPropPaths cfg r) ns), st')
      | .error e => .error e := by
  have hf := c03_findPath_some h hp
  have hany : (runPropPaths cfg r ++ [HtmlPath.elements es]).any HtmlPath.isIgnore = false := by
    rw [List.any_append, hno]
    rfl
  rw [c03_visit_run, hf, c03_warnState_matched _ _ _ _ _ _ _ hf, Option.getD_some, hany]
  simp only [Bool.false_eq_true, if_false, c03_wrapAll_append]
  rfl

/-! ### fallbacks when nothing matches -/

/-- an unmatched paragraph becomes a fresh `p` around its converted children (a warning is
    recorded first iff it has a style id) -/
theorem C03_fallbacks_paragraph (cfg : Cfg) (hdr : Bool) (p : ParaProps) (cs : List Elem)
    (st : ConvState) (h : findStyle cfg.upper cfg.styleMap (.paragraph p) = none) :
    (visit cfg hdr (.paragraph p cs)).run st =
      match (visitAll cfg hdr cs).run
              (c03_warnState cfg (.paragraph p) S!"paragraph" p.styleId p.styleName st) with
      | .ok (content, st') =>
        .ok ([.elem { name := S!"p", collapsible := false }
                (if cfg.ignoreEmpty then content else .forceWrite :: content)], st')
      | .error e => .error e := by
  have hp := c03_findPath_none h
  rw [c03_visit_paragraph, hp]
  rfl

/-- an unmatched table becomes a fresh `table` -/
theorem C03_fallbacks_table (cfg : Cfg) (hdr : Bool) (sid sname : Option Str) (rows : List Elem)
    (st : ConvState) (h : findStyle cfg.upper cfg.styleMap (.table sid sname) = none) :
    (visit cfg hdr (.table sid sname rows)).run st =
      match (visitRows cfg true rows).run st with
      | .ok ((head, body), st') =>
        .ok ([.elem { name := S!"table", collapsible := false }
                (.forceWrite :: (if bodyIndex rows == 0 then body
                                 else [el S!"thead" [] head, el S!"tbody" [] body]))], st')
      | .error e => .error e := by
  have hp := c03_findPath_none h
  rw [c03_visit_table, hp]
  rfl

/-- an unmatched run contributes no element of its own: only the property paths wrap the children -/
theorem C03_fallbacks_run (cfg : Cfg) (hdr : Bool) (r : RunProps) (cs : List Elem)
    (st : ConvState) (h : findStyle cfg.upper cfg.styleMap (.run r.styleId r.styleName) = none)
    (hno : (runPropPaths cfg r).any HtmlPath.isIgnore = false) :
    (visit cfg hdr (.run r cs)).run st =
      match (visitAll cfg hdr cs).run
              (c03_warnState cfg (.run r.styleId r.styleName) S!"run" r.styleId r.styleName st) with
      | .ok (ns, st') => .ok (wrapAll (runPropPaths cfg r) ns, st')
      | .error e => .error e := by
  have hp := c03_findPath_none h
  have hany : (runPropPaths cfg r ++ [HtmlPath.elements []]).any HtmlPath.isIgnore = false := by
    rw [List.any_append, hno]
    rfl
  rw [c03_visit_run, hp, Option.getD_none, hany]
  simp only [Bool.false_eq_true, if_false, c03_wrapAll_append]
  rfl

/-- an unmatched break: a line break is `<br>`, any other break nothing -/
theorem C03_fallbacks_break (cfg : Cfg) (hdr : Bool) (ty : Str) (st : ConvState)
    (h : findStyle cfg.upper cfg.styleMap (.brk ty) = none) :
    (visit cfg hdr (.brk ty)).run st =
      .ok (if ty = S!"line" then [.elem { name := S!"br", collapsible := false } []] else [], st) := by
  have hp := c03_findPath_none h
  rw [visit, hp]
  by_cases hl : ty = S!"line" <;> simp [hl] <;> rfl

/-! ### `!` drops the element with its contents -/

/-- a paragraph whose first matching mapping has path `!` yields nothing and leaves the state
    untouched: the children are not visited (no note reference recorded, no image opened, no
    warning) -/
theorem C03_ignore_drops_paragraph (cfg : Cfg) (hdr : Bool) (p : ParaProps) (cs : List Elem)
    (st : ConvState) (s : Style)
    (h : findStyle cfg.upper cfg.styleMap (.paragraph p) = some s) (hi : s.path = .ignore) :
    (visit cfg hdr (.paragraph p cs)).run st = .ok ([], st) := by
  have hp := c03_findPath_some h hi
  rw [c03_visit_paragraph, hp, c03_warnState_matched _ _ _ _ _ _ _ hp]
  rfl

/-- a table whose first matching mapping has path `!` yields nothing and leaves the state untouched:
    rows and cells are not visited -/
theorem C03_ignore_drops_table (cfg : Cfg) (hdr : Bool) (sid sname : Option Str) (rows : List Elem)
    (st : ConvState) (s : Style)
    (h : findStyle cfg.upper cfg.styleMap (.table sid sname) = some s) (hi : s.path = .ignore) :
    (visit cfg hdr (.table sid sname rows)).run st = .ok ([], st) := by
  have hp := c03_findPath_some h hi
  rw [c03_visit_table, hp]
  rfl

/-- a run any of whose paths (formatting paths or run-style path) is `!`: the children are not
    visited; what is outside the `!` still wraps the empty content; the state only gains the
    possible "Unrecognised run style" warning -/
theorem C03_ignore_drops_run (cfg : Cfg) (hdr : Bool) (r : RunProps) (cs : List Elem) (st : ConvState)
    (h : (runPropPaths cfg r ++
            [(findPath cfg (.run r.styleId r.styleName)).getD (.elements [])]).any HtmlPath.isIgnore = true) :
    (visit cfg hdr (.run r cs)).run st =
      .ok (wrapAll (runPropPaths cfg r ++
                      [(findPath cfg (.run r.styleId r.styleName)).getD (.elements [])]) [],
           c03_warnState cfg (.run r.styleId r.styleName) S!"run" r.styleId r.styleName st) := by
  rw [c03_visit_run, if_pos h]

/-- in particular a run whose style mapping is `!` produces nothing at all when its formatting
    paths contain no `!` … it produces `wrapAll [] = []` around nothing: no node, state unchanged -/
theorem C03_ignore_drops_run_style (cfg : Cfg) (hdr : Bool) (r : RunProps) (cs : List Elem)
    (st : ConvState) (s : Style)
    (h : findStyle cfg.upper cfg.styleMap (.run r.styleId r.styleName) = some s)
    (hi : s.path = .ignore) :
    (visit cfg hdr (.run r cs)).run st = .ok ([], st) := by
  have hp := c03_findPath_some h hi
  have := C03_ignore_drops_run cfg hdr r cs st (by simp [hp, HtmlPath.isIgnore])
  rw [this, c03_warnState_matched _ _ _ _ _ _ _ hp, hp, c03_wrapAll_append]
  rfl

/-- an ignored break -/
theorem C03_ignore_drops_break (cfg : Cfg) (hdr : Bool) (ty : Str) (st : ConvState) (s : Style)
    (h : findStyle cfg.upper cfg.styleMap (.brk ty) = some s) (hi : s.path = .ignore) :
    (visit cfg hdr (.brk ty)).run st = .ok ([], st) := by
  have hp := c03_findPath_some h hi
  rw [visit, hp]
  rfl

/-- FALLBACKS: unmatched paragraph ↦ fresh `p`, unmatched table ↦ fresh `table`, unmatched run ↦
    no element of its own -/
theorem C03_fallbacks (cfg : Cfg) (hdr : Bool) (st : ConvState) :
    (∀ p cs, findStyle cfg.upper cfg.styleMap (.paragraph p) = none →
      (visit cfg hdr (.paragraph p cs)).run st =
        match (visitAll cfg hdr cs).run
                (c03_warnState cfg (.paragraph p) S!"paragraph" p.styleId p.styleName st) with
        | .ok (content, st') =>
          .ok ([.elem { name := S!"p", collapsible := false }
                  (if cfg.ignoreEmpty then content else .forceWrite :: content)], st')
        | .error e => .error e) ∧
    (∀ sid sname rows, findStyle cfg.upper cfg.styleMap (.table sid sname) = none →
      (visit cfg hdr (.table sid sname rows)).run st =
        match (visitRows cfg true rows).run st with
        | .ok ((head, body), st') =>
          .ok ([.elem { name := S!"table", collapsible := false }
                  (.forceWrite :: (if bodyIndex rows == 0 then body
                                   else [el S!"thead" [] head, el S!"tbody" [] body]))], st')
        | .error e => .error e) ∧
    (∀ r cs, findStyle cfg.upper cfg.styleMap (.run r.styleId r.styleName) = none →
      (runPropPaths cfg r).any HtmlPath.isIgnore = false →
      (visit cfg hdr (.run r cs)).run st =
        match (visitAll cfg hdr cs).run
                (c03_warnState cfg (.run r.styleId r.styleName) S!"run" r.styleId r.styleName st) with
        | .ok (ns, st') => .ok (wrapAll (runPropPaths cfg r) ns, st')
        | .error e => .error e) :=
  ⟨fun p cs h => C03_fallbacks_paragraph cfg hdr p cs st h,
   fun sid sname rows h => C03_fallbacks_table cfg hdr sid sname rows st h,
   fun r cs h hno => C03_fallbacks_run cfg hdr r cs st h hno⟩

/-- `!` DROPS the matched paragraph / table / run together with its contents: the children are
    never visited, the state is untouched (for a run whose formatting path is `!` see
    `C03_ignore_drops_run`) -/
theorem C03_ignore_drops (cfg : Cfg) (hdr : Bool) (st : ConvState) (s : Style) (hi : s.path = .ignore) :
    (∀ p cs, findStyle cfg.upper cfg.styleMap (.paragraph p) = some s →
      (visit cfg hdr (.paragraph p cs)).run st = .ok ([], st)) ∧
    (∀ sid sname rows, findStyle cfg.upper cfg.styleMap (.table sid sname) = some s →
      (visit cfg hdr (.table sid sname rows)).run st = .ok ([], st)) ∧
    (∀ r cs, findStyle cfg.upper cfg.styleMap (.run r.styleId r.styleName) = some s →
      (visit cfg hdr (.run r cs)).run st = .ok ([], st)) ∧
    (∀ ty, findStyle cfg.upper cfg.styleMap (.brk ty) = some s →
      (visit cfg hdr (.brk ty)).run st = .ok ([], st)) :=
  ⟨fun p cs h => C03_ignore_drops_paragraph cfg hdr p cs st s h hi,
   fun sid sname rows h => C03_ignore_drops_table cfg hdr sid sname rows st s h hi,
   fun r cs h => C03_ignore_drops_run_style cfg hdr r cs st s h hi,
   fun ty h => C03_ignore_drops_break cfg hdr ty st s h hi⟩

/-! ### examples -/

/-- explicit mappings come first, then the embedded ones, then the defaults -/
example :
    (readOptions (some S!"p.Heading1 => h2:fresh\nr.X => !") (some S!"p.Heading1 => h3") true).1.take 3 =
      [⟨.paragraph (some S!"Heading1") none none, .elements [pathElem S!"h2" true]⟩,
       ⟨.run (some S!"X") none, .ignore⟩,
       ⟨.paragraph (some S!"Heading1") none none, .elements [pathElem S!"h3" false]⟩] := by decide +kernel

/-- …so a user mapping for `Heading1` beats the built-in `p.Heading1 => h1:fresh` -/
example :
    (findStyle upperAscii (readOptions (some S!"p.Heading1 => h2:fresh") none true).1
        (.paragraph { styleId := some S!"Heading1" })).map (·.path) =
      some (.elements [pathElem S!"h2" true]) := by decide +kernel
set_option maxRecDepth 20000 in
/-- …and without user mappings the built-in default applies -/
example :
    (findStyle upperAscii (readOptions none none true).1
        (.paragraph { styleId := some S!"Heading1" })).map (·.path) =
      some (.elements [pathElem S!"h1" true]) := by decide +kernel

/-- first match wins inside one list -/
example :
    findStyle upperAscii
      [⟨.paragraph (some S!"H1") none none, .elements [pathElem S!"h1" true]⟩,
       ⟨.paragraph none none none, .elements [pathElem S!"div" true]⟩,
       ⟨.paragraph (some S!"H1") none none, .ignore⟩]
      (.paragraph { styleId := some S!"H1" }) =
      some ⟨.paragraph (some S!"H1") none none, .elements [pathElem S!"h1" true]⟩ := by decide +kernel

/-- style names compare case-insensitively, style ids exactly -/
example : matcherMatches upperAscii (.paragraph none (some (.equalTo S!"heading 1")) none)
            (.paragraph { styleName := some S!"Heading 1" }) = true := by decide +kernel
example : matcherMatches upperAscii (.paragraph (some S!"heading1") none none)
            (.paragraph { styleId := some S!"Heading1" }) = false := by decide +kernel
example : matcherMatches upperAscii (.run none (some (.startsWith S!"Head")) )
            (.run none (some S!"HEADING char")) = true := by decide +kernel
/-- list level and orderedness must agree -/
example : matcherMatches upperAscii (.paragraph none none (some ⟨S!"0", true⟩))
            (.paragraph { numbering := some ⟨S!"0", false⟩ }) = false := by decide +kernel
/-- an ignored paragraph does not even record the footnote reference inside it -/
example :
    (((visit { styleMap := [⟨.paragraph (some S!"Hidden") none none, .ignore⟩] } false
        (.paragraph { styleId := some S!"Hidden" } [.noteRef S!"footnote" S!"1"])).run {}).toOption.map
      (fun r => (r.1.length, r.2.noteRefs.length))) = some (0, 0) := by decide +kernel

end Mammoth
