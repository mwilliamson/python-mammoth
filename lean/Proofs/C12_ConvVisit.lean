/-
  C12 (conversion) — the converter under two configurations that differ only in the bytes of ONE zip
  entry (`mammoth/style-map`): on a document none of whose embedded images is read from that entry, the
  two runs are equal.
-/
import Proofs.C18_Doc
namespace Mammoth

mutual
/-- no embedded image below this element is read from the zip entry `n` -/
def c12_imgAvoid (n : Str) : Elem → Bool
  | .paragraph _ cs => c12_imgAvoidL n cs
  | .run _ cs => c12_imgAvoidL n cs
  | .hyperlink _ cs => c12_imgAvoidL n cs
  | .table _ _ cs => c12_imgAvoidL n cs
  | .row _ cs => c12_imgAvoidL n cs
  | .cell _ _ _ cs => c12_imgAvoidL n cs
  | .image i =>
    match i.src with
    | .embedded name => name != n
    | .linked _ => true
  | _ => true
def c12_imgAvoidL (n : Str) : List Elem → Bool
  | [] => true
  | e :: es => c12_imgAvoid n e && c12_imgAvoidL n es
end

/-- … anywhere in the document: body, notes, comments -/
def c12_docAvoid (n : Str) (d : Document) : Bool :=
  c12_imgAvoidL n d.children && d.notes.all (fun x => c12_imgAvoidL n x.body) &&
  d.comments.all (fun c => c12_imgAvoidL n c.body)

/-- `cfg` with another archive -/
@[reducible] def c12_rearch (cfg : Cfg) (a' : List (Str × Bytes)) : Cfg := { cfg with archive := a' }

section
variable (cfg : Cfg) (a' : List (Str × Bytes))

theorem c12_findPath_rearch (t : Target) : findPath (c12_rearch cfg a') t = findPath cfg t := rfl
theorem c12_findPathWarn_rearch (t : Target) (k : Str) (a b : Option Str) (d : HtmlPath) :
    findPathWarn (c12_rearch cfg a') t k a b d = findPathWarn cfg t k a b d := rfl
theorem c12_runPropPaths_rearch (r : RunProps) : runPropPaths (c12_rearch cfg a') r = runPropPaths cfg r := rfl
theorem c12_htmlId_rearch (s : Str) : htmlId (c12_rearch cfg a') s = htmlId cfg s := rfl
theorem c12_referentId_rearch (t i : Str) : referentId (c12_rearch cfg a') t i = referentId cfg t i := rfl
theorem c12_referenceId_rearch (t i : Str) : referenceId (c12_rearch cfg a') t i = referenceId cfg t i := rfl

end

section
variable {cfg : Cfg} {a' : List (Str × Bytes)} {n : Str}

theorem c12_openImage_rearch (hag : ∀ name, name ≠ n → lookupLast name a' = lookupLast name cfg.archive)
    (src : ImageSrc) (h : (match src with | .embedded name => name != n | .linked _ => true) = true) :
    openImage (c12_rearch cfg a') src = openImage cfg src := by
  cases src with
  | linked u => rfl
  | embedded name =>
    simp only [openImage]
    rw [hag name (by simpa using h)]

theorem c12_convertImage_rearch (hag : ∀ name, name ≠ n → lookupLast name a' = lookupLast name cfg.archive)
    (i : ImageProps) (h : c12_imgAvoid n (.image i) = true) :
    convertImage (c12_rearch cfg a') i = convertImage cfg i := by
  simp only [c12_imgAvoid] at h
  unfold convertImage
  simp only [c12_openImage_rearch hag i.src h]

mutual
theorem c12_visit_rearch (hag : ∀ name, name ≠ n → lookupLast name a' = lookupLast name cfg.archive)
    (hdr : Bool) (e : Elem) (h : c12_imgAvoid n e = true) :
    visit (c12_rearch cfg a') hdr e = visit cfg hdr e := by
  match e with
  | .paragraph p cs =>
    simp only [c12_imgAvoid] at h
    simp only [visit, c12_findPathWarn_rearch, c12_visitAll_rearch hag hdr cs h]
  | .run r cs =>
    simp only [c12_imgAvoid] at h
    simp only [visit, c12_findPathWarn_rearch, c12_runPropPaths_rearch, c12_visitAll_rearch hag hdr cs h]
  | .text s => simp only [visit]
  | .hyperlink l cs =>
    simp only [c12_imgAvoid] at h
    simp only [visit, c12_htmlId_rearch, c12_visitAll_rearch hag hdr cs h]
  | .checkbox c => simp only [visit]
  | .table sid sname rows =>
    simp only [c12_imgAvoid] at h
    simp only [visit, c12_findPath_rearch, c12_visitRows_rearch hag true rows h]
  | .row _ cells =>
    simp only [c12_imgAvoid] at h
    simp only [visit, c12_visitAll_rearch hag hdr cells h]
  | .cell _ _ _ cs =>
    simp only [c12_imgAvoid] at h
    simp only [visit, c12_visitAll_rearch hag hdr cs h]
  | .brk ty => simp only [visit, c12_findPath_rearch]
  | .tab => simp only [visit]
  | .image i => simp only [visit]; exact c12_convertImage_rearch hag i h
  | .bookmark _ => simp only [visit, c12_htmlId_rearch]
  | .noteRef ty id => simp only [visit, c12_referentId_rearch, c12_referenceId_rearch]
  | .commentRef id => simp only [visit, c12_findPath_rearch, c12_referentId_rearch, c12_referenceId_rearch]
theorem c12_visitAll_rearch (hag : ∀ name, name ≠ n → lookupLast name a' = lookupLast name cfg.archive)
    (hdr : Bool) (es : List Elem) (h : c12_imgAvoidL n es = true) :
    visitAll (c12_rearch cfg a') hdr es = visitAll cfg hdr es := by
  match es with
  | [] => simp only [visitAll]
  | e :: es =>
    simp only [c12_imgAvoidL, Bool.and_eq_true] at h
    simp only [visitAll, c12_visit_rearch hag hdr e h.1, c12_visitAll_rearch hag hdr es h.2]
theorem c12_visitRows_rearch (hag : ∀ name, name ≠ n → lookupLast name a' = lookupLast name cfg.archive)
    (inHead : Bool) (es : List Elem) (h : c12_imgAvoidL n es = true) :
    visitRows (c12_rearch cfg a') inHead es = visitRows cfg inHead es := by
  match es with
  | [] => simp only [visitRows]
  | r :: rs =>
    simp only [c12_imgAvoidL, Bool.and_eq_true] at h
    simp only [visitRows, c12_visit_rearch hag true r h.1, c12_visit_rearch hag false r h.1,
      c12_visitRows_rearch hag true rs h.2, c12_visitRows_rearch hag false rs h.2]
end

theorem c12_visitNote_rearch (hag : ∀ name, name ≠ n → lookupLast name a' = lookupLast name cfg.archive)
    (x : Note) (h : c12_imgAvoidL n x.body = true) :
    visitNote (c12_rearch cfg a') x = visitNote cfg x := by
  simp only [visitNote, c12_visitAll_rearch hag false x.body h, c12_referentId_rearch, c12_referenceId_rearch]

theorem c12_visitComment_rearch (hag : ∀ name, name ≠ n → lookupLast name a' = lookupLast name cfg.archive)
    (lc : Str × Comment) (h : c12_imgAvoidL n lc.2.body = true) :
    visitComment (c12_rearch cfg a') lc = visitComment cfg lc := by
  simp only [visitComment, c12_visitAll_rearch hag false lc.2.body h, c12_referentId_rearch,
    c12_referenceId_rearch]

theorem c12_mapMConcat_congr {α} (f g : α → ConvM (List Node)) (xs : List α) (h : ∀ x ∈ xs, f x = g x) :
    mapMConcat f xs = mapMConcat g xs := by
  induction xs with
  | nil => simp only [mapMConcat]
  | cons x xs ih =>
    simp only [mapMConcat, h x List.mem_cons_self, ih (fun y hy => h y (List.mem_cons_of_mem _ hy))]

/-- if the continuations agree on every state `m` can produce, the binds agree -/
theorem c12_run_bind_congr {α β} (m : ConvM α) (f' f : α → ConvM β) (st : ConvState)
    (h : ∀ a s, m.run st = .ok (a, s) → (f' a).run s = (f a).run s) :
    (m >>= f').run st = (m >>= f).run st := by
  rw [run_bind, run_bind]
  cases hm : m.run st with
  | error e => rfl
  | ok p => exact h p.1 p.2 hm

theorem c12_visitDocument_rearch (hag : ∀ name, name ≠ n → lookupLast name a' = lookupLast name cfg.archive)
    (d : Document) (hc : cfg.comments = d.comments) (hd : c12_docAvoid n d = true)
    (st : ConvState) (hinit : c18_refsOk cfg st) :
    (visitDocument (c12_rearch cfg a') d).run st = (visitDocument cfg d).run st := by
  simp only [c12_docAvoid, Bool.and_eq_true, List.all_eq_true] at hd
  obtain ⟨⟨hd1, hd2⟩, hd3⟩ := hd
  unfold visitDocument
  rw [c12_visitAll_rearch hag false d.children hd1]
  refine c12_run_bind_congr _ _ _ st (fun nodes s1 h1 => ?_)
  refine c12_run_bind_congr _ _ _ s1 (fun g1 s1' hg => ?_)
  rw [StateT.run_get] at hg
  cases hg
  dsimp only
  split
  case h_2 e he =>
    refine c12_run_bind_congr _ _ _ s1 (fun notes s2 hn => ?_)
    cases hn
  rename_i notes hns
  simp only [pure_bind]
  -- the notes visited are notes of the document
  have hmem : ∀ x ∈ notes, x ∈ d.notes := c18_mapM_resolve_mem _ _ hns
  rw [c12_mapMConcat_congr (visitNote (c12_rearch cfg a')) (visitNote cfg) notes
    (fun x hx => c12_visitNote_rearch hag x (hd2 x (hmem x hx)))]
  refine c12_run_bind_congr _ _ _ s1 (fun noteNodes s3 h3 => ?_)
  refine c12_run_bind_congr _ _ _ s3 (fun g3 s3' hg => ?_)
  rw [StateT.run_get] at hg
  cases hg
  -- the comments referenced so far are comments of the document
  have ok3 : c18_refsOk cfg s3 := c18_refsOk_step hinit (c18_step_notes h1 hns h3)
  rw [c12_mapMConcat_congr (visitComment (c12_rearch cfg a')) (visitComment cfg) s3.refComments
    (fun lc hlc => c12_visitComment_rearch hag lc (hd3 lc.2 (hc ▸ ok3 lc hlc)))]

/-- `convertDoc` does not depend on the bytes of a zip entry no image is read from -/
theorem c12_convertDoc_rearch (hag : ∀ name, name ≠ n → lookupLast name a' = lookupLast name cfg.archive)
    (d : Document) (hd : c12_docAvoid n d = true) :
    convertDoc (c12_rearch cfg a') d = convertDoc cfg d := by
  unfold convertDoc
  have := c12_visitDocument_rearch (cfg := { cfg with comments := d.comments }) (a' := a') hag d rfl hd {}
    (by intro x hx; cases hx)
  dsimp only [c12_rearch] at this ⊢
  rw [this]

end

end Mammoth
