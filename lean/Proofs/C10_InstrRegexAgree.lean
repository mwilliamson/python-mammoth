/-
  C10 helpers: the three regexes of `parse_instr_text` (mammoth/docx/body_xml.py) as values of the
  cost model, as deterministic item sequences, and their agreement with the hand-written
  recognisers `matchExternalLink`, `matchInternalLink`, `matchCheckbox` of MammothModel/Reader.lean
  on EVERY instruction string: same decision, same group 1, linear cost.
-/
import Proofs.C10_InstrRegex
import Proofs.C10_Instr
namespace Mammoth

/-- `[^"]` -/
def c10_ccNotDq : C07Class := .nset [('"', '"')]

/-- the characters of a word, then `r` -/
def c10_word : Str → C07Regex → C07Regex
  | [], r => r
  | c :: cs, r => .seq (.chr (.lit c)) (c10_word cs r)

/-- `\s*HYPERLINK\s+"([^"]*)"` -/
def c10_rxExternal : C07Regex :=
  .seq (.star (.chr c07_ccSpace)) (c10_word S!"HYPERLINK"
    (.seq (C07Regex.plus (.chr c07_ccSpace)) (.seq (.chr (.lit '"'))
      (.seq (.star (.chr c10_ccNotDq)) (.chr (.lit '"'))))))

/-- `\s*HYPERLINK\s+\\l\s+"([^"]*)"` -/
def c10_rxInternal : C07Regex :=
  .seq (.star (.chr c07_ccSpace)) (c10_word S!"HYPERLINK"
    (.seq (C07Regex.plus (.chr c07_ccSpace)) (c10_word S!"\\l"
      (.seq (C07Regex.plus (.chr c07_ccSpace)) (.seq (.chr (.lit '"'))
        (.seq (.star (.chr c10_ccNotDq)) (.chr (.lit '"'))))))))

/-- `\s*FORMCHECKBOX\s*` -/
def c10_rxCheckbox : C07Regex :=
  .seq (.star (.chr c07_ccSpace)) (c10_word S!"FORMCHECKBOX" (.star (.chr c07_ccSpace)))

/-- `\s*HYPERLINK\s+"` `(` `[^"]*` `)` `"` -/
def c10_giExternal : C10GroupedItems :=
  { pre := .star c07_ccSpace :: (c10_lits S!"HYPERLINK" ++ [.plus c07_ccSpace, .lit '"']),
    body := [.star c10_ccNotDq],
    post := [.lit '"'] }

/-- `\s*HYPERLINK\s+\\l\s+"` `(` `[^"]*` `)` `"` -/
def c10_giInternal : C10GroupedItems :=
  { pre := .star c07_ccSpace :: (c10_lits S!"HYPERLINK" ++
      (.plus c07_ccSpace :: (c10_lits S!"\\l" ++ [.plus c07_ccSpace, .lit '"']))),
    body := [.star c10_ccNotDq],
    post := [.lit '"'] }

def c10_itemsCheckbox : List C10Item :=
  .star c07_ccSpace :: (c10_lits S!"FORMCHECKBOX" ++ [.star c07_ccSpace])

def c10_groupExternal : C10Grouped := c10_giExternal.grouped
def c10_groupInternal : C10Grouped := c10_giInternal.grouped

theorem c10_groupExternal_regex : c10_groupExternal.regex = c10_rxExternal := by decide +kernel
theorem c10_groupInternal_regex : c10_groupInternal.regex = c10_rxInternal := by decide +kernel
theorem c10_itemsCheckbox_regex : c10_itemsRx c10_itemsCheckbox = c10_rxCheckbox := by decide +kernel

theorem c10_giExternal_det : c10_giExternal.det = true := by decide
theorem c10_giInternal_det : c10_giInternal.det = true := by decide
theorem c10_itemsCheckbox_det : c10_det c10_itemsCheckbox = true := by decide

/-! ### the source text: where the parentheses are -/

/-- split a regex source at its first `(` and the first `)` after it: (before, inside, after).
    Meant for sources with one plain group and no escaped parenthesis; on anything else the parts
    do not parse to the expected values and the theorems that use it stop checking. -/
def c10_splitGroup (src : Str) : Option (Str × Str × Str) :=
  match src.dropWhile (· != '(') with
  | _ :: r =>
    (match r.dropWhile (· != ')') with
     | _ :: r' => some (src.takeWhile (· != '('), r.takeWhile (· != ')'), r')
     | [] => none)
  | [] => none

/-- the source `src` is `pre ( body ) post` with exactly the parts of `g` -/
def c10_sourceIsGrouped (src : Str) (g : C10Grouped) : Bool :=
  match c10_splitGroup src with
  | some (a, b, c) =>
    c07_parseRegex a == some (c07_mkSeq g.pre) && c07_parseRegex b == some g.body &&
      c07_parseRegex c == some (c07_mkSeq g.post)
  | none => false

theorem c10_gi_exec (g : C10GroupedItems) (h : g.det = true) (s : Str) :
    (g.grouped.regex.exec s).2 = (g.interp s).map (·.2.2) ∧
    g.grouped.regex.steps s ≤ 3 * s.length + 2 * (g.pre.length + g.body.length + g.post.length) := by
  unfold C07Regex.steps
  rw [c10_grouped_exec]
  exact c10_groupedItems_run g h s _

theorem c10_gi_group1 (g : C10GroupedItems) (h : g.det = true) (s : Str) :
    g.grouped.group1 s = (g.interp s).map fun t => t.1.take (t.1.length - t.2.1.length) := by
  unfold C10Grouped.group1
  rw [(c10_groupedItems_run g h s _).1, (c10_groupedItems_run g h s _).1]
  cases g.interp s <;> rfl

/-! ### `c10_interp` in the words of the hand-written recognisers -/

theorem c10_take_of_split (m r s : Str) (h : m ++ r = s) : s.take (s.length - r.length) = m := by
  subst h; simp

theorem c10_interp_starWs (r : List C10Item) :
    c10_interp (.star c07_ccSpace :: r) = fun s => c10_interp r (skipWs s) := by
  funext s
  simp only [c10_interp, c07_test_space, c10_dropWhile_isSpace, skipWs]

theorem c10_interp_plusWs (r : List C10Item) :
    c10_interp (.plus c07_ccSpace :: r) = fun s => (ws1 s).bind (c10_interp r) := by
  funext s
  cases s with
  | nil => rfl
  | cons c cs =>
    simp only [c10_interp, ws1, skipWs, c07_test_space, c10_dropWhile_isSpace]
    by_cases h : isSpace c = true
    · simp [h]
    · simp [h]

theorem c10_interp_lits (w : Str) (r : List C10Item) :
    c10_interp (c10_lits w ++ r) = fun s => (stripPrefix? s w).bind (c10_interp r) := by
  induction w with
  | nil => funext s; cases s <;> rfl
  | cons p ps ih =>
    funext s
    cases s with
    | nil => simp [c10_lits, stripPrefix?, c10_interp]
    | cons c cs =>
      have := congrFun ih cs
      simp only [c10_lits] at this
      simp only [c10_lits, List.map_cons, List.cons_append, c10_interp, stripPrefix?]
      by_cases h : (c == p) = true
      · simp only [h, if_true]; exact this
      · simp [h]

/-- what is left after a `"` -/
def c10_afterDq : Str → Option Str
  | c :: cs => if c == '"' then some cs else none
  | [] => none

theorem c10_interp_dq : c10_interp [.lit '"'] = c10_afterDq := by
  funext s
  cases s with
  | nil => rfl
  | cons c cs => simp only [c10_interp, c10_afterDq]

theorem c10_test_notDq : c10_ccNotDq.test = (· != '"') := by
  funext c
  simp [c10_ccNotDq, C07Class.test, c07_inRanges_single, c07_inRanges_nil, bne]

/-- the tail `( [^"]* ) "` of both link regexes, from the input after the opening quote: the group -/
def c10_quotedGroup (s1 : Str) : Option Str :=
  match c10_afterDq (s1.dropWhile c10_ccNotDq.test) with
  | some _ => some (s1.take (s1.length - (s1.dropWhile c10_ccNotDq.test).length))
  | none => none

theorem c10_quoted_eq (r : Str) : quoted r = (c10_afterDq r).bind c10_quotedGroup := by
  cases r with
  | nil => rfl
  | cons c cs =>
    by_cases hc : c = '"'
    · subst hc
      simp only [quoted, c10_afterDq, beq_self_eq_true, if_true, Option.bind_some, c10_quotedGroup,
        c10_test_notDq]
      have hsplit := List.takeWhile_append_dropWhile (p := (· != '"')) (l := cs)
      have hlen := congrArg List.length hsplit
      simp only [List.length_append] at hlen
      cases hd : cs.dropWhile (· != '"') with
      | nil =>
        rw [hd] at hlen
        simp only [List.length_nil, Nat.add_zero] at hlen
        simp [hlen]
      | cons d ds =>
        have hq := List.head?_dropWhile_not (· != '"') cs
        rw [hd] at hq
        have hq' : d = '"' := by simpa using hq
        subst hq'
        rw [hd] at hlen hsplit
        simp only [List.length_cons] at hlen
        have hlt : (cs.takeWhile (· != '"')).length < cs.length := by omega
        simp only [beq_self_eq_true, if_true, hlt, List.length_cons]
        congr 1
        exact (c10_take_of_split _ ('"' :: ds) cs hsplit).symm
    · have hc' : (c == '"') = false := by simpa using hc
      simp only [c10_afterDq, hc']
      unfold quoted
      split
      · rename_i h; simp only [List.cons.injEq] at h; exact absurd h.1 hc
      · rfl

theorem c10_gi_quoted_group1 (g : C10GroupedItems) (hd : g.det = true) (hb : g.body = [.star c10_ccNotDq])
    (hq : g.post = [.lit '"']) (s : Str) :
    g.grouped.group1 s = (c10_interp g.pre s).bind c10_quotedGroup := by
  rw [c10_gi_group1 g hd]
  unfold C10GroupedItems.interp
  rw [hb, hq]
  cases c10_interp g.pre s with
  | none => rfl
  | some s1 =>
    simp only [c10_interp_dq, c10_interp, c10_quotedGroup, Option.bind_some]
    cases c10_afterDq (s1.dropWhile c10_ccNotDq.test) <;> rfl

theorem c10_external_pre (s : Str) : c10_interp c10_giExternal.pre s =
    (stripPrefix? (skipWs s) S!"HYPERLINK").bind fun r => (ws1 r).bind c10_afterDq := by
  simp only [c10_giExternal, c10_interp_starWs, c10_interp_lits, c10_interp_plusWs, c10_interp_dq]

theorem c10_internal_pre (s : Str) : c10_interp c10_giInternal.pre s =
    (stripPrefix? (skipWs s) S!"HYPERLINK").bind fun r => (ws1 r).bind fun r =>
      (stripPrefix? r S!"\\l").bind fun r => (ws1 r).bind c10_afterDq := by
  simp only [c10_giInternal, c10_interp_starWs, c10_interp_lits, c10_interp_plusWs, c10_interp_dq]

theorem c10_external_group1 (s : Str) : c10_groupExternal.group1 s = matchExternalLink s := by
  unfold c10_groupExternal matchExternalLink
  rw [c10_gi_quoted_group1 _ c10_giExternal_det rfl rfl, c10_external_pre]
  simp only [c10_quoted_eq, Option.bind_eq_bind, Option.bind_assoc]

theorem c10_internal_group1 (s : Str) : c10_groupInternal.group1 s = matchInternalLink s := by
  unfold c10_groupInternal matchInternalLink
  rw [c10_gi_quoted_group1 _ c10_giInternal_det rfl rfl, c10_internal_pre]
  simp only [c10_quoted_eq, Option.bind_eq_bind, Option.bind_assoc]

/-- a regex with a group matches exactly when its group 1 is set (the group is not optional) -/
theorem c10_gi_matches_iff (g : C10GroupedItems) (h : g.det = true) (s : Str) :
    (g.grouped.regex.exec s).2.isSome = (g.grouped.group1 s).isSome := by
  rw [(c10_gi_exec g h s).1, c10_gi_group1 g h s]
  cases g.interp s <;> rfl

theorem c10_external_matches (s : Str) :
    (c10_rxExternal.exec s).2.isSome = (matchExternalLink s).isSome := by
  rw [← c10_groupExternal_regex, ← c10_external_group1]
  exact c10_gi_matches_iff _ c10_giExternal_det s

theorem c10_internal_matches (s : Str) :
    (c10_rxInternal.exec s).2.isSome = (matchInternalLink s).isSome := by
  rw [← c10_groupInternal_regex, ← c10_internal_group1]
  exact c10_gi_matches_iff _ c10_giInternal_det s

theorem c10_checkbox_matches (s : Str) :
    (c10_rxCheckbox.exec s).2.isSome = matchCheckbox s := by
  rw [← c10_itemsCheckbox_regex, (c10_items_exec _ c10_itemsCheckbox_det s).1]
  unfold matchCheckbox
  simp only [c10_itemsCheckbox, c10_interp_starWs, c10_interp_lits]
  cases stripPrefix? (skipWs s) S!"FORMCHECKBOX" with
  | none => rfl
  | some r => simp [c10_interp]

theorem c10_matchLen_isSome (r : C07Regex) (s : Str) : (r.matchLen s).isSome = (r.exec s).2.isSome := by
  unfold C07Regex.matchLen
  exact Option.isSome_map

theorem c10_agrees_of {m g1 : Option Str} {len : Option Nat} (hm : len.isSome = m.isSome) (hg : g1 = m) :
    (∀ u, m = some u ↔ (len.isSome = true ∧ g1 = some u)) ∧ (m = none ↔ len = none) ∧ m = g1 := by
  subst hg
  refine ⟨fun u => ⟨fun h => ⟨by rw [hm, h]; rfl, h⟩, fun h => h.2⟩, ?_, rfl⟩
  rw [← Option.isNone_iff_eq_none, ← Option.isNone_iff_eq_none, ← Option.not_isSome, ← Option.not_isSome, hm]

theorem c10_external_steps (s : Str) : c10_rxExternal.steps s ≤ 3 * s.length + 28 := by
  rw [← c10_groupExternal_regex]
  exact (c10_gi_exec _ c10_giExternal_det s).2

theorem c10_internal_steps (s : Str) : c10_rxInternal.steps s ≤ 3 * s.length + 34 := by
  rw [← c10_groupInternal_regex]
  exact (c10_gi_exec _ c10_giInternal_det s).2

theorem c10_checkbox_steps (s : Str) : c10_rxCheckbox.steps s ≤ 3 * s.length + 28 := by
  rw [← c10_itemsCheckbox_regex]
  exact (c10_items_exec _ c10_itemsCheckbox_det s).2

/-! ### `parse_instr_text` as the code runs it -/

/-- the index of the first regex that matches (`re.match`: anchored at the start only) -/
def c10_firstMatching : List C07Regex → Str → Option Nat
  | [], _ => none
  | r :: rs, s => if (r.exec s).2.isSome then some 0 else (c10_firstMatching rs s).map (· + 1)

/-- every regex source of a list parsed; `none` if one is outside the fragment -/
def c10_parseAll : List Str → Option (List C07Regex)
  | [] => some []
  | src :: rest =>
    match c07_parseRegex src, c10_parseAll rest with
    | some r, some rs => some (r :: rs)
    | _, _ => none

/-- the regexes of `parse_instr_text` as extracted from body_xml.py -/
def c10_instrRules : Option (List C07Regex) := c10_parseAll Generated.instrRegexes

theorem c10_parseAll_of_map : ∀ (srcs : List Str) (rs : List C07Regex),
    srcs.map c07_parseRegex = rs.map some → c10_parseAll srcs = some rs
  | [], [], _ => rfl
  | [], _ :: _, h => by cases h
  | _ :: _, [], h => by cases h
  | src :: srcs, r :: rs, h => by
    rw [List.map_cons, List.map_cons, List.cons.injEq] at h
    rw [c10_parseAll, h.1, c10_parseAll_of_map srcs rs h.2]

theorem c10_getElem?_bind_of_map {α β} {l : List α} {f : α → Option β} {r : List (Option β)}
    (h : l.map f = r) (i : Nat) : l[i]?.bind f = r[i]?.join := by
  rw [← h, List.getElem?_map]
  cases l[i]? <;> rfl

/-- which branch of `parse_instr_text` is taken -/
inductive C10InstrKind where
  | external (href : Option Str)
  | internal (anchor : Option Str)
  | checkbox
  | other
deriving DecidableEq, Repr

/-- the decision of `parse_instr_text` with the three regexes `rules` tried in order; the link
    branches take `group(1)` of their regex -/
def c10_instrKindRx (rules : List C07Regex) (s : Str) : C10InstrKind :=
  match c10_firstMatching rules s with
  | some 0 => .external (c10_groupExternal.group1 s)
  | some 1 => .internal (c10_groupInternal.group1 s)
  | some 2 => .checkbox
  | _ => .other

/-- the decision of the hand-written `parseInstrText` -/
def c10_instrKind (s : Str) : C10InstrKind :=
  match matchExternalLink s with
  | some u => .external (some u)
  | none =>
    match matchInternalLink s with
    | some a => .internal (some a)
    | none => if matchCheckbox s then .checkbox else .other

theorem c10_instrKind_eq (s : Str) :
    c10_instrKindRx [c10_rxExternal, c10_rxInternal, c10_rxCheckbox] s = c10_instrKind s := by
  unfold c10_instrKindRx c10_instrKind
  simp only [c10_firstMatching, c10_external_matches, c10_internal_matches, c10_checkbox_matches,
    c10_external_group1, c10_internal_group1]
  cases matchExternalLink s with
  | some u => rfl
  | none =>
    cases matchInternalLink s with
    | some a => rfl
    | none => cases matchCheckbox s <;> rfl

end Mammoth
