/-
  C10, the converter: the attributes of the anchor made for a hyperlink (`c10_linkAttrs`); note references resolve to
  the notes with their own key, in order (`c10_resolve_all`); the `<li>` items of the notes carry the notes' ids.
-/
import MammothModel.Reader
import Proofs.Basics
namespace Mammoth

theorem c10_lookupLast_append {α β} [DecidableEq α] (k : α) (a b : List (α × β)) :
    lookupLast k (a ++ b) = (lookupLast k b).or (lookupLast k a) :=
  lookupLast_append k a b

/-! ### running `ConvM` programs; the visitor cases -/

theorem c10_run_get (st : ConvState) : (get : ConvM ConvState).run st = .ok (st, st) := run_get st

def c10_linkHref (cfg : Cfg) (h : LinkProps) : Str :=
  match h.anchor with
  | none => pyOpt h.href
  | some a => ['#'] ++ htmlId cfg a

def c10_linkAttrs (cfg : Cfg) (h : LinkProps) : List (Str × Str) :=
  [(S!"href", c10_linkHref cfg h)] ++ (match h.targetFrame with | some t => [(S!"target", t)] | none => [])

/-! ### attributes of the anchor -/

theorem c10_linkAttrs_get (cfg : Cfg) (h : LinkProps) :
    Dict.get? S!"href" (Dict.ofList (c10_linkAttrs cfg h)) = some (c10_linkHref cfg h) ∧
    Dict.get? S!"target" (Dict.ofList (c10_linkAttrs cfg h)) = h.targetFrame := by
  simp only [Dict.get?_ofList, c10_linkAttrs]
  cases h.targetFrame <;> (constructor <;> simp [lookupLast])

/-! ### notes resolve to their own key, in order -/

theorem c10_lookup_key {α κ} [DecidableEq κ] (key : α → κ) (k : κ) (l : List α) (a : α)
    (h : lookupLast k (l.map fun x => (key x, x)) = some a) : key a = k := by
  induction l with
  | nil => simp [lookupLast] at h
  | cons x xs ih =>
    simp only [List.map_cons, lookupLast] at h
    cases hl : lookupLast k (xs.map fun x => (key x, x)) with
    | some w => rw [hl] at h; simp only [Option.some.injEq] at h; subst h; exact ih hl
    | none =>
      rw [hl] at h
      simp only at h
      split at h
      · rename_i e; simp only [Option.some.injEq] at h; subst h; exact e.symm
      · cases h

theorem c10_resolve_key (notes : List Note) (ref : Str × Str) (n : Note)
    (h : resolveNote notes ref = .ok n) : (n.ty, n.id) = ref := by
  unfold resolveNote at h
  split at h
  · rename_i m hm
    cases h
    exact c10_lookup_key (fun n : Note => (n.ty, n.id)) ref notes _ hm
  · cases h

theorem c10_resolve_all (notes : List Note) : ∀ (refs : List (Str × Str)) (ns : List Note),
    refs.mapM (resolveNote notes) = .ok ns → ns.map (fun n => (n.ty, n.id)) = refs
  | [], ns, h => by simp only [List.mapM_nil] at h; cases h; rfl
  | r :: rs, ns, h => by
    rw [List.mapM_cons] at h
    obtain ⟨n, h1, h⟩ := bind_ok h
    obtain ⟨ns', h2, h⟩ := bind_ok h
    cases h
    rw [List.map_cons, c10_resolve_key notes r n h1, c10_resolve_all notes rs ns' h2]

/-- the `id` attribute of an element node -/
def c10_nodeId : Node → Option Str
  | .elem t _ => Dict.get? S!"id" t.attrs
  | _ => none

theorem c10_noteItems_ids (cfg : Cfg) : ∀ (notes : List Note) (st st' : ConvState) (ns : List Node),
    (mapMConcat (visitNote cfg) notes).run st = .ok (ns, st') →
    ns.map c10_nodeId = notes.map (fun n => some (referentId cfg n.ty n.id))
  | [], st, st', ns, h => by rw [mapMConcat] at h; cases h; rfl
  | n :: rest, st, st', ns, h => by
    rw [mapMConcat] at h
    obtain ⟨a, s, ha, h⟩ := run_bind_ok.mp h
    obtain ⟨b, s2, hb, h⟩ := run_bind_ok.mp h
    unfold visitNote at ha
    obtain ⟨body, _, _, ha⟩ := run_bind_ok.mp ha
    have ih := c10_noteItems_ids cfg rest s s2 b hb
    cases h
    cases ha
    simp only [List.cons_append, List.nil_append, List.map_cons, ih, c10_nodeId, el, Dict.get?_ofList,
      lookupLast]
    simp

end Mammoth
