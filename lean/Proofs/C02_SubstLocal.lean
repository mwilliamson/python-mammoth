/-
  C02 — the per-forest (decidable) form of the substitution hypotheses: a substitution that behaves
  well on the strings that actually occur in a forest can be replaced, without changing the
  substituted forest, by one that behaves well on all strings.
-/
import Proofs.C02_Subst
import Proofs.C02_Tokens
namespace Mammoth

mutual
def c02_textsN : Node → List Str
  | .text s => [s]
  | .forceWrite => []
  | .elem t cs => t.separator.toList ++ c02_texts cs
/-- the strings of the text nodes and the separators of a forest -/
def c02_texts : List Node → List Str
  | [] => []
  | c :: cs => c02_textsN c ++ c02_texts cs
end

/-- On the strings of THIS forest: every text/separator stays empty or non-empty, and two values of
    the same attribute name that are different stay different (decidable for a concrete `σ`). -/
def c02_subOkOn (σ : c02_Sub) (ns : List Node) : Bool :=
  (c02_texts ns).all (fun s => (σ.text s).isEmpty == s.isEmpty) &&
  (c02_attrsOfL ns).all (fun p => (c02_attrsOfL ns).all fun q =>
    !(p.1 == q.1 && σ.attr p.1 p.2 == σ.attr q.1 q.2) || p.2 == q.2)

/-! ### congruence: only the strings of the forest matter -/

theorem c02_mapAttrs_congr (f g : Str → Str → Str) (d : Dict Str)
    (h : ∀ p ∈ d, f p.1 p.2 = g p.1 p.2) : c02_mapAttrs f d = c02_mapAttrs g d := by
  induction d with
  | nil => rfl
  | cons kv r ih =>
    obtain ⟨k, v⟩ := kv
    simp only [c02_mapAttrs]
    rw [h (k, v) (by simp), ih (fun p hp => h p (by simp [hp]))]

mutual
theorem c02_mapNode_congr (σ τ : c02_Sub) (n : Node)
    (ht : ∀ s ∈ c02_textsN n, σ.text s = τ.text s)
    (ha : ∀ p ∈ c02_attrsOfN n, σ.attr p.1 p.2 = τ.attr p.1 p.2) :
    c02_mapNode σ n = c02_mapNode τ n := by
  match n with
  | .text s => simp [ht s (by simp [c02_textsN])]
  | .forceWrite => simp
  | .elem t cs =>
    simp only [c02_textsN, List.mem_append] at ht
    simp only [c02_attrsOfN, List.mem_append] at ha
    have h1 : c02_mapTag σ t = c02_mapTag τ t := by
      unfold c02_mapTag
      rw [c02_mapAttrs_congr σ.attr τ.attr t.attrs (fun p hp => ha p (Or.inl hp))]
      cases hs : t.separator with
      | none => rfl
      | some s => simp [ht s (Or.inl (by simp [hs]))]
    rw [c02_mapNode_elem, c02_mapNode_elem, h1,
      c02_mapForest_congr σ τ cs (fun s hs => ht s (Or.inr hs)) (fun p hp => ha p (Or.inr hp))]
theorem c02_mapForest_congr (σ τ : c02_Sub) (ns : List Node)
    (ht : ∀ s ∈ c02_texts ns, σ.text s = τ.text s)
    (ha : ∀ p ∈ c02_attrsOfL ns, σ.attr p.1 p.2 = τ.attr p.1 p.2) :
    c02_mapForest σ ns = c02_mapForest τ ns := by
  match ns with
  | [] => simp
  | c :: cs =>
    simp only [c02_texts, List.mem_append] at ht
    simp only [c02_attrsOfL, List.mem_append] at ha
    rw [c02_mapForest_cons, c02_mapForest_cons,
      c02_mapNode_congr σ τ c (fun s hs => ht s (Or.inl hs)) (fun p hp => ha p (Or.inl hp)),
      c02_mapForest_congr σ τ cs (fun s hs => ht s (Or.inr hs)) (fun p hp => ha p (Or.inr hp))]
end

/-! ### extending a locally good substitution to a globally good one -/

/-- the longest substituted attribute value -/
def c02_maxLen (σ : c02_Sub) : List (Str × Str) → Nat
  | [] => 0
  | p :: r => max (σ.attr p.1 p.2).length (c02_maxLen σ r)

theorem c02_le_maxLen (σ : c02_Sub) (A : List (Str × Str)) (p : Str × Str) (h : p ∈ A) :
    (σ.attr p.1 p.2).length ≤ c02_maxLen σ A := by
  induction A with
  | nil => simp at h
  | cons q r ih =>
    simp only [List.mem_cons] at h
    simp only [c02_maxLen]
    rcases h with rfl | h
    · exact Nat.le_max_left _ _
    · exact Nat.le_trans (ih h) (Nat.le_max_right _ _)

/-- `σ` on the listed strings; elsewhere text is left alone and an attribute value gets a prefix
    longer than every substituted listed value (so that it cannot clash with one) -/
def c02_extend (σ : c02_Sub) (T : List Str) (A : List (Str × Str)) : c02_Sub :=
  ⟨fun s => if s ∈ T then σ.text s else s,
   fun k v => if (k, v) ∈ A then σ.attr k v else List.replicate (c02_maxLen σ A + 1) 'x' ++ v⟩

theorem c02_extend_textOk (σ : c02_Sub) (T : List Str) (A : List (Str × Str))
    (h : T.all (fun s => (σ.text s).isEmpty == s.isEmpty) = true) : (c02_extend σ T A).TextOk := by
  intro s
  simp only [c02_extend]
  split
  · rename_i hs
    have := List.all_eq_true.mp h s hs
    simpa using this
  · rfl

theorem c02_extend_attrInj (σ : c02_Sub) (T : List Str) (A : List (Str × Str))
    (h : A.all (fun p => A.all fun q =>
      !(p.1 == q.1 && σ.attr p.1 p.2 == σ.attr q.1 q.2) || p.2 == q.2) = true) :
    (c02_extend σ T A).AttrInj := by
  intro k a b hab
  simp only [c02_extend] at hab
  have hloc : ∀ p ∈ A, ∀ q ∈ A, p.1 = q.1 → σ.attr p.1 p.2 = σ.attr q.1 q.2 → p.2 = q.2 := by
    intro p hp q hq h1 h2
    have := List.all_eq_true.mp (List.all_eq_true.mp h p hp) q hq
    simp only [Bool.or_eq_true, Bool.not_eq_true', Bool.and_eq_false_iff, beq_iff_eq, beq_eq_false_iff_ne] at this
    rcases this with (h | h) | h
    · exact absurd h1 h
    · exact absurd h2 h
    · exact h
  by_cases ha : (k, a) ∈ A <;> by_cases hb : (k, b) ∈ A
  · simp only [ha, hb, if_true] at hab
    exact hloc (k, a) ha (k, b) hb rfl hab
  · simp only [ha, hb, if_true, if_false] at hab
    have h1 : (σ.attr k a).length ≤ c02_maxLen σ A := c02_le_maxLen σ A (k, a) ha
    have h2 := congrArg List.length hab
    simp only [List.length_append, List.length_replicate] at h2
    omega
  · simp only [ha, hb, if_true, if_false] at hab
    have h1 : (σ.attr k b).length ≤ c02_maxLen σ A := c02_le_maxLen σ A (k, b) hb
    have h2 := congrArg List.length hab
    simp only [List.length_append, List.length_replicate] at h2
    omega
  · simp only [ha, hb, if_false] at hab
    exact List.append_cancel_left hab

end Mammoth
