/-
  The content of the tables that `gen/extract.py` extracts from /repo's source into `Generated.*`, as static copies
  validated against the library.  The model consumes `Generated.*`, so an edit of a table in the library changes the
  functions the theorems are about; the theorems below say that the extracted tables equal the validated copies, so
  that such an edit breaks a proof obligation of every property that depends on the table (removing `image/gif` from the
  browser-friendly image types, or `office-word:wrap` from the ignored elements, changes model and code alike, and no
  other check notices).
  Order-insensitive where the order carries no meaning (sets written as lists in the source).
-/
import MammothModel.Generated
namespace Mammoth

/-- equality as sets of two duplicate-tolerant lists -/
def sameSet {α} [BEq α] (a b : List α) : Bool := a.all b.contains && b.all a.contains

def pin_handlers : List (Str × Str) := [
  (S!"mc:AlternateContent", S!"alternate_content"),
  (S!"v:group", S!"read_child_elements"),
  (S!"v:imagedata", S!"read_imagedata"),
  (S!"v:rect", S!"read_child_elements"),
  (S!"v:roundrect", S!"read_child_elements"),
  (S!"v:shape", S!"read_child_elements"),
  (S!"v:textbox", S!"read_child_elements"),
  (S!"w:bookmarkStart", S!"bookmark_start"),
  (S!"w:br", S!"break_"),
  (S!"w:commentReference", S!"read_comment_reference"),
  (S!"w:drawing", S!"read_child_elements"),
  (S!"w:endnoteReference", S!"note_reference:endnote"),
  (S!"w:fldChar", S!"read_fld_char"),
  (S!"w:footnoteReference", S!"note_reference:footnote"),
  (S!"w:hyperlink", S!"hyperlink"),
  (S!"w:ins", S!"read_child_elements"),
  (S!"w:instrText", S!"read_instr_text"),
  (S!"w:noBreakHyphen", S!"no_break_hyphen"),
  (S!"w:object", S!"read_child_elements"),
  (S!"w:p", S!"paragraph"),
  (S!"w:pict", S!"pict"),
  (S!"w:r", S!"run"),
  (S!"w:sdt", S!"read_sdt"),
  (S!"w:smartTag", S!"read_child_elements"),
  (S!"w:softHyphen", S!"soft_hyphen"),
  (S!"w:sym", S!"symbol"),
  (S!"w:t", S!"text"),
  (S!"w:tab", S!"tab"),
  (S!"w:tbl", S!"table"),
  (S!"w:tc", S!"table_cell"),
  (S!"w:tr", S!"table_row"),
  (S!"w:txbxContent", S!"read_child_elements"),
  (S!"wp:anchor", S!"inline"),
  (S!"wp:inline", S!"inline")]

def pin_ignored : List Str := [S!"office-word:wrap", S!"v:shadow", S!"v:shapetype", S!"w:annotationRef", S!"w:bookmarkEnd", S!"w:commentRangeEnd", S!"w:commentRangeStart", S!"w:del", S!"w:endnoteRef", S!"w:footnoteRef", S!"w:lastRenderedPageBreak", S!"w:pPr", S!"w:proofErr", S!"w:rPr", S!"w:sectPr", S!"w:tblGrid", S!"w:tblPr", S!"w:tcPr", S!"w:trPr"]

def pin_browserImageTypes : List Str := [S!"image/png", S!"image/gif", S!"image/jpeg", S!"image/svg+xml", S!"image/tiff"]

def pin_imageExtensions : List (Str × Str) := [(S!"bmp", S!"bmp"), (S!"gif", S!"gif"), (S!"jpeg", S!"jpeg"), (S!"jpg", S!"jpeg"), (S!"png", S!"png"), (S!"tif", S!"tiff"), (S!"tiff", S!"tiff")]

def pin_voidTagNames : List Str := [S!"br", S!"hr", S!"img", S!"input"]

def pin_escapeTable : List (Char × Str) := [('"', S!"&quot;"), ('&', S!"&amp;"), ('<', S!"&lt;"), ('>', S!"&gt;")]

def pin_namespaces : List (Str × Str) := [
  (S!"w", S!"http://schemas.openxmlformats.org/wordprocessingml/2006/main"),
  (S!"r", S!"http://schemas.openxmlformats.org/officeDocument/2006/relationships"),
  (S!"wp", S!"http://schemas.openxmlformats.org/drawingml/2006/wordprocessingDrawing"),
  (S!"a", S!"http://schemas.openxmlformats.org/drawingml/2006/main"),
  (S!"pic", S!"http://schemas.openxmlformats.org/drawingml/2006/picture"),
  (S!"w", S!"http://purl.oclc.org/ooxml/wordprocessingml/main"),
  (S!"r", S!"http://purl.oclc.org/ooxml/officeDocument/relationships"),
  (S!"wp", S!"http://purl.oclc.org/ooxml/drawingml/wordprocessingDrawing"),
  (S!"a", S!"http://purl.oclc.org/ooxml/drawingml/main"),
  (S!"pic", S!"http://purl.oclc.org/ooxml/drawingml/picture"),
  (S!"content-types", S!"http://schemas.openxmlformats.org/package/2006/content-types"),
  (S!"relationships", S!"http://schemas.openxmlformats.org/package/2006/relationships"),
  (S!"mc", S!"http://schemas.openxmlformats.org/markup-compatibility/2006"),
  (S!"v", S!"urn:schemas-microsoft-com:vml"),
  (S!"office-word", S!"urn:schemas-microsoft-com:office:word"),
  (S!"o", S!"urn:schemas-microsoft-com:office:office"),
  (S!"wordml", S!"http://schemas.microsoft.com/office/word/2010/wordml")]


theorem pins_handlers : Generated.handlers = pin_handlers := by decide
theorem pins_ignored : sameSet Generated.ignored pin_ignored = true := by decide
theorem pins_browserImageTypes : sameSet Generated.browserImageTypes pin_browserImageTypes = true := by decide
theorem pins_imageExtensions : Generated.imageExtensions = pin_imageExtensions := by decide
theorem pins_voidTagNames : Generated.voidTagNames = pin_voidTagNames := by decide
theorem pins_escapeTable : Generated.escapeTable = pin_escapeTable := by decide
theorem pins_namespaces : sameSet Generated.namespaces pin_namespaces = true := by decide

/-- the dingbat table: number of entries and two checksums (over the (font, code) keys and over the code points) -/
def dingbatSums (t : List ((Str × Nat) × Nat)) : Nat × Nat × Nat :=
  (t.length, t.foldl (fun acc e => acc + e.1.1.length * 7 + e.1.2) 0, t.foldl (fun acc e => acc + e.2) 0)

theorem pins_dingbats : dingbatSums Generated.dingbats = (1061, 217117, 77998056) := by decide +kernel

end Mammoth
