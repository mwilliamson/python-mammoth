/-
  C05 — the complex-field stack depth IN READING ORDER.  A paragraph with a deleted paragraph mark
  (`w:pPr/w:rPr/w:del`) is not read where it stands: its children are deferred and read, before the own
  children, by the next paragraph without such a mark.  `c05_rdepth` follows that order: it threads the pair
  (depth of the complex-field stack, deferred nodes) through the tree exactly as the reader threads its state.
-/
import Proofs.C05_Balanced
namespace Mammoth

/-- (depth of the complex-field stack, deferred children of deleted paragraphs) -/
abbrev c05_DS := Nat × List XmlNode

def c05_rdepthAllWith (dp : c05_DS → XmlNode → Option c05_DS) : c05_DS → List XmlNode → Option c05_DS
  | s, [] => some s
  | s, .text _ :: rest => c05_rdepthAllWith dp s rest
  | s, .elem n as cs :: rest => (dp s (.elem n as cs)).bind fun s1 => c05_rdepthAllWith dp s1 rest

/-- (depth, deferred) after an element, given the function `all` for the lists of nodes that are read -/
def c05_rdepthBody (all : c05_DS → List XmlNode → Option c05_DS) (s : c05_DS) (name : Str) (as : Attrs)
    (cs : List XmlNode) : Option c05_DS :=
  match handlerOf name with
  | none => some s
  | some h =>
    if h == S!"text" then some s
    else if h == S!"run" then all s cs
    else if h == S!"paragraph" then
      if (findChild S!"w:del" (findChildOrNull S!"w:rPr" (findChildOrNull S!"w:pPr" cs).2).2).isSome then
        -- deleted paragraph mark: nothing is read now, the children are deferred
        some (s.1, s.2 ++ cs)
      else
        -- the deferred nodes are read first, then the own children
        all (s.1, []) (s.2 ++ cs)
    else if h == S!"read_fld_char" then (c05_fldDepth s.1 as).map fun d => (d, s.2)
    else if h == S!"read_instr_text" then some s
    else if h == S!"tab" then some s
    else if h == S!"no_break_hyphen" then some s
    else if h == S!"soft_hyphen" then some s
    else if h == S!"symbol" then some s
    else if h == S!"table" then all s cs
    else if h == S!"table_row" then all s cs
    else if h == S!"table_cell" then all s cs
    else if h == S!"read_child_elements" then all s cs
    else if h == S!"pict" then all s cs
    else if h == S!"hyperlink" then all s cs
    else if h == S!"bookmark_start" then some s
    else if h == S!"break_" then some s
    else if h == S!"inline" then some s
    else if h == S!"read_imagedata" then some s
    else if h == S!"note_reference:footnote" || h == S!"note_reference:endnote" then some s
    else if h == S!"read_comment_reference" then some s
    else if h == S!"alternate_content" then all s (findChildOrNull S!"mc:Fallback" cs).2
    else if h == S!"read_sdt" then
      match findChild S!"wordml:checkbox" (findChildOrNull S!"w:sdtPr" cs).2 with
      | some _ => some s
      | none => all s (findChildOrNull S!"w:sdtContent" cs).2
    else some s

/-- (depth of the complex-field stack, deferred nodes) after reading a node IN READING ORDER from `s`;
    `none` = a `w:fldChar` end/separate meets the empty stack.  Fuelled like `readElem`, because deferred
    nodes are read again later (no structural recursion); with fuel 0 nothing is inspected. -/
def c05_rdepth : Nat → c05_DS → XmlNode → Option c05_DS
  | _, s, .text _ => some s
  | 0, s, .elem _ _ _ => some s
  | f+1, s, .elem name as cs => c05_rdepthBody (c05_rdepthAllWith (c05_rdepth f)) s name as cs

/-- reading a list of nodes (a body) in reading order -/
def c05_rdepthL (f : Nat) (s : c05_DS) (ns : List XmlNode) : Option c05_DS :=
  c05_rdepthAllWith (c05_rdepth f) s ns

/-- BALANCED IN READING ORDER: reading the body from the fresh state (empty field stack, nothing deferred)
    never meets a `w:fldChar` end/separate on the empty stack.  The fuel `xmlSizeL ns` is enough to
    inspect everything (`C05_fuel_enough_all`). -/
def c05_balanced (ns : List XmlNode) : Bool := (c05_rdepthL (xmlSizeL ns) (0, []) ns).isSome

def c05_rdepthH (all : c05_DS → List XmlNode → Option c05_DS) (s : c05_DS) (as : Attrs) (cs : List XmlNode) :
    Handler → Option c05_DS
  | .run | .table | .tableRow | .tableCell | .childElements | .pict | .hyperlink => all s cs
  | .paragraph =>
    if (findChild S!"w:del" (findChildOrNull S!"w:rPr" (findChildOrNull S!"w:pPr" cs).2).2).isSome then
      some (s.1, s.2 ++ cs)
    else all (s.1, []) (s.2 ++ cs)
  | .fldChar => (c05_fldDepth s.1 as).map fun d => (d, s.2)
  | .alternateContent => all s (findChildOrNull S!"mc:Fallback" cs).2
  | .sdt =>
    match findChild S!"wordml:checkbox" (findChildOrNull S!"w:sdtPr" cs).2 with
    | some _ => some s
    | none => all s (findChildOrNull S!"w:sdtContent" cs).2
  | _ => some s

theorem c05_rdepthBody_handler {all : c05_DS → List XmlNode → Option c05_DS} {s : c05_DS} {name : Str}
    {as : Attrs} {cs : List XmlNode} {k : Handler} (hg : handlerOf name = some k.name) :
    c05_rdepthBody all s name as cs = c05_rdepthH all s as cs k := by
  unfold c05_rdepthBody; rw [hg]
  -- per handler, the match compares two closed strings: the kernel evaluates that much faster than `rfl`
  cases k <;> c05_kernel_rfl

theorem c05_rdepthBody_unhandled {all : c05_DS → List XmlNode → Option c05_DS} {s : c05_DS} {name : Str}
    {as : Attrs} {cs : List XmlNode} (hg : handlerOf name = none) : c05_rdepthBody all s name as cs = some s := by
  unfold c05_rdepthBody; rw [hg]

theorem c05_rdepthAllWith_noDel (dp : c05_DS → XmlNode → Option c05_DS) (dp' : Nat → XmlNode → Option Nat)
    (h : ∀ d n, c05_noDel n = true → dp (d, []) n = (dp' d n).map (·, [])) :
    ∀ (ns : List XmlNode) (d : Nat), c05_noDelL ns = true →
      c05_rdepthAllWith dp (d, []) ns = (c05_depthAllWith dp' d ns).map (·, [])
  | [], d, _ => rfl
  | .text _ :: rest, d, hn => by
    simp only [c05_noDelL, Bool.and_eq_true] at hn
    exact c05_rdepthAllWith_noDel dp dp' h rest d hn.2
  | .elem n as cs :: rest, d, hn => by
    simp only [c05_noDelL, Bool.and_eq_true] at hn
    simp only [c05_rdepthAllWith, c05_depthAllWith, h d _ hn.1]
    cases dp' d (.elem n as cs) with
    | none => rfl
    | some d1 => exact c05_rdepthAllWith_noDel dp dp' h rest d1 hn.2

theorem c05_rdepth_noDel : ∀ (f d : Nat) (n : XmlNode), c05_noDel n = true →
    c05_rdepth f (d, []) n = (c05_depth f d n).map (·, [])
  | f, d, .text _, _ => by cases f <;> rfl
  | 0, d, .elem _ _ _, _ => rfl
  | f+1, d, .elem name as cs, hn => by
    simp only [c05_noDel, Bool.and_eq_true] at hn
    have all := fun d ns => c05_rdepthAllWith_noDel _ _ (c05_rdepth_noDel f) ns d
    show c05_rdepthBody _ (d, []) name as cs = (c05_depthBody _ d name as cs).map (·, [])
    cases hg : handlerOf name with
    | none => rw [c05_rdepthBody_unhandled hg, c05_depthBody_unhandled hg]; rfl
    | some h =>
      obtain ⟨k, rfl⟩ := handlerOf_known hg
      rw [c05_rdepthBody_handler hg, c05_depthBody_handler hg]
      cases k with
      | run | table | tableRow | tableCell | childElements | pict | hyperlink => exact all d cs hn.2
      | paragraph =>
        simp only [c05_rdepthH, c05_depthH, if_neg (c05_elemNoDel_para name _ cs hg rfl hn.1), List.nil_append]
        exact all d cs hn.2
      | fldChar => rfl
      | alternateContent => exact all d _ (c05_noDelL_findChild _ cs hn.2)
      | sdt =>
        dsimp only [c05_rdepthH, c05_depthH]
        cases findChild S!"wordml:checkbox" (findChildOrNull S!"w:sdtPr" cs).2 with
        | some _ => rfl
        | none => exact all d _ (c05_noDelL_findChild _ cs hn.2)
      | _ => rfl

end Mammoth
