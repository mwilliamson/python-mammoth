/-
  C20 — the command line writes exactly what the library returns.

  Model: `MammothModel/Cli.lean` (`main`, `ImageWriter`, `_write_output` of mammoth/cli.py, POSIX).
  `cliRun args value messages images` takes the library's result and the images handed to the
  image converter (content type, bytes) in document order.
-/
import Proofs.C20_Cli
import Proofs.C20_EndToEnd
import Proofs.C12_Utf8
namespace Mammoth

/-- The bytes written are the UTF-8 encoding of precisely the library's `value`, to the chosen sink:
    * an output path given: that file gets them, it is the only file written, stdout stays empty;
    * neither path nor directory: stdout gets them and no file is written;
    * `--output-dir d`: the file `d/<name>.html` gets them (written last, after the image files),
      stdout stays empty.
    (And what was written decodes back to `value`: `C20_output_decodes`.) -/
theorem C20_output_bytes (args : CliArgs) (value : Str) (messages : List Str)
    (images : List (Str × Bytes)) :
    (∀ out, args.output = some out → args.outputDir = none →
        (cliRun args value messages images).files = [(out, utf8Encode value)] ∧
        (cliRun args value messages images).stdout = []) ∧
    (args.output = none → args.outputDir = none →
        (cliRun args value messages images).files = [] ∧
        (cliRun args value messages images).stdout = utf8Encode value) ∧
    (∀ dir, args.outputDir = some dir → args.output = none →
        (cliRun args value messages images).files =
          (imageWriterRun dir 1 images).1
            ++ [(posixJoin dir (cliOutputName args.path), utf8Encode value)] ∧
        (cliRun args value messages images).stdout = []) := by
  refine ⟨fun out h1 h2 => ?_, fun h1 h2 => ?_, fun dir h1 h2 => ?_⟩
  · simp [cliRun, CliArgs.valid, h1, h2]
  · simp [cliRun, CliArgs.valid, h1, h2]
  · rw [c20_cliRun_dir args value messages images dir h1 h2]
    exact ⟨rfl, rfl⟩

/-- the bytes written decode (strict UTF-8) to exactly the library's value -/
theorem C20_output_decodes (value : Str) : utf8DecodeL (utf8Encode value) = some value :=
  c12_utf8_roundtrip value

/-- `output-path` together with `--output-dir` is rejected by argparse: exit status 2, nothing is
    written anywhere. -/
theorem C20_usage_error (args : CliArgs) (value : Str) (messages : List Str)
    (images : List (Str × Bytes)) (out dir : Str)
    (h1 : args.output = some out) (h2 : args.outputDir = some dir) :
    (cliRun args value messages images).exitCode = 2 ∧
    (cliRun args value messages images).files = [] ∧
    (cliRun args value messages images).stdout = [] := by
  simp [cliRun, CliArgs.valid, h1, h2]

/-- stderr receives the messages, all of them, in order, each followed by one newline — in every
    valid mode —; so when no message contains a newline itself, the lines of stderr are exactly the
    messages (one per line; the final `[]` is the empty piece after the last newline). -/
theorem C20_messages_lines (args : CliArgs) (value : Str) (messages : List Str)
    (images : List (Str × Bytes)) (hv : args.valid = true) :
    (cliRun args value messages images).stderr = messages ∧
    (cliRun args value messages images).stderrText = stderrTextOf messages ∧
    ((∀ m ∈ messages, '\n' ∉ m) →
      splitOnChar '\n' (cliRun args value messages images).stderrText = messages ++ [[]]) := by
  have e : (cliRun args value messages images).stderr = messages ∧
      (cliRun args value messages images).stderrText = stderrTextOf messages := by
    unfold cliRun
    simp only [hv, Bool.not_true, Bool.false_eq_true, if_false]
    cases args.outputDir with
    | some dir => exact ⟨rfl, rfl⟩
    | none => cases args.output <;> exact ⟨rfl, rfl⟩
  exact ⟨e.1, e.2, fun h => by rw [e.2]; exact c20_stderr_lines messages h⟩

/-- `--output-dir d` in the model of the command (`cliRun`): the k-th image of the document (k = 1, 2, …;
    `images[k-1]`), with content type `ct` and bytes `b`, is written to `d/<k>.<subtype>` with EXACTLY its
    bytes, `subtype` being `imageSubtype ct` (the part of `ct` after the first "/": `partition("/")[2]` in
    `ImageWriter`), and `<k>.<subtype>` is the `src` returned for it.  There is one file and one `src` per
    image; the `src`s are pairwise distinct and so are the paths of the image files, whatever the content
    types are.  `cliRun` takes every write to succeed: whether the file system accepts a path (a subtype with
    a further "/" names a file in a directory nobody made) is not part of it.
    The counter invariant `c20_run_counter`: after `n` images the counter is `1 + n`. -/
theorem C20_image_numbering (args : CliArgs) (value : Str) (messages : List Str)
    (images : List (Str × Bytes)) (dir : Str)
    (h1 : args.outputDir = some dir) (h2 : args.output = none) :
    (∀ k ct b, images[k]? = some (ct, b) →
        (cliRun args value messages images).files[k]?
            = some (posixJoin dir (natToStr (k + 1) ++ ['.'] ++ imageSubtype ct), b) ∧
        (cliRun args value messages images).srcs[k]?
            = some (natToStr (k + 1) ++ ['.'] ++ imageSubtype ct)) ∧
    (cliRun args value messages images).srcs.length = images.length ∧
    (cliRun args value messages images).files.length = images.length + 1 ∧
    (cliRun args value messages images).srcs.Nodup ∧
    (((cliRun args value messages images).files.take images.length).map (·.1)).Nodup ∧
    (imageWriterRun dir 1 images).2.2 = 1 + images.length := by
  rw [c20_cliRun_dir args value messages images dir h1 h2]
  dsimp only
  refine ⟨fun k ct b hk => ?_, ?_, ?_, ?_, ?_, c20_run_counter dir 1 images⟩
  all_goals rw [c20_run_eq]
  · have hlt : k < images.length := (List.getElem?_eq_some_iff.mp hk).1
    rw [List.getElem?_append_left (by simpa using hlt)]
    simp only [List.getElem?_map, List.getElem?_zipIdx, hk, Option.map_some, Nat.add_comm 1 k]
    exact ⟨rfl, rfl⟩
  · simp
  · simp
  -- the numbers increase along the run, and a name determines its number
  · exact (c20_zipIdx_lt images 1).map _ fun a b hab e => Nat.ne_of_lt hab (c20_imageName_inj _ _ _ _ e)
  · rw [List.take_left' (by simp), List.map_map]
    refine (c20_zipIdx_lt images 1).map _ fun a b hab e => Nat.ne_of_lt hab ?_
    -- without this the unifier unfolds `posixJoin` before it reduces the composition in `e`
    dsimp only [Function.comp_apply] at e
    exact c20_imageName_inj _ _ _ _
      (c20_posixJoin_inj dir _ _ (c20_imageName_not_abs _ _) (c20_imageName_not_abs _ _) e)

/-- `cliRun` is the special case of `cliRunO` in which every image has a content type and opens. -/
theorem C20_run_total (args : CliArgs) (value : Str) (messages : List Str)
    (images : List (Str × Bytes)) :
    cliRunO args value messages (c20_lift images) = cliRun args value messages images := by
  unfold cliRunO cliRun
  cases hv : args.valid with
  | false => rfl
  | true =>
    simp only [Bool.not_true, Bool.false_eq_true, if_false]
    cases hd : args.outputDir with
    | none => simp
    | some dir => simp only [c20_runO_lift]; rfl

/-- `--output-dir` when some images cannot be opened (linked images that cannot be read) but all
    have a content type: the command still succeeds; the images that DO open are numbered 1, 2, …
    in document order exactly as if the others were not there (`src`s and files with their exact
    bytes); every other file written is an EMPTY file `<n>.<subtype>` left behind by a failed open
    (the destination is created before the source is opened; the counter is not advanced, so the
    next image reuses the number — and overwrites that file if it has the same subtype). -/
theorem C20_image_open_failures (args : CliArgs) (value : Str) (messages : List Str)
    (images : List (Option Str × Option Bytes)) (dir : Str)
    (h1 : args.outputDir = some dir) (h2 : args.output = none)
    (ht : c20_typed images = true) :
    (cliRunO args value messages images).srcs
      = (cliRun args value messages (c20_opened images)).srcs ∧
    (cliRunO args value messages images).exitCode = 0 ∧
    (cliRunO args value messages images).stdout = [] ∧
    (cliRunO args value messages images).files.getLast?
      = some (posixJoin dir (cliOutputName args.path), utf8Encode value) ∧
    (∀ f ∈ (cliRunO args value messages images).files,
        f ∈ (cliRun args value messages (c20_opened images)).files ∨ f.2 = []) ∧
    (cliRun args value messages (c20_opened images)).files.Sublist
        (cliRunO args value messages images).files := by
  obtain ⟨r1, _, _, r4, r5⟩ := c20_runO_typed dir 1 images ht
  rw [c20_cliRunO_dir args value messages images dir h1 h2 ht,
    c20_cliRun_dir args value messages (c20_opened images) dir h1 h2]
  refine ⟨r1, rfl, rfl, by simp, ?_, ?_⟩
  · intro f hf
    simp only [List.mem_append, List.mem_singleton] at hf ⊢
    rcases hf with hf | hf
    · rcases r4 f hf with h | h
      · exact Or.inl (Or.inl h)
      · exact Or.inr h
    · exact Or.inl (Or.inr hf)
  · exact List.Sublist.append r5 (List.Sublist.refl _)

/-- `--output-dir` and an image WITHOUT content type (the reader found no `Override`, no `Default`
    and no known extension: `content_type` is `None`): `None.partition` raises AttributeError, the
    command dies with exit status 1; neither the HTML file nor the messages nor anything on stdout
    is written (only the image files written before the crash exist).  Here the command does NOT
    write what the library would return. -/
theorem C20_unknown_type_crash (args : CliArgs) (value : Str) (messages : List Str)
    (images : List (Option Str × Option Bytes)) (dir : Str)
    (h1 : args.outputDir = some dir) (h2 : args.output = none)
    (ht : c20_typed images = false) :
    (cliRunO args value messages images).exitCode = 1 ∧
    (cliRunO args value messages images).stdout = [] ∧
    (cliRunO args value messages images).stderr = [] ∧
    (cliRunO args value messages images).files = (imageWriterRunO dir 1 images).1 := by
  have := c20_runO_crash dir 1 images ht
  simp [cliRunO, CliArgs.valid, h1, h2, this]

/-- The subtype is what follows the FIRST "/" of the content type (`partition("/")[2]`). -/
theorem C20_subtype (a b : Str) (h : '/' ∉ a) : imageSubtype (a ++ '/' :: b) = b := by
  rw [imageSubtype, c20_afterFirst_append '/' a _ h]
  rfl

/-- … and a content type without "/" gives the empty subtype (file name `"<k>."`). -/
theorem C20_subtype_none (a : Str) (h : '/' ∉ a) : imageSubtype a = [] := by
  have := c20_afterFirst_append '/' a [] h
  rwa [List.append_nil] at this

/-- The name of the HTML file in `--output-dir` mode is `<stem>.html`, `stem` = the input's
    basename (last path component, it contains no "/") without its extension, by the rules of
    `os.path.splitext`: the extension starts at the LAST dot, and leading dots are not an
    extension.  Every slash-free name falls under exactly one of the three cases. -/
theorem C20_output_name (path : Str) :
    cliOutputName path = (splitext (basename path)).1 ++ S!".html" ∧
    '/' ∉ basename path ∧
    (∃ d, path = d ++ basename path) ∧
    (splitext (basename path)).1 ++ (splitext (basename path)).2 = basename path ∧
    (∀ name, '/' ∉ name → '.' ∉ name → splitext name = (name, [])) ∧
    (∀ stem ext, '/' ∉ stem → '/' ∉ ext → '.' ∉ ext → stem.any (· != '.') = true →
        splitext (stem ++ '.' :: ext) = (stem, '.' :: ext)) ∧
    (∀ dots ext, '/' ∉ ext → '.' ∉ ext → dots.any (· != '.') = false →
        splitext (dots ++ '.' :: ext) = (dots ++ '.' :: ext, [])) := by
  refine ⟨rfl, c20_basename_no_sep path, ⟨_, (List.take_append_drop (rfindNext '/' path) path).symm⟩, ?_, ?_, ?_, ?_⟩
  · unfold splitext
    simp only []
    split
    · split
      · exact List.take_append_drop _ _
      · simp
    · simp
  · intro name _ hd
    unfold splitext
    simp [c20_rfindNext_absent '.' name hd]
  · intro stem ext hs he hd hstem
    rw [c20_splitext_dot stem ext hs he hd, if_pos hstem]
  · intro dots ext he hd hdots
    have hs : '/' ∉ dots := fun h => by
      have := List.any_eq_false.mp hdots '/' h
      revert this; decide
    rw [c20_splitext_dot dots ext hs he hd, if_neg (by rw [hdots]; simp)]

/-! ### examples -/

example : (splitext S!"a.docx").1 = S!"a" := by decide +kernel
example : (splitext S!"a.b.docx").1 = S!"a.b" := by decide +kernel
example : (splitext S!"document").1 = S!"document" := by decide +kernel
example : (splitext S!".hidden").1 = S!".hidden" := by decide +kernel
example : splitext S!"..hidden.x" = (S!"..hidden", S!".x") := by decide +kernel
example : splitext S!"dir.d/file" = (S!"dir.d/file", []) := by decide +kernel
example : cliOutputName S!"/home/u/my.report.docx" = S!"my.report.html" := by decide +kernel
example : cliOutputName S!"document" = S!"document.html" := by decide +kernel
example : cliOutputName S!".hidden" = S!".hidden.html" := by decide +kernel

example : imageWriterStep 3 S!"image/svg+xml" [1, 2] = (S!"3.svg+xml", 4) := by decide +kernel
example : imageWriterStep 10 S!"image" [] = (S!"10.", 11) := by decide +kernel
example : imageWriterStep 1 S!"a/b/c" [] = (S!"1.b/c", 2) := by decide +kernel

example :
    cliRun { path := S!"in/a.b.docx", outputDir := some S!"out" } S!"<p>é</p>" [S!"m1", S!"m2"]
      [(S!"image/png", [1, 2]), (S!"image/jpeg", [3])]
    = { files := [(S!"out/1.png", [1, 2]), (S!"out/2.jpeg", [3]),
                  (S!"out/a.b.html", [60, 112, 62, 195, 169, 60, 47, 112, 62])],
        stdout := [], stderrText := S!"m1\nm2\n", stderr := [S!"m1", S!"m2"],
        srcs := [S!"1.png", S!"2.jpeg"], exitCode := 0 } := by decide +kernel

example :
    cliRun { path := S!"a.docx" } S!"hé" [S!"w"] [(S!"image/png", [1])]
    = { stdout := [104, 195, 169], stderrText := S!"w\n", stderr := [S!"w"] } := by decide +kernel

/-- a collision the numbering cannot exclude: the HTML file itself is named like an image file
    (input `1.docx`, an image part declared as `x/html`): the image file is overwritten -/
example :
    (cliRun { path := S!"1.docx", outputDir := some S!"o" } S!"v" [] [(S!"x/html", [7])]).files
    = [(S!"o/1.html", [7]), (S!"o/1.html", [118])] := by decide +kernel

/-- an unreadable linked image followed by an embedded one: an empty `1.gif` is left behind and the
    embedded image is number 1 -/
example :
    (cliRunO { path := S!"a.docx", outputDir := some S!"o" } S!"v" [S!"could not open"]
      [(some S!"image/gif", none), (some S!"image/png", some [7])]).files
    = [(S!"o/1.gif", []), (S!"o/1.png", [7]), (S!"o/a.html", [118])] := by decide +kernel

/-- an image of unknown type: crash after the first image file -/
example :
    cliRunO { path := S!"a.docx", outputDir := some S!"o" } S!"v" [S!"m"]
      [(some S!"image/png", some [7]), (none, some [8])]
    = { files := [(S!"o/1.png", [7])], srcs := [S!"1.png"], exitCode := 1 } := by decide +kernel

/-! ## End to end: the command as a function of the PACKAGE

  `c20_cli args p world fuel` (`Proofs/C20_EndToEnd.lean`) composes the model of the command with the model of
  the library: `args` (with the TEXT of the `--style-map` file), the package `p` (the parsed input file), the
  outside world (what opening a path / URL yields, for linked images) ↦ what `main()` writes; `.error e` when
  the library raises `e`.  The library call is

      `apiConvert p fuel (some (c20_dirname args.path)) world id
          { styleMap := args.styleMap, format := fmt, imageConv := conv }`

  = `mammoth.convert(open(args.path, "rb"), style_map=…, convert_image=…, output_format=…)` (all other options
  at their defaults: built-in and embedded style maps included), `conv` = the default `data_uri` converter
  without `--output-dir`.  With `--output-dir` the converter is `img_element(ImageWriter(dir))`; the model's
  family of image converters does not contain it (its `src` differs from call to call), so the run is
  composed of `apiConvert` with `c20_writerConv` (`img_element(f)` for an `f` that opens every image and
  returns no attribute: same calls, same `open()`s, same warnings, one fresh childless `img` per opened image),
  the model's `ImageWriter` (`imageWriterRunO`), and the substitution `c20_putSrcs` that gives the k-th such
  `img` the k-th `src` the `ImageWriter` returned (`c20_putSrc_tag`: the result is the element the model's own
  `img_element` makes for `{"src": name}`).  The real command agrees with `c20_cli` on the example packages
  below, byte for byte (files, stdout; stderr up to the OS error text the model leaves out of the warning). -/

/-- STDOUT.  No output path, no `--output-dir`, `--output-format` absent / `html` / `markdown`, any style-map
    text (or none): if the library returns `out` for the package, the command writes to standard output the
    bytes `utf8Encode out.value` and nothing else anywhere (no file), exit status 0.  If the library raises,
    so does the command (nothing written). -/
theorem C20_stdout_is_value (args : CliArgs) (p : Package) (world : Str → Option Bytes) (fuel : Nat)
    (fmt : Format) (ho : args.output = none) (hd : args.outputDir = none)
    (hf : c20_format args.format = some fmt) :
    (∀ out, apiConvert p fuel (some (c20_dirname args.path)) world id
          { styleMap := args.styleMap, format := fmt } = .ok out →
      ∃ res, c20_cli args p world fuel = .ok res ∧
        res.stdout = utf8Encode out.value ∧ res.files = [] ∧ res.exitCode = 0) ∧
    (∀ e, apiConvert p fuel (some (c20_dirname args.path)) world id
          { styleMap := args.styleMap, format := fmt } = .error e →
      c20_cli args p world fuel = .error e) := by
  have hv : args.valid = true := by simp [CliArgs.valid, ho]
  obtain ⟨hok, herr⟩ := c20_cli_nodir args p world fuel fmt hv hf hd
  exact ⟨fun out hout => ⟨_, hok out hout, by simp [cliRun, hv, hd, ho]⟩, herr⟩

/-- OUTPUT PATH.  With an output path (and hence no `--output-dir`): that file receives exactly
    `utf8Encode out.value`; it is the only file written and standard output stays empty. -/
theorem C20_file_is_value (args : CliArgs) (p : Package) (world : Str → Option Bytes) (fuel : Nat)
    (fmt : Format) (path : Str) (ho : args.output = some path) (hd : args.outputDir = none)
    (hf : c20_format args.format = some fmt) :
    (∀ out, apiConvert p fuel (some (c20_dirname args.path)) world id
          { styleMap := args.styleMap, format := fmt } = .ok out →
      ∃ res, c20_cli args p world fuel = .ok res ∧
        res.files = [(path, utf8Encode out.value)] ∧ res.stdout = [] ∧ res.exitCode = 0) ∧
    (∀ e, apiConvert p fuel (some (c20_dirname args.path)) world id
          { styleMap := args.styleMap, format := fmt } = .error e →
      c20_cli args p world fuel = .error e) := by
  have hv : args.valid = true := by simp [CliArgs.valid, hd]
  obtain ⟨hok, herr⟩ := c20_cli_nodir args p world fuel fmt hv hf hd
  exact ⟨fun out hout => ⟨_, hok out hout, by simp [cliRun, hv, hd, ho]⟩, herr⟩

/-- STDERR.  In both modes without `--output-dir` (stdout or output path), either format, any style-map text:
    standard error receives the messages of THE SAME library call whose value is written — all of them, in
    order, each followed by one newline; so when no message contains a newline the lines of stderr are exactly
    the messages.  (For `--output-dir`, `stderr` and its text are part of `C20_output_dir_files`.) -/
theorem C20_stderr_is_messages (args : CliArgs) (p : Package) (world : Str → Option Bytes) (fuel : Nat)
    (fmt : Format) (hd : args.outputDir = none) (hf : c20_format args.format = some fmt) (out : ApiOut)
    (hout : apiConvert p fuel (some (c20_dirname args.path)) world id
          { styleMap := args.styleMap, format := fmt } = .ok out) :
    ∃ res, c20_cli args p world fuel = .ok res ∧
      res.stderr = out.messages ∧ res.stderrText = stderrTextOf out.messages ∧
      ((∀ m ∈ out.messages, '\n' ∉ m) → splitOnChar '\n' res.stderrText = out.messages ++ [[]]) := by
  have hv : args.valid = true := by simp [CliArgs.valid, hd]
  exact ⟨_, (c20_cli_nodir args p world fuel fmt hv hf hd).1 out hout,
    C20_messages_lines args out.value out.messages [] hv⟩

/-- an unknown `--output-format` is a usage error (argparse `choices`): exit status 2, nothing written -/
theorem C20_bad_format (args : CliArgs) (p : Package) (world : Str → Option Bytes) (fuel : Nat)
    (hf : c20_format args.format = none) : c20_cli args p world fuel = .ok { exitCode := 2 } := by
  unfold c20_cli
  by_cases hv : args.valid = true
  · simp [hv, hf]
  · simp [hv]

/-- DOCUMENT ORDER.  The images handed to the image converter (`out.imageCalls`, any converter `o.imageConv`
    of the family) are, in call order, the images of the package in document order as C17 specifies it from
    the XML (`c20_docOrder`: `c17_storyImages` of the body — reading order of the XML — then the images of
    the rendered notes and comments), when the body has no vertical-merge continuation cell and the style map
    has no `!` mapping. -/
theorem C20_calls_document_order (p : Package) (v : c05_View) (hview : c05_view p = some v) (fuel : Nat)
    (base : Option Str) (world : Str → Option Bytes) (o : Options) (out : ApiOut)
    (hout : apiConvert p fuel base world id o = .ok out)
    (hvm : c01_noVMergeL v.body = true)
    (hig : c01_noIgnoreMap (c05_apiCfg p base world o (c17_embOf p o)) = true) :
    out.imageCalls = c20_docOrder (c05_apiCfg p base world o (c17_embOf p o)) v out.document :=
  c20_calls_docOrder p v hview fuel base world o out hout hvm hig

/-- `--output-dir dir`, EITHER FORMAT (`--output-format` absent, `html` or `markdown`), any style-map text, no
    hypothesis on the style map: when every image handed to the `ImageWriter` has a content type, the command
    succeeds; stderr = the messages of the library call, one per line, in order; the files are the image files
    — numbered and filled as in `C20_counter_only_advances_on_success`, in call order — followed by
    `dir/<stem>.html` (this name also for Markdown) holding the UTF-8 encoding of the value the library returns
    under the `ImageWriter` (`c20_dirValue`); nothing on stdout. -/
theorem C20_output_dir_files (args : CliArgs) (p : Package) (world : Str → Option Bytes)
    (fuel : Nat) (fmt : Format) (dir : Str) (out : ApiOut)
    (hv : args.valid = true) (hd : args.outputDir = some dir) (hf : c20_format args.format = some fmt)
    (hout : apiConvert p fuel (some (c20_dirname args.path)) world id
          { styleMap := args.styleMap, format := fmt, imageConv := c20_writerConv } = .ok out)
    (ht : c20_allTyped out.imageCalls = true) :
    ∃ res, c20_cli args p world fuel = .ok res ∧
      res.exitCode = 0 ∧ res.stdout = [] ∧ res.stderr = out.messages ∧
      res.stderrText = stderrTextOf out.messages ∧
      res.files.length = out.imageCalls.length + 1 ∧
      res.files[out.imageCalls.length]? = some (posixJoin dir (cliOutputName args.path),
        utf8Encode (c20_dirValue dir fmt (c20_writerInput args p world out) out)) ∧
      (∀ k i, out.imageCalls[k]? = some i →
        ∃ ct bytes, i.contentType = some ct ∧
          res.files[k]? = some (posixJoin dir (natToStr
            (((out.imageCalls.take k).filter (c20_okf (c20_openCfg args p world))).length + 1)
              ++ ['.'] ++ imageSubtype ct), bytes) ∧
          (∀ b, c17_opened (c20_openCfg args p world) i.src = some b → bytes = b) ∧
          (c17_opened (c20_openCfg args p world) i.src = none → bytes = [])) := by
  have hout' : c20_convert args p world fuel fmt c20_writerConv = .ok out := hout
  have hty : c20_typed (c20_writerInput args p world out) = true :=
    (c20_writerInput_typed args p world out).trans ht
  have hlen : (imageWriterRunO dir 1 (c20_writerInput args p world out)).1.length = out.imageCalls.length := by
    rw [c20_runO_length dir 1 _ hty, c20_writerInput_open, List.length_map]
  rw [c20_cli_dir args p world fuel fmt dir hv hf hd, hout']
  refine ⟨_, rfl, ?_⟩
  dsimp only
  rw [c20_cliRunO_dir _ _ _ _ dir hd (c20_valid_output args dir hv hd) hty]
  refine ⟨rfl, rfl, rfl, rfl, ?_, ?_, ?_⟩
  · simp [hlen]
  · rw [List.getElem?_append_right (by omega), hlen]; simp
  · intro k i hk
    obtain ⟨ct, hct⟩ := c20_allTyped_mem _ i ht (List.mem_of_getElem? hk)
    have hget : (c20_writerInput args p world out)[k]? =
        some (some ct, c17_opened (c20_openCfg args p world) i.src) := by
      rw [c20_writerInput_open, List.getElem?_map, hk, Option.map_some, hct]
    have hlt : k < (imageWriterRunO dir 1 (c20_writerInput args p world out)).1.length :=
      hlen ▸ (List.getElem?_eq_some_iff.mp hk).1
    refine ⟨ct, (c17_opened (c20_openCfg args p world) i.src).getD [], hct, ?_, ?_, ?_⟩
    · rw [List.getElem?_append_left hlt, c20_runO_get dir 1 _ hty k ct _ hget, c20_writerInput_open,
        ← List.map_take, List.filter_map, List.length_map, Nat.add_comm 1]
      rfl
    · intro b hb; rw [hb]; rfl
    · intro hb; rw [hb]; rfl

/-- `--output-dir dir`, HTML, PICTURES THAT CANNOT BE OPENED (linked pictures whose file / URL cannot be read).
    `calls` = `out.imageCalls`, the images handed to the `ImageWriter` in call order (= document order,
    `C20_calls_document_order`), all with a content type; "opens" = `c17_opened … ≠ none`.  What the model says,
    exactly (the real command does the same, see the example below):
    * the command succeeds: exit status 0, stdout empty, stderr = the library's messages;
    * `calls.length + 1` files are written, the last one `dir/<stem>.html`;
    * THE COUNTER ADVANCES ONLY ON SUCCESS: the file written for the image at position k is named
      `<c+1>.<subtype>` where `c` is the number of images BEFORE it that opened; it holds the image's bytes if
      the image opens and is EMPTY if it does not (the destination is created before the source is opened) —
      the number is then used again by the next image (`C20_failed_open_keeps_number`);
    * the HTML has one void `img` per image that OPENS, none for the others: the j-th `img` has
      `src = <j+1>.<subtype>` and the alt text of the j-th image that opens;
    * every image that does not open has a warning text (`c16_openError`: it is a linked image) and this
      warning is written to stderr. -/
theorem C20_counter_only_advances_on_success (args : CliArgs) (p : Package) (world : Str → Option Bytes)
    (fuel : Nat) (dir : Str) (out : ApiOut)
    (hv : args.valid = true) (hd : args.outputDir = some dir) (hf : c20_format args.format = some .html)
    (hout : apiConvert p fuel (some (c20_dirname args.path)) world id
          { styleMap := args.styleMap, format := .html, imageConv := c20_writerConv } = .ok out)
    (hi : c17_noImgMap (c20_dirCfg args p world .html) = true)
    (hp : c02_plainCfg (c20_dirCfg args p world .html) = true)
    (ht : c20_allTyped out.imageCalls = true) :
    ∃ res value toks, c20_cli args p world fuel = .ok res ∧
      res.exitCode = 0 ∧ res.stdout = [] ∧ res.stderr = out.messages ∧
      res.files.length = out.imageCalls.length + 1 ∧
      res.files[out.imageCalls.length]? = some (posixJoin dir (cliOutputName args.path), utf8Encode value) ∧
      c02_lexHtml value = some toks ∧ c17_tokImgs toks = c17_tokVoidImgs toks ∧
      (c17_tokVoidImgs toks).length =
        (out.imageCalls.filter (c20_okf (c20_openCfg args p world))).length ∧
      (∀ k i, out.imageCalls[k]? = some i →
        ∃ ct bytes, i.contentType = some ct ∧
          res.files[k]? = some (posixJoin dir (natToStr
            (((out.imageCalls.take k).filter (c20_okf (c20_openCfg args p world))).length + 1)
              ++ ['.'] ++ imageSubtype ct), bytes) ∧
          (∀ b, c17_opened (c20_openCfg args p world) i.src = some b → bytes = b) ∧
          (c17_opened (c20_openCfg args p world) i.src = none → bytes = [])) ∧
      (∀ j i, (out.imageCalls.filter (c20_okf (c20_openCfg args p world)))[j]? = some i →
        ∃ ct, i.contentType = some ct ∧
          ((c17_tokVoidImgs toks)[j]?).map c17_srcAltOf =
            some (some (natToStr (j + 1) ++ ['.'] ++ imageSubtype ct), c17_altOut i)) ∧
      (∀ i ∈ out.imageCalls, c17_opened (c20_openCfg args p world) i.src = none →
        ∃ m, c16_openError (c20_openCfg args p world) i.src = some m ∧ m ∈ res.stderr) := by
  have hout' : c20_convert args p world fuel .html c20_writerConv = .ok out := hout
  obtain ⟨res, hres, e0, e1, e2, _, elen, elast, efile⟩ :=
    C20_output_dir_files args p world fuel .html dir out hv hd hf hout ht
  obtain ⟨toks, hl, hvoid, htoks⟩ := c20_dir_html args p world fuel dir out hout' ht hi hp
  refine ⟨res, _, toks, hres, e0, e1, e2, elen, elast, hl, hvoid, ?_, efile, ?_, ?_⟩
  · rw [htoks]
    simp only [c20_numbered, List.length_map, List.length_zipIdx]
  · intro j i hj
    obtain ⟨ct, hct⟩ := c20_allTyped_mem _ i ht (List.mem_filter.mp (List.mem_of_getElem? hj)).1
    refine ⟨ct, hct, ?_⟩
    rw [htoks, List.getElem?_map, c20_numbered_get 1 _ j i hj]
    simp only [Option.map_some, c20_srcAlt_srcTag, hct, Option.getD_some, c20_imageName, Nat.add_comm 1 j]
  · intro i hi' hop
    obtain ⟨w1, w2⟩ := c20_api_warned p fuel _ world _ out hout' rfl i hi'
    obtain ⟨m, hm⟩ := c20_unopened_has_warning (c20_openCfg args p world) i.src w2 hop
    refine ⟨m, hm, ?_⟩
    rw [e2]
    apply w1 m
    rw [← hm]
    exact c20_openError_cfg args p world .html i.src

/-- a picture that does not open does not consume a number: the count of opened pictures before position
    `k + 1` is the count before position `k`, so the next picture's file and `src` carry the number the empty
    file carries -/
theorem C20_failed_open_keeps_number (cfg : Cfg) (calls : List ImageProps) (k : Nat) (i : ImageProps)
    (hk : calls[k]? = some i) (hop : c17_opened cfg i.src = none) :
    ((calls.take (k + 1)).filter (c20_okf cfg)).length = ((calls.take k).filter (c20_okf cfg)).length := by
  have hf : c20_okf cfg i = false := by simp [c20_okf, hop]
  rw [List.take_add_one, hk]
  simp [List.filter_append, hf]

/-- … and one that opens advances it by exactly one -/
theorem C20_successful_open_advances (cfg : Cfg) (calls : List ImageProps) (k : Nat) (i : ImageProps) (b : Bytes)
    (hk : calls[k]? = some i) (hop : c17_opened cfg i.src = some b) :
    ((calls.take (k + 1)).filter (c20_okf cfg)).length = ((calls.take k).filter (c20_okf cfg)).length + 1 := by
  have hf : c20_okf cfg i = true := by simp [c20_okf, hop]
  rw [List.take_add_one, hk]
  simp [List.filter_append, hf]

/-- `--output-dir dir`, HTML, A PACKAGE WHOSE PICTURES CAN ALL BE OPENED.  `imgs` = the images of the package in
    DOCUMENT ORDER (`c20_docOrder`, from the XML).  Hypotheses (all decidable): the package can be viewed
    (`c05_view`), the library call succeeds (`hout`), no vertical-merge continuation cell in the body, the
    style map (explicit + embedded + built-in) has no `!`, does not mention `img`, uses plain names; every image
    has a content type and can be opened.  Then the command succeeds (exit 0, nothing on stdout, stderr = the
    library's messages) and
    * it writes exactly `n + 1` files, `n = imgs.length`;
    * for k = 0 … n-1, file k is `dir/<k+1>.<subtype>` (`subtype` = what follows the first "/" of the content
      type of image k, `C20_subtype`) and holds EXACTLY the bytes `b` that opening image k yields
      (`c17_opened`; for an embedded image the bytes of its part, `C20_embedded_bytes`);
    * file n is `dir/<stem>.html` (`C20_output_name`) and holds `utf8Encode value`, where `value` is accepted
      by the strict HTML lexer, all its `img` start tags are void, there are exactly `n` of them, and the k-th
      has `src = <k+1>.<subtype>` — the name of file k — and `alt` = the alt text of image k. -/
theorem C20_output_dir_images (args : CliArgs) (p : Package) (world : Str → Option Bytes) (fuel : Nat)
    (dir : Str) (v : c05_View) (out : ApiOut)
    (hv : args.valid = true) (hd : args.outputDir = some dir) (hf : c20_format args.format = some .html)
    (hview : c05_view p = some v)
    (hout : apiConvert p fuel (some (c20_dirname args.path)) world id
          { styleMap := args.styleMap, format := .html, imageConv := c20_writerConv } = .ok out)
    (hvm : c01_noVMergeL v.body = true)
    (hig : c01_noIgnoreMap (c20_dirCfg args p world .html) = true)
    (hi : c17_noImgMap (c20_dirCfg args p world .html) = true)
    (hp : c02_plainCfg (c20_dirCfg args p world .html) = true)
    (ht : c20_allTyped (c20_docOrder (c20_dirCfg args p world .html) v out.document) = true)
    (hpr : c17_allPresent (c20_openCfg args p world)
            (c20_docOrder (c20_dirCfg args p world .html) v out.document) = true) :
    ∃ res value toks, c20_cli args p world fuel = .ok res ∧
      res.exitCode = 0 ∧ res.stdout = [] ∧ res.stderr = out.messages ∧
      res.files.length = (c20_docOrder (c20_dirCfg args p world .html) v out.document).length + 1 ∧
      res.files[(c20_docOrder (c20_dirCfg args p world .html) v out.document).length]? =
        some (posixJoin dir (cliOutputName args.path), utf8Encode value) ∧
      c02_lexHtml value = some toks ∧ c17_tokImgs toks = c17_tokVoidImgs toks ∧
      (c17_tokVoidImgs toks).length = (c20_docOrder (c20_dirCfg args p world .html) v out.document).length ∧
      ∀ k i, (c20_docOrder (c20_dirCfg args p world .html) v out.document)[k]? = some i →
        ∃ ct b, i.contentType = some ct ∧ c17_opened (c20_openCfg args p world) i.src = some b ∧
          res.files[k]? = some (posixJoin dir (natToStr (k + 1) ++ ['.'] ++ imageSubtype ct), b) ∧
          ((c17_tokVoidImgs toks)[k]?).map c17_srcAltOf =
            some (some (natToStr (k + 1) ++ ['.'] ++ imageSubtype ct), c17_altOut i) := by
  have hcalls : out.imageCalls = c20_docOrder (c20_dirCfg args p world .html) v out.document :=
    c20_calls_docOrder p v hview fuel _ world _ out hout hvm hig
  rw [← hcalls] at ht hpr ⊢
  obtain ⟨res, value, toks, hres, e0, e1, e2, elen, elast, hl, hvoid, hn, efile, esrc, _⟩ :=
    C20_counter_only_advances_on_success args p world fuel dir out hv hd hf hout hi hp ht
  -- every image opens, so the filter keeps them all and `k` images open before position `k`
  have hok : ∀ i ∈ out.imageCalls, c20_okf (c20_openCfg args p world) i = true := by
    simpa only [c17_allPresent, List.all_eq_true, c20_okf] using hpr
  rw [List.filter_eq_self.mpr hok] at hn esrc
  refine ⟨res, value, toks, hres, e0, e1, e2, elen, elast, hl, hvoid, hn, fun k i hk => ?_⟩
  obtain ⟨ct, bytes, hct, hfile, hb, _⟩ := efile k i hk
  obtain ⟨ct', hct', hsrc⟩ := esrc k i hk
  obtain ⟨b, hop⟩ := Option.isSome_iff_exists.mp (hok i (List.mem_of_getElem? hk))
  have hk' : k ≤ out.imageCalls.length := Nat.le_of_lt (List.getElem?_eq_some_iff.mp hk).1
  rw [List.filter_eq_self.mpr fun j hj => hok j (List.mem_of_mem_take hj), List.length_take,
    Nat.min_eq_left hk', hb b hop] at hfile
  rw [hct] at hct'
  cases hct'
  exact ⟨ct, b, hct, hop, hfile, hsrc⟩

/-- the bytes an embedded image opens to are the bytes of its part in the package (last entry of that name) -/
theorem C20_embedded_bytes (args : CliArgs) (p : Package) (world : Str → Option Bytes) (name : Str) :
    c17_opened (c20_openCfg args p world) (.embedded name) = lookupLast name (archiveBytes p) := rfl

/-- `--output-dir` with an image WITHOUT content type: the composed command dies as `C20_unknown_type_crash`
    says — exit status 1, no HTML file, no message, nothing on stdout -/
theorem C20_output_dir_untyped_crash (args : CliArgs) (p : Package) (world : Str → Option Bytes)
    (fuel : Nat) (fmt : Format) (dir : Str) (out : ApiOut)
    (hv : args.valid = true) (hd : args.outputDir = some dir) (hf : c20_format args.format = some fmt)
    (hout : apiConvert p fuel (some (c20_dirname args.path)) world id
          { styleMap := args.styleMap, format := fmt, imageConv := c20_writerConv } = .ok out)
    (ht : c20_allTyped out.imageCalls = false) :
    ∃ res, c20_cli args p world fuel = .ok res ∧
      res.exitCode = 1 ∧ res.stdout = [] ∧ res.stderr = [] ∧
      res.files = (imageWriterRunO dir 1 (c20_writerInput args p world out)).1 := by
  have hout' : c20_convert args p world fuel fmt c20_writerConv = .ok out := hout
  have hty : c20_typed (c20_writerInput args p world out) = false :=
    (c20_writerInput_typed args p world out).trans ht
  rw [c20_cli_dir args p world fuel fmt dir hv hf hd, hout']
  exact ⟨_, rfl, C20_unknown_type_crash args _ _ _ dir hd (c20_valid_output args dir hv hd) hty⟩

/-! ### examples for the end-to-end theorems (all evaluated by the kernel; the real command was run on the
  same inputs — `python -m mammoth.cli in/a.docx --output-dir=out` etc. — and wrote the same bytes)

  `c17_exPackage` (`Proofs/C17_Example.lean`): three pictures of different types — a png inline picture, a
  gif `v:imagedata` in a text box that precedes it in the XML but follows it in reading order, a jpeg in an
  anchored drawing inside a table — typed by `Default`, `Override` and the built-in extension table. -/

private def c20_exArgs : CliArgs := { path := S!"in/a.docx", outputDir := some S!"out" }

/-- the hypotheses of `C20_output_dir_images` hold for it (built-in style map included): valid arguments, the
    package is viewed, no continuation cell, the library call succeeds, the document order is the three images
    png, gif, jpeg, all typed and present; no `!`, no `img`, plain names -/
example : c20_exArgs.valid = true ∧ c20_exArgs.outputDir = some S!"out" ∧
    c20_format c20_exArgs.format = some .html ∧
    (match c05_view c17_exPackage with
      | some v => c01_noVMergeL v.body &&
          c17_okAnd (apiConvert c17_exPackage 30 (some (c20_dirname c20_exArgs.path)) (fun _ => none) id
              { styleMap := c20_exArgs.styleMap, format := .html, imageConv := c20_writerConv })
            (fun out =>
              decide (c20_docOrder (c20_dirCfg c20_exArgs c17_exPackage (fun _ => none) .html) v out.document
                = c17_exImages) &&
              c20_allTyped (c20_docOrder (c20_dirCfg c20_exArgs c17_exPackage (fun _ => none) .html) v out.document) &&
              c17_allPresent (c20_openCfg c20_exArgs c17_exPackage (fun _ => none))
                (c20_docOrder (c20_dirCfg c20_exArgs c17_exPackage (fun _ => none) .html) v out.document))
      | none => false) = true ∧
    c01_noIgnoreMap (c20_dirCfg c20_exArgs c17_exPackage (fun _ => none) .html) = true ∧
    c17_noImgMap (c20_dirCfg c20_exArgs c17_exPackage (fun _ => none) .html) = true ∧
    c02_plainCfg (c20_dirCfg c20_exArgs c17_exPackage (fun _ => none) .html) = true := by
  simp only [apiConvert, c20_dirCfg, c05_apiCfg, c20_readOptions, c20_ex_read]
  decide +kernel

/-- and this is everything the command writes for it: `1.png`, `2.gif`, `3.jpeg` with exactly the bytes of the
    parts `word/media/image1.png`, `word/media/image3.bin`, `word/media/image2.JPG` (document order, not part
    order), then `a.html` whose three `img`s have `src` = these names -/
example : c17_okAnd (c20_cli c20_exArgs c17_exPackage (fun _ => none) 30) (fun o => decide (o =
    { files := [(S!"out/1.png", c17_exPng), (S!"out/2.gif", c17_exGif), (S!"out/3.jpeg", c17_exJpg),
        (S!"out/a.html", utf8Encode S!"<p>see <img alt=\"first\" src=\"1.png\" /></p><img alt=\"third\" src=\"2.gif\" /><table><tr><td><p><img alt=\"second\" src=\"3.jpeg\" /></p></td></tr></table>")],
      srcs := [S!"1.png", S!"2.gif", S!"3.jpeg"] })) = true := by
  simp only [c20_cli, c20_convert, apiConvert, c20_readOptions, c20_ex_read]
  decide +kernel

/-- the same package in Markdown with `--output-dir`: the same image files, the Markdown in `a.html` -/
example : c17_okAnd (c20_cli { c20_exArgs with format := some S!"markdown" } c17_exPackage (fun _ => none) 30)
    (fun o => decide (o.files =
      [(S!"out/1.png", c17_exPng), (S!"out/2.gif", c17_exGif), (S!"out/3.jpeg", c17_exJpg),
       (S!"out/a.html", utf8Encode S!"see ![first](1.png)\n\n![third](2.gif)![second](3.jpeg)\n\n")])) = true := by
  simp only [c20_cli, c20_convert, apiConvert, c20_readOptions, c20_ex_read]
  decide +kernel

/-- `C20_stdout_is_value` / `C20_stderr_is_messages`: Markdown to stdout under a style-map file with a line the
    library does not understand: stdout = the library's value, the warning on stderr, no file -/
private def c20_exArgsMd : CliArgs :=
  { path := S!"in/a.docx", format := some S!"markdown", styleMap := some S!"p => h2:fresh\nwhat is this" }
example : c17_okAnd (c20_cli c20_exArgsMd c17_exPackage (fun _ => none) 30) (fun o => decide (o =
    { stdout := utf8Encode S!"## see ![first](data:image/png;base64,iVBORw==)\n\n![third](data:image/gif;base64,R0lG)## ![second](data:image/jpeg;base64,/9j/)\n\n",
      stderr := [S!"Did not understand this style mapping, so ignored it: what is this"],
      stderrText := S!"Did not understand this style mapping, so ignored it: what is this\n" })) = true := by
  simp only [c20_cli, c20_convert, apiConvert, c20_readOptions, c20_ex_read]
  decide +kernel

/-- `C20_file_is_value`: HTML to an output path, a non-ASCII style-map text -/
private def c20_exArgsFile : CliArgs :=
  { path := S!"a.docx", output := some S!"o.html", styleMap := some S!"p => p.é:fresh" }
example : c17_okAnd (c20_cli c20_exArgsFile c17_exPackage (fun _ => none) 30) (fun o =>
    decide (o.files = [(S!"o.html", utf8Encode S!"<p>see <img alt=\"first\" src=\"data:image/png;base64,iVBORw==\" /></p><img alt=\"third\" src=\"data:image/gif;base64,R0lG\" /><table><tr><td><p><img alt=\"second\" src=\"data:image/jpeg;base64,/9j/\" /></p></td></tr></table>")]) &&
    decide (o.stdout = []) &&
    decide (o.stderr = [S!"Did not understand this style mapping, so ignored it: p => p.é:fresh"])) = true := by
  simp only [c20_cli, c20_convert, apiConvert, c20_readOptions, c20_ex_read]
  decide +kernel

/-- usage errors -/
example : c17_okAnd (c20_cli { path := S!"a.docx", output := some S!"o.html", outputDir := some S!"d" }
      c17_exPackage (fun _ => none) 30) (fun o => decide (o = { exitCode := 2 })) = true ∧
    c17_okAnd (c20_cli { path := S!"a.docx", format := some S!"pdf" }
      c17_exPackage (fun _ => none) 30) (fun o => decide (o = { exitCode := 2 })) = true := by decide +kernel

/-- `os.path.dirname` -/
example : [S!"a.docx", S!"d/a.docx", S!"/a.docx", S!"//a.docx", S!"d//a.docx", S!"/x/y/a.docx", S!"///x//y"].map
    c20_dirname = [S!"", S!"d", S!"/", S!"//", S!"d", S!"/x/y", S!"///x"] := by decide +kernel

/-- `C20_counter_only_advances_on_success` on `c20_exFailPackage` (input `in2/b.docx`; next to it only
    `there.jpeg` exists): four pictures — a linked gif that cannot be opened, an embedded png, a linked jpeg that
    can, a linked png that cannot.  Hypotheses: -/
private def c20_exFailArgs : CliArgs := { path := S!"in2/b.docx", outputDir := some S!"out3" }
example : c17_noImgMap (c20_dirCfg c20_exFailArgs c20_exFailPackage c20_exWorld .html) = true ∧
    c02_plainCfg (c20_dirCfg c20_exFailArgs c20_exFailPackage c20_exWorld .html) = true ∧
    c17_okAnd (apiConvert c20_exFailPackage 30 (some (c20_dirname c20_exFailArgs.path)) c20_exWorld id
        { styleMap := c20_exFailArgs.styleMap, format := .html, imageConv := c20_writerConv })
      (fun out => c20_allTyped out.imageCalls &&
        decide (out.imageCalls.map (fun i => (i.contentType, c17_opened (c20_openCfg c20_exFailArgs c20_exFailPackage c20_exWorld) i.src))
          = [(some S!"image/gif", none), (some S!"image/png", some [7]), (some S!"image/jpeg", some [9, 8]),
             (some S!"image/png", none)])) = true := by
  simp only [apiConvert, c20_dirCfg, c05_apiCfg, c20_readOptions]
  decide +kernel

/-- … and what is written: an EMPTY `1.gif` (number 1 not consumed), `1.png`, `2.jpeg`, an EMPTY `3.png`; the
    HTML has two `img`s, `1.png` and `2.jpeg`; the two warnings on stderr.  (The real command writes the same
    four files and the same HTML; its two warning messages continue, after a newline, with the text of the OS
    error, which the model leaves out.) -/
example : c17_okAnd (c20_cli c20_exFailArgs c20_exFailPackage c20_exWorld 30) (fun o => decide (o =
    { files := [(S!"out3/1.gif", []), (S!"out3/1.png", [7]), (S!"out3/2.jpeg", [9, 8]), (S!"out3/3.png", []),
        (S!"out3/b.html", utf8Encode S!"<p><img alt=\"b\" src=\"1.png\" /><img alt=\"c\" src=\"2.jpeg\" /></p>")],
      srcs := [S!"1.png", S!"2.jpeg"],
      stderr := [S!"could not open external image: 'missing.gif' (document directory: 'in2')",
                 S!"could not open external image: 'gone.png' (document directory: 'in2')"],
      stderrText := S!"could not open external image: 'missing.gif' (document directory: 'in2')\ncould not open external image: 'gone.png' (document directory: 'in2')\n" }))
    = true := by
  simp only [c20_cli, c20_convert, apiConvert, c20_readOptions]
  decide +kernel

/-- the substitution is needed only for the converter's own `img`s: with a style mapping `p => img` (excluded by
    `c17_noImgMap`) the paragraph's `img` element has no `data-len` mark and is left alone -/
example :
    c17_imgs (c20_putSrcs [S!"1.png"] [el S!"img" [] [], el S!"img" [(S!"alt", S!"x"), (S!"data-len", S!"3")] []]).1
    = [c17_imgTag [], c17_imgTag [(S!"alt", S!"x"), (S!"src", S!"1.png")]] := by decide +kernel

/-- `C20_output_dir_untyped_crash`: the three-picture package without its `[Content_Types].xml` entries —
    `image1.png` is still typed by its extension, `image3.bin` has no content type: the command dies (exit
    status 1) after writing `1.png`; no HTML, no message (the real command: AttributeError, the same file) -/
private def c20_exUntyped : Package :=
  { parts := (S!"[Content_Types].xml", .xml (c17_x S!"content-types:Types" [])) :: c17_exPackage.parts.drop 1 }
example : c17_okAnd (c20_cli { path := S!"in/u.docx", outputDir := some S!"outu" } c20_exUntyped (fun _ => none) 30)
    (fun o => decide (o = { files := [(S!"outu/1.png", c17_exPng)], srcs := [S!"1.png"], exitCode := 1 })) = true := by
  simp only [c20_cli, c20_convert, apiConvert, c20_readOptions]
  decide +kernel

end Mammoth
