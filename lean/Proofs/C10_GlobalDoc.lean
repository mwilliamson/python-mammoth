/-
  C10, the whole output forest: the events of a whole document (body, then the notes the body references, then the
  comments referenced by body and notes) and the theorem that `visitDocument` / `convertDoc` output a
  forest whose ids, hrefs and anchors are exactly the ones these events prescribe.
-/
import Proofs.C10_GlobalVisit
namespace Mammoth

/-! ### notes and comments -/

/-- the events of one rendered note: its `li`, the events of its body, its back-link -/
def c10_noteEvs (cfg : Cfg) (n : Note) : List c10_Ev :=
  .item n.ty n.id :: c10_evsL cfg n.body ++ [.back n.ty n.id]
/-- the events of one rendered comment: its `dt`, the events of its body, its back-link -/
def c10_commentEvs (cfg : Cfg) (c : Comment) : List c10_Ev :=
  .item c10_commentTy c.id :: c10_evsL cfg c.body ++ [.back c10_commentTy c.id]

theorem c10_sum_backLink (href : Str) : c10_sum [backLink href] = ([], [href], [], true) := by
  have e : Dict.ofList [(S!"href", href)] = [(S!"href", href)] := rfl
  unfold backLink
  rw [c10_sum_cel _ _ _ rfl, c10_sum_text_cons]
  simp [el, e, c10_sum_elem, c10_tagSum, c10_tagVals, c10_tagAnchor, c10_add, c10_zero]

theorem c10_hasContent_backLink (href : Str) : hasContent (backLink href) = true := by
  simp [backLink, cel, hasContent, anyContent]

theorem c10_hasContent_snoc (t : Tag) (body : List Node) (x : Node) (hx : hasContent x = true) :
    hasContent (.elem t (body ++ [x])) = true := by
  simp [hasContent, anyContent_append, anyContent, hx]

theorem c10_sum_noteItem (cfg : Cfg) (ty id : Str) (body : List Node) :
    c10_sum [el S!"li" [(S!"id", referentId cfg ty id)] (body ++ [backLink (['#'] ++ referenceId cfg ty id)])] =
      c10_add (c10_evSum cfg 0 0 [.item ty id]) (c10_add (c10_sum body) (c10_evSum cfg 0 0 [.back ty id])) := by
  unfold el
  rw [c10_sum_elem, c10_sum_append, c10_sum_backLink, c10_ofList_id]
  simp [c10_tagSum, c10_tagVals, c10_tagAnchor, c10_add, c10_evSum, c10_evIds, c10_evHrefs, c10_evId, c10_evHref,
    c10_evAnchors, c10_hasContent_snoc, c10_hasContent_backLink]

theorem c10_H_visitNote (cfg : Cfg) (hc : c10_cleanCfg cfg = true) (n : Note) :
    c10_H cfg (visitNote cfg n) (c10_noteEvs cfg n) := by
  unfold visitNote c10_noteEvs
  have := c10_H_wrap cfg (visitAll cfg false n.body)
    (fun body => [el S!"li" [(S!"id", referentId cfg n.ty n.id)]
      (body ++ [backLink (['#'] ++ referenceId cfg n.ty n.id)])])
    [.item n.ty n.id] (c10_evsL cfg n.body) [.back n.ty n.id] (c10_H_visitAll cfg hc false n.body)
    ⟨rfl, rfl, fun _ _ => rfl⟩ ⟨rfl, rfl, fun _ _ => rfl⟩ (fun ns => c10_sum_noteItem cfg n.ty n.id ns)
  simp only [List.cons_append] at this
  exact this

theorem c10_sum_commentItem (cfg : Cfg) (label id : Str) (body : List Node) :
    c10_sum [el S!"dt" [(S!"id", referentId cfg S!"comment" id)] [.text (S!"Comment " ++ label)],
             el S!"dd" [] (body ++ [backLink (['#'] ++ referenceId cfg S!"comment" id)])] =
      c10_add (c10_evSum cfg 0 0 [.item c10_commentTy id])
        (c10_add (c10_sum body) (c10_evSum cfg 0 0 [.back c10_commentTy id])) := by
  rw [c10_sum_cons, c10_sum_el S!"dd" _ _ rfl, c10_sum_append, c10_sum_backLink]
  unfold el
  rw [c10_sum_elem, c10_ofList_id]
  simp [c10_tagSum, c10_tagVals, c10_tagAnchor, c10_add, c10_evSum, c10_evIds, c10_evHrefs, c10_evId, c10_evHref,
    c10_evAnchors, hasContent, anyContent, c10_commentTy, c10_zero]

theorem c10_H_visitComment (cfg : Cfg) (hc : c10_cleanCfg cfg = true) (lc : Str × Comment) :
    c10_H cfg (visitComment cfg lc) (c10_commentEvs cfg lc.2) := by
  unfold visitComment c10_commentEvs
  have := c10_H_wrap cfg (visitAll cfg false lc.2.body)
    (fun body => [el S!"dt" [(S!"id", referentId cfg S!"comment" lc.2.id)] [.text (S!"Comment " ++ lc.1)],
        el S!"dd" [] (body ++ [backLink (['#'] ++ referenceId cfg S!"comment" lc.2.id)])])
    [.item c10_commentTy lc.2.id] (c10_evsL cfg lc.2.body) [.back c10_commentTy lc.2.id]
    (c10_H_visitAll cfg hc false lc.2.body)
    ⟨rfl, rfl, fun _ _ => rfl⟩ ⟨rfl, rfl, fun _ _ => rfl⟩ (fun ns => c10_sum_commentItem cfg lc.1 lc.2.id ns)
  simp only [List.cons_append] at this
  exact this

theorem c10_H_mapMConcat {α} (cfg : Cfg) (f : α → ConvM (List Node)) (g : α → List c10_Ev)
    (h : ∀ x, c10_H cfg (f x) (g x)) : ∀ xs : List α, c10_H cfg (mapMConcat f xs) (xs.flatMap g)
  | [] => by rw [mapMConcat]; exact c10_H_nil _ _ rfl
  | x :: xs => by
    rw [mapMConcat, List.flatMap_cons]
    exact c10_H_seq cfg _ _ _ _ (h x) (c10_H_mapMConcat cfg f g h xs)

/-! ### the document -/

/-- the whole run of `visitDocument` from state `st` -/
theorem c10_visitDocument_post (cfg : Cfg) (hc : c10_cleanCfg cfg = true) (d : Document) (st st' : ConvState)
    (ns : List Node) (h : (visitDocument cfg d).run st = .ok (ns, st')) :
    ∃ (notes : List Note) (comments : List Comment),
      (st.noteRefs ++ c10_evRefs (c10_evsL cfg d.children)).mapM (resolveNote d.notes) = .ok notes ∧
      comments = st.refComments.map Prod.snd ++
        c10_evComments cfg (c10_evsL cfg d.children ++ notes.flatMap (c10_noteEvs cfg)) ∧
      c10_Post cfg st (c10_evsL cfg d.children ++ notes.flatMap (c10_noteEvs cfg) ++
        comments.flatMap (c10_commentEvs cfg)) ns st' ∧
      ∃ body items cnodes, ns = body ++ [el S!"ol" [] items, el S!"dl" [] cnodes] ∧
        items.map c10_nodeId = notes.map (fun n => some (referentId cfg n.ty n.id)) := by
  unfold visitDocument at h
  obtain ⟨nodes, st1, h1, h⟩ := run_bind_ok.mp h
  obtain ⟨_, _, hg, h⟩ := run_bind_ok.mp h
  cases hg
  have p1 := c10_H_visitAll cfg hc false d.children st nodes st1 h1
  cases hm : st1.noteRefs.mapM (resolveNote d.notes) with
  | error e => simp only [hm, run_bind, run_throw] at h; cases h
  | ok notes =>
    simp only [hm] at h
    obtain ⟨_, _, hn, h⟩ := run_bind_ok.mp h
    cases hn
    obtain ⟨noteNodes, st2, h2, h⟩ := run_bind_ok.mp h
    obtain ⟨_, _, hg, h⟩ := run_bind_ok.mp h
    cases hg
    obtain ⟨commentNodes, st3, h3, h⟩ := run_bind_ok.mp h
    cases h
    have p2 := c10_H_mapMConcat cfg (visitNote cfg) (c10_noteEvs cfg) (c10_H_visitNote cfg hc) notes
      st1 noteNodes st2 h2
    have p3 := c10_H_mapMConcat cfg (visitComment cfg) (fun lc => c10_commentEvs cfg lc.2)
      (c10_H_visitComment cfg hc) st2.refComments st2 commentNodes st' h3
    have p12 := c10_Post_seq cfg st st1 st2 _ _ _ _ p1 p2
    have p123 := c10_Post_seq cfg st st2 st' _ _ _ _ p12 p3
    refine ⟨notes, st2.refComments.map Prod.snd, ?_, ?_, ?_,
      ⟨nodes, noteNodes, commentNodes, rfl, c10_noteItems_ids cfg notes st1 st2 noteNodes h2⟩⟩
    · rw [← p1.2.1]; exact hm
    · exact p12.2.2.1
    · have e : (st2.refComments.map Prod.snd).flatMap (c10_commentEvs cfg) =
          st2.refComments.flatMap (fun lc => c10_commentEvs cfg lc.2) := by
        rw [List.flatMap_map]
      rw [e]
      obtain ⟨q1, q2, q3, q4⟩ := p123
      refine ⟨?_, q2, q3, q4⟩
      rw [← q1]
      simp only [c10_sum_append]
      rw [c10_sum_cons (el S!"ol" [] noteNodes), c10_sum_el _ _ _ rfl, c10_sum_el _ _ _ rfl,
        c10_add_assoc]

/-! ### the events of a document, as a function of the document -/

/-- `Notes.resolve`: the LAST note with that (type, id) -/
def c10_findNote (d : Document) (ref : Str × Str) : Option Note :=
  lookupLast ref (d.notes.map fun n => ((n.ty, n.id), n))

/-- the notes rendered in the notes list: those the BODY references, in reference order -/
def c10_docNotes (cfg : Cfg) (d : Document) : List Note :=
  (c10_evRefs (c10_evsL cfg d.children)).filterMap (c10_findNote d)

/-- the events of the body and of the notes list -/
def c10_docEvents01 (cfg : Cfg) (d : Document) : List c10_Ev :=
  c10_evsL cfg d.children ++ (c10_docNotes cfg d).flatMap (c10_noteEvs cfg)

/-- the comments rendered in the comments list: those referenced by the body and by the rendered notes -/
def c10_docComments (cfg : Cfg) (d : Document) : List Comment :=
  c10_evComments cfg (c10_docEvents01 cfg d)

/-- all events of the output, in document order -/
def c10_docEvents (cfg : Cfg) (d : Document) : List c10_Ev :=
  c10_docEvents01 cfg d ++ (c10_docComments cfg d).flatMap (c10_commentEvs cfg)

theorem c10_mapM_resolve (d : Document) : ∀ (refs : List (Str × Str)) (ns : List Note),
    refs.mapM (resolveNote d.notes) = .ok ns → refs.filterMap (c10_findNote d) = ns
  | [], ns, h => by simp only [List.mapM_nil] at h; cases h; rfl
  | r :: rs, ns, h => by
    rw [List.mapM_cons] at h
    obtain ⟨n, h1, h⟩ := bind_ok h
    obtain ⟨ns', h2, h⟩ := bind_ok h
    cases h
    have e : c10_findNote d r = some n := by
      unfold resolveNote at h1
      unfold c10_findNote
      split at h1
      · rename_i m hm; cases h1; exact hm
      · cases h1
    rw [List.filterMap_cons, e, c10_mapM_resolve d rs ns' h2]

/-- the configuration `convertDoc` actually runs with: the comments are the document's -/
def c10_docCfg (cfg : Cfg) (d : Document) : Cfg := { cfg with comments := d.comments }

theorem c10_docCfg_clean (cfg : Cfg) (d : Document) : c10_cleanCfg (c10_docCfg cfg d) = c10_cleanCfg cfg := rfl

/-- MAIN CHARACTERISATION.  If the conversion succeeds under a clean configuration, the ids, hrefs and
    anchors of the output forest are exactly the ones prescribed by the events of the document, every
    element with an id has content, and the recorded note references are the note-reference events. -/
theorem c10_convertDoc_events (cfg : Cfg) (hc : c10_cleanCfg cfg = true) (d : Document) (r : ConvResult)
    (h : convertDoc cfg d = .ok r) :
    idsOf r.nodes = c10_evIds cfg (c10_docEvents (c10_docCfg cfg d) d) ∧
    hrefsOf r.nodes = c10_evHrefs cfg (c10_docEvents (c10_docCfg cfg d) d) ∧
    anchorsOf r.nodes = c10_evAnchors (c10_docCfg cfg d) 0 0 (c10_docEvents (c10_docCfg cfg d) d) ∧
    c10_idContentL r.nodes = true ∧
    r.noteRefs = c10_evRefs (c10_docEvents (c10_docCfg cfg d) d) ∧
    (c10_evRefs (c10_evsL (c10_docCfg cfg d) d.children)).mapM (resolveNote d.notes)
      = .ok (c10_docNotes (c10_docCfg cfg d) d) ∧
    (∀ id ∈ c10_evCRefs (c10_docEvents (c10_docCfg cfg d) d), (c10_findComment (c10_docCfg cfg d) id).isSome = true) ∧
    (∃ body items cnodes, r.nodes = body ++ [el S!"ol" [] items, el S!"dl" [] cnodes] ∧
      items.map c10_nodeId = (c10_evRefs (c10_evsL (c10_docCfg cfg d) d.children)).map
        (fun ref => some (referentId cfg ref.1 ref.2))) := by
  unfold convertDoc at h
  split at h
  · rename_i nodes st hv
    cases h
    obtain ⟨notes, comments, hn, hcm, hp, body, items, cnodes, hshape, hitems⟩ :=
      c10_visitDocument_post (c10_docCfg cfg d) hc d {} st nodes hv
    simp only [List.nil_append, List.map_nil] at hn hcm
    have en : c10_docNotes (c10_docCfg cfg d) d = notes := c10_mapM_resolve d _ _ hn
    have ee : c10_docEvents (c10_docCfg cfg d) d =
        c10_evsL (c10_docCfg cfg d) d.children ++ notes.flatMap (c10_noteEvs (c10_docCfg cfg d)) ++
          comments.flatMap (c10_commentEvs (c10_docCfg cfg d)) := by
      unfold c10_docEvents c10_docComments c10_docEvents01
      rw [en, hcm]
    rw [← ee] at hp
    obtain ⟨q1, q2, q3, q4⟩ := hp
    have q1' : c10_sum nodes = c10_evSum (c10_docCfg cfg d) 0 0 (c10_docEvents (c10_docCfg cfg d) d) := q1
    simp only [c10_sum, c10_evSum, Prod.mk.injEq] at q1'
    refine ⟨q1'.1, q1'.2.1, q1'.2.2.1, q1'.2.2.2, ?_, ?_, q4, body, items, cnodes, hshape, ?_⟩
    · simpa using q2
    · rw [en]; exact hn
    · rw [hitems, ← c10_resolve_all d.notes _ _ hn, List.map_map]
      rfl
  · cases h

end Mammoth
