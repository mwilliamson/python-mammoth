/-
  C09 — the HTML side: the slot assignment of the HTML "forming a table" algorithm for rows of
  (colspan, rowspan) cells, the document's own grid, and basic lemmas about both.
-/
import Proofs.C09_Rebuild
namespace Mammoth

/-! ### HTML: forming a table

  Rows are processed top to bottom.  The cells still growing downwards from earlier rows (`carry`) occupy
  their columns; each cell of the row takes the first column at or after the cursor that is not occupied by
  one of those, spans `colspan` columns (whatever is there) and `rowspan` rows; the cursor moves past it.
  (This is the algorithm of the HTML standard, "forming a table" / "processing rows", for a single row
  group and rowspan ≥ 1.) -/

/-- a cell as it lies in one row of the table: first column, width, rows still to cover (this row
    included), and the identity (row, index in the row) of the HTML cell -/
structure c09_Seg where
  x : Nat
  w : Nat
  rem : Nat
  id : c09_Id
deriving DecidableEq, Repr

def c09_Seg.covers (e : c09_Seg) (x : Nat) : Bool := decide (e.x ≤ x) && decide (x < e.x + e.w)

/-- column `x` is taken by a cell growing down from an earlier row -/
def c09_occ (carry : List c09_Seg) (x : Nat) : Bool := carry.any (·.covers x)

/-- a column beyond which nothing is occupied -/
def c09_bound : List c09_Seg → Nat
  | [] => 0
  | e :: es => max (e.x + e.w) (c09_bound es)

/-- "while the slot is occupied, increase x" (at most `fuel` times) -/
def c09_nextFree (occ : Nat → Bool) : Nat → Nat → Nat
  | 0, x => x
  | f + 1, x => if occ x then c09_nextFree occ f (x + 1) else x

/-- place the cells `(colspan, rowspan)` of row `y`, numbered from `i`, cursor at column `x` -/
def c09_placeRow (carry : List c09_Seg) (y : Nat) : List (Nat × Nat) → Nat → Nat → List c09_Seg
  | [], _, _ => []
  | (cs, rs) :: rest, i, x =>
    let x' := c09_nextFree (c09_occ carry) (c09_bound carry - x) x
    ⟨x', cs, rs, (y, i)⟩ :: c09_placeRow carry y rest (i + 1) (x' + cs)

/-- the cells that continue into the next row -/
def c09_carryNext (segs : List c09_Seg) : List c09_Seg :=
  (segs.filter fun e => decide (1 < e.rem)).map fun e => { e with rem := e.rem - 1 }

/-- for each row, all cells present in it (growing down from above, or starting here) -/
def c09_htmlRows (carry : List c09_Seg) (y : Nat) : List (List (Nat × Nat)) → List (List c09_Seg)
  | [] => []
  | row :: rest =>
    let segs := carry ++ c09_placeRow carry y row 0 0
    segs :: c09_htmlRows (c09_carryNext segs) (y + 1) rest

/-- the cells lying on column `x` -/
def c09_slot (segs : List c09_Seg) (x : Nat) : List c09_Id := (segs.filter (·.covers x)).map (·.id)

def c09_slotAt (rows : List (List c09_Seg)) (y x : Nat) : List c09_Id :=
  match rows[y]? with
  | some segs => c09_slot segs x
  | none => []

/-- the HTML cells (row, index in row) that the table layout puts on slot (row `y`, column `x`):
    `[]` = a gap, two or more = overlapping cells -/
def c09_htmlLayout (cells : List (List (Nat × Nat))) (y x : Nat) : List c09_Id :=
  c09_slotAt (c09_htmlRows [] 0 cells) y x

/-- The same for a table whose first `n` rows are in `thead` and the others in `tbody` (`n ≠ 0`): the HTML
    standard ends all downward-growing cells at the end of a row group, so each group is laid out on its
    own; the identities of the body cells are renumbered to whole-table row numbers. -/
def c09_htmlLayoutGroups (cells : List (List (Nat × Nat))) (n : Nat) (y x : Nat) : List c09_Id :=
  if n = 0 then c09_htmlLayout cells y x
  else if y < n then c09_htmlLayout (cells.take n) y x
  else (c09_htmlLayout (cells.drop n) (y - n) x).map fun id => (id.1 + n, id.2)

/-- (colspan, rowspan) of the cells of a row -/
def c09_spans : List Elem → List (Nat × Nat)
  | [] => []
  | .cell c r _ _ :: es => (c, r) :: c09_spans es
  | _ :: es => c09_spans es

/-- the rows of a table as lists of (colspan, rowspan) -/
def c09_cellsOf : List Elem → List (List (Nat × Nat))
  | [] => []
  | .row _ cells :: rest => c09_spans cells :: c09_cellsOf rest
  | _ :: rest => c09_cellsOf rest

/-! ### the document's grid -/

/-- the cell of the row (laid out from column `ci`, non-continuation cells numbered from `i`) that covers
    column `x ≥ ci`: (its start column, its number among the non-continuation cells, the cell) -/
def c09_cellAt : c09_Row → Nat → Nat → Nat → Option (Nat × Nat × c09_Cell)
  | [], _, _, _ => none
  | c :: cs, ci, i, x =>
    if x < ci + c.span then some (ci, i, c)
    else c09_cellAt cs (ci + c.span) (if c.isCont then i else i + 1) x

/-- owner of each column of row `y`: a continuation cell's columns belong to whoever owns them in the row
    above, any other cell owns its columns; the owner's identity is (row, number among the
    non-continuation cells of that row), i.e. the identity of the HTML cell it becomes -/
def c09_docRow (prevOwn : Nat → Option c09_Id) (y : Nat) (row : c09_Row) : Nat → Option c09_Id := fun x =>
  match c09_cellAt row 0 0 x with
  | none => none
  | some (_, i, c) => if c.isCont then prevOwn x else some (y, i)

def c09_docRows (prevOwn : Nat → Option c09_Id) (y : Nat) : List c09_Row → List (Nat → Option c09_Id)
  | [] => []
  | row :: rest => c09_docRow prevOwn y row :: c09_docRows (c09_docRow prevOwn y row) (y + 1) rest

def c09_ownAt (fs : List (Nat → Option c09_Id)) (y x : Nat) : Option c09_Id :=
  match fs[y]? with
  | some f => f x
  | none => none

/-- the cell that owns grid position (row `y`, column `x`) in the document (`none` outside the grid) -/
def c09_docGrid (rows : List c09_Row) (y x : Nat) : Option c09_Id :=
  c09_ownAt (c09_docRows (fun _ => none) 0 rows) y x

/-! ### what `calculateRowSpans` hands to the converter, as (colspan, rowspan) lists -/

def c09_specSpans (below : List c09_Row) : c09_Row → Nat → List (Nat × Nat)
  | [], _ => []
  | c :: cs, ci =>
    if c.isCont then c09_specSpans below cs (ci + c.span)
    else (c.span, 1 + c09_chain below ci) :: c09_specSpans below cs (ci + c.span)

def c09_specCells : List c09_Row → List (List (Nat × Nat))
  | [] => []
  | row :: rest => c09_specSpans rest row 0 :: c09_specCells rest

theorem c09_spans_expected (below : List c09_Row) (cells : c09_Row) (ci : Nat) :
    c09_spans (c09_expectedCells below cells ci) = c09_specSpans below cells ci := by
  induction cells generalizing ci with
  | nil => rfl
  | cons c cs ih =>
    by_cases h : c.isCont = true
    · simp [c09_expectedCells, c09_specSpans, h, ih]
    · simp [c09_expectedCells, c09_specSpans, h, ih, c09_spans]

theorem c09_cellsOf_expected (hdr : Nat → Bool) (rows : List c09_Row) (r : Nat) :
    c09_cellsOf (c09_expectedFrom hdr r rows) = c09_specCells rows := by
  induction rows generalizing r with
  | nil => rfl
  | cons row rest ih => simp [c09_expectedFrom, c09_cellsOf, c09_specCells, c09_spans_expected, ih]

/-! ### small lemmas -/

theorem c09_any_eq_filter {α} (p : α → Bool) (l : List α) : l.any p = !(l.filter p).isEmpty := by
  induction l with
  | nil => rfl
  | cons a l ih => by_cases h : p a = true <;> simp [h, ih]

theorem c09_occ_lt_bound (carry : List c09_Seg) (c : Nat) (h : c09_occ carry c = true) : c < c09_bound carry := by
  induction carry with
  | nil => simp [c09_occ] at h
  | cons e es ih =>
    rw [c09_occ, List.any_cons, Bool.or_eq_true] at h
    rw [c09_bound]
    rcases h with h | h
    · rw [c09_Seg.covers, Bool.and_eq_true, decide_eq_true_eq, decide_eq_true_eq] at h
      exact Nat.lt_of_lt_of_le h.2 (Nat.le_max_left _ _)
    · exact Nat.lt_of_lt_of_le (ih h) (Nat.le_max_right _ _)

theorem c09_nextFree_eq (occ : Nat → Bool) (ci : Nat) :
    ∀ (fuel x : Nat), x ≤ ci → (∀ c, x ≤ c → c < ci → occ c = true) → occ ci = false → ci - x ≤ fuel →
      c09_nextFree occ fuel x = ci := by
  intro fuel
  induction fuel with
  | zero => intro x hx _ _ hf; exact Nat.le_antisymm hx (Nat.le_of_sub_eq_zero (Nat.le_zero.mp hf))
  | succ f ih =>
    intro x hx hocc hfree hf
    rw [c09_nextFree]
    cases Nat.eq_or_lt_of_le hx with
    | inl h => rw [h, hfree]; rfl
    | inr h =>
      rw [if_pos (hocc x (Nat.le_refl _) h)]
      exact ih (x + 1) h (fun c h1 h2 => hocc c (Nat.le_of_succ_le h1) h2) hfree (Nat.pred_le_pred hf)

/-! ### `cellAt` and `findStart` -/

theorem c09_cellAt_findStart (prev cells : c09_Row) :
    ∀ (ci i x s j : Nat) (c : c09_Cell), c09_rowOkFrom prev cells ci = true → ci ≤ x →
      c09_cellAt cells ci i x = some (s, j, c) →
      c09_findStart cells ci s = some c ∧ s ≤ x ∧ x < s + c.span := by
  induction cells with
  | nil => intro ci i x s j c _ _ h; simp [c09_cellAt] at h
  | cons d ds ih =>
    intro ci i x s j c hok hx h
    obtain ⟨hspan, hok'⟩ := c09_rowOk_span prev d ds ci hok
    simp only [c09_cellAt] at h
    by_cases hlt : x < ci + d.span
    · rw [if_pos hlt] at h
      simp only [Option.some.injEq, Prod.mk.injEq] at h
      obtain ⟨rfl, _, rfl⟩ := h
      exact ⟨c09_findStart_cons_eq _ _ _, hx, hlt⟩
    · rw [if_neg hlt] at h
      obtain ⟨h1, h2, h3⟩ := ih _ _ x s j c hok' (by omega) h
      refine ⟨?_, h2, h3⟩
      have hne : ci ≠ s := by
        intro he; subst he
        rw [c09_findStart_lt ds (ci + d.span) ci (by omega)] at h1; simp at h1
      rw [c09_findStart_cons_ne d ds hne]; exact h1

theorem c09_findStart_cellAt (prev cells : c09_Row) :
    ∀ (ci i x s : Nat) (c : c09_Cell), c09_rowOkFrom prev cells ci = true →
      c09_findStart cells ci s = some c → s ≤ x → x < s + c.span →
      ∃ j, c09_cellAt cells ci i x = some (s, j, c) := by
  induction cells with
  | nil => intro ci i x s c _ h; simp [c09_findStart] at h
  | cons d ds ih =>
    intro ci i x s c hok h hsx hxs
    obtain ⟨hspan, hok'⟩ := c09_rowOk_span prev d ds ci hok
    by_cases hcs : ci = s
    · subst hcs
      rw [c09_findStart_cons_eq] at h
      obtain rfl := Option.some.inj h
      exact ⟨i, by simp [c09_cellAt, hxs]⟩
    · rw [c09_findStart_cons_ne d ds hcs] at h
      have hge : ci + d.span ≤ s := by
        apply Nat.le_of_not_lt; intro hlt
        rw [c09_findStart_lt ds _ s hlt] at h; simp at h
      obtain ⟨j, hj⟩ := ih (ci + d.span) (if d.isCont then i else i + 1) x s c hok' h hsx hxs
      refine ⟨j, ?_⟩
      simp only [c09_cellAt]
      rw [if_neg (by omega)]; exact hj

theorem c09_cellAt_lt (ci i x : Nat) (c : c09_Cell) (cs : c09_Row) (h : x < ci + c.span) :
    c09_cellAt (c :: cs) ci i x = some (ci, i, c) := by simp [c09_cellAt, h]

theorem c09_cellAt_ge (c : c09_Cell) (cs : c09_Row) (ci i x : Nat) (h : ¬ x < ci + c.span) :
    c09_cellAt (c :: cs) ci i x = c09_cellAt cs (ci + c.span) (if c.isCont then i else i + 1) x := by
  simp [c09_cellAt, h]

end Mammoth
