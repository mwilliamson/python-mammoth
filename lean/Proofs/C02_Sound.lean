/-
  C02 — the canonical spelling `c02_render` of a token list.  A lexer run that has not failed has
  consumed exactly the spelling of its tokens followed by that of its mode (`c02_run_str`); every
  rendering of plain-named tokens is accepted (`c02_lexHtml_render`); the writer emits
  `c02_render (c02_tokens ns)` (`c02_writeList_render`), so written forests are lexed back to their tokens.
-/
import Proofs.C02_Lexer
namespace Mammoth

/-- the canonical spelling of a token -/
def c02_renderTok : c02_Tok → Str
  | .start n as => ['<'] ++ n ++ attrString as ++ ['>']
  | .end n => S!"</" ++ n ++ ['>']
  | .selfClose n as => ['<'] ++ n ++ attrString as ++ S!" />"
  | .text s => escape s

def c02_render : List c02_Tok → Str
  | [] => []
  | t :: r => c02_renderTok t ++ c02_render r

@[simp] theorem c02_render_nil : c02_render [] = [] := rfl
@[simp] theorem c02_render_cons (t : c02_Tok) (r : List c02_Tok) :
    c02_render (t :: r) = c02_renderTok t ++ c02_render r := rfl

theorem c02_render_append (a b : List c02_Tok) : c02_render (a ++ b) = c02_render a ++ c02_render b := by
  induction a with
  | nil => simp
  | cons t r ih => simp [ih]

theorem c02_render_flush (acc : Str) : c02_render (c02_flush acc) = escape acc := by
  unfold c02_flush; split
  · rename_i h; simp [List.isEmpty_iff.mp h]
  · simp [c02_renderTok]

theorem c02_attrString_append (a b : Dict Str) : attrString (a ++ b) = attrString a ++ attrString b := by
  induction a with
  | nil => simp [attrString]
  | cons kv r ih => obtain ⟨k, v⟩ := kv; simp [attrString, ih]

/-- the part of the input consumed since the last complete token, as a function of the mode -/
def c02_modeStr : c02_Mode → Str
  | .text acc => escape acc
  | .ent acc buf => escape acc ++ ['&'] ++ buf
  | .name n => ['<'] ++ n
  | .attrs n as => ['<'] ++ n ++ attrString as
  | .sp n as => ['<'] ++ n ++ attrString as ++ [' ']
  | .key n as k => ['<'] ++ n ++ attrString as ++ [' '] ++ k
  | .eq n as k => ['<'] ++ n ++ attrString as ++ [' '] ++ k ++ ['=']
  | .val n as k v => ['<'] ++ n ++ attrString as ++ [' '] ++ k ++ S!"=\"" ++ escape v
  | .vent n as k v buf => ['<'] ++ n ++ attrString as ++ [' '] ++ k ++ S!"=\"" ++ escape v ++ ['&'] ++ buf
  | .slash n as => ['<'] ++ n ++ attrString as ++ S!" /"
  | .close n => S!"</" ++ n
  | .fail => []

/-- the input consumed so far, reconstructed from the state -/
def c02_stStr (st : c02_St) : Str := c02_render st.toks ++ c02_modeStr st.mode

theorem c02_entity_escape (buf : Str) (ch : Char) (h : c02_entity buf = some ch) :
    ['&'] ++ buf ++ [';'] = escapeChar ch := by
  unfold c02_entity at h
  by_cases h1 : buf = S!"amp"
  · rw [if_pos h1] at h; cases h; subst h1; exact c02_escapeChar_amp.symm
  rw [if_neg h1] at h
  by_cases h2 : buf = S!"lt"
  · rw [if_pos h2] at h; cases h; subst h2; exact c02_escapeChar_lt.symm
  rw [if_neg h2] at h
  by_cases h3 : buf = S!"gt"
  · rw [if_pos h3] at h; cases h; subst h3; exact c02_escapeChar_gt.symm
  rw [if_neg h3] at h
  by_cases h4 : buf = S!"quot"
  · rw [if_pos h4] at h; cases h; subst h4; exact c02_escapeChar_quot.symm
  rw [if_neg h4] at h
  cases h

theorem c02_escape_snoc (acc : Str) (c : Char) : escape (acc ++ [c]) = escape acc ++ escapeChar c := by
  simp [c02_escape_append]

theorem c02_decoding_str {m e} (d : c02_Decoding m e) (p : Str)
    (hm : ∀ acc, c02_modeStr (m acc) = p ++ escape acc)
    (he : ∀ acc buf, c02_modeStr (e acc buf) = p ++ escape acc ++ ['&'] ++ buf)
    (toks : List c02_Tok) (acc : Str) (c : Char) (h1 : c ≠ '"') (h3 : c ≠ '<') (h4 : c ≠ '>') :
    c02_stStr (c02_step ⟨toks, m acc⟩ c) = c02_stStr ⟨toks, m acc⟩ ++ [c] := by
  by_cases h2 : c = '&'
  · subst h2
    simp only [d.amp, c02_stStr, hm, he, List.append_assoc, List.append_nil]
  · simp only [d.other _ _ c h1 h2 h3 h4, c02_stStr, hm, c02_escape_snoc, c02_escapeChar_other c h1 h2 h3 h4,
      List.append_assoc]

theorem c02_decoding_ent_str {m e} (d : c02_Decoding m e) (p : Str)
    (hm : ∀ acc, c02_modeStr (m acc) = p ++ escape acc)
    (he : ∀ acc buf, c02_modeStr (e acc buf) = p ++ escape acc ++ ['&'] ++ buf)
    (toks : List c02_Tok) (acc buf : Str) (c : Char) (hf : (c02_step ⟨toks, e acc buf⟩ c).mode ≠ .fail) :
    c02_stStr (c02_step ⟨toks, e acc buf⟩ c) = c02_stStr ⟨toks, e acc buf⟩ ++ [c] := by
  rw [d.ent] at hf ⊢
  by_cases h : c = ';'
  · subst h
    rw [if_pos rfl] at hf ⊢
    cases hb : c02_entity buf with
    | none => rw [hb] at hf; exact absurd rfl hf
    | some ch =>
      simp only [c02_stStr, hm, he, c02_escape_snoc, ← c02_entity_escape buf ch hb, List.append_assoc]
  · rw [if_neg h]
    simp only [c02_stStr, he, List.append_assoc]

/-- a step that does not fail consumes exactly the character it was given -/
theorem c02_step_str (st : c02_St) (c : Char) (hf : (c02_step st c).mode ≠ .fail) :
    c02_stStr (c02_step st c) = c02_stStr st ++ [c] := by
  obtain ⟨toks, mode⟩ := st
  cases mode with
  | text acc =>
    by_cases h1 : c = '<'
    · subst h1
      simp only [c02_step, if_pos, c02_stStr, c02_modeStr, c02_render_append, c02_render_flush, List.append_assoc,
        List.append_nil]
    by_cases h3 : c = '>'
    · subst h3; exact absurd rfl hf
    by_cases h4 : c = '"'
    · subst h4; exact absurd rfl hf
    exact c02_decoding_str c02_decoding_text [] (fun _ => rfl) (fun _ _ => rfl) toks acc c h4 h1 h3
  | ent acc buf =>
    exact c02_decoding_ent_str c02_decoding_text [] (fun _ => rfl) (fun _ _ => rfl) toks acc buf c hf
  | name n =>
    simp only [c02_step] at hf ⊢
    by_cases h : c02_nameChar c = true
    · rw [if_pos h]; simp only [c02_stStr, c02_modeStr, List.append_assoc, List.cons_append, List.nil_append]
    rw [if_neg h] at hf ⊢
    by_cases hn : n.isEmpty = true
    · rw [if_pos hn] at hf ⊢
      by_cases hc : c = '/'
      · subst hc
        rw [if_pos rfl]
        simp only [c02_stStr, c02_modeStr, List.isEmpty_iff.mp hn, List.append_assoc, List.cons_append,
          List.nil_append, List.append_nil]
      · rw [if_neg hc] at hf; exact absurd rfl hf
    rw [if_neg hn] at hf ⊢
    by_cases hc : c = ' '
    · subst hc
      rw [if_pos rfl]
      simp only [c02_stStr, c02_modeStr, attrString, List.append_assoc, List.cons_append, List.nil_append,
        List.append_nil]
    rw [if_neg hc] at hf ⊢
    by_cases hc' : c = '>'
    · subst hc'
      rw [if_pos rfl]
      simp only [c02_stStr, c02_modeStr, c02_render_append, c02_render_cons, c02_render_nil, c02_renderTok,
        attrString, c02_escape_nil, List.append_assoc, List.cons_append, List.nil_append, List.append_nil]
    · rw [if_neg hc'] at hf; exact absurd rfl hf
  | attrs n as =>
    simp only [c02_step] at hf ⊢
    by_cases hc : c = ' '
    · subst hc
      rw [if_pos rfl]
      simp only [c02_stStr, c02_modeStr, List.append_assoc, List.cons_append, List.nil_append]
    rw [if_neg hc] at hf ⊢
    by_cases hc' : c = '>'
    · subst hc'
      rw [if_pos rfl]
      simp only [c02_stStr, c02_modeStr, c02_render_append, c02_render_cons, c02_render_nil, c02_renderTok,
        c02_escape_nil, List.append_assoc, List.cons_append, List.nil_append, List.append_nil]
    · rw [if_neg hc'] at hf; exact absurd rfl hf
  | sp n as =>
    simp only [c02_step] at hf ⊢
    by_cases h : c02_nameChar c = true
    · rw [if_pos h]; simp only [c02_stStr, c02_modeStr, List.append_assoc, List.cons_append, List.nil_append]
    rw [if_neg h] at hf ⊢
    by_cases hc : c = '/'
    · subst hc
      rw [if_pos rfl]
      simp only [c02_stStr, c02_modeStr, List.append_assoc, List.cons_append, List.nil_append]
    · rw [if_neg hc] at hf; exact absurd rfl hf
  | key n as k =>
    simp only [c02_step] at hf ⊢
    by_cases h : c02_nameChar c = true
    · rw [if_pos h]; simp only [c02_stStr, c02_modeStr, List.append_assoc, List.cons_append, List.nil_append]
    rw [if_neg h] at hf ⊢
    by_cases hc : c = '='
    · subst hc
      rw [if_pos rfl]
      simp only [c02_stStr, c02_modeStr, List.append_assoc, List.cons_append, List.nil_append]
    · rw [if_neg hc] at hf; exact absurd rfl hf
  | eq n as k =>
    simp only [c02_step] at hf ⊢
    by_cases hc : c = '"'
    · subst hc
      rw [if_pos rfl]
      simp only [c02_stStr, c02_modeStr, c02_escape_nil, List.append_assoc, List.cons_append, List.nil_append,
        List.append_nil]
    · rw [if_neg hc] at hf; exact absurd rfl hf
  | val n as k v =>
    by_cases h1 : c = '"'
    · subst h1
      simp only [c02_step, if_pos, c02_stStr, c02_modeStr, c02_attrString_append, attrString, List.append_assoc,
        List.cons_append, List.nil_append, List.append_nil]
    by_cases h3 : c = '<'
    · subst h3; exact absurd rfl hf
    by_cases h4 : c = '>'
    · subst h4; exact absurd rfl hf
    exact c02_decoding_str (c02_decoding_val n as k) _ (fun _ => rfl) (fun _ _ => rfl) toks v c h1 h3 h4
  | vent n as k v buf =>
    exact c02_decoding_ent_str (c02_decoding_val n as k) _ (fun _ => rfl) (fun _ _ => rfl) toks v buf c hf
  | slash n as =>
    simp only [c02_step] at hf ⊢
    by_cases hc : c = '>'
    · subst hc
      rw [if_pos rfl]
      simp only [c02_stStr, c02_modeStr, c02_render_append, c02_render_cons, c02_render_nil, c02_renderTok,
        c02_escape_nil, List.append_assoc, List.cons_append, List.nil_append, List.append_nil]
    · rw [if_neg hc] at hf; exact absurd rfl hf
  | close n =>
    simp only [c02_step] at hf ⊢
    by_cases h : c02_nameChar c = true
    · rw [if_pos h]; simp only [c02_stStr, c02_modeStr, List.append_assoc, List.cons_append, List.nil_append]
    rw [if_neg h] at hf ⊢
    by_cases hn : n.isEmpty = true
    · rw [if_pos hn] at hf; exact absurd rfl hf
    rw [if_neg hn] at hf ⊢
    by_cases hc : c = '>'
    · subst hc
      rw [if_pos rfl]
      simp only [c02_stStr, c02_modeStr, c02_render_append, c02_render_cons, c02_render_nil, c02_renderTok,
        c02_escape_nil, List.append_assoc, List.cons_append, List.nil_append, List.append_nil]
    · rw [if_neg hc] at hf; exact absurd rfl hf
  | fail => exact absurd rfl hf

theorem c02_run_fail (st : c02_St) (s : Str) (h : st.mode = .fail) : (c02_run st s).mode = .fail := by
  induction s generalizing st with
  | nil => exact h
  | cons c cs ih =>
    obtain ⟨toks, m⟩ := st
    cases h
    exact ih _ rfl

theorem c02_run_str (s : Str) (st : c02_St) (hf : (c02_run st s).mode ≠ .fail) :
    c02_stStr (c02_run st s) = c02_stStr st ++ s := by
  induction s generalizing st with
  | nil => simp
  | cons c cs ih =>
    rw [c02_run_cons] at hf ⊢
    rw [ih _ hf, c02_step_str st c (fun h => hf (c02_run_fail _ cs h))]
    simp

/-! ### conversely, every rendering of plain-named tokens is accepted -/

/-- tag names and attribute keys of a token are plain names -/
def c02_plainTok : c02_Tok → Bool
  | .start n as => c02_plainName n && c02_plainAttrs as
  | .end n => c02_plainName n
  | .selfClose n as => c02_plainName n && c02_plainAttrs as
  | .text _ => true

theorem c02_run_renderTok (t : c02_Tok) (hp : c02_plainTok t = true) (toks : List c02_Tok) (acc : Str) :
    c02_run ⟨toks, .text acc⟩ (c02_renderTok t)
      = ⟨(c02_feedStep (toks, acc) t).1, .text (c02_feedStep (toks, acc) t).2⟩ := by
  cases t with
  | start n as =>
    simp only [c02_plainTok, Bool.and_eq_true] at hp
    exact c02_run_startTag n as hp.1 hp.2 toks acc
  | «end» n => exact c02_run_endTag n hp toks acc
  | selfClose n as =>
    simp only [c02_plainTok, Bool.and_eq_true] at hp
    exact c02_run_selfClose n as hp.1 hp.2 toks acc
  | text s => exact c02_run_escape c02_decoding_text s toks acc

theorem c02_run_render (ts : List c02_Tok) (hp : ts.all c02_plainTok = true) (toks : List c02_Tok) (acc : Str) :
    c02_run ⟨toks, .text acc⟩ (c02_render ts)
      = ⟨(c02_feed (toks, acc) ts).1, .text (c02_feed (toks, acc) ts).2⟩ := by
  induction ts generalizing toks acc with
  | nil => simp
  | cons t r ih =>
    simp only [List.all_cons, Bool.and_eq_true] at hp
    rw [c02_render_cons, c02_run_append, c02_run_renderTok t hp.1, ih hp.2]
    simp

theorem c02_lexHtml_render (ts : List c02_Tok) (hp : ts.all c02_plainTok = true) :
    c02_lexHtml (c02_render ts) = some (c02_coalesce ts) := by
  simp [c02_lexHtml, c02_run_render ts hp, c02_coalesce]

theorem c02_render_coalesce (ts : List c02_Tok) : c02_render (c02_coalesce ts) = c02_render ts := by
  have h : ∀ (ts toks : List c02_Tok) (acc : Str),
      c02_render (c02_feed (toks, acc) ts).1 ++ escape (c02_feed (toks, acc) ts).2
        = c02_render toks ++ escape acc ++ c02_render ts := by
    intro ts
    induction ts with
    | nil => simp
    | cons t r ih =>
      intro toks acc
      rw [c02_feed_cons]
      cases t with
      | text s => simp [c02_feedStep, ih, c02_renderTok, c02_escape_append]
      | _ => simp [c02_feedStep, ih, c02_render_append, c02_render_flush]
  simpa [c02_coalesce, c02_render_append, c02_render_flush] using h ts [] []

mutual
theorem c02_writeNode_render (n : Node) : writeNode n = c02_render (c02_tokensN n) := by
  match n with
  | .text s => simp [writeNode, c02_renderTok]
  | .forceWrite => simp [writeNode]
  | .elem t cs =>
    rw [c02_tokensN_elem, writeNode]
    split
    · simp [c02_renderTok]
    · simp [c02_render_append, c02_renderTok, c02_writeList_render cs]
theorem c02_writeList_render (ns : List Node) : writeList ns = c02_render (c02_tokens ns) := by
  match ns with
  | [] => simp [writeList]
  | c :: cs =>
    rw [writeList, c02_tokens_cons, c02_render_append, c02_writeNode_render c, c02_writeList_render cs]
end

mutual
theorem c02_plainTok_tokensN (n : Node) (hp : c02_plainNamesN n = true) :
    (c02_tokensN n).all c02_plainTok = true := by
  match n with
  | .text s => simp [c02_plainTok]
  | .forceWrite => simp
  | .elem t cs =>
    simp only [c02_plainNamesN, Bool.and_eq_true] at hp
    rw [c02_tokensN_elem]
    split
    · simp [c02_plainTok, hp.1]
    · simp [c02_plainTok, hp.1, c02_plainTok_tokens cs hp.2]
theorem c02_plainTok_tokens (ns : List Node) (hp : c02_plainNames ns = true) :
    (c02_tokens ns).all c02_plainTok = true := by
  match ns with
  | [] => simp
  | c :: cs =>
    simp only [c02_plainNames, Bool.and_eq_true] at hp
    simp [c02_plainTok_tokensN c hp.1, c02_plainTok_tokens cs hp.2]
end

theorem c02_run_writeNode (n : Node) (hp : c02_plainNamesN n = true) (toks : List c02_Tok) (acc : Str) :
    c02_run ⟨toks, .text acc⟩ (writeNode n)
      = ⟨(c02_feed (toks, acc) (c02_tokensN n)).1, .text (c02_feed (toks, acc) (c02_tokensN n)).2⟩ := by
  rw [c02_writeNode_render]
  exact c02_run_render _ (c02_plainTok_tokensN n hp) toks acc

theorem c02_run_writeList (ns : List Node) (hp : c02_plainNames ns = true) (toks : List c02_Tok) (acc : Str) :
    c02_run ⟨toks, .text acc⟩ (writeList ns)
      = ⟨(c02_feed (toks, acc) (c02_tokens ns)).1, .text (c02_feed (toks, acc) (c02_tokens ns)).2⟩ := by
  rw [c02_writeList_render]
  exact c02_run_render _ (c02_plainTok_tokens ns hp) toks acc

theorem c02_lexHtml_write (ns : List Node) (hp : c02_plainNames ns = true) :
    c02_lexHtml (writeHtml ns) = some (c02_coalesce (c02_tokens ns)) := by
  rw [writeHtml, c02_writeList_render]
  exact c02_lexHtml_render _ (c02_plainTok_tokens ns hp)

end Mammoth
